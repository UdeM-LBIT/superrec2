/-
  C08 — `binarize` produces EVERY binary refinement, for trees of
  arbitrary arity and arbitrary nesting of polytomies; hence each refinement
  is listed exactly once and their number is Π (2k−3)‼.

  Model: `SRVerif/Model/Binarize.lean` (`binarize`), specification:
  `SRVerif/Spec/Refine.lean` (`Spec.IsRefinement`, `BinT.Equiv`, `Spec.refCount`).
  Hypotheses, as in `C08.lean`: `t.WF` (every internal node has at least two
  children) and distinct leaves.  No restriction on the nesting.
-/
import SRVerif.Properties.C08
import SRVerif.Proofs.BinarizeComplete

namespace SR.C08

open SR SR.Bin

/-- Every binary refinement of `t` — every binary tree with the leaves of `t`
    in which every clade of `t` is a clade — is, up to child order, a member
    of `binarize t`; polytomies may be nested to any depth. -/
theorem C08_binarize_complete : C08_binarize_complete_statement :=
  fun t hwf hnd b hb => binarize_complete t hwf hnd b (ref_of_isRefinement hb)

/-- Nested polytomies: a ternary node inside a ternary node inside the root. -/
def nestedTree : NTree :=
  .node none [.node (some 1) [.leaf 0, .leaf 1, .node (some 2) [.leaf 2, .leaf 3, .leaf 4]],
    .leaf 5, .leaf 6]

/-- One of its 3 · 3 · 3 = 27 refinements, children in another order. -/
def nestedRef : BinT :=
  .node none (.leaf 6)
    (.node none
      (.node none (.node none (.leaf 4) (.node none (.leaf 3) (.leaf 2))) (.node none (.leaf 1) (.leaf 0)))
      (.leaf 5))

example : nestedTree.WF = true ∧ nestedTree.leaves.Nodup ∧ Spec.refCount nestedTree = 27 := by
  decide +kernel

example : Spec.IsRefinement nestedRef.toN nestedTree :=
  ⟨by decide +kernel, by decide +kernel, by decide +kernel⟩

example : ∃ u ∈ binarize nestedTree, BinT.Equiv u nestedRef :=
  C08_binarize_complete nestedTree (by decide +kernel) (by decide +kernel) nestedRef
    ⟨by decide +kernel, by decide +kernel, by decide +kernel⟩

/-- Being a refinement of `t` does not depend on the order of children: the
    set of refinements modulo child order is well defined. -/
theorem C08_refinement_equiv (t : NTree) (b b' : BinT) (he : BinT.Equiv b b') :
    Spec.IsRefinement b.toN t ↔ Spec.IsRefinement b'.toN t :=
  ⟨fun h => isRefinement_of_ref ((ref_of_isRefinement h).of_equiv he),
   fun h => isRefinement_of_ref ((ref_of_isRefinement h).of_equiv he.symm)⟩

/-- Equality up to child order read off the clades (annotations are not compared): for
    distinct leaves, `b'` equals `b` up to child order iff `b'` is a refinement of the (binary)
    tree `b`, i.e. has the leaves of `b` and every clade of `b` among its clades.  (One
    inclusion is stated; between binary trees on the same leaves it is an equality.) -/
theorem C08_equiv_iff_clades (b b' : BinT) (hnd : b.leaves.Nodup) :
    BinT.Equiv b b' ↔ Spec.IsRefinement b'.toN b.toN :=
  ⟨fun h => isRefinement_of_ref ((ref_toN_iff_equiv hnd).mpr h),
   fun h => (ref_toN_iff_equiv hnd).mp (ref_of_isRefinement h)⟩

example : BinT.Equiv (.node none (.node none (.leaf 3) (.leaf 1)) (.leaf 2))
    (.node (some 7) (.leaf 2) (.node none (.leaf 1) (.leaf 3))) :=
  (C08_equiv_iff_clades _ _ (by decide)).mpr ⟨by decide, by decide, by decide⟩

/-- `binarize t` lists the binary refinements of `t` modulo child order
    exactly once each:
    (1) every member is a refinement (and keeps names and colours);
    (2) every refinement is equal up to child order to exactly one member;
    (3) no two members (at different positions) are equal up to child order —
        in particular the list has no duplicates.
    So `u ↦ class of u` is a bijection from the positions of `binarize t` onto
    the refinements of `t` modulo child order. -/
theorem C08_binarize_exactly_once (t : NTree) (hwf : t.WF = true) (hnd : t.leaves.Nodup) :
    (∀ u ∈ binarize t, Spec.IsRefinement u.toN t ∧ Spec.KeepsAnn u.toN t) ∧
    (∀ b : BinT, Spec.IsRefinement b.toN t →
      ∃ u ∈ binarize t, BinT.Equiv u b ∧ ∀ u' ∈ binarize t, BinT.Equiv u' b → u' = u) ∧
    (binarize t).Pairwise (fun u u' => ¬ BinT.Equiv u u') ∧
    (binarize t).Nodup := by
  have hpw := C08_binarize_nodup t hwf hnd
  exact ⟨fun u hu => C08_binarize_sound t hwf u hu,
    fun b hb => (binarize_exactlyOnce t hwf hnd).unique BinT.Equiv.symm BinT.Equiv.trans hb, hpw,
    hpw.imp (S := (· ≠ ·)) fun hne e => hne (e ▸ BTree.Equiv.refl _)⟩

example : (binarize nestedTree).length = 27 ∧
    (binarize nestedTree).Pairwise (fun u u' => ¬ BinT.Equiv u u') :=
  ⟨by decide +kernel,
    (C08_binarize_exactly_once nestedTree (by decide +kernel) (by decide +kernel)).2.2.1⟩

/-- The number of binary refinements of `t` modulo child order is
    Π over the internal nodes of (2k−3)‼, independently of `binarize`: every
    list of refinements of `t` that is irredundant (pairwise different up to
    child order) and complete (every refinement is equal up to child order to
    a member) has exactly `Spec.refCount t` members. -/
theorem C08_refinement_count (t : NTree) (hwf : t.WF = true) (hnd : t.leaves.Nodup)
    (L : List BinT) (hsound : ∀ x ∈ L, Spec.IsRefinement x.toN t)
    (hirr : L.Pairwise (fun x y => ¬ BinT.Equiv x y))
    (hcomplete : ∀ b : BinT, Spec.IsRefinement b.toN t → ∃ x ∈ L, BinT.Equiv x b) :
    L.length = Spec.refCount t := by
  rw [← C08_binarize_count t hwf]
  exact ExactlyOnce.length_eq ⟨hsound, hirr, hcomplete⟩ (binarize_exactlyOnce t hwf hnd)
    (fun _ _ => BinT.Equiv.symm) (fun _ _ _ => BinT.Equiv.trans)

/-- `binarize t` itself is such a list (the hypotheses of
    `C08_refinement_count` are satisfiable for every well-formed `t`). -/
theorem C08_refinement_count_witness (t : NTree) (hwf : t.WF = true) (hnd : t.leaves.Nodup) :
    (∀ x ∈ binarize t, Spec.IsRefinement x.toN t) ∧
    (binarize t).Pairwise (fun x y => ¬ BinT.Equiv x y) ∧
    (∀ b : BinT, Spec.IsRefinement b.toN t → ∃ x ∈ binarize t, BinT.Equiv x b) :=
  let h := binarize_exactlyOnce t hwf hnd
  ⟨h.sound, h.irredundant, h.complete⟩

/-- The three refinements of a trichotomy, listed by hand (not by `binarize`). -/
example : ([.node none (.node none (.leaf 0) (.leaf 1)) (.leaf 2),
            .node none (.node none (.leaf 0) (.leaf 2)) (.leaf 1),
            .node none (.node none (.leaf 1) (.leaf 2)) (.leaf 0)] : List BinT).length =
    Spec.refCount (.node none [.leaf 0, .leaf 1, .leaf 2]) := by decide

end SR.C08
