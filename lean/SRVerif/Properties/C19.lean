/-
  C19 — Topological orderings are enumerated completely and without
  repetition.

  Model: `SRVerif/Model/Toposort.lean` (`toposort` = Kahn's algorithm with a
  deque and an in-degree dict, `toposortAll` = `_toposort_all_bt` with
  in-degree decrement/restore and the final length check, `precGraph` =
  `_make_prec_graph`).  Specification: `SRVerif/Spec/Toposort.lean`
  (`IsTopo g o`: `o` lists every vertex once and every edge goes forward;
  `WF g`: distinct keys, successor sets, successors are keys — what
  `Mapping[Node, Set[Node]]` with closed successor sets means).

  The theorems about `toposort` / `toposort_all` hold for every well-formed graph, of any
  size (`C19_malformed` says what happens on the others).  Fuel: both
  routines are run with `g.length + 1` units of fuel and `C19_total` shows
  that neither `Err.fuel` nor any other error is ever produced.
-/
import SRVerif.Proofs.ToposortPrec

namespace SR.C19

open SR.Toposort

/-- On well-formed graphs neither routine raises (no `KeyError`, no
    `ValueError` from `deque.remove`, and the fuel suffices). -/
theorem C19_total (g : Graph) (hwf : WF g) :
    (∃ os, toposortAll g = .ok os) ∧ (∃ r, toposort g = .ok r) := by
  obtain ⟨os, h, _⟩ := toposortAll_spec hwf
  obtain ⟨r, h', _⟩ := toposort_spec hwf
  exact ⟨⟨os, h⟩, ⟨r, h'⟩⟩

/-- Every ordering returned by `toposort_all` is a topological ordering. -/
theorem C19_all_sound (g : Graph) (hwf : WF g) (os : List (List Nat))
    (h : toposortAll g = .ok os) : ∀ o ∈ os, IsTopo g o :=
  fun o ho => ((Except.of_spec (toposortAll_spec hwf) h).2 o).1 ho

/-- Every topological ordering is returned by `toposort_all`. -/
theorem C19_all_complete (g : Graph) (hwf : WF g) (os : List (List Nat))
    (h : toposortAll g = .ok os) : ∀ o, IsTopo g o → o ∈ os :=
  fun o ho => ((Except.of_spec (toposortAll_spec hwf) h).2 o).2 ho

/-- No ordering is returned twice. -/
theorem C19_all_nodup (g : Graph) (hwf : WF g) (os : List (List Nat))
    (h : toposortAll g = .ok os) : os.Nodup :=
  (Except.of_spec (toposortAll_spec hwf) h).1

/-- A graph without topological ordering (one with a directed cycle, or a
    self-loop) yields the empty list. -/
theorem C19_all_cyclic (g : Graph) (hwf : WF g) (hno : ¬ ∃ o, IsTopo g o) :
    toposortAll g = .ok [] :=
  (toposortAll_nil_iff hwf).2 hno

/-- The explicit `len(subresult) != len(graph)` check of the code: the
    backtracking search always produces at least one (possibly partial)
    sequence; the check discards everything as soon as one of them is
    partial, which happens exactly when the graph has no topological
    ordering, and when it passes nothing is discarded. -/
theorem C19_all_length_check (g : Graph) (hwf : WF g) :
    ∃ starts I rs, allInit g = .ok (starts, I) ∧ bt g (g.length + 1) starts I = .ok (rs, I) ∧
      rs ≠ [] ∧
      ((∃ r ∈ rs, r.length ≠ g.length) ↔ ¬ ∃ o, IsTopo g o) ∧
      ((∀ r ∈ rs, r.length = g.length) → toposortAll g = .ok (rs.map List.reverse)) := by
  obtain ⟨starts, I, hinit, hinv⟩ := allInit_spec hwf
  obtain ⟨rs, hbt, _, hm⟩ := bt_spec hwf (g.length + 1) [] starts I hinv (by simp)
  -- a maximal removal sequence always exists: the one Kahn's loop follows
  obtain ⟨s, _, hg⟩ := kahnLoop_spec hwf (g.length + 1) [] starts I [] hinv (by simp)
  have hs : s.reverse ∈ rs := (hm s.reverse).2 (by rw [List.reverse_reverse]; exact hg)
  refine ⟨starts, I, rs, hinit, hbt, List.ne_nil_of_mem hs, ⟨?_, fun hno => ?_⟩, fun hall => ?_⟩
  · rintro ⟨r, hr, hlen⟩ ht
    exact hlen (by simpa using (greedy_length_iff hwf ((hm r).1 hr)).2 ht)
  · exact ⟨_, hs, fun hlen => hno ((greedy_length_iff hwf hg).1 (by simpa using hlen))⟩
  · simp only [toposortAll, hinit, hbt, checkRev_eq]
    rw [if_pos hall]; rfl

/-- `toposort` returns a topological ordering if and only if one exists
    (and `None` otherwise). -/
theorem C19_one (g : Graph) (hwf : WF g) (r : Option (List Nat)) (h : toposort g = .ok r) :
    (∀ o, r = some o → IsTopo g o) ∧ (r = none ↔ ¬ ∃ o, IsTopo g o) :=
  Except.of_spec (toposort_spec hwf) h

/-- Outside the scope of the property: when some
    successor is not a key, both routines raise `KeyError`. -/
theorem C19_malformed (g : Graph) (hk : (keys g).Nodup)
    (hbad : ∃ p ∈ g, ∃ v ∈ p.2, v ∉ keys g) :
    toposortAll g = .error .keyError ∧ toposort g = .error .keyError :=
  malformed_keyError hk hbad

/-- `_make_prec_graph` raises (IndexError) exactly when some leaf synteny
    is empty. -/
theorem C19_prec_total (syns : List (List Nat)) :
    (∃ g, precGraph syns = .ok g) ↔ ∀ s ∈ syns, s ≠ [] :=
  precGraph_total syns

/-- The precedence graph is well-formed and its topological orderings are
    exactly the duplicate-free arrangements `o` of the families occurring in
    the leaf syntenies such that every leaf synteny is a subsequence of `o`.
    (No duplicate-freeness of the syntenies is needed: a synteny with a
    repeated family creates a cycle, and is a subsequence of no
    duplicate-free list.) -/
theorem C19_prec (syns : List (List Nat)) (g : Graph) (h : precGraph syns = .ok g) :
    WF g ∧ ∀ o, IsTopo g o ↔
      (o.Nodup ∧ (∀ v, v ∈ o ↔ ∃ s ∈ syns, v ∈ s) ∧ ∀ s ∈ syns, s.Sublist o) :=
  ⟨(precGraph_spec h).1, precGraph_isTopo h⟩

/-- Composition used by the ordered solvers (C02): the root orderings
    `toposort_all(_make_prec_graph(leaf_syntenies))`. -/
theorem C19_prec_orders (syns : List (List Nat)) (hne : ∀ s ∈ syns, s ≠ []) :
    ∃ g os, precGraph syns = .ok g ∧ toposortAll g = .ok os ∧ os.Nodup ∧
      ∀ o, o ∈ os ↔
        (o.Nodup ∧ (∀ v, v ∈ o ↔ ∃ s ∈ syns, v ∈ s) ∧ ∀ s ∈ syns, s.Sublist o) :=
  precOrders_spec hne

/-- The graph of the repository's own test. -/
def g6 : Graph := [(0, []), (1, []), (2, [3]), (3, [1]), (4, [0, 1]), (5, [0, 2])]

example : WF g6 := by decide +kernel
example : IsTopo g6 [4, 5, 0, 2, 3, 1] := by decide +kernel
example : toposort g6 = .ok (some [4, 5, 0, 2, 3, 1]) := by decide +kernel
example : (toposortAll g6).toOption.map List.length = some 13 := by decide +kernel
/-- a cycle, and a self-loop: well-formed, no ordering -/
example : WF [(0, [1]), (1, [2]), (2, [0])] ∧ toposortAll [(0, [1]), (1, [2]), (2, [0])] = .ok [] :=
  by decide +kernel
example : WF [(0, [0]), (1, [])] ∧ toposort [(0, [0]), (1, [])] = .ok none := by decide +kernel
example : precGraph [[1, 2, 3], [2, 4], [5]] = .ok [(1, [2]), (2, [3, 4]), (3, []), (4, []), (5, [])] :=
  by decide +kernel
example : [2, 4].Sublist [5, 1, 2, 4, 3] := by decide +kernel
example : toposortAll [(0, [1]), (1, [7])] = .error .keyError := by decide +kernel

end SR.C19
