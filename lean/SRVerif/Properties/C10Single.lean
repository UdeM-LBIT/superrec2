/-
  C10, clause "when every leaf carries the same single gene family, the ordered,
  unordered and plain DTL optima coincide and the base variants equal the LCA
  reconciliation cost" — ordered solvers (the unordered ones are in `C10SingleUn.lean`).

  Input: every leaf synteny is `[f]` for one fixed family `f`, `S` binary, leaf species nodes of
  `S`, no prescribed root order; costs in the coherent region, except for the base variant.
  Both solvers are exact over their labellings (`spfs_exact`, `thl_exact`, `Proofs/DPSolver*`); the labellings
  `spfs` ranges over carry the mask 1 everywhere (`ordCand_single`), and on those the ordered and
  the plain algebra simulate each other, so `Exact.le` applies in both directions.
-/
import SRVerif.Proofs.C10Single
import SRVerif.Properties.C01Thl
import SRVerif.Proofs.DPSolverOrd

namespace SR.C10

open SR Cost

variable (c : Costs) (S : RTree) (o : OTree) (f : Nat)

/-- What the ordered variants range over when there is a single family: the order `[f]`, the
    mask 1 everywhere. -/
theorem ordCand_single (base : Bool) (hsf : SingleFam f o) {order : List Nat} {ls : LSol Nat}
    (hk : (spfsD c S base o none).Cand c (order, ls)) : order = [f] ∧ ls.All (· = 1) := by
  obtain ⟨ho, adm, _, hfin⟩ := hk
  have ho : order ∈ rootOrders o none := ho
  rw [rootOrders_single hsf] at ho
  obtain rfl : order = [f] := List.mem_singleton.mp ho
  exact ⟨rfl, allOne_of_fits_nz ls (fits_of_adm c S base [f] o true ls adm)
    (nz_of_finite c S base [f] o (leavesOk_single hsf) true ls adm hfin)⟩

/-- `sreconcile_base_spfs` returns something; every returned solution has labelling cost 0 and
    costs what the LCA reconciliation costs.  No coherence needed. -/
theorem C10_single_family_ordered_base (hsf : ∀ g ∈ leafSyntenies o, g = [f])
    (hb : S.isBinary = true) (hS : ∀ p ∈ leafSpecies o, S.isNode p = true) :
    spfs c S true o none ≠ [] ∧
    ∀ b ∈ spfs c S true o none,
      labelingCost c .ordered b = some 0 ∧
      totalCost c .ordered o b = recCost c o (lcaSol o) := by
  have hB := spfs_exact c S true o none
    (C02.C02_orders_ok o fun g hg => by rw [hsf g hg]; simp) hb hS
  rw [← singleFam_iff] at hsf
  obtain ⟨hcostT, hfinT⟩ := labCost_annP_lca c S o hS
  constructor
  · -- the LCA mapping with the mask 1 everywhere is a candidate
    obtain ⟨adm', e⟩ := (sim_annP_annOrd c S true (al := fun o' => [(lcaSol o').sp])
      (fun _ _ h => h) hsf true).transfer c _ ((adm_annP_lca o _).mpr rfl) (LSol.all_true _)
    exact hB.ne ([f], _) ⟨by simp [rootOrders_single hsf], adm', by simp,
      ne_of_eq_of_ne (e.trans hcostT) hfinT⟩
  · intro b hb'
    obtain ⟨⟨order, ls⟩, hk, rfl⟩ := hB.dec b hb'
    obtain ⟨rfl, hall⟩ := ordCand_single c S o f true hsf hk
    obtain ⟨adm', e⟩ := (sim_annOrd_annP c S true [f] (al := fun o' => [(lcaSol o').sp])
      (fun _ _ h => h) o true).transfer c ls hk.2.1 hall
    exact ⟨labelingCost_allOne c S true hk.2.1 hall hk.2.2.2,
      (hB.faithful _ hk).trans (e.symm.trans (by rw [(adm_annP_lca o _).mp adm', hcostT]))⟩

/-- `sreconcile_extended_spfs` returns something; every returned solution has labelling cost 0
    and the evaluated cost of every solution returned by `reconcile_thl` (the plain DTL optimum). -/
theorem C10_single_family_ordered (hsf : ∀ g ∈ leafSyntenies o, g = [f])
    (hb : S.isBinary = true) (hS : ∀ p ∈ leafSpecies o, S.isNode p = true)
    (hcoh : c.spe + 2 * c.sloss ≤ c.dup + 2 * c.floss) :
    spfs c S false o none ≠ [] ∧
    ∀ a ∈ spfs c S false o none,
      labelingCost c .ordered a = some 0 ∧
      ∀ t ∈ thl c S o, totalCost c .ordered o a = totalCost c .plain o t := by
  have hX := spfs_exact c S false o none
    (C02.C02_orders_ok o fun g hg => by rw [hsf g hg]; simp) hb hS
  have hT := thl_exact c S o hb hS
  rw [← singleFam_iff] at hsf
  -- a plain labelling lifted to the mask 1 is a candidate of the ordered solver at the same cost
  have le1 := hX.le hT (fun k => ([f], k.2.map fun _ => 1)) (by
    rintro ⟨_, ls⟩ ⟨_, adm, _, hfin⟩
    obtain ⟨adm', e⟩ := (sim_annP_annOrd c S false (fun _ _ h => List.mem_reverse.mpr h) hsf
      true).transfer c ls (annPlain_eq S o ▸ adm) ls.all_true
    rw [← annPlain_eq] at e
    exact ⟨⟨by simp [rootOrders_single hsf], adm', by simp, e.symm ▸ hfin⟩, le_of_eq e⟩)
  -- the species mapping of a candidate of the ordered solver is a plain candidate at the same cost
  have le2 := hT.le hX (fun k => ((), k.2.map fun _ => ())) (by
    rintro ⟨order, ls⟩ hk
    obtain ⟨adm', e⟩ := (sim_annOrd_annP c S false order (fun _ _ h => List.mem_reverse.mp h) o
      true).transfer c ls hk.2.1 (ordCand_single c S o f false hsf hk).2
    rw [← annPlain_eq] at adm' e
    exact ⟨⟨by simp, adm', rfl, e.symm ▸ hk.2.2.2⟩, le_of_eq e⟩)
  refine ⟨le1.2 (C01.C01_thl_total c S o hb hS), fun a ha => ⟨?_, fun t ht =>
    Cost.le_antisymm (le1.1 hcoh a ha t ht) (le2.1 (by omega) t ht a ha)⟩⟩
  obtain ⟨⟨order, ls⟩, hk, rfl⟩ := hX.dec a ha
  obtain ⟨rfl, hall⟩ := ordCand_single c S o f false hsf hk
  exact labelingCost_allOne c S false hk.2.1 hall hk.2.2.2

/-- With a single family, every solution of the extended ordered solver has the evaluated
    cost of every solution of `thl`.  (With `hgt = ∞` that is the LCA cost:
    `C10_thl_eq_lca_inf` in `C10Thm.lean`.) -/
theorem C10_single_family_ordered_same_cost (hsf : ∀ g ∈ leafSyntenies o, g = [f])
    (hb : S.isBinary = true) (hS : ∀ p ∈ leafSpecies o, S.isNode p = true)
    (hcoh : c.spe + 2 * c.sloss ≤ c.dup + 2 * c.floss) :
    ∀ a ∈ spfs c S false o none, ∀ t ∈ thl c S o,
      totalCost c .ordered o a = totalCost c .plain o t :=
  fun a ha => ((C10_single_family_ordered c S o f hsf hb hS hcoh).2 a ha).2

example :
    let c : Costs := { spe := 0, dup := 5, hgt := .fin 1, floss := 5, sloss := 1 }
    let S : RTree := .node [.node [.node [], .node []], .node []]
    let o : OTree := .node (.node (.leaf [0, 0] [7]) (.leaf [1] [7])) (.leaf [0, 1] [7])
    S.isBinary = true ∧ (∀ p ∈ leafSpecies o, S.isNode p = true) ∧
    (∀ g ∈ leafSyntenies o, g = [7]) ∧ c.spe + 2 * c.sloss ≤ c.dup + 2 * c.floss ∧
    (spfs c S false o none).map (totalCost c .ordered o) = [.fin 1] ∧
    (thl c S o).map (totalCost c .plain o) = [.fin 1] ∧
    (spfs c S true o none).map (totalCost c .ordered o) = [.fin 20] ∧
    recCost c o (lcaSol o) = .fin 20 := by
  decide +kernel

end SR.C10
