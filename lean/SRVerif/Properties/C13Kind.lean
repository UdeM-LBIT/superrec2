/-
  C13 — the KIND of the event node in the drawing.

  `C13_tikz_statement` (Properties/C13.lean) counts the event statements of an object node
  whatever their kind (`.event k _`), and `C13_nodes` speaks about the branches of the layout
  state, not about the drawing.  The property says that the DRAWING contains, per object node,
  one event node "of the kind the evaluator assigns".  This file states and proves that clause
  for the statement-kind model `Layout.render` and for the drawing calls `drawCalls`.
-/
import SRVerif.Properties.C13Tikz
import SRVerif.Properties.C15Draw

namespace SR.C13

open SR SR.Layout SR.TikzDraw

/-- An event statement occurs among the core statements of a branch only as the event of that
    branch, with that branch's kind. -/
theorem event_mem_coreStmts {b : Branch} {k : Key} {kind : BKind}
    (h : Stmt.event k kind ∈ coreStmts b) : b.key = k ∧ b.kind = kind ∧ b.kind ≠ .loss := by
  obtain ⟨key, bk, left, right⟩ := b
  cases bk
  case hgt =>
    cases right with
    | none => simp [coreStmts] at h
    | some t =>
      simp only [coreStmts, List.mem_cons, List.mem_nil_iff, or_false] at h
      rcases h with h | h | h
      · cases h
      · cases h
      · cases h; exact ⟨rfl, rfl, by simp⟩
  all_goals
    simp only [coreStmts, List.mem_cons, List.mem_nil_iff, or_false] at h
    first
      | (rcases h with h | h | h <;> cases h)
      | (rcases h with h | h
         · cases h
         · cases h; exact ⟨rfl, rfl, by simp⟩)
      | (cases h; exact ⟨rfl, rfl, by simp⟩)

/-- On a valid reconciliation in a binary species tree the drawing
    succeeds, and every event statement it contains for an object node `p` is of the kind the
    evaluator assigns to `p` (`LEAF`, `SPECIATION`, `DUPLICATION`, `HORIZONTAL_TRANSFER`).  With
    `C13_tikz` (exactly one event statement per object node) the drawing therefore contains, for
    every object node, exactly one event node, and it is of the evaluator's kind. -/
theorem C13_tikz_kind (o : Orientation) (P : Params) (sizes : Key → Size) (S : RTree) (ot : OTree)
    (sol : Sol) (hv : Spec.validRec ot sol = true) (hin : inTree S sol = true)
    (hbin : S.isBinary = true) :
    ∃ ss, render o P sizes S sol = .ok ss ∧
      ∀ p sub, subAt sol p = some sub → ∀ kind, Stmt.event (.gene p) kind ∈ ss →
        some kind = kindOfEvent (solEvent sub) := by
  obtain ⟨st, hst, _⟩ := C13_no_keyerror S ot sol hv hin
  obtain ⟨ss, hr, hperm⟩ := render_succeeds o P sizes (good_of_valid hv hin) hbin hst
  refine ⟨ss, hr, ?_⟩
  intro p sub hp kind hmem
  -- the statement is a core statement of some branch of the state
  have hq := hperm (fun x => x == Stmt.event (.gene p) kind) (by simp)
  have h1 : Stmt.event (.gene p) kind ∈ ss.filter (fun x => x == Stmt.event (.gene p) kind) := by
    simp [List.mem_filter, hmem]
  have h2 := hq.mem_iff.1 h1
  simp only [List.mem_flatMap, List.mem_filter] at h2
  obtain ⟨b, hb, hbm, _⟩ := h2
  obtain ⟨hkey, hkind, hnl⟩ := event_mem_coreStmts hbm
  obtain ⟨t, _, hbt⟩ := mem_allBranches.1 hb
  -- a non-loss branch is the branch of an object node, of the evaluator's kind
  obtain ⟨p', sub', hsub', _, hkey', hk'⟩ :=
    (C13_nodes_partial S ot sol st hv hin hst).2 t b hbt hnl
  rw [hkey] at hkey'
  cases hkey'
  rw [hp] at hsub'
  cases hsub'
  rw [← hkind]; exact hk'

/-- The same for the drawing calls of `drawCalls` (the model that names the generated
    TikZ statement template of every call): among the statement kinds of the calls, an event
    node owned by object node `p` is the statement of the evaluator's kind — template 3
    (`\node[extant gene=`), 8 (`\node[speciation=`), 10 (`\node[duplication=`) or 13
    (`\node[horizontal gene transfer=`), see `C15_draw_stmtOf`. -/
theorem C13_tikz_draw_kind (o : Orientation) (P : Params) (sizes : Key → Size)
    (dp : DParams) (deco : Deco) (S : RTree) (ot : OTree) (sol : Sol)
    (hv : Spec.validRec ot sol = true) (hin : inTree S sol = true) (hbin : S.isBinary = true)
    (hw : dp.labelWidth ≠ some 0) :
    ∃ all calls, compute o P sizes S sol = .ok all ∧
      drawCalls o dp deco S (spOfSol sol) all = .ok calls ∧
      ∀ p sub, subAt sol p = some sub → ∀ kind, Stmt.event (.gene p) kind ∈ kinds calls →
        some kind = kindOfEvent (solEvent sub) := by
  obtain ⟨ss, hr, hk⟩ := C13_tikz_kind o P sizes S ot sol hv hin hbin
  obtain ⟨all, calls, hc, hd, rfl⟩ := SR.C15.C15_draw_of_render o P sizes dp deco S sol hbin hw hr
  exact ⟨all, calls, hc, hd, hk⟩

/-- Non-vacuity: in the running example the events drawn are those of the evaluator. -/
example : (match render .vertical exP exSizes exS exSol with
    | .ok ss => ss.filterMap fun x => match x with | .event (.gene p) k => some (p, k) | _ => none
    | .error _ => []) =
    [([], .spec), ([0, 1], .leaf), ([0], .dup), ([0, 0], .leaf), ([1, 1], .leaf), ([1, 0], .leaf),
     ([1], .hgt)] := by decide +kernel

end SR.C13
