/-
  C03 among ALL valid solutions: inside the coherent region the unordered solvers (`uspfs`: SuperDTL
  = extended, base) return the canonical solutions of minimum cost among every valid solution —
  every species mapping over `S` (the LCA mapping for `base`), every family labelling — because
  restricting to canonical labellings loses nothing (`C03_exchange`, the exchange argument of the
  SuperDTL paper; `exchange_valid`, `uspfs_optimal_iff`).  Their cost is therefore the oracle's
  `Spec.optimum … .unordered` (`C03_full_eq`, `C03_full`), which enters through its adequacy only
  (`Spec.adequate_un`).  `C03_statement` without the guard "binary" is false (`C03_statement_needs_binary`).
-/
import SRVerif.Properties.C03
import SRVerif.Properties.C04Un
import SRVerif.Proofs.OptAdequacyUn
import SRVerif.Proofs.UnContentExchange

namespace SR.C03

open SR Cost Spec

/-- **The exchange argument**: canonical labellings lose nothing. -/
theorem C03_exchange (c : Costs) (S : RTree) (base : Bool) (o : OTree) (σ : Sol)
    (hf : Feasible S .unordered base o [] o σ) (hfin : specCost c .unordered o [] σ ≠ .inf) :
    ∃ σ', CanonSol S base o σ' ∧
      Cost.le (totalCost c .unordered o σ') (specCost c .unordered o [] σ) = true := by
  have adm := adm_exKinds c S base o o [] .lca σ hf
  have hlab : (exKinds .lca σ).lab = .lca := by cases σ <;> rfl
  have hcan := canonSol_of_adm c S base o _ adm hlab (valid_exKinds c o σ [] .lca hfin)
  refine ⟨_, hcan, ?_⟩
  have hv := hcan.1
  simp only [Spec.validSol, Bool.and_eq_true] at hv
  rw [← specCost_unordered_eq_totalCost c o o [] _ hv.2 hv.1,
    unSol_eq_decodeAt c S base o o [] _ _ (isSub_root o) adm]
  exact exchange_spec c S base o o [] _ .lca σ (isSub_root o) hf (between_lca ..) fun x hx =>
    feasible_required S base o o [] σ (isSub_root o) hf x (mem_contentAt_lca.mp hx)

/-- `C03_statement` with the guards of the property's quantifier (binary trees, leaves
    mapped into the species tree). -/
def C03_guarded_statement : Prop :=
  ∀ (c : Costs) (S : RTree) (o : OTree) (base : Bool),
    S.isBinary = true → (∀ p ∈ leafSpecies o, S.isNode p = true) →
    c.spe + 2 * c.sloss ≤ c.dup + 2 * c.floss →
    ∀ sol ∈ uspfs c S base o,
      Spec.validSol .unordered o sol = true ∧
      Cost.le (totalCost c .unordered o sol) (Spec.optimum c S .unordered base false o none).1 = true

/-- The valid solutions with allowed species (nodes of `S`; the LCA mapping for `base`), whatever
    their family lists: the space `Spec.adequate_un` links to the oracle.  `CanonSol` is `ValidOk`
    plus canonical (its `spAllowed` and `SpeciesOk` here are one predicate,
    `speciesOk_iff_spAllowed`); `C09.VSol` and the `Q` of `C03_exact_gen` are `ValidOk` with the
    species clause in the variant's own words (`speciesOk_base_iff_un`, `speciesOk_ext_iff_un`). -/
abbrev ValidOk (S : RTree) (base : Bool) (o : OTree) (σ : Sol) : Prop :=
  Spec.validSol .unordered o σ = true ∧ SpeciesOk S base o σ

theorem CanonSol.validOk {S : RTree} {base : Bool} {o : OTree} {σ : Sol}
    (h : CanonSol S base o σ) : ValidOk S base o σ :=
  ⟨h.1, (speciesOk_iff_spAllowed S base o σ).mpr h.2.2⟩

theorem validRec_of_validUn {o : OTree} {σ : Sol} (hv : Spec.validSol .unordered o σ = true) :
    Spec.validRec o σ = true := by
  simp only [Spec.validSol, Bool.and_eq_true] at hv; exact hv.1

theorem speciesOk_base_iff_un (S : RTree) (o : OTree) (σ : Sol)
    (hv : Spec.validSol .unordered o σ = true) :
    SpeciesOk S true o σ ↔ sameMapping σ (lcaSol o) = true :=
  speciesOk_base_iff S o σ (validRec_of_validUn hv)

/-- Stated as `↔ True` to fit the `hQ` of `C03_exact_gen` at `Q := fun _ => True`. -/
theorem speciesOk_ext_iff_un (S : RTree) (o : OTree)
    (hS : ∀ p ∈ leafSpecies o, S.isNode p = true) (σ : Sol)
    (hv : Spec.validSol .unordered o σ = true) : SpeciesOk S false o σ ↔ True :=
  iff_true_intro (speciesOk_of_valid S o σ hS (validRec_of_validUn hv))

/-- **The exchange argument on valid solutions**: canonical labellings lose nothing among ALL
    valid solutions.  `normSol` brings the solution into the oracle's solution space at the same
    cost (`Adequate.into`), `C03_exchange` does the rest. -/
theorem exchange_valid (c : Costs) (S : RTree) (base : Bool) (o : OTree) (σ : Sol)
    (hv : ValidOk S base o σ) (hfin : totalCost c .unordered o σ ≠ .inf) :
    ∃ σ', CanonSol S base o σ' ∧
      Cost.le (totalCost c .unordered o σ') (totalCost c .unordered o σ) = true := by
  obtain ⟨md, hmd, hf, hc⟩ := (adequate_un c S o base none).into σ hv
  cases List.mem_singleton.mp hmd
  obtain ⟨σ', h, hle⟩ := C03_exchange c S base o _ hf (hc ▸ hfin)
  exact ⟨σ', h, hc ▸ hle⟩

/-- **`uspfs`, exact, at the level of solutions** (either variant): the result is the set of
    canonical solutions that are optimal among ALL valid solutions with allowed species —
    `C03_canonical_all` (the label DP, over the canonical solutions) and `exchange_valid`. -/
theorem uspfs_optimal_iff (c : Costs) (S : RTree) (base : Bool) (o : OTree)
    (hb : S.isBinary = true) (hS : ∀ p ∈ leafSpecies o, S.isNode p = true)
    (hcoh : c.spe + c.sloss ≤ c.dup + 2 * c.floss) (σ : Sol) :
    σ ∈ uspfs c S base o ↔
      IsOptimalFor (ValidOk S base o) (totalCost c .unordered o) σ ∧
        totalCost c .unordered o σ ≠ .inf ∧ Spec.canonicalUn o [] [] σ = true := by
  have hcof := fun {s : Sol} => isOptimalFor_cofinal (cost := totalCost c .unordered o) (s := s)
    (fun _ => CanonSol.validOk) (exchange_valid c S base o)
  constructor
  · intro hσ
    have h := ((C03_canonical_all c S base o hb hS hcoh).1 σ).mp hσ
    exact ⟨(hcof h.1).mp h, C04.C04_unord_finite c S base o σ hσ, h.1.2.1⟩
  · rintro ⟨hopt, -, hcan⟩
    exact ((C03_canonical_all c S base o hb hS hcoh).1 σ).mpr ((hcof
      ⟨hopt.1.1, hcan, (speciesOk_iff_spAllowed S base o σ).mp hopt.1.2⟩).mpr hopt)

/-- **C03, equality**: the evaluated cost of every returned solution IS the minimum over
    all valid solutions (every species mapping, every labelling between required and
    allowed content). -/
theorem C03_full_eq (c : Costs) (S : RTree) (base : Bool) (o : OTree)
    (hb : S.isBinary = true) (hS : ∀ p ∈ leafSpecies o, S.isNode p = true)
    (hcoh : c.spe + c.sloss ≤ c.dup + 2 * c.floss) :
    ∀ sol ∈ uspfs c S base o,
      totalCost c .unordered o sol = (Spec.optimum c S .unordered base false o none).1 :=
  fun sol hsol => (adequate_un c S o base none).cost_of_exact false
    ((uspfs_optimal_iff c S base o hb hS hcoh sol).mp hsol).1

/-- `C03_full` under the weaker guard `spe + sloss ≤ dup + 2·floss`. -/
theorem C03_full_le (c : Costs) (S : RTree) (base : Bool) (o : OTree)
    (hb : S.isBinary = true) (hS : ∀ p ∈ leafSpecies o, S.isNode p = true)
    (hcoh : c.spe + c.sloss ≤ c.dup + 2 * c.floss) :
    ∀ sol ∈ uspfs c S base o,
      Spec.validSol .unordered o sol = true ∧
      Cost.le (totalCost c .unordered o sol) (Spec.optimum c S .unordered base false o none).1 = true :=
  fun sol hsol => ⟨(C04.C04_unord c S base o sol hsol).1,
    C03_full_eq c S base o hb hS hcoh sol hsol ▸ Cost.le_refl _⟩

theorem C03_full : C03_guarded_statement :=
  fun c S o base hb hS hcoh => C03_full_le c S base o hb hS (by omega)

/-- On a TERNARY species tree the extended solver misses the optimum (its speciation
    roles only consider the children 0 and 1 of a species): result 4, optimum 2, inside
    the coherent region.  `C03_statement` needs the guard `S.isBinary`. -/
theorem C03_statement_needs_binary : ¬ C03_statement := by
  intro h
  have := h { spe := 0, dup := 1, hgt := .fin 4, floss := 1, sloss := 1 }
    (.node [.node [], .node [], .node []])
    (.node (.node (.leaf [0] [1]) (.leaf [2] [1])) (.leaf [1] [1])) false (by decide)
  revert this
  decide +kernel

/-! Non-vacuity: an input where a NON-canonical labelling is valid (the inner node may
    hold `{1}`, `{1,2}`; `{1,2}` at the innermost node is canonical only as INHERIT), the
    oracle ranges over more labellings than the solver, and both agree on the optimum. -/
example :
    let c : Costs := { spe := 0, dup := 1, hgt := .fin 1, floss := 1, sloss := 1 }
    let S : RTree := .node [.node [], .node []]
    let o : OTree :=
      .node (.node (.leaf [0] [1, 2]) (.node (.leaf [0] [1]) (.leaf [0] [1]))) (.leaf [1] [1, 2])
    S.isBinary = true ∧ (∀ p ∈ leafSpecies o, S.isNode p = true) ∧
    c.spe + 2 * c.sloss ≤ c.dup + 2 * c.floss ∧
    (Spec.optimum c S .unordered false false o none).1 = .fin 2 ∧
    (uspfs c S false o).map (totalCost c .unordered o) = [.fin 2] ∧
    (Spec.labelSpace .unordered o [0, 1]).length = 2 := by
  intro c S o
  have hu := uspfs_inherit_input
  -- the optimum is the cost of the returned solution (`C03_full_eq`)
  have hopt := C03_full_eq c S false o (by decide) (by decide) (by decide) _ (hu ▸ List.mem_singleton.mpr rfl)
  rw [← hopt, show uspfs c S false o = _ from hu]
  decide +kernel

end SR.C03
