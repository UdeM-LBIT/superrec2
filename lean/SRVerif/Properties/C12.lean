/-
  C12 — The command-line tool names nodes, reports the true cost, writes
  readable output.

  Model: `SRVerif/Model/Cli.lean`.  `label_internal` is a loop over the
  pre-order sequence of node names (`labelNames`); `labelTree` installs the
  result on the tree.  The dispatch of `call_algorithm` is decided on the
  registry generated from the source (`Generated/Registry.lean`).  The vocabulary of the
  statements that is not in the model: `Aligned`, `Rel`, `labelTrace`, `idxs`
  (`Proofs/Cli.lean`), `underscorePrefixes` (`Proofs/CliSpecies.lean`).

  The cost line and `all` ⊇ `any` (each object reads back with the printed cost;
  `C12_cost_line_*`, `C12_all_superset_any_*`) are compositions: the composition itself is
  in `C12Cli.lean` (`C12_cost_line_core`; it uses C05 — the results have one cost, ANY ⊆ ALL —
  and, for `C12_cost_line`, the read-back of C11), its instances for the concrete written
  objects in `C12Bridge.lean` (which adds the solver theorems: non-emptiness C01 / C03,
  validity C04).  Checked on the real runs by the harness (`harness/checks/c12.py`).
-/
import SRVerif.Proofs.CliTree
import SRVerif.Proofs.CliSpecies

namespace SR.C12

open SR.Ser SR.Cli

/-- `label_internal` on the pre-order name sequence `l` with prefix `pfx`
    (`"O"` / `"S"`).  `labelTrace` pairs every final name with the index it
    received (`none` for a given name), `idxs` lists the indices in pre-order.

    1. the result has one name per node and is the first component of the trace;
    2. a given name (non-empty, not `"NoName"`) is untouched; an unnamed node
       receives `pfx ++ k`;
    3. the indices are strictly increasing in pre-order;
    4. a new name is none of the given names (the proof shows more: it is no name of `l` at
       all; the hypothesis `isUnnamed nm = false` is not used);
    5. no index is skipped without reason: every smaller index is the name of a node
       of the input or was assigned earlier (the tree is searched live). -/
theorem C12_label (pfx : String) (l : List String) :
    labelNames pfx l = (labelTrace pfx l).map (·.1)
    ∧ Aligned (Rel pfx) l (labelTrace pfx l)
    ∧ (idxs (labelTrace pfx l)).Pairwise (· < ·)
    ∧ (∀ k ∈ idxs (labelTrace pfx l), ∀ nm ∈ l, isUnnamed nm = false → nm ≠ mkName pfx k)
    ∧ (∀ k ∈ idxs (labelTrace pfx l), ∀ j, j < k →
        mkName pfx j ∈ l ∨ j ∈ idxs (labelTrace pfx l)) := by
  refine ⟨labelNames_eq pfx l, labelGoI_rel pfx l [] 0, labelGoI_pairwise pfx l [] 0, ?_, ?_⟩
  · intro k hk nm hm _ he
    exact (labelGoI_idx pfx l [] 0 k hk).2.1 (he ▸ hm)
  · intro k hk j hj
    exact (labelGoI_idx pfx l [] 0 k hk).2.2 j (Nat.zero_le _) hj

/-- Position by position: `Aligned` says that the `i`-th final name is the given name
    when there was one, and `pfx ++ k` for some `k` otherwise. -/
theorem C12_label_pointwise (pfx : String) (l : List String) (i : Nat) (h : i < l.length) :
    ∃ h' : i < (labelNames pfx l).length,
      (isUnnamed l[i] = false → (labelNames pfx l)[i] = l[i])
      ∧ (isUnnamed l[i] = true → ∃ k ∈ idxs (labelTrace pfx l), (labelNames pfx l)[i] = mkName pfx k) := by
  have hA := aligned_of_trace (P := (· ∈ idxs (labelTrace pfx l)))
    (show Aligned (Rel pfx) l (labelTrace pfx l) from labelGoI_rel pfx l [] 0) fun _ hk => hk
  rw [← labelNames_eq] at hA
  have hi := hA.length_eq ▸ h
  obtain ⟨h1, h2⟩ := hA.getElem i h hi
  exact ⟨hi, h1, fun hu => let ⟨k, hk, hm⟩ := h2 hu; ⟨k, hm, hk⟩⟩

/-- If the given names are pairwise distinct, all names are pairwise distinct after the pass,
    and none is empty or `"NoName"`, whatever the prefix.  (The second clause is contained in
    the third.) -/
theorem C12_label_distinct (pfx : String) (l : List String)
    (hg : (l.filter (fun nm => !isUnnamed nm)).Nodup) :
    (labelNames pfx l).Nodup ∧ (∀ x ∈ labelNames pfx l, x ≠ "")
    ∧ (∀ x ∈ labelNames pfx l, isUnnamed x = false) := by
  refine ⟨labelNames_nodup pfx l hg, fun x hx he => ?_, labelNames_named pfx l⟩
  have := labelNames_named pfx l x hx
  rw [he] at this
  cases this

/-- On trees: the names of the relabelled tree (pre-order) are the relabelled names, so
    with distinct given names the tree written by `reconcile` is uniquely named — the
    hypothesis of C11. -/
theorem C12_label_tree (pfx : String) (t : NT)
    (hg : (t.names.filter (fun nm => !isUnnamed nm)).Nodup) :
    (labelTree pfx t).names = labelNames pfx t.names ∧ (labelTree pfx t).UniqueNames := by
  have h := names_labelTree pfx t
  exact ⟨h, by unfold NT.UniqueNames; rw [h]; exact (C12_label_distinct pfx _ hg).1⟩

/-- The `while` loop of `label_internal` always finds a free name within its fuel. -/
theorem C12_label_fuel (pfx : String) (names : List String) (next : Nat) :
    mkName pfx (findFree pfx names (names.length + 1) next) ∉ names :=
  findFree_free (Nat.lt_succ_self _) next

/-- Dispatch of `call_algorithm`, decided on the registry generated from the source:
    * a super-reconciliation algorithm on an input without syntenies: the dispatch answers
      `errorNeedsSyntenies`, whatever the policy (what `reconcile` makes of that answer —
      status 1, nothing written — is `C12_outcome`, `C12_status`);
    * a plain algorithm on an input with syntenies: warning, and it runs;
    * matching kinds run without warning;
    * the policy passed is `RetentionPolicy.<SOLUTIONS.upper()>` exactly when the function
      takes two parameters; every registered signature has one parameter or two with
      `RetentionPolicy`, so the final `return None` is dead;
    * a name outside the registry (`"nosuch"`) and a policy outside the choices (`"some"`)
      are refused, as argparse does (two sample calls). -/
theorem C12_dispatch :
    (∀ e ∈ Gen.algorithms, ∀ s ∈ Gen.solutionChoices,
      (e.2.1 = "SuperReconciliationInput" →
        dispatch e.1 .plain s = .errorNeedsSyntenies
        ∧ dispatch e.1 .super s = .run false (some (upper s)))
      ∧ (e.2.1 = "ReconciliationInput" →
        dispatch e.1 .super s = .run true (if e.2.2 = [] then none else some (upper s))
        ∧ dispatch e.1 .plain s = .run false (if e.2.2 = [] then none else some (upper s)))
      ∧ (e.2.1 = "SuperReconciliationInput" ∨ e.2.1 = "ReconciliationInput")
      ∧ (e.2.2 = [] ∨ e.2.2 = ["RetentionPolicy"])
      ∧ upper s ∈ Gen.retentionPolicies)
    ∧ (Gen.algorithms.map (·.1)).Nodup
    ∧ Gen.algorithms.map (·.1) = ["exh", "lca", "thl", "base_spfs", "ext_spfs", "base_uspfs", "superdtl"]
    ∧ dispatch "nosuch" .plain "any" = .rejected
    ∧ dispatch "lca" .plain "some" = .rejected := by
  decide +kernel

/-- Rows of `C12_dispatch` as the cost-line theorems use them.  A plain algorithm runs on either
    kind of input, with a warning iff the file has syntenies; the policy is passed iff the
    function takes a second parameter (`lca` does not). -/
theorem dispatch_plain_algo {algo : String} {rest : List String}
    (he : (algo, "ReconciliationInput", rest) ∈ Gen.algorithms) {sol : String}
    (hs : sol ∈ Gen.solutionChoices) :
    dispatch algo .super sol = .run true (if rest = [] then none else some (upper sol)) ∧
    dispatch algo .plain sol = .run false (if rest = [] then none else some (upper sol)) :=
  (C12_dispatch.1 _ he sol hs).2.1 rfl

/-- A super-reconciliation algorithm on an input with syntenies runs without warning. -/
theorem dispatch_super {algo : String} {rest : List String}
    (he : (algo, "SuperReconciliationInput", rest) ∈ Gen.algorithms) {sol : String}
    (hs : sol ∈ Gen.solutionChoices) : dispatch algo .super sol = .run false (some (upper sol)) :=
  ((C12_dispatch.1 _ he sol hs).1 rfl).2

theorem any_choice : "any" ∈ Gen.solutionChoices := .head _

theorem all_choice : "all" ∈ Gen.solutionChoices := .tail _ (.head _)

theorem exh_registered : ("exh", "ReconciliationInput", ["RetentionPolicy"]) ∈ Gen.algorithms :=
  .head _

theorem lca_registered : ("lca", "ReconciliationInput", []) ∈ Gen.algorithms := .tail _ (.head _)

theorem thl_registered : ("thl", "ReconciliationInput", ["RetentionPolicy"]) ∈ Gen.algorithms :=
  .tail _ (.tail _ (.head _))

/-- What `reconcile` makes of it: status 1 and no output for the error and for an empty
    result list; otherwise status 0, the minimum cost line, one line per result in order. -/
theorem C12_outcome {ρ : Type} (enc : ρ → String) (results : List ρ) :
    reconcileOutcome .errorNeedsSyntenies results enc = (1, false, [])
    ∧ (∀ w p, reconcileOutcome (.run w p) ([] : List ρ) enc = (1, false, []))
    ∧ (∀ w p, results ≠ [] →
        reconcileOutcome (.run w p) results enc = (0, true, results.map enc)) := by
  refine ⟨rfl, fun _ _ => rfl, fun w p h => ?_⟩
  cases results with
  | nil => exact absurd rfl h
  | cons a r => rfl

/-- `get_species_mapping`: the prefixes tried for a leaf name are, in order of increasing
    length, exactly the prefixes that are followed by an underscore (lower-cased).  (Which
    of them becomes the species is not part of this statement.) -/
theorem C12_species_mapping (nm : List Char) :
    prefixCands nm = (underscorePrefixes nm).map lowerChars
    ∧ (∀ p, p ∈ underscorePrefixes nm ↔ ∃ rest, nm = p ++ '_' :: rest)
    ∧ (underscorePrefixes nm).Pairwise (fun a b => a.length < b.length) :=
  ⟨prefixCands_eq nm, mem_underscorePrefixes nm, underscorePrefixes_sorted nm⟩

/-- The README example: both ancestors unnamed. -/
example : labelNames "O" ["", "", "x_1", "x_2", "y_1"] = ["O0", "O1", "x_1", "x_2", "y_1"] := by decide +kernel

/-- Given names that look like generated ones are skipped, also when they come later in
    pre-order; `next` is not incremented after an assignment (the second unnamed node
    re-tests index 1, now taken). -/
example : labelNames "O" ["", "O0", "a", "NoName", "", "O3"] = ["O1", "O0", "a", "O2", "O4", "O3"] := by
  decide +kernel

example : idxs (labelTrace "O" ["", "O0", "a", "NoName", "", "O3"]) = [1, 2, 4] := by decide +kernel

/-- Species names containing underscores: the first matching prefix wins. -/
example :
    let st : NT := .node "" none [.node "a" none [], .node "a_B" none [], .node "c_d" none []]
    let ot : NT := .node "" none [.node "A_b_1" none [], .node "C_D_2" none [], .node "c" none [],
                                  .node "c_e_1" none []]
    getSpeciesMapping ot st = [([0], [0]), ([1], [2])] := by decide +kernel

end SR.C12
