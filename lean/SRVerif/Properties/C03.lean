/-
  C03 — Unordered super-reconciliation (SuperDTL) returns a minimum-cost
  solution.

  Models: `uspfs c S base o` (`usreconcile_extended_uspfs` / `…_base_uspfs`),
  evaluator `totalCost … .unordered`.  Specification: `Spec.validSol
  .unordered`, `Spec.optimum … .unordered` (minimum over EVERY labelling between
  the required and the allowed content, not only the two canonical choices).
-/
import SRVerif.Proofs.Cost
import SRVerif.Spec.Opt

namespace SR.C03

open SR

/-- Optimal among all valid unordered super-reconciliations, with no guard on `S`.
    This unguarded form is false (`C03_statement_needs_binary` in `C03Full.lean`, a
    ternary species tree); `C03_full` proves the guarded form `C03_guarded_statement`
    (`S` binary, leaf species nodes of `S`). -/
def C03_statement : Prop :=
  ∀ (c : Costs) (S : RTree) (o : OTree) (base : Bool),
    c.spe + 2 * c.sloss ≤ c.dup + 2 * c.floss →
    ∀ sol ∈ uspfs c S base o,
      Spec.validSol .unordered o sol = true ∧
      Cost.le (totalCost c .unordered o sol) (Spec.optimum c S .unordered base false o none).1 = true

/-- The ranking step: the result is exactly the set of decoded table solutions of
    minimum evaluated cost, each once. -/
theorem C03_rank_partial (c : Costs) (S : RTree) (base : Bool) (o : OTree) :
    let ann := annUn S base o [] o
    let decoded := (uspfsCells c S base true o).flatMap
      (fun d => d.sols.map (unSol ann ann.data.lcaSet))
    (∀ sol, sol ∈ uspfs c S base o ↔
      sol ∈ decoded ∧
      ∀ sol' ∈ decoded, Cost.le (totalCost c .unordered o sol) (totalCost c .unordered o sol') = true)
    ∧ (uspfs c S base o).Nodup :=
  ⟨fun sol => mem_rankByCost c .unordered o _ sol, nodup_rankByCost _ _ _ _⟩

/-! Non-vacuity (README example: x_1 = g1 g2 g3, x_2 = g1 g3 g4, y_1 = g1..g4; cost 2). -/
example :
    let c : Costs := { spe := 0, dup := 1, hgt := .fin 1, floss := 1, sloss := 1 }
    let S : RTree := .node [.node [], .node []]
    let o : OTree := .node (.node (.leaf [0] [1, 2, 3]) (.leaf [0] [1, 3, 4])) (.leaf [1] [1, 2, 3, 4])
    ((uspfs c S false o).map (totalCost c .unordered o)).all (· == .fin 2) = true
      ∧ (uspfs c S false o) ≠ [] := by decide +kernel

end SR.C03
