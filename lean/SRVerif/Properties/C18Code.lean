/-
  C18 — Subsequence masks and segment distances are exact: the theorems of
  `Properties/C18.lean`, restated for the functions that `harness/translate_py.py`
  GENERATES from the text of `superrec2/utils/subsequences.py` on every run
  (`SRVerif/Generated/SubseqPy.lean`, namespace `SR.Gen.Subseq`).

  The bridge is `SRVerif/Generated/SubseqPyEquiv.lean` (`gen_<function>_eq_model`, one per
  function, proved for all inputs in `SRVerif/Proofs/SubseqPyEquiv.lean`).  A
  generated function returns `Except Py.Err ρ`; `.error e` means that the Python
  function raises `e`, so `… = .ok v` also says "does not raise" (and, for
  `subseq_from_mask`, that its `while` loop terminates within the generated fuel).

  Built only when the translator tie is available (`translator_tie` in the evidence).

  Precondition of the translation: `int` parameters are non-negative
  (`Nat`), sequence elements are compared with `==` only (`DecidableEq α`).
-/
import SRVerif.Properties.C18
import SRVerif.Generated.SubseqPyEquiv

namespace SR.C18

open SR.SubseqSpec SR.SubseqProofs SR.Py
open SR.Gen.Subseq

variable {α : Type} [DecidableEq α]

/-- The four generated functions compute exactly what the hand-written model
    computes, exceptions included. -/
theorem C18_code_tie :
    (∀ s : List α, subseq_complete s = .ok ((subseqComplete s : Nat) : Int)) ∧
    (∀ child parent : List α, mask_from_subseq child parent = .ok (maskFromSubseq child parent)) ∧
    (∀ (mask : Nat) (parent : List α),
      subseq_from_mask mask parent = Py.ofOption .IndexError (subseqFromMask mask parent)) ∧
    (∀ (child parent : Nat) (edges : Bool),
      subseq_segment_dist child parent edges = .ok (subseqSegmentDist child parent edges)) :=
  ⟨gen_subseq_complete_eq_model, gen_mask_from_subseq_eq_model, gen_subseq_from_mask_eq_model,
    gen_subseq_segment_dist_eq_model⟩

example : mask_from_subseq [2, 3, 6] [1, 2, 3, 4, 5, 6] = .ok 0b100110 := by
  rw [gen_mask_from_subseq_eq_model]; exact congrArg Except.ok (by decide)

/-- Subsequence → mask → subsequence is the identity, and neither step raises. -/
theorem C18_code_roundtrip_seq (child parent : List α) (h : child.Sublist parent) :
    ∃ mask, mask_from_subseq child parent = .ok mask ∧ subseq_from_mask mask parent = .ok child :=
  ⟨maskFromSubseq child parent, gen_mask_from_subseq_eq_model child parent, by
    rw [gen_subseq_from_mask_eq_model, C18_roundtrip_seq child parent h]; rfl⟩

example : ∃ mask, mask_from_subseq [2, 3, 6] [1, 2, 3, 4, 5, 6] = .ok mask ∧
    subseq_from_mask mask [1, 2, 3, 4, 5, 6] = .ok [2, 3, 6] :=
  C18_code_roundtrip_seq _ _ (by decide)

/-- Mask → subsequence → mask is the identity: every mask that fits the parent
    (elements distinct) decodes, without raising, to a subsequence of the parent
    whose mask is the original one. -/
theorem C18_code_roundtrip_mask (mask : Nat) (parent : List α) (hnd : parent.Nodup)
    (h : mask < 2 ^ parent.length) :
    ∃ child, subseq_from_mask mask parent = .ok child ∧ child.Sublist parent ∧
      mask_from_subseq child parent = .ok mask := by
  obtain ⟨child, h1, h2, h3⟩ := C18_roundtrip_mask mask parent hnd h
  refine ⟨child, ?_, h2, ?_⟩
  · rw [gen_subseq_from_mask_eq_model, h1]; rfl
  · rw [gen_mask_from_subseq_eq_model, h3]

example : ∃ child, subseq_from_mask 0b100110 [1, 2, 3, 4, 5, 6] = .ok child ∧
    child.Sublist [1, 2, 3, 4, 5, 6] ∧ mask_from_subseq child [1, 2, 3, 4, 5, 6] = .ok 0b100110 :=
  C18_code_roundtrip_mask _ _ (by decide) (by decide)

/-- `subseq_from_mask` raises — and then it is `IndexError`, never a
    non-terminating loop — exactly on the masks with a set bit beyond the parent. -/
theorem C18_code_from_mask_defined (mask : Nat) (parent : List α) :
    ((∃ child, subseq_from_mask mask parent = .ok child) ↔ mask < 2 ^ parent.length) ∧
    (subseq_from_mask mask parent = .error .IndexError ↔ ¬ mask < 2 ^ parent.length) := by
  rw [gen_subseq_from_mask_eq_model, ← C18_from_mask_defined mask parent]
  cases subseqFromMask mask parent with
  | none => simp [Py.ofOption]
  | some r => simp [Py.ofOption]

example : subseq_from_mask 4 [1, 2] = .error .IndexError :=
  (C18_code_from_mask_defined 4 [1, 2]).2.2 (by decide)

/-- `mask_from_subseq` never raises and its result fits the parent;
    `subseq_complete` never raises and is the mask of the whole sequence. -/
theorem C18_code_mask_lt (child parent : List α) :
    ∃ mask, mask_from_subseq child parent = .ok mask ∧ mask < 2 ^ parent.length ∧
      ∃ full : Nat, subseq_complete parent = .ok (full : Int) ∧ mask ≤ full ∧
        mask_from_subseq parent parent = .ok full :=
  ⟨_, gen_mask_from_subseq_eq_model child parent, (C18_mask_lt child parent).1,
    subseqComplete parent, gen_subseq_complete_eq_model parent, (C18_mask_lt child parent).2, by
      rw [gen_mask_from_subseq_eq_model, C18_complete]⟩

example : ∃ mask, mask_from_subseq [2, 3] [1, 2, 3] = .ok mask ∧ mask < 2 ^ 3 ∧
    ∃ full : Nat, subseq_complete [1, 2, 3] = .ok (full : Int) ∧ mask ≤ full ∧
      mask_from_subseq [1, 2, 3] [1, 2, 3] = .ok full := C18_code_mask_lt [2, 3] [1, 2, 3]

/-- The bits of a generated mask (parent elements distinct). -/
theorem C18_code_mask_bits (child parent : List α) (hnd : parent.Nodup) (h : child.Sublist parent) :
    ∃ mask, mask_from_subseq child parent = .ok mask ∧
      ∀ i, mask.testBit i = true ↔ ∃ x, parent[i]? = some x ∧ x ∈ child :=
  ⟨_, gen_mask_from_subseq_eq_model child parent, C18_mask_bits child parent hnd h⟩

example : ∃ mask, mask_from_subseq [2, 3] [1, 2, 3] = .ok mask ∧
    ∀ i, mask.testBit i = true ↔ ∃ x, [1, 2, 3][i]? = some x ∧ x ∈ [2, 3] :=
  C18_code_mask_bits _ _ (by decide) (by decide)

/-- For a non-empty child mask the generated `subseq_segment_dist` never raises
    and returns the executable specification: `-1` when the child is not
    contained in the parent, else the number of maximal runs of lost parent
    positions (end runs dropped when `edges = false`). -/
theorem C18_code_dist (child parent : Nat) (edges : Bool) (hc : child ≠ 0) :
    subseq_segment_dist child parent edges = .ok (SubseqSpec.segmentDist child parent edges) := by
  rw [gen_subseq_segment_dist_eq_model, C18_dist child parent edges hc]

/-- The values of the upstream unit tests, for the generated function. -/
example : subseq_segment_dist 0b1100_0010 0b1110_0011 true = .ok 2
    ∧ subseq_segment_dist 0b1100_0010 0b1110_0011 false = .ok 1
    ∧ subseq_segment_dist 0b0100_0010 0b1100_0010 false = .ok 0
    ∧ subseq_segment_dist 0b1010_1010 0b0101_0101 true = .ok (-1) := by
  refine ⟨?_, ?_, ?_, ?_⟩ <;> rw [C18_code_dist _ _ _ (by decide)] <;>
    exact congrArg Except.ok (by decide)

/-- `-1` exactly when the child is not contained in the parent. -/
theorem C18_code_dist_neg (child parent : Nat) (edges : Bool) (hc : child ≠ 0) :
    subseq_segment_dist child parent edges = .ok (-1) ↔ ¬ Contained child parent := by
  rw [gen_subseq_segment_dist_eq_model, ← C18_dist_neg child parent edges hc]
  constructor
  · intro h; injection h
  · intro h; rw [h]

example : subseq_segment_dist 0b111 0b110 true = .ok (-1) :=
  (C18_code_dist_neg _ _ _ (by decide)).2
    (fun h => absurd ((C18_contained_iff_land _ _).1 h) (by decide))

/-- The number of lost runs when the child is contained in the parent. -/
theorem C18_code_dist_runs (child parent : Nat) (edges : Bool) (hc : child ≠ 0)
    (h : Contained child parent) :
    subseq_segment_dist child parent edges
      = .ok ((lostRuns edges (keptPattern child parent) : Nat) : Int) := by
  rw [gen_subseq_segment_dist_eq_model, C18_dist_runs child parent edges hc h]

example : subseq_segment_dist 0b1100_0010 0b1110_0011 true
    = .ok ((lostRuns true (keptPattern 0b1100_0010 0b1110_0011) : Nat) : Int) :=
  C18_code_dist_runs _ _ _ (by decide) ((C18_contained_iff_land _ _).2 (by decide))

/-- The code on the empty child mask (outside the property's scope). -/
theorem C18_code_dist_zero (parent : Nat) :
    subseq_segment_dist 0 parent false = .ok (-1) ∧
    subseq_segment_dist 0 parent true = .ok (if parent = 0 then 0 else 1) := by
  rw [gen_subseq_segment_dist_eq_model, gen_subseq_segment_dist_eq_model,
    (C18_dist_zero parent).1, (C18_dist_zero parent).2.1]
  exact ⟨rfl, rfl⟩

example : subseq_segment_dist 0 0b1011 false = .ok (-1) ∧ subseq_segment_dist 0 0b1011 true = .ok 1 :=
  C18_code_dist_zero 0b1011

/-- Bridge to sequences, end to end through the generated functions: for
    `child <+ parent <+ root` (root duplicate-free, child non-empty) the masks
    are computed without raising and their distance is the number of maximal
    runs of consecutive parent elements absent from the child. -/
theorem C18_code_bridge (child parent root : List α) (edges : Bool) (hnd : root.Nodup)
    (hcp : child.Sublist parent) (hpr : parent.Sublist root) (hne : child ≠ []) :
    ∃ cm pm, mask_from_subseq child root = .ok cm ∧ mask_from_subseq parent root = .ok pm ∧
      subseq_segment_dist cm pm edges = .ok ((lostRunsSeq edges child parent : Nat) : Int) :=
  ⟨_, _, gen_mask_from_subseq_eq_model child root, gen_mask_from_subseq_eq_model parent root, by
    rw [gen_subseq_segment_dist_eq_model, C18_bridge child parent root edges hnd hcp hpr hne]⟩

example : ∃ cm pm, mask_from_subseq [2, 6] [1, 2, 3, 4, 5, 6, 7] = .ok cm ∧
    mask_from_subseq [2, 3, 5, 6, 7] [1, 2, 3, 4, 5, 6, 7] = .ok pm ∧
    subseq_segment_dist cm pm false = .ok ((lostRunsSeq false [2, 6] [2, 3, 5, 6, 7] : Nat) : Int) :=
  C18_code_bridge _ _ _ _ (by decide +kernel) (by decide +kernel) (by decide +kernel) (by decide +kernel)

end SR.C18
