/-
  C01 — General DTL reconciliation returns a minimum-cost reconciliation.

  Models: `exhaustive` (`reconcile_exhaustive` over `generateAll`), `thl`
  (`reconcile_thl` = label DP at unit labels, decoded, re-ranked by the
  evaluator), `totalCost … .plain` = `ReconciliationOutput.cost()`.
  Specification: `Spec.validRec` (valid reconciliation), minimum over
  `Spec.allValid`.
-/
import SRVerif.Proofs.Cost
import SRVerif.Spec.Opt

namespace SR.C01

open SR

def leafSpeciesOf : OTree → List Path
  | .leaf sp _ => [sp]
  | .node l r => leafSpeciesOf l ++ leafSpeciesOf r

/-- **C01 for the enumerator**: `generateAll` lists exactly the valid
    reconciliations, each once, provided the leaf species are species of `S`
    (without that guard the statement is false: `C01_enum_guard_needed`).
    `C01_enum` (`Properties/C01Enum.lean`) proves the body with the guard written with
    `SR.leafSpecies`, the same function as `leafSpeciesOf`; no declaration has this type. -/
def C01_enum_statement : Prop :=
  ∀ (S : RTree) (o : OTree), (∀ p, p ∈ leafSpeciesOf o → S.isNode p = true) →
    (∀ sol, sol ∈ generateAll o ↔ Spec.validRec o sol = true ∧ sol ∈ Spec.allMappings S o)
    ∧ (generateAll o).Nodup

/-- **C01 for the exhaustive solver**.  `C01_exh` (`Properties/C01Enum.lean`) is this statement
    unfolded. -/
def C01_exh_statement : Prop :=
  ∀ (c : Costs) (S : RTree) (o : OTree) (sol : Sol), sol ∈ exhaustive c o →
    Spec.validRec o sol = true ∧
    ∀ sol', Spec.validRec o sol' = true → sol' ∈ Spec.allMappings S o →
      Cost.le (totalCost c .plain o sol) (totalCost c .plain o sol') = true

/-- **C01 for the THL solver**, inside the coherent region, for a binary species
    tree containing the leaf species (the conclusion fails outside the coherent region,
    `C01_incoherent_witness`, and over a non-binary species tree, `C01_thl_wf_needed`).
    `C01_thl` (`Properties/C01Thl.lean`) proves the body with the guard written with
    `SR.leafSpecies`, the same function as `leafSpeciesOf`; no declaration has this type. -/
def C01_thl_statement : Prop :=
  ∀ (c : Costs) (S : RTree) (o : OTree), S.isBinary = true →
    (∀ p, p ∈ leafSpeciesOf o → S.isNode p = true) →
    c.spe ≤ c.dup + 2 * c.floss → ∀ sol ∈ thl c S o,
    Spec.validRec o sol = true ∧
    ∀ sol', Spec.validRec o sol' = true → sol' ∈ Spec.allMappings S o →
      Cost.le (totalCost c .plain o sol) (totalCost c .plain o sol') = true

/-- The ranking step of `reconcile_exhaustive`: the result is exactly the set of
    enumerated reconciliations of minimum evaluated cost, each once. -/
theorem C01_exh_partial (c : Costs) (o : OTree) :
    (∀ sol, sol ∈ exhaustive c o ↔
      sol ∈ generateAll o ∧
      ∀ sol' ∈ generateAll o, Cost.le (totalCost c .plain o sol) (totalCost c .plain o sol') = true)
    ∧ (exhaustive c o).Nodup :=
  ⟨fun sol => mem_rankByCost c .plain o (generateAll o) sol, nodup_rankByCost _ _ _ _⟩

/-- The ranking step of `reconcile_thl`: the result is exactly the set of decoded
    table solutions of minimum *evaluated* cost, each once (the re-ranking
    through the result entry). -/
theorem C01_thl_partial (c : Costs) (S : RTree) (o : OTree) :
    let decoded := (thlCells c S true o).flatMap (fun d => d.sols.map (plainSol o))
    (∀ sol, sol ∈ thl c S o ↔
      sol ∈ decoded ∧
      ∀ sol' ∈ decoded, Cost.le (totalCost c .plain o sol) (totalCost c .plain o sol') = true)
    ∧ (thl c S o).Nodup :=
  ⟨fun sol => mem_rankByCost c .plain o _ sol, nodup_rankByCost _ _ _ _⟩

/-- The coherence hypothesis of `C01_thl_statement` cannot be dropped: on this
    input (the F-COHERENCE witness: `((a,b),c)` on `((A,B),C)`, spe=4, dup=0,
    floss=1, hgt=9) `thl` returns a solution of cost 8 while a valid
    reconciliation of cost 5 exists. -/
theorem C01_incoherent_witness :
    let c : Costs := { spe := 4, dup := 0, hgt := .fin 9, floss := 1, sloss := 1 }
    let S : RTree := .node [.node [.node [], .node []], .node []]
    let o : OTree := .node (.node (.leaf [0, 0] []) (.leaf [0, 1] [])) (.leaf [1] [])
    let better : Sol := .node [] [] (.node [] [] (.leaf [0, 0] []) (.leaf [0, 1] [])) (.leaf [1] [])
    (thl c S o).map (totalCost c .plain o) = [.fin 8] ∧
    Spec.validRec o better = true ∧ totalCost c .plain o better = .fin 5 := by
  decide +kernel

example :
    let c : Costs := { spe := 0, dup := 1, hgt := .fin 1, floss := 1, sloss := 1 }
    let S : RTree := .node [.node [], .node []]
    let o : OTree := .node (.node (.leaf [0] []) (.leaf [0] [])) (.leaf [1] [])
    (thl c S o).length = 1 ∧ (exhaustive c o) = thl c S o := by
  decide +kernel

end SR.C01
