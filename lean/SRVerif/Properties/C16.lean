/-
  C16 — A dynamic-programming entry holds the optimum and the tags of
  optimal candidates.

  Model: `SRVerif/Model/Entry.lean` (`Entry.update`, `Entry.combine`,
  `Cell.update` = `EntryProxy.update`).  Histories are lists of batches; the
  candidates offered so far are `bs.flatten`.  All statements hold for both
  merge policies (`better m` is `<` for MIN and `>` for MAX) and for arbitrary
  tag types.
-/
import SRVerif.Proofs.Entry

namespace SR.C16

open SR.Entry

variable {τ : Type} [DecidableEq τ]

/-- The entry obtained from a default-initialised entry after a history of
    batches (`Entry(m, r)` followed by `update(*batch)` for each batch). -/
def after (m : Merge) (r : Retain) (bs : List (List (Cand τ))) : Entry τ :=
  bs.foldl Entry.update (Entry.init m r)

theorem after_inv (m : Merge) (r : Retain) (bs : List (List (Cand τ))) :
    Inv m r bs.flatten (after m r bs) := by
  unfold after
  rw [foldl_update]
  exact inv_fresh m r _

/-- The value is the optimum of the sentinel and of all values offered so
    far: it is attained, and nothing offered (nor the sentinel) is better. -/
theorem C16_value (m : Merge) (r : Retain) (bs : List (List (Cand τ))) :
    let e := after m r bs
    (e.value = sentinel m ∨ ∃ c ∈ bs.flatten, c.value = e.value)
    ∧ (∀ c ∈ bs.flatten, better m e.value c.value = false)
    ∧ better m e.value (sentinel m) = false :=
  let h := after_inv m r bs
  ⟨h.attained, h.optimal, h.optimalS⟩

/-- Under `all` the tags are exactly the tags of the candidates achieving
    the optimum, each once. -/
theorem C16_all (m : Merge) (bs : List (List (Cand τ))) :
    let e := after m .all bs
    (∀ t, t ∈ e.infos ↔ ∃ c ∈ bs.flatten, c.info = some t ∧ c.value = e.value)
    ∧ e.infos.Nodup :=
  let h := after_inv m .all bs
  ⟨h.all rfl, h.nodup⟩

/-- Under `any` there is at most one tag, it is the tag of an optimal
    candidate, and there is one as soon as some optimal candidate is tagged. -/
theorem C16_any (m : Merge) (bs : List (List (Cand τ))) :
    let e := after m .any bs
    e.infos.length ≤ 1
    ∧ (∀ t ∈ e.infos, ∃ c ∈ bs.flatten, c.info = some t ∧ c.value = e.value)
    ∧ ((∃ c ∈ bs.flatten, c.info.isSome ∧ c.value = e.value) ↔ e.infos ≠ []) := by
  intro e
  have h := after_inv m .any bs
  refine ⟨h.any1 rfl, h.anySound rfl, h.anyComplete rfl, ?_⟩
  intro hne
  cases hi : e.infos with
  | nil => exact absurd hi hne
  | cons t ts =>
    obtain ⟨c, hc, h1, h2⟩ := h.anySound rfl t (by rw [show (after m .any bs).infos = e.infos from rfl, hi]; simp)
    exact ⟨c, hc, by simp [h1], h2⟩

/-- Under `none` no tag is ever kept. -/
theorem C16_none (m : Merge) (bs : List (List (Cand τ))) :
    (after m .none bs).infos = [] :=
  (after_inv m .none bs).none rfl

/-- Combining two entries yields the optimum over all pairs of their retained
    tags, and (under `all`) exactly the tags of the optimal pairs. -/
theorem C16_combine {σ : Type} [DecidableEq σ] (a b : Entry τ)
    (f : ExtInt → τ → ExtInt → τ → Cand σ) :
    let e := Entry.combine a b f
    (e.value = sentinel a.merge ∨
        ∃ x ∈ a.infos, ∃ y ∈ b.infos, (f a.value x b.value y).value = e.value)
    ∧ (∀ x ∈ a.infos, ∀ y ∈ b.infos,
        better a.merge e.value (f a.value x b.value y).value = false)
    ∧ (a.retain = .all → ∀ t, t ∈ e.infos ↔
        ∃ x ∈ a.infos, ∃ y ∈ b.infos,
          (f a.value x b.value y).info = some t ∧ (f a.value x b.value y).value = e.value)
    ∧ (a.retain = .any → e.infos.length ≤ 1 ∧ ∀ t ∈ e.infos,
        ∃ x ∈ a.infos, ∃ y ∈ b.infos,
          (f a.value x b.value y).info = some t ∧ (f a.value x b.value y).value = e.value) := by
  intro e
  have h := combine_inv a b f
  exact ⟨h.attained.imp_right (exists_mem_pairCands a b f _).1,
    fun x hx y hy => h.optimal _ ((mem_pairCands a b f _).mpr ⟨x, hx, y, hy, rfl⟩),
    fun hra t => (h.all hra t).trans (exists_mem_pairCands a b f _),
    fun hra => ⟨h.any1 hra, fun t ht => (exists_mem_pairCands a b f _).1 (h.anySound hra t ht)⟩⟩

/-- The clauses of the property that `C16_combine` leaves out for the combined entry: under `any`
    a tag IS kept as soon as (and only if) an optimal pair is tagged — with `C16_combine`'s
    `length ≤ 1` this is the "exactly one (if any optimal candidate is tagged)" of the property —,
    under `none` no tag is kept, tags are never duplicated, and the result carries the policies of
    the first operand. -/
theorem C16_combine_any_none {σ : Type} [DecidableEq σ] (a b : Entry τ)
    (f : ExtInt → τ → ExtInt → τ → Cand σ) :
    let e := Entry.combine a b f
    (a.retain = .any →
      ((∃ x ∈ a.infos, ∃ y ∈ b.infos,
          (f a.value x b.value y).info.isSome ∧ (f a.value x b.value y).value = e.value) ↔ e.infos ≠ []))
    ∧ (a.retain = .none → e.infos = [])
    ∧ e.infos.Nodup ∧ e.merge = a.merge ∧ e.retain = a.retain := by
  intro e
  have h := combine_inv a b f
  refine ⟨fun hra => ⟨fun hex => h.anyComplete hra ((exists_mem_pairCands a b f _).2 hex),
    fun hne => ?_⟩, h.none, h.nodup, h.merge, h.retain⟩
  obtain ⟨t, ht⟩ := List.exists_mem_of_ne_nil _ hne
  obtain ⟨c, hc, h1, h2⟩ := h.anySound hra t ht
  exact (exists_mem_pairCands a b f fun c => c.info.isSome ∧ c.value = e.value).1
    ⟨c, hc, by simp [h1], h2⟩

/-- A cell never written (no batch with a finite candidate) reads as
    infinitely bad with no tags; otherwise it reads as a default-initialised
    entry that was offered exactly the batches that were written. -/
theorem C16_cell (m : Merge) (r : Retain) (bs : List (List (Cand τ))) :
    let c := bs.foldl (Cell.update m r) (none : Cell τ)
    (bs.filter writes = [] → Cell.value m c = sentinel m ∧ Cell.infos c = [])
    ∧ (bs.filter writes ≠ [] →
        Cell.value m c = (after m r (bs.filter writes)).value
        ∧ Cell.infos c = (after m r (bs.filter writes)).infos) := by
  intro c
  have hc : c = _ := cell_fold m r none bs
  constructor
  · intro h
    rw [hc, if_pos h]
    simp [Cell.value, Cell.infos, sentinel]
  · intro h
    rw [hc, if_neg h]
    simp [Cell.value, Cell.infos, after, foldl_update]

/-! Non-vacuity: concrete histories meeting the statements non-trivially. -/

example : (after .min .all [[⟨.fin 2, some 1⟩, ⟨.fin 1, none⟩], [⟨.fin 1, some 2⟩, ⟨.fin 1, some 3⟩]]
    : Entry Nat).infos = [2, 3] := by decide +kernel

example : (after .min .all [[⟨.fin 2, some 1⟩, ⟨.fin 1, none⟩]] : Entry Nat).infos = [] := by decide +kernel

example : (after .max .any [[⟨.fin 2, some 1⟩], [⟨.fin 2, some 5⟩]] : Entry Nat).infos = [1] := by decide +kernel

example : Cell.value .min ([[⟨.posInf, some 1⟩]].foldl (Cell.update .min .all) (none : Cell Nat))
    = .posInf := by decide +kernel

-- non-vacuity: an `any` entry CONSTRUCTED with two tags combined with a one-tag entry: two pairs, both
-- optimal and tagged, exactly one tag kept; the same operands under `none` (tags present, so
-- `C16_combine_untagged` of `Properties/C16Table.lean` does not apply) keep nothing; an untagging combinator keeps nothing under `any`.
example : (Entry.combine ({ value := .fin 1, infos := [1, 2], merge := .min, retain := .any } : Entry Nat)
      (after .min .any [[⟨.fin 2, some 3⟩]])
      (fun va x vb y => ⟨va + vb, some (x * 1000 + y)⟩)).infos = [1003] := by decide +kernel
example :
    let e := Entry.combine ({ value := .fin 1, infos := [1, 2], merge := .min, retain := .none } : Entry Nat)
      ({ value := .fin 2, infos := [3], merge := .min, retain := .none } : Entry Nat)
      (fun va x vb y => (⟨va + vb, some (x * 1000 + y)⟩ : Cand Nat))
    e.value = .fin 3 ∧ e.infos = [] := by decide +kernel
example : (Entry.combine (after .max .any [[⟨.fin 1, some 1⟩]] : Entry Nat) (after .max .any [[⟨.fin 2, some 3⟩]])
      (fun va _ vb _ => (⟨va + vb, none⟩ : Cand Nat))).infos = [] := by decide +kernel

end SR.C16
