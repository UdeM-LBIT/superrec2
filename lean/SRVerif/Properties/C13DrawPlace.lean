/-
  C13 — WHERE the drawing puts the event nodes and the loss markers.

  `C13_tikz_draw_valid` (`Properties/C13Draw.lean`) and `C13_tikz_draw_kind` (`Properties/C13Kind.lean`) count the
  event statements and give their kind, and
  `C15_draw_faithful` (`BranchCall`) gives colour, label and the end of a transfer arrow; none of them
  says at which coordinates an event node or a loss marker is drawn (a drawing model that puts every
  `\node` at `(0,0)` satisfies all of them).  The property says "placed in the species that node is
  mapped to" and "located in the species where the loss occurs".  `C13_draw_place` (any layout) gives the
  coordinates of every event node and loss marker (a loss marker: level with its branch, on an edge of the
  species' trunk); `C13_draw_place_valid` (with `C14_branches_inside`) puts the nodes of speciations,
  duplications and transfers inside the box of their species — it does not speak of loss markers.
-/
import SRVerif.Properties.C13Draw
import SRVerif.Properties.C14Inside

namespace SR.C13

open SR SR.Layout SR.TikzDraw

/-- The coordinates among the fillings of a call, in order. -/
def coordsOf (c : DrawCall) : List Pos :=
  c.fills.filterMap fun f => match f with | .coord p => some p | _ => none

/-- `loss_pos` is level with the branch and on an edge of the species' trunk. -/
def onTrunkEdge (o : Orientation) (lay : SubLayout) (b : FBranch) (p : Pos) : Prop :=
  match o with
  | .vertical => p.y = b.rect.center.y ∧ (p.x = lay.trunk.right.x ∨ p.x = lay.trunk.left.x)
  | .horizontal => p.x = b.rect.center.x ∧ (p.y = lay.trunk.bottom.y ∨ p.y = lay.trunk.top.y)

/-- Where the marks of branch `b` of `lay` are drawn.  The statement numbers are indices into
    `Generated.statements`: 3 extant gene, 5 loss marker, 8 speciation, 10 duplication, 13 transfer node
    (`C15_draw_stmtOf`). -/
structure PlacedCall (o : Orientation) (dp : DParams) (lay : SubLayout) (b : FBranch)
    (c : DrawCall) : Prop where
  sp : c.sp = lay.sp
  owner : c.owner = some b.key
  node : c.stmt = 8 ∨ c.stmt = 10 ∨ c.stmt = 13 → coordsOf c = [b.rect.center]
  leaf : c.stmt = 3 → coordsOf c = [leafPos o dp b]
  loss : c.stmt = 5 → ∃ p, coordsOf c = [p] ∧ onTrunkEdge o lay b p

theorem lossPos_onTrunkEdge (o : Orientation) (lay : SubLayout) (b : FBranch) :
    onTrunkEdge o lay b (lossPos o lay b) := by
  unfold lossPos
  cases o <;> split <;> simp [onTrunkEdge]

theorem placedCall_path (o : Orientation) (dp : DParams) (deco : Deco) (lay : SubLayout)
    (b : FBranch) (k : Nat) (fills : List DFill) (target : Option Key)
    (hk : k ≠ 3 ∧ k ≠ 5 ∧ k ≠ 8 ∧ k ≠ 10 ∧ k ≠ 13) :
    PlacedCall o dp lay b (branchStmt deco lay b k fills target) :=
  ⟨rfl, rfl, fun (h : k = 8 ∨ k = 10 ∨ k = 13) => by omega, fun (h : k = 3) => by omega,
    fun (h : k = 5) => by omega⟩

theorem drawBranch_placed {o : Orientation} {dp : DParams} {deco : Deco}
    {all : List SubLayout} {spOf : Path → Option Path} {lay : SubLayout}
    {ll rl : Option SubLayout} {b : FBranch} {cs : List DrawCall}
    (h : TikzDraw.drawBranch o dp deco all spOf lay ll rl b = .ok cs) :
    ∀ c ∈ cs, PlacedCall o dp lay b c := by
  have path := placedCall_path o dp deco lay b
  refine forall_mem_drawBranch (P := PlacedCall o dp lay b) h ?_ ?_
  · intro a
    exact path 2 _ _ (by decide)
  · intro body hd
    cases hd with
    | leaf hk =>
      exact List.forall_mem_singleton.2
        ⟨rfl, rfl, by simp, fun _ => rfl, by simp⟩
    | loss hk keep =>
      exact forall_mem_triple (path 4 _ _ (by decide))
        ⟨rfl, rfl, by simp, by simp,
          fun _ => ⟨_, rfl, lossPos_onTrunkEdge o lay b⟩⟩
        (path 6 _ _ (by decide))
    | spec hk la ra =>
      exact forall_mem_pair (path 7 _ _ (by decide))
        ⟨rfl, rfl, fun _ => rfl, by simp, by simp⟩
    | dup hk la ra =>
      exact forall_mem_pair (path 9 _ _ (by decide))
        ⟨rfl, rfl, fun _ => rfl, by simp, by simp⟩
    | hgt hk g s fl foreign la out bend hr hs hfl hf hbend =>
      exact forall_mem_triple (path 11 _ _ (by decide)) (path 12 _ _ (by decide))
        ⟨rfl, rfl, fun _ => rfl, by simp, by simp⟩

/-- **Placement of every mark.**  Whatever the layout: a drawing call owned by a branch is made for a
    branch `b` of the layout `lay` of the species `c.sp` being drawn, and its event node / loss marker
    is drawn at the coordinates determined by `b.rect` and `lay.trunk` (`PlacedCall`). -/
theorem C13_draw_place (o : Orientation) (dp : DParams) (deco : Deco) (S : RTree)
    (spOf : Path → Option Path) (all : List SubLayout) (calls : List DrawCall)
    (h : drawCalls o dp deco S spOf all = .ok calls) :
    ∀ c ∈ calls, c.owner ≠ none →
      ∃ lay b, slLookup all c.sp = some lay ∧ c.sp ∈ S.preorder ∧ b ∈ lay.branches ∧
        PlacedCall o dp lay b c := by
  intro c hc hown
  cases origin_of_mem h c hc with
  | leafFork lay hs hl hf =>
    exact absurd (forkLeaf_owner hf).1 hown
  | innerFork lay l r hs hl h0 h1 hc' =>
    subst hc'
    exact absurd rfl hown
  | branch lay ll rl b cs hs hl hb hd hc' =>
    have pc := drawBranch_placed hd c hc'
    exact ⟨lay, b, by rw [pc.sp]; exact hl, by rw [pc.sp]; exact hs, hb, pc⟩

theorem center_hasPoint (r : Rect) (hw : 0 ≤ r.w) (hh : 0 ≤ r.h) :
    SR.C14.hasPoint r r.center.x r.center.y :=
  (Rect.has_mids hw hh).1

/-- **For a valid reconciliation** (numeric hypotheses of C14): the node of a speciation, duplication
    or transfer is drawn at a point of the box of the species whose layout holds its branch — the
    species being drawn, `c.sp` — and, across, inside that species' trunk. -/
theorem C13_draw_place_valid (o : Orientation) (P : Params) (sizes : Key → Size) (dp : DParams)
    (deco : Deco) (S : RTree) (ot : OTree) (sol : Sol) (hn : SR.C14.NumHyps P sizes)
    (hv : Spec.validRec ot sol = true) (hin : inTree S sol = true)
    (hb : S.isBinary = true) (hw : dp.labelWidth ≠ some 0) :
    ∃ all calls, compute o P sizes S sol = .ok all ∧
      drawCalls o dp deco S (spOfSol sol) all = .ok calls ∧
      ∀ c ∈ calls, c.stmt = 8 ∨ c.stmt = 10 ∨ c.stmt = 13 →
        ∃ lay p, slLookup all c.sp = some lay ∧ coordsOf c = [p] ∧
          SR.C14.hasPoint lay.rect p.x p.y ∧
          (match o with
           | .vertical => lay.trunk.x ≤ p.x ∧ p.x ≤ lay.trunk.x + lay.trunk.w
           | .horizontal => lay.trunk.y ≤ p.y ∧ p.y ≤ lay.trunk.y + lay.trunk.h) := by
  obtain ⟨all, calls, hc, hd, _⟩ := C13_tikz_draw_valid o P sizes dp deco S ot sol hv hin hb hw
  obtain ⟨all', hc', hgeom⟩ := SR.C14.C14_branches_inside o P sizes S ot sol hn hv hin hb
  rw [hc] at hc'
  cases hc'
  refine ⟨all, calls, hc, hd, ?_⟩
  intro c hcm hst
  have hown : c.owner ≠ none := by
    rcases SR.C15.C15_draw_faithful o dp deco S _ all calls hd c hcm with
      ⟨_, h01, _⟩ | ⟨_, _, _, _, _, bc⟩
    · omega
    · simp [bc.owner]
  obtain ⟨lay, b, hl, _, hbm, pc⟩ := C13_draw_place o dp deco S (spOfSol sol) all calls hd c hcm hown
  have hlay : lay ∈ all := slLookup_mem hl
  obtain ⟨hin', hacross, _, hw0, hh0, _⟩ := (hgeom lay hlay).1 b hbm
  have hcen := center_hasPoint b.rect (le_of_lt hw0) (le_of_lt hh0)
  refine ⟨lay, b.rect.center, hl, pc.node hst, ?_, ?_⟩
  · obtain ⟨a1, a2, a3, a4⟩ := hin'
    obtain ⟨c1, c2, c3, c4⟩ := hcen
    exact ⟨le_trans a1 c1, le_trans c2 a3, le_trans a2 c3, le_trans c4 a4⟩
  · have hpad := hn.hyps.pad
    cases o with
    | vertical =>
      simp only [SR.C14.acrossWithin] at hacross
      simp only [SR.C14.hasPoint] at hcen
      exact ⟨by linarith [hcen.1], by linarith [hcen.2.1]⟩
    | horizontal =>
      simp only [SR.C14.acrossWithin] at hacross
      simp only [SR.C14.hasPoint] at hcen
      exact ⟨by linarith [hcen.2.2.1], by linarith [hcen.2.2.2]⟩

/-- Non-vacuity: in the running example three calls are event nodes of a speciation, duplication or
    transfer (statements 8, 10, 13), the calls `C13_draw_place_valid` speaks about. -/
example :
    (match compute .vertical ⟨4, 5, 10, 12, 4⟩ (fun _ => ⟨8, 8⟩) exS exSol with
     | .ok all =>
       match drawCalls .vertical ⟨1, 3, "4pt".toList, some 21⟩
           ⟨fun _ _ => [], fun _ _ => "000000".toList, fun _ => "A_b".toList⟩ exS (spOfSol exSol) all with
       | .ok calls => ((calls.filter fun c => c.stmt = 8 ∨ c.stmt = 10 ∨ c.stmt = 13).map coordsOf).length
       | .error _ => 0
     | .error _ => 0) = 3 := by decide +kernel

end SR.C13
