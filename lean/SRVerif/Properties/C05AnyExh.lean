/-
  C05, policy ANY, `reconcile_exhaustive`.

  `reconcile_exhaustive` has no table: under ANY the policy reaches only the result entry,
  which is offered every output of `generate_all` with its evaluated cost and keeps ONE of
  minimum cost (`exhaustiveAny`, `Model/AnyMulti.lean`: `rankAny pick … (generateAll o)`).
  Which one depends on the enumeration order, so the theorems hold for EVERY valid
  selection function `pick` (`PickOk`: returns a member, fails only on the empty list);
  the code's own rule — `Entry.update` under MIN / ANY folded over the outputs,
  `exhaustiveAnyCode` — is the instance `List.head?` (`C05_any_exh_code`).

  The theorems hold for EVERY cost vector (no coherence hypothesis: the exhaustive solver ranks
  by the evaluated cost, there is no table value that could disagree with it).
-/
import SRVerif.Model.AnyMulti
import SRVerif.Proofs.LabelDPAnyRank
import SRVerif.Properties.C01Enum
import SRVerif.Properties.C01Thl
import SRVerif.Properties.C05

namespace SR.C05

open SR Cost

section exh

variable (pick : List Sol → Option Sol) (c : Costs) (o : OTree)

theorem C05_any_card_exh : (exhaustiveAny pick c o).length ≤ 1 :=
  rankAny_length_le _ _ _ _ _

variable (hp : PickOk pick)
include hp

/-- **`any` ∈ `all`** for the exhaustive solver: every cost vector, every offering order. -/
theorem C05_any_mem_exh : ∀ s ∈ exhaustiveAny pick c o, s ∈ exhaustive c o :=
  fun _ h => rankAny_sub pick c .plain o hp h

/-- Both sides are always false (`C01_exh_nonempty`); stated for symmetry with the table solvers. -/
theorem C05_any_empty_iff_exh : exhaustiveAny pick c o = [] ↔ exhaustive c o = [] := by
  unfold exhaustiveAny exhaustive
  rw [rankAny_eq_nil_iff pick c .plain o hp, C05_empty_iff]

/-- Exactly one output: `generate_all` always yields a reconciliation. -/
theorem C05_any_total_exh : (exhaustiveAny pick c o).length = 1 := by
  apply rankAny_length_eq pick c .plain o hp
  intro h
  exact C01.C01_exh_nonempty c o ((C05_empty_iff c .plain o _).mpr h)

theorem C05_any_same_cost_exh : ∀ s ∈ exhaustiveAny pick c o, ∀ s' ∈ exhaustive c o,
    totalCost c .plain o s = totalCost c .plain o s' :=
  fun s h s' h' => C05_same_cost c .plain o _ s s' (C05_any_mem_exh pick c o hp s h) h'

/-- Hence the single ANY output is a valid reconciliation of minimum cost — for every
    cost vector and whatever species tree the mappings range over. -/
theorem C05_any_opt_exh (S : RTree) : ∀ s ∈ exhaustiveAny pick c o,
    Spec.validRec o s = true ∧
    ∀ s', Spec.validRec o s' = true → s' ∈ Spec.allMappings S o →
      Cost.le (totalCost c .plain o s) (totalCost c .plain o s') = true :=
  fun s h => C01.C01_exh c S o s (C05_any_mem_exh pick c o hp s h)

end exh

theorem head_toList_spec {α : Type} {T l : List α} (h : ∀ t, t ∈ T ↔ t ∈ l) :
    T.head?.toList.length ≤ 1 ∧ (∀ s ∈ T.head?.toList, s ∈ l) ∧ (T.head?.toList = [] ↔ l = []) := by
  refine ⟨by cases T.head? <;> simp,
    fun s hs => (h s).mp (List.mem_of_mem_head? (Option.mem_toList.mp hs)), ?_⟩
  rw [Option.toList_eq_nil_iff, List.head?_eq_none_iff, List.eq_nil_iff_forall_not_mem,
    List.eq_nil_iff_forall_not_mem]
  exact forall_congr' fun t => not_congr (h t)

/-- The rule of the code is the selection function `head?`: folding `Entry.update` under
    MIN / ANY over the enumerated outputs (`exhaustiveAnyCode`) keeps at most one output, a
    member of the ALL result, and keeps none only if the ALL result is empty. -/
theorem C05_any_exh_code (c : Costs) (o : OTree) :
    (exhaustiveAnyCode c o).length ≤ 1 ∧
    (∀ s ∈ exhaustiveAnyCode c o, s ∈ exhaustive c o) ∧
    (exhaustiveAnyCode c o = [] ↔ exhaustive c o = []) := by
  obtain ⟨_, htags, _⟩ := Agg.ofList_spec ((generateAll o).map (fun s => (totalCost c .plain o s, s)))
  -- the ALL tags are exactly the members of the ALL result
  have hiff : ∀ t, t ∈ (Agg.ofList ((generateAll o).map (fun s => (totalCost c .plain o s, s)))).tags ↔
      t ∈ exhaustive c o := by
    intro t
    rw [htags t, List.map_map]
    simp only [exhaustive, rankByCost, mem_dedup, List.mem_filter, decide_eq_true_eq,
      List.mem_map]
    constructor
    · rintro ⟨p, ⟨s, hs, rfl⟩, rfl, hc⟩; exact ⟨hs, hc⟩
    · rintro ⟨hs, hc⟩; exact ⟨_, ⟨t, hs, rfl⟩, rfl, hc⟩
  have hcode : exhaustiveAnyCode c o =
      ((Agg.ofList ((generateAll o).map (fun s => (totalCost c .plain o s, s)))).tags.head?).toList := by
    unfold exhaustiveAnyCode
    rw [Agg.ofList_updateAny]; rfl
  rw [hcode]
  exact head_toList_spec hiff

/-- Inside `reconcile_thl`'s coherent region, on a well-formed input, the single output of
    `reconcile_exhaustive` under ANY is also one of the outputs of `reconcile_thl` under
    ALL (the two ALL results are the same set). -/
theorem C05_any_exh_mem_thl (pick : List Sol → Option Sol) (hp : PickOk pick) (c : Costs)
    (S : RTree) (o : OTree) (hb : S.isBinary = true)
    (hS : ∀ p ∈ leafSpecies o, S.isNode p = true) (hcoh : c.spe ≤ c.dup + 2 * c.floss) :
    ∀ s ∈ exhaustiveAny pick c o, s ∈ thl c S o := by
  intro s hs
  exact (C01.C01_thl_eq_exhaustive c S o hb hS hcoh s).mpr (C05_any_mem_exh pick c o hp s hs)

/-- Five co-optimal reconciliations: two valid selection rules return two DIFFERENT members
    of the ALL result; the code's rule returns the first. -/
example :
    let c : Costs := { spe := 1, dup := 1, hgt := .fin 1, floss := 1, sloss := 1 }
    let o : OTree := .node (.node (.leaf [0, 0] []) (.leaf [1] [])) (.leaf [0, 1] [])
    (exhaustive c o).length = 5 ∧
    (exhaustiveAny List.head? c o).length = 1 ∧ (exhaustiveAny List.getLast? c o).length = 1 ∧
    exhaustiveAny List.head? c o ≠ exhaustiveAny List.getLast? c o ∧
    (∀ s ∈ exhaustiveAny List.head? c o, s ∈ exhaustive c o) ∧
    (∀ s ∈ exhaustiveAny List.getLast? c o, s ∈ exhaustive c o) ∧
    exhaustiveAnyCode c o = exhaustiveAny List.head? c o := by
  decide +kernel

/-- An INCOHERENT cost vector (the F-COHERENCE witness of `C05_any_incoherent_witness`, where
    `reconcile_thl` under ANY returns a non-optimal output): the exhaustive solver under ANY
    still returns a member of its ALL result. -/
example :
    let c : Costs := { spe := 3, dup := 0, hgt := .fin 2, floss := 1, sloss := 0 }
    let o : OTree := .node (.node (.leaf [0, 1] []) (.leaf [0, 0] []))
      (.node (.leaf [1, 1] []) (.leaf [1, 0] []))
    ¬ c.spe ≤ c.dup + 2 * c.floss ∧
    (∀ s ∈ exhaustiveAny List.head? c o, s ∈ exhaustive c o ∧ totalCost c .plain o s = .fin 6) ∧
    (exhaustiveAny List.head? c o).length = 1 := by
  decide +kernel

end SR.C05
