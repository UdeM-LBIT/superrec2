/-
  C03 among the CANONICAL labellings, the cost being the evaluator's (`totalCost c .unordered`).
  The decoder `unSol` and `kindAt` are inverse to each other between the candidates of the label-DP
  solver `uspfsD` and the canonical solutions `CanonSol` of finite cost (`C03_canon_bridge`,
  `canonSol_of_adm`, `uspfsD_cand_iff`: any input, any costs); so inside
  `spe + sloss ≤ dup + 2·floss` (implied by the coherent region) `uspfs` returns exactly the
  canonical solutions of minimum cost (`C03_canonical_all`), and it is never empty
  (`C03_uspfs_total`).  That canonical labellings lose nothing is `C03_exchange` in `C03Full.lean`.
-/
import SRVerif.Properties.C03Kinds
import SRVerif.Proofs.UnContentCanon

namespace SR.C03

open SR Cost

/-- The solution space the unordered solvers search: valid, canonical (every internal node holds its
    required content or its parent's content plus its own gains), internal species nodes of `S`
    (extended) / the LCA mapping (base). -/
def CanonSol (S : RTree) (base : Bool) (o : OTree) (σ : Sol) : Prop :=
  Spec.validSol .unordered o σ = true ∧ Spec.canonicalUn o [] [] σ = true ∧ spAllowed S base o σ

theorem spAllowed_unSol (c : Costs) (S : RTree) (base : Bool) (whole : OTree) :
    ∀ (sub : OTree) (p : Path) (anc : List Nat) (ls : LSol Kind),
      Adm (unAlg c) (annUn S base whole p sub) ls →
      spAllowed S base sub (unSol (annUn S base whole p sub) anc ls) := by
  intro sub
  induction sub with
  | leaf sp f0 =>
    intro p anc ls hadm
    cases ls with
    | node => simp [annUn, Adm] at hadm
    | leaf s k => simp [spAllowed]
  | node l r ihl ihr =>
    intro p anc ls hadm
    have hal := fun s => annUn_allowed (c := c) S base whole p l r s
    rw [annUn_node] at hadm ⊢
    obtain ⟨s, k, x, y, rfl, hs, -, ax, ay⟩ := hadm.node_inv
    cases k <;> exact ⟨(hal s).mp hs, ihl _ _ x ax, ihr _ _ y ay⟩

/-- At the root the parent's content plays no role. -/
theorem canonicalUn_root (whole : OTree) (anc anc' : List Nat) (σ : Sol) :
    Spec.canonicalUn whole [] anc σ = Spec.canonicalUn whole [] anc' σ := by
  cases σ <;> simp [Spec.canonicalUn]

/-- A canonical solution is the decoding of its kind labelling, which is
    admissible, has an LCA root, and whose generic cost is the evaluated cost. -/
theorem C03_canon_bridge (c : Costs) (S : RTree) (base : Bool) (o : OTree) (σ : Sol)
    (h : CanonSol S base o σ) :
    let t := annUn S base o [] o
    Adm (unAlg c) t (kindAt o [] σ) ∧ (kindAt o [] σ).lab = .lca ∧ (kindAt o [] σ).sp = σ.sp ∧
      unSol t t.data.lcaSet (kindAt o [] σ) = σ ∧
      labCost (unAlg c) c t (kindAt o [] σ) = totalCost c .unordered o σ := by
  intro t
  obtain ⟨hvalid, hcanon, hsp⟩ := h
  simp only [Spec.validSol, Bool.and_eq_true] at hvalid
  obtain ⟨hrec, hlabels⟩ := hvalid
  have adm := adm_kindAt c S base o o σ hrec [] hsp
  obtain ⟨hdec, hedges⟩ := kindAt_spec c S base o o [] t.data.lcaSet σ (isSub_root o) hlabels
    (canonicalUn_root o [] _ σ ▸ hcanon)
  have hroot : (kindAt o [] σ).lab = .lca := by
    cases σ with
    | leaf => rfl
    | node s f x y =>
      simp only [Spec.canonicalUn, Bool.and_eq_true, Bool.or_eq_true, beq_iff_eq,
        List.isEmpty_nil, Bool.not_true, Bool.false_and, Bool.false_eq_true, or_false] at hcanon
      exact if_pos hcanon.1.1
  have hb : Between o [] (contentAt o [] t.data.lcaSet (kindAt o [] σ).lab) := by
    rw [hroot]; exact between_lca ..
  refine ⟨adm, hroot, kindAt_sp .., (unSol_eq_decodeAt c S base o o [] _ _ (isSub_root o) adm).trans hdec,
    ?_⟩
  rw [← faithful_spec c S base o o [] t.data.lcaSet _ (isSub_root o) adm hedges hb
    (fun e => nomatch hroot ▸ e), hdec]
  exact specCost_unordered_eq_totalCost c o o [] σ hlabels hrec

/-- The LCA mapping with every node of kind LCA. -/
def lcaKinds : OTree → LSol Kind
  | .leaf sp _ => .leaf sp .lca
  | .node l r => .node (Path.lcp (lcaKinds l).sp (lcaKinds r).sp) .lca (lcaKinds l) (lcaKinds r)

theorem lcaKinds_sp (o : OTree) : (lcaKinds o).sp = (lcaSol o).sp := by
  induction o with
  | leaf sp f => rfl
  | node l r ihl ihr =>
    show Path.lcp (lcaKinds l).sp (lcaKinds r).sp = Path.lcp (lcaSol l).sp (lcaSol r).sp
    rw [ihl, ihr]

theorem lcaKinds_lab (o : OTree) : (lcaKinds o).lab = .lca := by
  cases o <;> rfl

theorem lcaKinds_ok (c : Costs) (S : RTree) (base : Bool) (whole : OTree) :
    ∀ (sub : OTree) (p : Path), (∀ q ∈ leafSpecies sub, S.isNode q = true) →
      Adm (unAlg c) (annUn S base whole p sub) (lcaKinds sub) ∧
      labCost (unAlg c) c (annUn S base whole p sub) (lcaKinds sub) ≠ .inf := by
  intro sub
  induction sub with
  | leaf sp f => intro p _; exact ⟨⟨rfl, rfl⟩, by simp [annUn, lcaKinds, labCost]⟩
  | node l r ihl ihr =>
    intro p hS
    obtain ⟨al, fl⟩ := ihl (p ++ [0]) (fun q hq => hS q (by simp [leafSpecies, hq]))
    obtain ⟨ar, fr⟩ := ihr (p ++ [1]) (fun q hq => hS q (by simp [leafSpecies, hq]))
    have hal := annUn_allowed (c := c) S base whole p l r
      (Path.lcp (lcaKinds l).sp (lcaKinds r).sp)
    rw [annUn_node]
    generalize (annUn S base whole p (.node l r)).data = a at *
    constructor
    · refine ⟨hal.mpr ?_, List.mem_cons_self, al, ar⟩
      cases base with
      | true => simp only [if_true, lcaKinds_sp, lcaSol, Sol.sp]
      | false =>
        simp only [Bool.false_eq_true, if_false, lcaKinds_sp]
        exact lcaSol_sp_isNode S (.node l r) (leafSpecies_eq _ ▸ hS)
    · simp only [lcaKinds, labCost, genLocal, lcaKinds_lab]
      obtain ⟨nl, hnl⟩ := ne_inf_iff.mp fl
      obtain ⟨nr, hnr⟩ := ne_inf_iff.mp fr
      have e1 : ∀ ca : UnAnn, ∃ n, (unAlg c).conserv a .lca ca .lca = .fin n := by
        intro ca; rw [un_conserv_ll]; split <;> exact ⟨_, rfl⟩
      have e2 : ∀ ca : UnAnn, (unAlg c).segment a .lca ca .lca = .fin 0 := fun _ => rfl
      obtain ⟨n1, h1⟩ := e1 (annUn S base whole (p ++ [0]) l).data
      obtain ⟨n2, h2⟩ := e1 (annUn S base whole (p ++ [1]) r).data
      rw [h1, h2, e2, e2, gl_shift, hnl, hnr]
      rcases internalEvent_lcp (lcaKinds l).sp (lcaKinds r).sp with h | h <;>
        simp [h, localRecCost]

/-- What the decoder makes of an admissible kind labelling with an LCA root and valid events: a
    canonical solution.  Finite cost is not asked: the labelling of the exchange argument
    (`exKinds`) may carry an edge LCA → INHERIT with `lcaSet parent ⊆ lcaSet child`, which `unAlg`
    charges `∞`, so it is no candidate; the exchange meets the DP here, at `CanonSol`. -/
theorem canonSol_of_adm (c : Costs) (S : RTree) (base : Bool) (o : OTree) (ls : LSol Kind)
    (adm : Adm (unAlg c) (annUn S base o [] o) ls) (hroot : ls.lab = .lca) (hv : ls.Valid) :
    CanonSol S base o (unSol (annUn S base o [] o) (annUn S base o [] o).data.lcaSet ls) := by
  refine ⟨?_, ?_, spAllowed_unSol c S base o o [] _ ls adm⟩
  · simp only [Spec.validSol, Bool.and_eq_true]
    refine ⟨validRec_unSol c S base o o [] _ ls adm hv, ?_⟩
    rw [unSol_eq_decodeAt c S base o o [] _ ls (isSub_root o) adm]
    exact decodeAt_valid c S base o o [] _ ls (isSub_root o) adm
      (by rw [hroot]; exact between_lca ..)
  · rw [canonicalUn_root o [] (annUn S base o [] o).data.lcaSet,
      unSol_eq_decodeAt c S base o o [] _ ls (isSub_root o) adm]
    exact canonicalUn_decodeAt o ls [] _ (fun _ => hroot)

/-- The outputs of the candidates of `uspfs` (admissible kind labellings with an LCA root and
    finite cost) are the canonical solutions of finite evaluated cost. -/
theorem uspfsD_cand_iff (c : Costs) (S : RTree) (base : Bool) (o : OTree) (σ : Sol) :
    (∃ k, (uspfsD c S base o).Cand c k ∧ (uspfsD c S base o).out k = σ) ↔
      CanonSol S base o σ ∧ totalCost c .unordered o σ ≠ .inf := by
  constructor
  · rintro ⟨k, hk, rfl⟩
    exact ⟨canonSol_of_adm c S base o k.2 hk.2.1 (eq_of_beq hk.2.2.1)
        (valid_of_labCost_fin _ c _ _ hk.2.2.2),
      by rw [uspfsD_bridge c S base o k hk]; exact hk.2.2.2⟩
  · rintro ⟨hσ, hfin⟩
    obtain ⟨adm, hroot, _, hdec, hcost⟩ := C03_canon_bridge c S base o σ hσ
    exact ⟨((), _), ⟨List.mem_singleton.mpr rfl, adm, beq_iff_eq.mpr hroot,
      by rw [hcost]; exact hfin⟩, hdec⟩

theorem lcaKinds_cand (c : Costs) (S : RTree) (base : Bool) (o : OTree)
    (hS : ∀ p ∈ leafSpecies o, S.isNode p = true) : (uspfsD c S base o).Cand c ((), lcaKinds o) :=
  have ⟨adm, hfin⟩ := lcaKinds_ok c S base o o [] hS
  ⟨List.mem_singleton.mpr rfl, adm, beq_iff_eq.mpr (lcaKinds_lab o), hfin⟩

theorem C03_uspfs_total (c : Costs) (S : RTree) (base : Bool) (o : OTree)
    (hb : S.isBinary = true) (hS : ∀ p ∈ leafSpecies o, S.isNode p = true) :
    uspfs c S base o ≠ [] :=
  uspfs_eq c S base o ▸ (uspfsD c S base o).rank_ne_nil c S hb
    (uspfsD_spOk c S base o hS) .unordered o (lcaKinds_cand c S base o hS)

/-- **C03 and C05, unordered solvers, real evaluator**: inside `spe + sloss ≤ dup + 2·floss` the result is
    exactly the set of canonical solutions of minimum evaluated cost, each once. -/
theorem C03_canonical_all (c : Costs) (S : RTree) (base : Bool) (o : OTree)
    (hb : S.isBinary = true) (hS : ∀ p ∈ leafSpecies o, S.isNode p = true)
    (hcoh : c.spe + c.sloss ≤ c.dup + 2 * c.floss) :
    (∀ σ, σ ∈ uspfs c S base o ↔ CanonSol S base o σ ∧ ∀ σ', CanonSol S base o σ' →
      Cost.le (totalCost c .unordered o σ) (totalCost c .unordered o σ') = true) ∧
    (uspfs c S base o).Nodup := by
  rw [uspfs_eq]
  exact (uspfsD c S base o).all_of_space c S (un_slack c) hb (uspfsD_spOk c S base o hS) hcoh
    (uspfsD_bridge c S base o) _ (uspfsD_cand_iff c S base o)
    ⟨_, (uspfsD_cand_iff c S base o _).mp ⟨_, lcaKinds_cand c S base o hS, rfl⟩⟩

/-- The solver's answer on the input of the non-vacuity examples below, of `C03Full.lean` and of
    `C03Spec.lean` (an INHERIT choice two levels down), evaluated once. -/
theorem uspfs_inherit_input :
    uspfs { spe := 0, dup := 1, hgt := .fin 1, floss := 1, sloss := 1 } (.node [.node [], .node []])
      false (.node (.node (.leaf [0] [1, 2]) (.node (.leaf [0] [1]) (.leaf [0] [1]))) (.leaf [1] [1, 2])) =
    [.node [] [1, 2]
      (.node [0] [1, 2] (.leaf [0] [1, 2]) (.node [0] [1] (.leaf [0] [1]) (.leaf [0] [1])))
      (.leaf [1] [1, 2])] := by
  decide +kernel

/-! Non-vacuity: two canonical solutions of an input with an INHERIT choice; the one
    the solver returns at `sloss = 1` is the cheaper. -/
example :
    let c : Costs := { spe := 0, dup := 1, hgt := .fin 1, floss := 1, sloss := 1 }
    let S : RTree := .node [.node [], .node []]
    let o : OTree :=
      .node (.node (.leaf [0] [1, 2]) (.node (.leaf [0] [1]) (.leaf [0] [1]))) (.leaf [1] [1, 2])
    let σ1 : Sol := .node [] [1, 2]
      (.node [0] [1, 2] (.leaf [0] [1, 2]) (.node [0] [1] (.leaf [0] [1]) (.leaf [0] [1])))
      (.leaf [1] [1, 2])
    let σ2 : Sol := .node [] [1, 2]
      (.node [0] [1, 2] (.leaf [0] [1, 2]) (.node [0] [1, 2] (.leaf [0] [1]) (.leaf [0] [1])))
      (.leaf [1] [1, 2])
    S.isBinary = true ∧ (∀ p ∈ leafSpecies o, S.isNode p = true) ∧
    c.spe + c.sloss ≤ c.dup + 2 * c.floss ∧
    Spec.validSol .unordered o σ1 = true ∧ Spec.canonicalUn o [] [] σ1 = true ∧
    Spec.validSol .unordered o σ2 = true ∧ Spec.canonicalUn o [] [] σ2 = true ∧
    totalCost c .unordered o σ1 = .fin 2 ∧ totalCost c .unordered o σ2 = .fin 3 ∧
    uspfs c S false o = [σ1] := by
  intro c S o σ1 σ2
  have hu : uspfs c S false o = [σ1] := uspfs_inherit_input
  rw [hu]
  decide +kernel

end SR.C03
