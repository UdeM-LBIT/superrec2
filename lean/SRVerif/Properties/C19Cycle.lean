/-
  C19 (extension) — `find_cycle` (`superrec2/utils/toposort.py`),
  and the link "acyclic ↔ toposort succeeds ↔ toposort_all is non-empty".

  Model: `SRVerif/Model/FindCycle.lean`.
  Specification vocabulary: `SRVerif/Spec/FindCycle.lean` (`Arc`, `Chain`,
  `IsCycle` = closed walk, `Acyclic`, `WalkTo`, `UniqueWalks`).

  OBSERVATION (outside the scope of the listed property, whose anchors stop
  at `toposort_all`).  The natural claim "`find_cycle g` is `None` iff `g` is
  acyclic, and otherwise returns a directed cycle" is FALSE for the code:
  `C19_find_cycle_not_sound` (a DAG is flagged), `C19_find_cycle_not_complete`
  (a cycle not reachable from the first key is missed),
  `C19_find_cycle_not_a_cycle` (on a cyclic graph a list that is no closed
  walk is returned).  What IS true, for every well-formed graph:

  * `None` is returned iff every vertex has at most one walk from the FIRST
    key (`C19_find_cycle_none_iff`) — the search starts only there, and it
    flags any second arrival at a vertex, whether or not it closes a cycle;
  * a returned list is non-empty, duplicate-free, made of vertices
    reachable from the first key, in REVERSE edge order: for consecutive
    `a, b` there is an edge `b → a` (`C19_find_cycle_shape`);
  * it is a genuine cycle (read backwards) iff moreover its first vertex has
    an edge to its last (`C19_find_cycle_genuine`), and then the graph is
    cyclic, `toposort` returns `None` and `toposort_all` `[]`;
  * if `None` is returned, no cycle passes through a vertex reachable from
    the first key (`C19_find_cycle_none_reachable`).

  Fuel: both loops run with `g.length + 1` units and
  `C19_find_cycle_total` shows that no error other than `StopIteration` on
  the empty graph is ever produced.
-/
import SRVerif.Proofs.FindCycleAlg
import SRVerif.Properties.C19

namespace SR.C19

open SR.Toposort

/-- A well-formed graph has a topological ordering iff it has no closed
    walk (self-loops included). -/
theorem C19_acyclic_iff_topo (g : Graph) (hwf : WF g) : Acyclic g ↔ ∃ o, IsTopo g o :=
  acyclic_iff_topo hwf

/-- `toposort` returns an ordering iff the graph is acyclic. -/
theorem C19_acyclic_iff_toposort (g : Graph) (hwf : WF g) :
    Acyclic g ↔ ∃ o, toposort g = .ok (some o) :=
  (acyclic_iff_topo hwf).trans (toposort_some_iff hwf).symm

/-- `toposort` returns `None` iff the graph has a closed walk. -/
theorem C19_cyclic_iff_toposort_none (g : Graph) (hwf : WF g) :
    (∃ c, IsCycle g c) ↔ toposort g = .ok none :=
  cyclic_iff_not_acyclic.trans
    ((not_congr (acyclic_iff_topo hwf)).trans (toposort_none_iff hwf).symm)

/-- `toposort_all` returns a non-empty list iff the graph is acyclic. -/
theorem C19_acyclic_iff_toposort_all (g : Graph) (hwf : WF g) :
    Acyclic g ↔ ∃ os, toposortAll g = .ok os ∧ os ≠ [] :=
  (acyclic_iff_topo hwf).trans (toposortAll_ne_nil_iff hwf).symm

/-- `toposort_all` returns `[]` iff the graph has a closed walk. -/
theorem C19_cyclic_iff_toposort_all_nil (g : Graph) (hwf : WF g) :
    (∃ c, IsCycle g c) ↔ toposortAll g = .ok [] :=
  cyclic_iff_not_acyclic.trans
    ((not_congr (acyclic_iff_topo hwf)).trans (toposortAll_nil_iff hwf).symm)

/-- On a well-formed graph `find_cycle` raises exactly when the graph is
    empty (`StopIteration` from `next(iter(graph.keys()))`); in particular
    the fuel of both loops suffices and no `KeyError` occurs. -/
theorem C19_find_cycle_total (g : Graph) (hwf : WF g) :
    (g = [] → findCycle g = .error .stopIteration) ∧ (g ≠ [] → ∃ r, findCycle g = .ok r) := by
  refine ⟨fun h => h ▸ rfl, fun hne => ?_⟩
  cases g with
  | nil => exact absurd rfl hne
  | cons p rest =>
    obtain ⟨i, ss⟩ := p
    obtain ⟨r, hr, _⟩ := findCycle_spec hwf
    exact ⟨r, hr⟩

/-- With `i` the first key: `find_cycle` returns
    `None` iff every vertex is reached from `i` by at most one walk, i.e. the
    part of the graph reachable from `i` is an out-tree. -/
theorem C19_find_cycle_none_iff (i : Nat) (ss : List Nat) (rest : Graph)
    (hwf : WF ((i, ss) :: rest)) :
    findCycle ((i, ss) :: rest) = .ok none ↔ UniqueWalks ((i, ss) :: rest) i := by
  obtain ⟨r, hr, hiff, _⟩ := findCycle_spec hwf
  rw [hr]
  constructor
  · intro h; cases h; exact hiff.1 rfl
  · intro h; rw [hiff.2 h]

/-- A returned list (`i` = first key) is non-empty, without
    repetition, vertices of the graph reachable from `i`, and for consecutive
    elements `a, b` the graph has the edge `b → a` (reverse edge order). -/
theorem C19_find_cycle_shape (i : Nat) (ss : List Nat) (rest : Graph)
    (hwf : WF ((i, ss) :: rest)) (cyc : List Nat)
    (h : findCycle ((i, ss) :: rest) = .ok (some cyc)) :
    cyc ≠ [] ∧ cyc.Nodup ∧ Chain (fun a b => Arc ((i, ss) :: rest) b a) cyc ∧
      ∀ v ∈ cyc, v ∈ keys ((i, ss) :: rest) ∧ ∃ w, WalkTo ((i, ss) :: rest) i v w := by
  have := (Except.of_spec (findCycle_spec hwf) h).2 cyc rfl
  exact ⟨this.ne, this.nodup, this.chain, fun v hv => ⟨this.keys v hv, this.reach v hv⟩⟩

/-- The returned list read backwards is a closed walk of the graph iff its first
    vertex has an edge to its last vertex; in that case the graph is cyclic,
    `toposort` returns `None` and `toposort_all` returns `[]`. -/
theorem C19_find_cycle_genuine (g : Graph) (hwf : WF g) (a : Nat) (l : List Nat)
    (h : findCycle g = .ok (some (a :: l))) :
    (IsCycle g (a :: l).reverse ↔ Arc g a ((a :: l).getLast (by simp))) ∧
    (IsCycle g (a :: l).reverse →
      ¬ Acyclic g ∧ toposort g = .ok none ∧ toposortAll g = .ok []) := by
  cases g with
  | nil => simp [findCycle] at h
  | cons p rest =>
    obtain ⟨i, ss⟩ := p
    have hsh := C19_find_cycle_shape i ss rest hwf _ h
    refine ⟨⟨fun hc => (isCycle_reverse_iff.1 hc).2,
      fun hcl => isCycle_reverse_iff.2
        ⟨chain_iff_isChain.2 (List.isChain_reverse.2 (chain_iff_isChain.1 hsh.2.2.1)), hcl⟩⟩,
      fun hc => ?_⟩
    exact ⟨fun ha => ha _ hc, (C19_cyclic_iff_toposort_none _ hwf).1 ⟨_, hc⟩,
      (C19_cyclic_iff_toposort_all_nil _ hwf).1 ⟨_, hc⟩⟩

/-- If `None` is returned, no closed walk passes through a vertex reachable
    from the first key. -/
theorem C19_find_cycle_none_reachable (i : Nat) (ss : List Nat) (rest : Graph)
    (hwf : WF ((i, ss) :: rest)) (h : findCycle ((i, ss) :: rest) = .ok none)
    (c : List Nat) (hc : IsCycle ((i, ss) :: rest) c) :
    ∀ v ∈ c, ¬ ∃ w, WalkTo ((i, ss) :: rest) i v w := by
  rintro v hv ⟨w, hw⟩
  exact no_reachable_cycle ((C19_find_cycle_none_iff i ss rest hwf).1 h) hc hv hw

/-- The only caller (`_spfs`, after `toposort_all` returned `[]`, prints
    "Family cycle detected: …" iff `find_cycle` returns a list).  In that
    situation the graph does have a closed walk, and: either the warning is
    NOT printed, and then every closed walk avoids all vertices reachable from
    the first key; or it is printed, naming distinct vertices reachable from
    the first key that form a reverse-order path — a genuine cycle iff the
    closing edge exists (`C19_find_cycle_genuine`). -/
theorem C19_find_cycle_caller (i : Nat) (ss : List Nat) (rest : Graph)
    (hwf : WF ((i, ss) :: rest)) (hall : toposortAll ((i, ss) :: rest) = .ok []) :
    (∃ c, IsCycle ((i, ss) :: rest) c) ∧
    ∃ r, findCycle ((i, ss) :: rest) = .ok r ∧
      (r = none → ∀ c, IsCycle ((i, ss) :: rest) c →
        ∀ v ∈ c, ¬ ∃ w, WalkTo ((i, ss) :: rest) i v w) ∧
      (∀ cyc, r = some cyc → cyc ≠ [] ∧ cyc.Nodup ∧
        Chain (fun a b => Arc ((i, ss) :: rest) b a) cyc ∧
        ¬ UniqueWalks ((i, ss) :: rest) i) := by
  refine ⟨(C19_cyclic_iff_toposort_all_nil _ hwf).2 hall, ?_⟩
  obtain ⟨r, hr⟩ := (C19_find_cycle_total _ hwf).2 (by simp)
  refine ⟨r, hr, ?_, ?_⟩
  · intro hn c hc
    subst hn
    exact C19_find_cycle_none_reachable i ss rest hwf hr c hc
  · intro cyc hcyc
    subst hcyc
    have hsh := C19_find_cycle_shape i ss rest hwf cyc hr
    refine ⟨hsh.1, hsh.2.1, hsh.2.2.1, fun hu => ?_⟩
    have := (C19_find_cycle_none_iff i ss rest hwf).2 hu
    rw [hr] at this
    cases this

/-- A diamond-shaped DAG. -/
def gDiamond : Graph := [(0, [1, 2]), (1, [3]), (2, [3]), (3, [])]
/-- A self-loop that is not reachable from the first key. -/
def gMissed : Graph := [(0, []), (1, [1])]
/-- A 2-cycle `0 ⇄ 2` plus the edges `0 → 1`, `2 → 1`. -/
def gOpen : Graph := [(0, [1, 2]), (1, []), (2, [1, 0])]

/-- NOT SOUND: a well-formed acyclic graph (it has a topological ordering,
    `toposort` succeeds) on which `find_cycle` returns a "cycle". -/
theorem C19_find_cycle_not_sound :
    WF gDiamond ∧ Acyclic gDiamond ∧ toposort gDiamond = .ok (some [0, 1, 2, 3]) ∧
    findCycle gDiamond = .ok (some [3, 1]) := by
  refine ⟨by decide +kernel, isTopo_acyclic (o := [0, 1, 2, 3]) (by decide +kernel),
    by decide +kernel, by decide +kernel⟩

/-- NOT COMPLETE: a well-formed graph with a closed walk (`toposort` returns
    `None`) on which `find_cycle` returns `None`. -/
theorem C19_find_cycle_not_complete :
    WF gMissed ∧ IsCycle gMissed [1] ∧ toposort gMissed = .ok none ∧
    findCycle gMissed = .ok none := by
  decide +kernel

/-- NOT A CYCLE: on a well-formed cyclic graph the returned list is a closed
    walk in neither reading direction (vertex 1 has no successor). -/
theorem C19_find_cycle_not_a_cycle :
    WF gOpen ∧ IsCycle gOpen [0, 2] ∧ findCycle gOpen = .ok (some [1, 2]) ∧
    ¬ IsCycle gOpen [1, 2] ∧ ¬ IsCycle gOpen [2, 1] := by
  decide +kernel

/-- Hence the claim "`None` iff acyclic" fails in both directions. -/
theorem C19_find_cycle_none_iff_acyclic_false :
    ¬ (∀ g : Graph, WF g → g ≠ [] → (findCycle g = .ok none → Acyclic g)) ∧
    ¬ (∀ g : Graph, WF g → g ≠ [] → (Acyclic g → findCycle g = .ok none)) := by
  constructor
  · intro h
    obtain ⟨hwf, hc, _, hnone⟩ := C19_find_cycle_not_complete
    exact h gMissed hwf (List.cons_ne_nil _ _) hnone [1] hc
  · intro h
    obtain ⟨hwf, ha, _, hsome⟩ := C19_find_cycle_not_sound
    have := h gDiamond hwf (List.cons_ne_nil _ _) ha
    rw [hsome] at this
    cases this

/-- self-loop: `[v]` -/
example : findCycle [(0, [0])] = .ok (some [0]) ∧ IsCycle [(0, [0])] [0] := by decide +kernel
/-- 2-cycle `0 → 1 → 0`: `[0, 1]` -/
example : findCycle [(0, [1]), (1, [0])] = .ok (some [0, 1]) := by decide +kernel
/-- 3-cycle `0 → 1 → 2 → 0` is returned as `[0, 2, 1]`: reverse edge order;
    read backwards, `[1, 2, 0]`, it is the closed walk `1 → 2 → 0 → 1`. -/
example : findCycle [(0, [1]), (1, [2]), (2, [0])] = .ok (some [0, 2, 1]) ∧
    IsCycle [(0, [1]), (1, [2]), (2, [0])] [1, 2, 0] ∧
    ¬ IsCycle [(0, [1]), (1, [2]), (2, [0])] [0, 2, 1] := by decide +kernel
/-- a cycle with a tail `0 → 1 → 2 → 1` -/
example : findCycle [(0, [1]), (1, [2]), (2, [1])] = .ok (some [1, 2]) ∧
    Arc [(0, [1]), (1, [2]), (2, [1])] 1 2 := by decide +kernel
/-- an out-tree: `None` -/
example : findCycle [(0, [1, 2]), (1, [3]), (2, []), (3, [])] = .ok none := by decide +kernel
example : WF [(0, [1, 2]), (1, [3]), (2, []), (3, [])] := by decide +kernel
/-- the graph of the repository's own test is acyclic -/
example : Acyclic g6 := isTopo_acyclic (o := [4, 5, 0, 2, 3, 1]) (by decide +kernel)
/-- empty graph; successor that is not a key -/
example : findCycle [] = .error .stopIteration := by decide +kernel
example : findCycle [(0, [5])] = .error .keyError := by decide +kernel

end SR.C19
