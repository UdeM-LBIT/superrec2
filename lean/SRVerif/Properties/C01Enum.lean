/-
  C01 (enumerator half) — "The exhaustive enumerator yields every valid
  reconciliation exactly once", and hence `reconcile_exhaustive` returns
  exactly the minimum-cost valid reconciliations.

  Model: `generateAll` / `exhaustive` (`generate_all`, `reconcile_exhaustive`
  of `compute/exhaustive.py`), `placements a b` = the species the loop body
  tries for a node whose children sit at `a` and `b` (`Proofs/Enum.lean`).

  Specification (independent of the enumeration order and of the three-group
  decomposition of the code):
    * `Spec.validRec o sol` — same shape as `o`, leaves at their given
      species, no INVALID event (`node_event` of the cost evaluator);
    * `plainLabels o sol` — the annotations of a plain reconciliation: leaf
      data as in `o`, no synteny at internal nodes;
    * `Spec.allValid S o` — filter of every mapping of the internal nodes to
      nodes of the species tree `S`.
  Species are root paths; a path is a species of `S` iff `S.isNode p`.  The
  enumerator never leaves the ancestors of the leaf species, so its own
  characterisation needs no species tree; the relation with `S` needs exactly
  "every leaf species of `o` is a node of `S`" (the input well-formedness).
-/
import SRVerif.Proofs.Cost
import SRVerif.Proofs.Enum
import SRVerif.Proofs.LcaMapOpt
import SRVerif.Spec.Opt
import SRVerif.Properties.C05

namespace SR.C01

open SR

/-- For children placed at `a`, `b`, the loop body of `generate_all` tries a
    species `s` iff the event of the parent at `s` is not INVALID; and it
    tries no species twice. -/
theorem C01_enum_placements (a b : Path) :
    (∀ s, s ∈ placements a b ↔ internalEvent s a b ≠ .invalid) ∧ (placements a b).Nodup :=
  ⟨fun s => mem_placements s a b, nodup_placements a b⟩

/-- Which species those are, by ancestry only: `s` is an ancestor-or-self of
    the LCA of `a`, `b`; or the other child is not an ancestor-or-self of `a`
    and `s` lies on the path from `a` up to, excluding, the LCA; or the same
    with `a`, `b` exchanged. -/
theorem C01_enum_placements_explicit (s a b : Path) :
    s ∈ placements a b ↔
      Path.isAnc s (Path.lcp a b) = true ∨
      (Path.isAnc b a = false ∧ Path.isAnc s a = true ∧ Path.isStrictAnc (Path.lcp a b) s = true) ∨
      (Path.isAnc a b = false ∧ Path.isAnc s b = true ∧ Path.isStrictAnc (Path.lcp a b) s = true) :=
  mem_placements_explicit s a b

/-- The evaluator's validity of one node, by ancestry only. -/
theorem C01_enum_event_valid (s a b : Path) :
    internalEvent s a b ≠ .invalid ↔
      Path.isStrictAnc a s = false ∧ Path.isStrictAnc b s = false ∧
        (Path.isAnc s a = true ∨ Path.isAnc s b = true) :=
  internalEvent_ne_invalid_iff s a b

/-- The recursion of `generate_all` at an internal node. -/
theorem C01_enum_node (l r : OTree) (sol : Sol) :
    sol ∈ generateAll (.node l r) ↔
      ∃ ml ∈ generateAll l, ∃ mr ∈ generateAll r, ∃ s ∈ placements ml.sp mr.sp,
        sol = .node s [] ml mr := by
  rw [generateAll_node]
  simp only [List.mem_flatMap, List.mem_map, eq_comm (a := sol)]

/-- Soundness: everything enumerated is a valid plain reconciliation of the
    input, and every node sits at an ancestor-or-self of a leaf species below it. -/
theorem C01_enum_sound (o : OTree) : ∀ sol ∈ generateAll o,
    Spec.validRec o sol = true ∧ plainLabels o sol = true ∧
      ∃ p ∈ leafSpecies o, Path.isAnc sol.sp p = true := by
  intro sol h
  have h' := (mem_generateAll o sol).mp h
  exact ⟨h'.1, h'.2, validRec_sp_anc_leaf o sol h'.1⟩

/-- Completeness: every valid plain reconciliation of the input is enumerated. -/
theorem C01_enum_complete (o : OTree) (sol : Sol) (hv : Spec.validRec o sol = true)
    (hp : plainLabels o sol = true) : sol ∈ generateAll o :=
  (mem_generateAll o sol).mpr ⟨hv, hp⟩

theorem C01_enum_nodup (o : OTree) : (generateAll o).Nodup := nodup_generateAll o

/-- "The exhaustive enumerator yields every valid reconciliation exactly once". -/
theorem C01_enum_iff (o : OTree) :
    (∀ sol, sol ∈ generateAll o ↔ Spec.validRec o sol = true ∧ plainLabels o sol = true) ∧
      (generateAll o).Nodup :=
  ⟨mem_generateAll o, nodup_generateAll o⟩

/-- The enumerator never fails to produce something: the LCA reconciliation is
    always among its outputs. -/
theorem C01_enum_nonempty (o : OTree) : lcaSol o ∈ generateAll o ∧ generateAll o ≠ [] := by
  have h := lcaSol_mem_generateAll o
  exact ⟨h, fun he => by rw [he] at h; cases h⟩

/-- Against the species tree: when every leaf species of the input is a node
    of `S`, the enumerator lists exactly `Spec.allValid S o` (the filter of all
    mappings of internal nodes to nodes of `S`), and both are duplicate-free:
    the two lists are permutations of each other. -/
theorem C01_enum_allValid (S : RTree) (o : OTree)
    (hS : ∀ p ∈ leafSpecies o, S.isNode p = true) :
    (∀ sol, sol ∈ generateAll o ↔ sol ∈ Spec.allValid S o) ∧
      (generateAll o).Perm (Spec.allValid S o) := by
  have h := mem_generateAll_iff_allValid S o hS
  exact ⟨h, (List.perm_ext_iff_of_nodup (nodup_generateAll o) (nodup_allValid S o)).mpr h⟩

/-- **C01 for the enumerator** (the body of `C01_enum_statement` of `Properties/C01.lean`). -/
theorem C01_enum (S : RTree) (o : OTree) (hS : ∀ p ∈ leafSpecies o, S.isNode p = true) :
    (∀ sol, sol ∈ generateAll o ↔ Spec.validRec o sol = true ∧ sol ∈ Spec.allMappings S o) ∧
      (generateAll o).Nodup := by
  refine ⟨fun sol => ?_, nodup_generateAll o⟩
  rw [mem_generateAll_iff_allValid S o hS, Spec.allValid, List.mem_filter]
  exact And.comm

/-- Without the guard the unguarded statement is false: the enumerator walks
    the ancestors of the leaf species whether or not `S` has them (here `S`
    is a single node and both leaves claim the species `[0]`). -/
theorem C01_enum_guard_needed :
    let S : RTree := .node []
    let o : OTree := .node (.leaf [0] []) (.leaf [0] [])
    let sol : Sol := .node [0] [] (.leaf [0] []) (.leaf [0] [])
    sol ∈ generateAll o ∧ sol ∉ Spec.allMappings S o := by
  decide +kernel

/-- Only the direction enumerator → mappings needs the guard: every valid
    mapping over any `S` is enumerated. -/
theorem C01_enum_allValid_subset (S : RTree) (o : OTree) :
    ∀ sol ∈ Spec.allValid S o, sol ∈ generateAll o := by
  intro sol h
  rw [Spec.allValid, List.mem_filter] at h
  exact (mem_generateAll o sol).mpr ⟨h.2, plainLabels_of_mem_allMappings S o sol h.1⟩

/-- The species-tree side: `allSpecies S` lists exactly the nodes of `S`, once. -/
theorem C01_enum_allSpecies (S : RTree) :
    (∀ p, p ∈ allSpecies S ↔ S.isNode p = true) ∧ (allSpecies S).Nodup :=
  ⟨fun p => RTree.mem_preorder_iff p S, RTree.nodup_preorder S⟩

/-- `reconcile_exhaustive` (policy ALL) returns exactly the valid plain
    reconciliations of minimum evaluated cost among all valid plain
    reconciliations. -/
theorem C01_exh_iff (c : Costs) (o : OTree) (sol : Sol) :
    sol ∈ exhaustive c o ↔
      (Spec.validRec o sol = true ∧ plainLabels o sol = true) ∧
      ∀ sol', Spec.validRec o sol' = true → plainLabels o sol' = true →
        Cost.le (totalCost c .plain o sol) (totalCost c .plain o sol') = true := by
  simp only [exhaustive, mem_rankByCost, mem_generateAll, and_imp]

theorem C01_exh_nodup (c : Costs) (o : OTree) : (exhaustive c o).Nodup :=
  nodup_rankByCost _ _ _ _

theorem C01_exh_nonempty (c : Costs) (o : OTree) : exhaustive c o ≠ [] :=
  rankByCost_ne_nil c .plain o (C01_enum_nonempty o).2

/-- The body of `C01_exh_statement` of `Properties/C01.lean`, for every species
    tree `S` (no guard needed in this direction): every returned
    reconciliation is valid and no valid mapping over `S` is cheaper. -/
theorem C01_exh (c : Costs) (S : RTree) (o : OTree) (sol : Sol) (h : sol ∈ exhaustive c o) :
    Spec.validRec o sol = true ∧
    ∀ sol', Spec.validRec o sol' = true → sol' ∈ Spec.allMappings S o →
      Cost.le (totalCost c .plain o sol) (totalCost c .plain o sol') = true := by
  have h' := (C01_exh_iff c o sol).mp h
  exact ⟨h'.1.1, fun sol' hv hm => h'.2 sol' hv (plainLabels_of_mem_allMappings S o sol' hm)⟩

/-- Over a species tree containing the leaf species: `reconcile_exhaustive`
    returns exactly the arg-minima of the evaluated cost over
    `Spec.allValid S o`, each once, and at least one. -/
theorem C01_exh_allValid (c : Costs) (S : RTree) (o : OTree)
    (hS : ∀ p ∈ leafSpecies o, S.isNode p = true) :
    (∀ sol, sol ∈ exhaustive c o ↔
      sol ∈ Spec.allValid S o ∧ ∀ sol' ∈ Spec.allValid S o,
        Cost.le (totalCost c .plain o sol) (totalCost c .plain o sol') = true) ∧
    (exhaustive c o).Nodup ∧ exhaustive c o ≠ [] := by
  refine ⟨fun sol => ?_, C01_exh_nodup c o, C01_exh_nonempty c o⟩
  simp only [exhaustive, mem_rankByCost, mem_generateAll_iff_allValid S o hS]

theorem C01_exh_cost (c : Costs) (o : OTree) (sol sol' : Sol)
    (h : sol ∈ exhaustive c o) (h' : sol' ∈ exhaustive c o) :
    totalCost c .plain o sol = totalCost c .plain o sol' :=
  C05.C05_same_cost c .plain o _ sol sol' h h'

/-- The returned cost is finite whatever the unit costs (also with an infinite
    transfer cost): the LCA reconciliation is a finite-cost candidate. -/
theorem C01_exh_finite (c : Costs) (o : OTree) (sol : Sol) (h : sol ∈ exhaustive c o) :
    totalCost c .plain o sol ≠ .inf := by
  rw [exhaustive, mem_rankByCost] at h
  have hle := h.2 (lcaSol o) (lcaSol_mem_generateAll o)
  obtain ⟨n, hn⟩ := totalCost_lcaSol_fin c o
  intro hinf
  rw [hinf, hn] at hle
  simp [Cost.le, Cost.lt] at hle

/-- `((x@00, y@01), z@1)` on the species tree `((A,B),C)`; leaves carry non-empty data to show it
    is preserved. -/
def enumExS : RTree := .node [.node [.node [], .node []], .node []]
def enumExO : OTree := .node (.node (.leaf [0, 0] [7]) (.leaf [0, 1] [8])) (.leaf [1] [9])

-- the guard of `C01_enum`, `C01_enum_allValid`, `C01_exh_allValid` holds
example : ∀ p ∈ leafSpecies enumExO, enumExS.isNode p = true := by decide +kernel

-- 12 reconciliations are enumerated; they include transfers (a node placed
-- at a leaf species with the other child elsewhere), and the set is not all mappings
example : (generateAll enumExO).length = 12 ∧ (Spec.allMappings enumExS enumExO).length = 25 ∧
    (Spec.allValid enumExS enumExO).length = 12 := by decide +kernel

example : Sol.node [1] [] (.node [0, 0] [] (.leaf [0, 0] [7]) (.leaf [0, 1] [8])) (.leaf [1] [9])
    ∈ generateAll enumExO := by decide +kernel

-- placements: children at 00 and 01 → {0, root, 00, 01}; children at 00 and 1 →
-- {root, 00, 0, 1}; children at 0 and 00 (comparable) → no transfer placement: the
-- walk from 0 is empty and the walk from 00 is skipped (it would put the child
-- at 0 strictly above its parent): {0, root}
example : placements [0, 0] [0, 1] = [[0], [], [0, 0], [0, 1]] ∧
    placements [0, 0] [1] = [[], [0, 0], [0], [1]] ∧
    placements [0] [0, 0] = [[0], []] ∧
    internalEvent [0, 0] [0, 0] [1] = .hgt ∧ internalEvent [0, 0] [0] [0, 0] = .invalid := by
  decide +kernel

-- hypotheses of `C01_enum_complete` are satisfiable by a non-LCA reconciliation
example :
    let sol : Sol := .node [] [] (.node [0, 1] [] (.leaf [0, 0] [7]) (.leaf [0, 1] [8])) (.leaf [1] [9])
    Spec.validRec enumExO sol = true ∧ plainLabels enumExO sol = true ∧ sol ≠ lcaSol enumExO := by
  decide +kernel

-- `reconcile_exhaustive`: with a cheap transfer two optima, with the default-like
-- costs the LCA reconciliation alone
example :
    (exhaustive { spe := 0, dup := 1, hgt := .fin 1, floss := 1, sloss := 1 } enumExO) = [lcaSol enumExO] ∧
    (exhaustive { spe := 3, dup := 1, hgt := .fin 0, floss := 1, sloss := 1 } enumExO).length = 4 := by
  decide +kernel

-- infinite transfer cost: still a finite optimum
example : (exhaustive { spe := 0, dup := 1, hgt := .inf, floss := 1, sloss := 1 } enumExO).map
    (totalCost { spe := 0, dup := 1, hgt := .inf, floss := 1, sloss := 1 } .plain enumExO) = [.fin 0] := by
  decide +kernel

-- single-node input
example : generateAll (.leaf [1] [3]) = [.leaf [1] [3]] := by decide +kernel

end SR.C01
