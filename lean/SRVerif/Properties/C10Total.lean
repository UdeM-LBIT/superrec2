/-
  C10 — the inequalities of `C10_guarded_statement` are stated as
  `∀ a ∈ result₁, ∀ b ∈ result₂, cost a ≤ cost b`; read alone they hold vacuously when
  `result₁` is empty, although "the optimum of an extended solver never exceeds that of its
  base variant" fails when the extended solver returns nothing where the base variant finds
  a solution.  The non-emptiness facts that exclude this are proved in other modules
  (C01, C03, C10Ext); this file assembles them with `C10_guarded` into one statement:
  whenever the solver on the right-hand side of an inequality returns something, so does
  the solver on the left-hand side (hence both optima are attained and compared).
-/
import SRVerif.Properties.C10UnOrd

namespace SR.C10

open SR Cost

/-- The four inequalities of C10 are never vacuous on the left.  Under the guards of
    `C10_guarded_statement`: `thl`, `superdtl` and the base unordered solver always return
    something, and the extended ordered solver returns something whenever the base ordered
    solver does. -/
theorem C10_guarded_total (c : Costs) (S : RTree) (o : OTree) (hb : S.isBinary = true)
    (hS : ∀ p ∈ leafSpecies o, S.isNode p = true) (hne : ∀ f ∈ leafSyntenies o, f ≠ [])
    (hcoh : c.spe + 2 * c.sloss ≤ c.dup + 2 * c.floss) :
    (spfs c S true o none ≠ [] → spfs c S false o none ≠ []) ∧
    uspfs c S false o ≠ [] ∧ uspfs c S true o ≠ [] ∧ thl c S o ≠ [] :=
  ⟨(C10_ext_le_base_ordered c S o none (C02.C02_orders_ok o hne) hb hS hcoh).2,
   C03.C03_uspfs_total c S false o hb hS, C03.C03_uspfs_total c S true o hb hS,
   C01.C01_thl_total c S o hb hS⟩

theorem C10_guarded_nonvacuous :
    C10_guarded_statement ∧
    ∀ (c : Costs) (S : RTree) (o : OTree), S.isBinary = true →
      (∀ p ∈ leafSpecies o, S.isNode p = true) → (∀ f ∈ leafSyntenies o, f ≠ []) →
      c.spe + 2 * c.sloss ≤ c.dup + 2 * c.floss →
      (spfs c S true o none ≠ [] → spfs c S false o none ≠ []) ∧
      uspfs c S false o ≠ [] ∧ uspfs c S true o ≠ [] ∧ thl c S o ≠ [] :=
  ⟨C10_guarded, fun c S o hb hS hne hcoh => C10_guarded_total c S o hb hS hne hcoh⟩

example :
    let c : Costs := { spe := 0, dup := 5, hgt := .fin 1, floss := 5, sloss := 1 }
    let S : RTree := .node [.node [.node [], .node []], .node []]
    let o : OTree := .node (.node (.leaf [0, 0] [1, 2]) (.leaf [1] [2])) (.leaf [0, 1] [1])
    spfs c S true o none ≠ [] ∧ spfs c S false o none ≠ [] := by
  dsimp only
  rw [ex_solvers.1, ex_solvers.2.1]
  decide

end SR.C10
