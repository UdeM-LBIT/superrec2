/-
  C19 — Topological orderings are enumerated completely and without
  repetition: the clauses of `Properties/C19.lean`, restated for the functions
  that `harness/translate_py.py` GENERATES from the text of
  `superrec2/utils/toposort.py` on every run
  (`SRVerif/Generated/TopoPy.lean`, namespace `SR.Gen.Topo`: `toposort` with its
  loops, the recursive helper `_toposort_all_bt`, `toposort_all`; `find_cycle`
  is not translated: `Properties/C19Cycle.lean` is about its hand-written model).

  The bridge is `SRVerif/Generated/TopoPyEquiv.lean` (`gen_*`, proved in
  `SRVerif/Proofs/TopoPyEquiv.lean` and `TopoPyEquivAll.lean`), at node type `Nat`:
  * `toposort` iterates a deque, a dict and the caller's sets only: the
    generated function is EQUAL to the hand-written model's (result and
    exception) on every graph with pairwise different keys;
  * `toposort_all` iterates the Python sets `starts` / `next_starts`, whose
    iteration order Python does not specify: the generated function takes that
    order as the parameter `ord` (applied to the elements in insertion order),
    and every theorem below holds for EVERY order (`Py.SetOrder ord`: the
    elements, each once).  The hand-written model fixes one order; the generated
    result is a permutation of the model's (`C19_code_tie`), and the clauses are
    proved for the generated code directly from the model's invariant lemmas.

  A graph is the association list of its items in dict insertion order, each
  successor SET listed in the order Python iterates it (any listing: the
  theorems quantify over all well-formed `g`).  `WF g`: pairwise different
  keys, duplicate-free successor lists, every successor is a key.

  Built only when the translator tie is available (`translator_tie` in the evidence).

  Scope of the translation: nodes are values with decidable equality
  (hashing is not modelled: sets and dicts are insertion-ordered lists);
  the iteration order of a set is a function of its elements in insertion
  order (CPython's also depends on deleted entries: every such function is
  covered, a dependence on the history beyond that list is not); value
  semantics (the translator rejects sources in which a list / dict could be
  changed while reachable through two references; which returned objects are
  IDENTICAL to which is not modelled); the recursion depth of
  `_toposort_all_bt` is not bounded by CPython's recursion limit.
-/
import SRVerif.Generated.TopoPyEquiv

namespace SR.C19

open SR SR.Toposort SR.TopoPyProofs

/-- The generated `toposort` computes exactly what the hand-written model
    computes (result and exception) on every graph with pairwise different keys
    on which the model does not run out of fuel (never, on a well-formed or a
    malformed graph), and the generated `toposort_all` returns, for every
    iteration order of its sets, a permutation of the model's result on every
    well-formed graph. -/
theorem C19_code_tie :
    (∀ g : Graph, (keys g).Nodup → Toposort.toposort g ≠ .error .fuel →
      Gen.Topo.toposort g = conv (Toposort.toposort g)) ∧
    (∀ ord, Py.SetOrder ord → ∀ g : Graph, WF g →
      ∃ os ms, Gen.Topo.toposort_all ord g = .ok os ∧ toposortAll g = .ok ms ∧ os.Perm ms) :=
  ⟨fun _ hk hf => Gen.Topo.gen_toposort_eq_model hk hf,
   fun _ hord _ hwf => Gen.Topo.gen_toposort_all_perm_model hord hwf⟩

theorem code_toposort_of_wf {g : Graph} (hwf : WF g) :
    ∃ r, Gen.Topo.toposort g = .ok r ∧ Toposort.toposort g = .ok r := by
  obtain ⟨r, h, _⟩ := toposort_spec hwf
  refine ⟨r, ?_, h⟩
  rw [Gen.Topo.gen_toposort_eq_model hwf.1 (by rw [h]; simp), h]
  rfl

theorem code_toposort_all_ok {ord : List Nat → List Nat} (hord : Py.SetOrder ord) {g : Graph}
    (hwf : WF g) {os : List (List Nat)} (h : Gen.Topo.toposort_all ord g = .ok os) :
    os.Nodup ∧ ∀ o, o ∈ os ↔ IsTopo g o :=
  Except.of_spec (Gen.Topo.gen_toposort_all_spec hord hwf) h

/-- On well-formed graphs neither generated routine raises (no `KeyError`, no
    `ValueError` from `deque.remove`, no `IndexError` from `popleft`), and the
    declared fuel of the `while` loop and of the recursion suffices (never the
    marker `Diverged`) — for every iteration order of the sets. -/
theorem C19_code_total (ord : List Nat → List Nat) (hord : Py.SetOrder ord) (g : Graph) (hwf : WF g) :
    (∃ os, Gen.Topo.toposort_all ord g = .ok os) ∧ (∃ r, Gen.Topo.toposort g = .ok r) := by
  obtain ⟨os, h, _⟩ := Gen.Topo.gen_toposort_all_spec hord hwf
  obtain ⟨r, h', _⟩ := code_toposort_of_wf hwf
  exact ⟨⟨os, h⟩, ⟨r, h'⟩⟩

/-- Every ordering returned by the generated `toposort_all` is a topological ordering. -/
theorem C19_code_all_sound (ord : List Nat → List Nat) (hord : Py.SetOrder ord) (g : Graph) (hwf : WF g)
    (os : List (List Nat)) (h : Gen.Topo.toposort_all ord g = .ok os) : ∀ o ∈ os, IsTopo g o :=
  fun o ho => ((code_toposort_all_ok hord hwf h).2 o).1 ho

/-- Every topological ordering is returned by the generated `toposort_all`. -/
theorem C19_code_all_complete (ord : List Nat → List Nat) (hord : Py.SetOrder ord) (g : Graph) (hwf : WF g)
    (os : List (List Nat)) (h : Gen.Topo.toposort_all ord g = .ok os) : ∀ o, IsTopo g o → o ∈ os :=
  fun o ho => ((code_toposort_all_ok hord hwf h).2 o).2 ho

/-- No ordering is returned twice. -/
theorem C19_code_all_nodup (ord : List Nat → List Nat) (hord : Py.SetOrder ord) (g : Graph) (hwf : WF g)
    (os : List (List Nat)) (h : Gen.Topo.toposort_all ord g = .ok os) : os.Nodup :=
  (code_toposort_all_ok hord hwf h).1

/-- The number of times an
    arrangement `o` occurs in the result is 1 if `o` is a topological ordering
    of `g` and 0 otherwise. -/
theorem C19_code_all_each_once (ord : List Nat → List Nat) (hord : Py.SetOrder ord) (g : Graph)
    (hwf : WF g) (os : List (List Nat)) (h : Gen.Topo.toposort_all ord g = .ok os) (o : List Nat) :
    os.count o = if IsTopo g o then 1 else 0 := by
  have hn := C19_code_all_nodup ord hord g hwf os h
  split
  · rename_i ht
    exact List.count_eq_one_of_mem hn (C19_code_all_complete ord hord g hwf os h o ht)
  · rename_i ht
    exact List.count_eq_zero_of_not_mem (fun hm => ht (C19_code_all_sound ord hord g hwf os h o hm))

/-- A graph without topological ordering (one with a directed cycle, or a
    self-loop) yields the empty list. -/
theorem C19_code_all_cyclic (ord : List Nat → List Nat) (hord : Py.SetOrder ord) (g : Graph) (hwf : WF g)
    (hno : ¬ ∃ o, IsTopo g o) : Gen.Topo.toposort_all ord g = .ok [] := by
  obtain ⟨os, h, _, hm⟩ := Gen.Topo.gen_toposort_all_spec hord hwf
  cases os with
  | nil => exact h
  | cons o _ => exact absurd ⟨o, (hm o).1 (by simp)⟩ hno

/-- The result does not depend on the iteration order of the sets, up to the
    order of the list: two runs under two orders return permutations of each
    other (and of the hand-written model's result). -/
theorem C19_code_all_order_free (ord ord' : List Nat → List Nat) (hord : Py.SetOrder ord)
    (hord' : Py.SetOrder ord') (g : Graph) (hwf : WF g) :
    ∃ os os', Gen.Topo.toposort_all ord g = .ok os ∧ Gen.Topo.toposort_all ord' g = .ok os' ∧
      os.Perm os' := by
  obtain ⟨os, h, hn, hm⟩ := Gen.Topo.gen_toposort_all_spec hord hwf
  obtain ⟨os', h', hn', hm'⟩ := Gen.Topo.gen_toposort_all_spec hord' hwf
  exact ⟨os, os', h, h', (List.perm_ext_iff_of_nodup hn hn').2 (fun o => (hm o).trans (hm' o).symm)⟩

/-- The generated `toposort` returns a topological ordering if and only if one
    exists (and `None` otherwise). -/
theorem C19_code_one (g : Graph) (hwf : WF g) (r : Option (List Nat))
    (h : Gen.Topo.toposort g = .ok r) :
    (∀ o, r = some o → IsTopo g o) ∧ (r = none ↔ ¬ ∃ o, IsTopo g o) :=
  Except.of_spec (toposort_spec hwf) (Except.of_spec (code_toposort_of_wf hwf) h)

/-- When some successor is not a key, both generated routines raise `KeyError`. -/
theorem C19_code_malformed (ord : List Nat → List Nat) (g : Graph) (hk : (keys g).Nodup)
    (hbad : ∃ p ∈ g, ∃ v ∈ p.2, v ∉ keys g) :
    Gen.Topo.toposort_all ord g = .error .KeyError ∧ Gen.Topo.toposort g = .error .KeyError := by
  refine ⟨Gen.Topo.gen_toposort_all_malformed ord hk hbad, ?_⟩
  have hm := (malformed_keyError hk hbad).2
  rw [Gen.Topo.gen_toposort_eq_model hk (by rw [hm]; simp), hm]
  rfl

/-- On a dict of successor sets
    (pairwise different keys, duplicate-free successor listings) each generated
    routine raises — and then it is `KeyError` — if and only if some successor
    is not a key. -/
theorem C19_code_keyerror_iff (ord : List Nat → List Nat) (hord : Py.SetOrder ord) (g : Graph)
    (hk : (keys g).Nodup) (hs : ∀ p ∈ g, p.2.Nodup) :
    ((∃ e, Gen.Topo.toposort_all ord g = .error e) ↔ ∃ p ∈ g, ∃ v ∈ p.2, v ∉ keys g) ∧
    ((∃ e, Gen.Topo.toposort g = .error e) ↔ ∃ p ∈ g, ∃ v ∈ p.2, v ∉ keys g) ∧
    (∀ e, Gen.Topo.toposort_all ord g = .error e → e = .KeyError) ∧
    (∀ e, Gen.Topo.toposort g = .error e → e = .KeyError) := by
  have hwf : (¬ ∃ p ∈ g, ∃ v ∈ p.2, v ∉ keys g) → WF g := fun hbad =>
    ⟨hk, fun p hp => ⟨hs p hp, fun v hv => not_not.1 fun hn => hbad ⟨p, hp, v, hv, hn⟩⟩⟩
  obtain ⟨a1, a2⟩ := Except.error_iff_of_dichotomy (fun hb => (C19_code_malformed ord g hk hb).1)
    (fun hb => (C19_code_total ord hord g (hwf hb)).1)
  obtain ⟨b1, b2⟩ := Except.error_iff_of_dichotomy (fun hb => (C19_code_malformed ord g hk hb).2)
    (fun hb => (C19_code_total ord hord g (hwf hb)).2)
  exact ⟨a1, b1, a2, b2⟩

/-- The graph of the repository's own test. -/
def g6c : Graph := [(0, []), (1, []), (2, [3]), (3, [1]), (4, [0, 1]), (5, [0, 2])]

example : WF g6c := by decide +kernel
example : Py.SetOrder (fun l => l.reverse) := fun l _ => List.reverse_perm l
example : Py.SetOrder (fun l => l) := fun l _ => List.Perm.refl l
example : Py.sameResult (Gen.Topo.toposort g6c) (.ok (some [4, 5, 0, 2, 3, 1])) = true := by decide +kernel
/-- two orders, two listings of the same three orderings -/
example : Py.sameResult (Gen.Topo.toposort_all (fun l => l) [(0, [1]), (1, []), (2, [])])
    (.ok [[0, 2, 1], [0, 1, 2], [2, 0, 1]]) = true := by decide +kernel
example : Py.sameResult (Gen.Topo.toposort_all (fun l => l.reverse) [(0, [1]), (1, []), (2, [])])
    (.ok [[2, 0, 1], [0, 1, 2], [0, 2, 1]]) = true := by decide +kernel
/-- a cycle, and a self-loop: well-formed, no ordering -/
example : WF [(0, [1]), (1, [2]), (2, [0])] ∧
    Py.sameResult (Gen.Topo.toposort_all (fun l => l) [(0, [1]), (1, [2]), (2, [0])]) (.ok []) = true := by
  decide +kernel
example : WF [(0, [0]), (1, [])] ∧
    Py.sameResult (Gen.Topo.toposort [(0, [0]), (1, [])]) (.ok none) = true := by decide +kernel
/-- a successor that is not a key -/
example : Py.sameResult (Gen.Topo.toposort_all (fun l => l) [(0, [1]), (1, [7])]) (.error .KeyError) = true := by
  decide +kernel
example : Py.sameResult (Gen.Topo.toposort [(0, [1]), (1, [7])]) (.error .KeyError) = true := by decide +kernel

end SR.C19
