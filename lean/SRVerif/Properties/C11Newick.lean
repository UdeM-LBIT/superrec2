/-
  C11 — the Newick hypothesis of `Properties/C11.lean` discharged on a MODEL of the codec.

  `Model/Newick.lean` models ete3 3.1.3's writer as superrec2 calls it
  (`write(format=8, format_root_node=True, features=["color"])`) and its reader
  (`Tree(s, format=1)`: the nested `split`s, the three regular expressions, NHX
  parsing, both exception classes); `harness/checks/c11_newick.py` compares both,
  byte for byte and node for node, with the real calls made by `to_dict` /
  `from_dict`.

  The domain of the round trip, `Newick.safeTree` (decidable), is what ete3 really needs, which is
  more liberal than the property's domain: a name is non-empty, has none of
  `: ; ( ) , [ ] = TAB LF CR` and no white space at either end (inner spaces, quotes, `&`,
  non-ASCII letters are fine); a colour has none of those eleven characters (it may be empty or
  begin/end with a space).  The examples at the end show that each condition is needed.  With this
  codec the four class round trips of `Properties/C11.lean` keep no hypothesis on ete3, only the
  correspondence of the model with it (the tie).
-/
import SRVerif.Properties.C11
import SRVerif.Proofs.NewickCompat

namespace SR.C11

open SR.Ser SR.Newick

/-- The reader of the model, as the `String → Option NT` the class models take. -/
def newickRead (s : String) : Option NT := (Newick.readNT s).toOption

/-- Writing then reading a safely named tree gives exactly the tree: same names,
    same children in the same order, the `color` feature where it was and nowhere
    else, no branch length and no other feature (`RT.ofNT`). -/
theorem C11_newick_roundtrip (t : NT) (h : Newick.safeTree t = true) :
    Newick.read (Newick.write t) = .ok (RT.ofNT t) :=
  Newick.read_write t h

/-- … in terms of what C11 observes (name, colour, children). -/
theorem C11_newick_roundtrip_nt (t : NT) (h : Newick.safeTree t = true) :
    Newick.readNT (Newick.write t) = .ok t :=
  Newick.readNT_write t h

/-- The property's own domain (non-empty words over `[A-Za-z0-9_.-]`, for names and colours)
    is safe. -/
theorem C11_newick_words {t : NT} (h : t.SafeNames) : Newick.safeTree t = true :=
  Newick.safeTree_of_SafeNames h

/-- The law that `Properties/C11.lean` assumes of ete3 holds of the model
    (unique names are not even needed). -/
theorem C11_newick_law : NewickLaw Newick.write newickRead :=
  Newick.newickLaw

/-- The written text: ends with `;`, as many `(` as `)`, none of the characters
    the reader deletes (`\n \r \t`) — the preliminary tests of `read_newick` pass.  (True of
    every tree, since the writer replaces these characters in names: `h` is not used.) -/
theorem C11_newick_written (t : NT) (h : Newick.safeTree t = true) :
    (Newick.write t).toList.getLast? = some ';'
    ∧ (Newick.write t).toList.count '(' = (Newick.write t).toList.count ')'
    ∧ (∀ c ∈ (Newick.write t).toList, c ≠ '\n' ∧ c ≠ '\r' ∧ c ≠ '\t') := by
  have hb := Newick.bal_writeChars t
  simp only [Newick.write, Newick.writeChars, String.toList_ofList] at hb ⊢
  exact ⟨by simp, hb.2, hb.1⟩

/-- Malformed input, missing `;`: `NewickError`. -/
theorem C11_newick_no_semicolon (s : String)
    (h : (Newick.strip s.toList).getLast? ≠ some ';') : Newick.read s = .error .newickError := by
  unfold Newick.read Newick.readChars
  have h1 : ((Newick.strip s.toList).getLast? == some ';') = false := by simpa using h
  have h2 : ((Newick.strip s.toList).getLast? != some ';') = true := by simpa using h
  simp [h1, h2]

/-- Malformed input, unbalanced parentheses: `NewickError`. -/
theorem C11_newick_unbalanced (s : String) (h0 : (Newick.strip s.toList).head? = some '(')
    (h : (Newick.strip s.toList).count '(' ≠ (Newick.strip s.toList).count ')') :
    Newick.read s = .error .newickError := by
  unfold Newick.read Newick.readChars
  simp only [h0, bne_self_eq_false, Bool.false_and, Bool.false_eq_true, if_false, Bool.false_or]
  split
  · rfl
  · unfold Newick.readFromString
    have : ((Newick.strip s.toList).count '(' != (Newick.strip s.toList).count ')') = true := by
      simpa using h
    simp [h0, this]

theorem C11_roundtrip_newick_input {x : RecInput} (h : x.WF) :
    RecInput.fromDict newickRead (x.toDict Newick.write) = .ok x :=
  C11_roundtrip_input C11_newick_law h

theorem C11_roundtrip_newick_super_input {x : SRecInput} (h : x.WF) :
    SRecInput.fromDict newickRead (x.toDict Newick.write) = .ok x.norm
    ∧ x.norm.toDict Newick.write = x.toDict Newick.write :=
  C11_roundtrip_super_input C11_newick_law h

theorem C11_roundtrip_newick_output {x : RecOutput} (h : x.WF) :
    RecOutput.fromDict newickRead (x.toDict Newick.write) = .ok x.norm
    ∧ x.norm.toDict Newick.write = (x.toDict Newick.write).dropLeafSyntenies :=
  C11_roundtrip_output C11_newick_law h

theorem C11_roundtrip_newick_super_output {x : SRecOutput} (h : x.WF) :
    SRecOutput.fromDict newickRead (x.toDict Newick.write) = .ok x.norm
    ∧ x.norm.toDict Newick.write = (x.toDict Newick.write).dropLeafSyntenies :=
  C11_roundtrip_super_output C11_newick_law h

/-- Same events and cost after the round trip, for any evaluation that reads the
    listed fields only. -/
theorem C11_same_evaluation_newick {α : Type}
    (eval : RecInput → TreeMapping → SynMapping → Bool → α)
    (hset : ∀ i m s o, eval i m (normSyn s) o = eval i m s o) {x : SRecOutput} (h : x.WF) :
    ∃ y, SRecOutput.fromDict newickRead (x.toDict Newick.write) = .ok y
      ∧ eval y.input.base y.objectSpecies y.syntenies y.ordered
        = eval x.input.base x.objectSpecies x.syntenies x.ordered :=
  C11_same_evaluation eval hset C11_newick_law h

/-- Unary node, polytomy, colours on a leaf, an inner node and the root, names with an
    inner space, a quote, `&`, a non-ASCII letter, a colour that is empty and one with spaces. -/
def exTree : NT :=
  .node "root 1" (some "") [
    .node "u" none [.node "x_1" (some "0000FF") []],
    .node "it's" none [.node "a&b" none [], .node "é" (some " dark red ") [], .node "NoName" none []],
    .node "12" none []]

theorem exTree_safe : Newick.safeTree exTree = true := by decide +kernel

example : Newick.safeTree exTree = true := exTree_safe

/-- The round trip of this tree, NHX comments included, is an instance of the theorem. -/
example : Newick.readNT (Newick.write exTree) = .ok exTree :=
  C11_newick_roundtrip_nt exTree exTree_safe

example : Newick.write exTree
    = "((x_1[&&NHX:color=0000FF])u,(a&b,é[&&NHX:color= dark red ],NoName)it's,12)root 1[&&NHX:color=];" :=
  -- both sides are `String.ofList` of characters: `write` by definition, the literal as every literal
  congrArg String.ofList (by decide +kernel)

/-- The README solution of `Properties/C11.lean` is in the domain of the four class theorems. -/
example : exOutput.WF := exOutput_wf

/-- Each condition of `safeTree` is needed: white space at an end is stripped … -/
example : Newick.readNT (Newick.write (.node "a " none [])) = .ok (.node "a" none []) := by decide +kernel

/-- … an empty name is written `NoName` … -/
example : Newick.writeChars (.node "" none [.node "x" none []]) = "(x)NoName;".toList := by
  rewrite [String.toList_ofList]
  decide +kernel

/-- … and each of the eleven characters is replaced by `_`, in names and in colours. -/
example : Newick.writeChars (.node "a:b" (some "x=1") []) = "a_b[&&NHX:color=x_1];".toList := by
  rewrite [String.toList_ofList]
  decide +kernel

/-- The reader's errors: unbalanced parentheses, missing `;`, an empty leaf are `NewickError`s;
    a text that closes the root too early makes ete3 dereference `None` (`AttributeError`). -/
example : Newick.readNT "((a,b)c;" = .error .newickError := by
  rewrite [readNT_ofList]
  decide +kernel
example : Newick.readNT "(a,b)c" = .error .newickError := by
  rewrite [readNT_ofList]
  decide +kernel
example : Newick.readNT "(a,,b)c;" = .error .newickError := by
  rewrite [readNT_ofList]
  decide +kernel
example : Newick.readNT "(a));(b;" = .error .attributeError := by
  rewrite [readNT_ofList]
  decide +kernel

/-- The reader accepts more than the writer emits: branch lengths, several features, spaces
    (what it builds from such texts is compared with ete3 by the tie; `decide` on computed
    strings is too slow in the kernel to show the tree here). -/
example : (Newick.read "( a:1 , b )c : 2e5 [&&NHX:color=red:k=v:color=tan] ;").isOk = true := by
  rewrite [read_ofList]
  decide +kernel

end SR.C11
