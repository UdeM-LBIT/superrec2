/-
  C20 — the supertree clause at full strength: a supertree of binary trees
  displays EVERY rooted triple induced by each input tree (not only the
  BreakUp triples emitted by `tree_to_triples`), for `supertree` and for every
  member of `all_supertrees`; and `supertree` returns a tree exactly when the
  input trees are compatible.

  The key fact (`C20_breakup_generates`) is the classical one: the triples
  emitted by the BreakUp decomposition of a binary tree `t` generate all the
  triples induced by `t` — any tree with distinct leaf names that contains the
  leaves of `t` and displays the emitted triples displays every `ab|c` with
  lca(a,b) strictly below lca(a,c) = lca(b,c) in `t`.
  (Lemmas: `SRVerif/Proofs/TriplesInducedOrder.lean`, `TriplesInducedSuper.lean`.)

  Scope: binary input trees, as for `tree_to_triples` itself (on a polytomy
  the Python code fails to unpack `other.children`; the model returns `none`).

  Order of contraction.  `tree_to_triples` pops minimal internal nodes from a
  Python `set` (address-dependent order) and the emitted triples depend on that
  order; the model fixes one order.  The `_any_order` theorems do not depend on it:
  `SR.Tri.BreakUp t trs` (Proofs/TriplesInducedOrder.lean) says that `trs` is
  the output of the loop for SOME order of popping, the model's output is one
  such run (`C20_breakup_model_is_run`), and the supertree clause and the round
  trip hold for EVERY run (`C20_breakup_any_order`, `C20_supertree_any_order`,
  `C20_supertree_any_order_complete`, `C20_roundtrip_any_order`; the latter is
  `SR.Tri.breakUp_roundtrip`, Proofs/TriplesInducedSuper.lean, which rests on the fact
  stated here as `C20_triples_determine_tree`).
  The check's driver does not exercise the rewriting system `Step`.
-/
import SRVerif.Properties.C20

namespace SR.C20

open SR SR.DS SR.Tri SR.Tri.Spec SR.Tri.LTree

/-- **The BreakUp triples generate all induced triples.**  Let `t` be a binary
    tree with distinct leaf names and `(ls, trs) = tree_to_triples t`.  Every
    tree `S` with distinct leaf names that contains the leaves of `t` and
    displays every triple of `trs` displays every proper triple displayed by
    `t`.  (`S` need not be binary and may have more leaves.) -/
theorem C20_breakup_generates (t S : LTree) (hb : binary t = true) (hn : t.leaves.Nodup)
    (hS : S.leaves.Nodup) (ls : List Nat) (trs : List Triple)
    (h : treeToTriples t = some (ls, trs))
    (hsub : ∀ x, x ∈ ls → x ∈ S.leaves) (hd : ∀ tr, tr ∈ trs → displays S tr = true) :
    ∀ tr : Triple, proper tr = true → displays t tr = true → displays S tr = true := by
  obtain ⟨rfl, hbu⟩ := treeToTriples_breakUp h
  exact breakUp_induced hb hn hbu hS hsub hd

/-- Non-vacuity: the caterpillar `(((0,1),2),3)` emits two triples; the tree
    `S` (with an extra leaf and a different shape outside) displays them, and
    hence e.g. the induced, non-emitted triple `01|3`. -/
example : treeToTriples (.node [.node [.node [.leaf 0, .leaf 1], .leaf 2], .leaf 3])
    = some ([0, 1, 2, 3], [(0, 1, 2), (1, 2, 3)]) := by decide +kernel

example :
    let S : LTree := .node [.node [.node [.leaf 1, .leaf 0], .leaf 2], .node [.leaf 4, .leaf 3]]
    displays S (0, 1, 2) = true ∧ displays S (1, 2, 3) = true ∧ displays S (0, 1, 3) = true := by
  decide +kernel

/-- **Supertree displays every induced triple** (`C20_supertree_statement` of `C20.lean`): the
    tree returned by `supertree` for binary input trees with distinct leaf
    names displays every proper triple displayed by any input tree. -/
theorem C20_supertree : C20_supertree_statement := by
  intro ts S hts h t ht tr hp hd
  exact (supertree_displays_all hts h).2.2 t ht tr hp hd

/-- **Supertree** with the leaf clause: the returned tree has distinct leaf
    names, its leaf set is the union of the input leaf sets, and it displays
    every induced triple of every input tree. -/
theorem C20_supertree_full (ts : List LTree) (S : LTree)
    (hts : ∀ t, t ∈ ts → binary t = true ∧ t.leaves.Nodup)
    (h : supertree ts = some (some S)) :
    S.leaves.Nodup ∧ (∀ x, x ∈ S.leaves ↔ ∃ t, t ∈ ts ∧ x ∈ t.leaves) ∧
    ∀ t, t ∈ ts → ∀ tr : Triple, proper tr = true → displays t tr = true → displays S tr = true :=
  supertree_displays_all hts h

/-- Non-vacuity: two overlapping caterpillars; the supertree displays `01|3`,
    which is induced by the first tree but emitted by neither. -/
example :
    let t1 : LTree := .node [.node [.node [.leaf 0, .leaf 1], .leaf 2], .leaf 3]
    let t2 : LTree := .node [.node [.leaf 1, .leaf 4], .leaf 3]
    (supertree [t1, t2]).map (·.map (fun S => displays S (0, 1, 3) && displays S (1, 4, 3)
      && displays t1 (0, 1, 3) && !((treeToTriples t1).map (·.2)).any (·.contains (0, 1, 3))))
      = some (some true) := by
  decide +kernel

/-- **All supertrees.**  Every member of `all_supertrees` (binary input trees
    with distinct leaf names) is binary, has the union of the input leaves as
    its leaf set and displays every induced triple of every input tree; two
    members at different positions differ up to child order. -/
theorem C20_all_supertrees (ts : List LTree) (Ss : List LTree)
    (hts : ∀ t, t ∈ ts → binary t = true ∧ t.leaves.Nodup)
    (h : allSupertrees ts = some Ss) :
    (∀ S, S ∈ Ss → binary S = true ∧ S.leaves.Nodup ∧
      (∀ x, x ∈ S.leaves ↔ ∃ t, t ∈ ts ∧ x ∈ t.leaves) ∧
      ∀ t, t ∈ ts → ∀ tr : Triple, proper tr = true → displays t tr = true → displays S tr = true) ∧
    Ss.Pairwise (fun S S' => sameClades S S' = false) :=
  allSupertrees_displays_all hts h

example : (allSupertrees [.node [.node [.leaf 0, .leaf 1], .leaf 2], .node [.node [.leaf 1, .leaf 3], .leaf 2]]).map
    (·.length) = some 3 := by decide +kernel

/-- **`supertree` decides compatibility.**  For a non-empty family of binary
    trees with distinct leaf names, `supertree` returns a tree iff some tree
    with distinct leaf names, whose leaf set is the union of the input leaf
    sets, displays every induced triple of every input tree. -/
theorem C20_supertree_iff (ts : List LTree) (hts : ∀ t, t ∈ ts → binary t = true ∧ t.leaves.Nodup)
    (hne : ts ≠ []) :
    (∃ S, supertree ts = some (some S)) ↔
      ∃ U : LTree, U.leaves.Nodup ∧ (∀ x, x ∈ U.leaves ↔ ∃ t, t ∈ ts ∧ x ∈ t.leaves) ∧
        ∀ t, t ∈ ts → ∀ tr : Triple, proper tr = true → displays t tr = true → displays U tr = true := by
  constructor
  · rintro ⟨S, hS⟩
    exact ⟨S, C20_supertree_full ts S hts hS⟩
  · rintro ⟨U, hU, hUl, hUd⟩
    exact supertree_complete hts hne hU
      (fun t ht x hx => (hUl x).mpr ⟨t, ht, hx⟩) hUd

/-- Non-vacuity of the negative direction: `01|2` and `02|1` are incompatible. -/
example : (supertree [.node [.node [.leaf 0, .leaf 1], .leaf 2],
    .node [.node [.leaf 0, .leaf 2], .leaf 1]]).map (·.isNone) = some true := by decide +kernel

/-- The model's `tree_to_triples` is one run of the nondeterministic loop
    (`Step` = pop any non-root minimal internal node, `BreakUp` = run until the
    root is the only internal node). -/
theorem C20_breakup_model_is_run (t : LTree) (ls : List Nat) (trs : List Triple)
    (h : treeToTriples t = some (ls, trs)) : ls = t.leaves ∧ BreakUp t trs :=
  treeToTriples_breakUp h

/-- **Every run of BreakUp generates all induced triples**: whatever the order
    in which `tree_to_triples` pops the minimal internal nodes of the binary
    tree `t`, the emitted triples consist of three different leaves of `t` and
    are displayed by `t`, and a tree `S` (distinct leaf names) containing the
    leaves of `t` and displaying the emitted triples displays every proper
    triple displayed by `t`. -/
theorem C20_breakup_any_order (t S : LTree) (hb : binary t = true) (hn : t.leaves.Nodup)
    (trs : List Triple) (h : BreakUp t trs) :
    (∀ tr, tr ∈ trs → proper tr = true ∧ displays t tr = true) ∧
    (S.leaves.Nodup → (∀ x, x ∈ t.leaves → x ∈ S.leaves) → (∀ tr, tr ∈ trs → displays S tr = true) →
      ∀ tr : Triple, proper tr = true → displays t tr = true → displays S tr = true) :=
  ⟨breakUp_displays hb hn h,
    fun hS hsub hd => breakUp_induced hb hn h hS hsub hd⟩

/-- Non-vacuity: a run that differs from the model's order (the second cherry
    is popped first); its triple set `{14|2, 02|1, 01|3}` differs from the
    model's `{02|4, 14|0, 01|3}`. -/
example : BreakUp (.node [.node [.node [.leaf 2, .leaf 0], .node [.leaf 4, .leaf 1]], .leaf 3])
    [(1, 4, 2), (0, 2, 1), (0, 1, 3)] :=
  ⟨.node [.leaf 3, .leaf 0],
    Run.cons (Step.inL _ (Step.hereR 4 1 _))
      (Run.cons (Step.inL _ (Step.hereL 2 0 (.leaf 1)))
        (Run.cons (Step.hereL 1 0 (.leaf 3)) (Run.nil _))),
    trivial⟩

example : (treeToTriples (.node [.node [.node [.leaf 2, .leaf 0], .node [.leaf 4, .leaf 1]], .leaf 3])).map (·.2)
    = some [(0, 2, 4), (1, 4, 0), (0, 1, 3)] := by decide +kernel

/-- **Supertrees, any order of contraction.**  Let every input tree `p.1`
    (binary, distinct leaf names) come with the triples `p.2` of some run of
    `tree_to_triples`, let `L` be a duplicate-free list of all leaves and `trs`
    a list of all emitted triples (what `trees_to_triples` returns).  Then the
    call of BUILD / AllTrees is in scope, the tree returned by
    `tree_from_triples(L, trs)` and every member of
    `all_trees_from_triples(L, trs)` has leaf set `L` and displays every
    induced triple of every input tree. -/
theorem C20_supertree_any_order (fam : List (LTree × List Triple))
    (hfam : ∀ p, p ∈ fam → binary p.1 = true ∧ p.1.leaves.Nodup ∧ BreakUp p.1 p.2)
    (L : List Nat) (trs : List Triple) (hLn : L.Nodup)
    (hL : ∀ x, x ∈ L ↔ ∃ p, p ∈ fam ∧ x ∈ p.1.leaves)
    (hT : ∀ tr, tr ∈ trs ↔ ∃ p, p ∈ fam ∧ tr ∈ p.2) :
    Scope L trs ∧
    (∀ S, treeFromTriples L trs = some S → S.leaves.Perm L ∧
      ∀ p, p ∈ fam → ∀ tr : Triple, proper tr = true → displays p.1 tr = true → displays S tr = true) ∧
    (∀ S, S ∈ allTreesFromTriples L trs → binary S = true ∧ S.leaves.Perm L ∧
      ∀ p, p ∈ fam → ∀ tr : Triple, proper tr = true → displays p.1 tr = true → displays S tr = true) := by
  obtain ⟨hk, hp, hall⟩ := good_displays_all_runs hfam hL hT
  refine ⟨⟨hLn, hk, hp⟩, ?_, ?_⟩
  · intro S h
    have hg := treeFromTriples_good hLn hk hp h
    exact ⟨(List.perm_ext_iff_of_nodup hg.nodup hLn).mpr hg.mem, hall S hg⟩
  · intro S h
    obtain ⟨hg, hb⟩ := allTreesFromTriples_good hLn hk hp h
    exact ⟨hb, (List.perm_ext_iff_of_nodup hg.nodup hLn).mpr hg.mem, hall S hg⟩

/-- Non-vacuity: BUILD on the triples of the non-model run above. -/
example : (treeFromTriples [0, 1, 2, 3, 4] [(1, 4, 2), (0, 2, 1), (0, 1, 3)]).map
    (sameClades (.node [.node [.node [.leaf 2, .leaf 0], .node [.leaf 4, .leaf 1]], .leaf 3]))
    = some true := by decide +kernel

/-- `supertree` with any order of contraction succeeds on compatible inputs:
    if some tree with distinct leaf names containing all the leaves displays
    every induced triple of every input tree, BUILD returns a tree. -/
theorem C20_supertree_any_order_complete (fam : List (LTree × List Triple))
    (hfam : ∀ p, p ∈ fam → binary p.1 = true ∧ p.1.leaves.Nodup ∧ BreakUp p.1 p.2)
    (hne : fam ≠ []) (L : List Nat) (trs : List Triple) (hLn : L.Nodup)
    (hL : ∀ x, x ∈ L ↔ ∃ p, p ∈ fam ∧ x ∈ p.1.leaves)
    (hT : ∀ tr, tr ∈ trs ↔ ∃ p, p ∈ fam ∧ tr ∈ p.2)
    (U : LTree) (hU : U.leaves.Nodup) (hUl : ∀ x, x ∈ L → x ∈ U.leaves)
    (hUd : ∀ p, p ∈ fam → ∀ tr : Triple, proper tr = true → displays p.1 tr = true → displays U tr = true) :
    (treeFromTriples L trs).isSome = true :=
  runs_complete hfam hL hT hne hLn hU hUl hUd

/-- **A binary tree is determined by its rooted triples.**  If `u` (distinct
    leaf names, no empty clade) has the same leaf set as the binary tree `t`
    and displays every proper triple displayed by `t`, then `u` and `t` have the
    same clades (`u` is `t` up to child order).  The hypothesis `hn` (distinct leaf
    names in `t`) is not needed: `SR.Tri.sameClades_of_displays` is the statement without it. -/
theorem C20_triples_determine_tree (t u : LTree) (hb : binary t = true) (hn : t.leaves.Nodup)
    (hu : u.leaves.Nodup) (hne : ∀ C, C ∈ clades u → C ≠ [])
    (hl : ∀ x, x ∈ u.leaves ↔ x ∈ t.leaves)
    (hd : ∀ tr : Triple, proper tr = true → displays t tr = true → displays u tr = true) :
    sameClades t u = true :=
  sameClades_of_displays hb hu hne hl hd

example : sameClades (.node [.node [.leaf 0, .leaf 1], .leaf 2]) (.node [.leaf 2, .node [.leaf 1, .leaf 0]]) = true := by
  decide +kernel

/-- **Round trip, any order of contraction.**  For a binary tree with distinct
    leaf names and the triples `trs` of ANY run of `tree_to_triples`,
    `tree_from_triples(leaves, trs)` returns a tree with the same clade set.
    (`C20_roundtrip` is the instance of the model's order, by
    `C20_breakup_model_is_run`.) -/
theorem C20_roundtrip_any_order (t : LTree) (hb : binary t = true) (hn : t.leaves.Nodup)
    (trs : List Triple) (h : BreakUp t trs) :
    ∃ u, treeFromTriples t.leaves trs = some u ∧ sameClades t u = true :=
  breakUp_roundtrip hb hn h

/-- `C20_statement` of `Properties/C20.lean`: BUILD completeness ∧ AllTrees completeness ∧ the
    supertree clause. -/
theorem C20_full : C20_statement := ⟨C20_complete_one, C20_complete_all, C20_supertree⟩

end SR.C20
