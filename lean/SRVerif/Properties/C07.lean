/-
  C07 — LCA reconciliation is the unique optimum of the duplication-loss model.

  Setting: transfers forbidden (`c.hgt = Cost.inf`), unit costs with
  `c.spe ≤ c.dup + 2 * c.floss` (true for all `dup, floss ≥ 0` when the
  speciation cost is 0 — the property's "any non-negative duplication and loss
  costs"; the `_spe0` corollaries state exactly that).  All statements are for
  every binary object tree and arbitrary species paths (no size bound, the
  species tree need not be binary).

  "Cost" is the cost evaluator's `recCost` (= `totalCost … .plain`,
  `C07_total_plain`), "valid" is `Spec.validRec` (shape of the input, leaves in
  their given species, no INVALID event).  A solution is compared through its
  species mapping `Sol.eraseFam` (validity does not constrain the synteny
  annotations of a plain reconciliation); for solutions carrying the plain
  annotations (`famsMatch`: what the solvers, `Spec.allMappings` and the
  harness's decoding produce) this is equality of solutions.
-/
import SRVerif.Proofs.LcaMapOpt
import SRVerif.Properties.C04

namespace SR.C07

open SR

/-- At every node, `lcaSol` sits at the longest common prefix (`lcpAll`, the
    folded `Path.lcp`) of the species of all leaves below that node. -/
theorem C07_is_lca (o : OTree) : mapsToLca o (lcaSol o) := lcaSol_mapsToLca o

/-- Root instance of `C07_is_lca` (every subtree of `lcaSol o` is the `lcaSol`
    of the corresponding subtree of `o`, by definition). -/
theorem C07_is_lca_root (o : OTree) : (lcaSol o).sp = lcpAll o.leafSpecies :=
  lcaSol_sp_eq_lcpAll o

/-- Independent characterisation: the image is the LOWEST COMMON ANCESTOR of
    the leaf species — its ancestors-or-self are exactly the common
    ancestors-or-self of all leaf species (this determines it uniquely). -/
theorem C07_is_lca_spec (o : OTree) (r : Path) :
    Path.isAnc r (lcaSol o).sp = true ↔ ∀ q ∈ o.leafSpecies, Path.isAnc r q = true :=
  isAnc_lcaSol_sp r o

/-- `lcpAll` itself is the greatest common prefix of a non-empty list. -/
theorem C07_lcpAll_spec (ps : List Path) (h : ps ≠ []) (r : Path) :
    Path.isAnc r (lcpAll ps) = true ↔ ∀ q ∈ ps, Path.isAnc r q = true :=
  isAnc_lcpAll r h

/-- The LCA reconciliation is valid, contains no transfer, and its cost is
    finite for EVERY cost vector, also when the transfer cost is infinite. -/
theorem C07_valid (c : Costs) (o : OTree) :
    Spec.validRec o (lcaSol o) = true ∧ Spec.validSol .plain o (lcaSol o) = true ∧
      (lcaSol o).transferFree = true ∧ famsMatch o (lcaSol o) = true ∧
      ∃ n, recCost c o (lcaSol o) = .fin n :=
  ⟨lcaSol_validRec o, C04.C04_lca o, lcaSol_transferFree o, lcaSol_famsMatch o,
   dlCost c (lcaSol o), recCost_of_transferFree c o _ (lcaSol_validRec o) (lcaSol_transferFree o)⟩

theorem C07_total_plain (c : Costs) (o : OTree) (sol : Sol) :
    totalCost c .plain o sol = recCost c o sol := totalCost_plain c o sol

/-- Every valid transfer-free reconciliation maps the root to an
    ancestor-or-equal of the LCA image and costs at least as much as the LCA
    reconciliation (whatever the transfer cost). -/
theorem C07_opt_transferFree (c : Costs) (hc : c.spe ≤ c.dup + 2 * c.floss) (o : OTree) (sol : Sol)
    (hv : Spec.validRec o sol = true) (ht : sol.transferFree = true) :
    Path.isAnc sol.sp (lcaSol o).sp = true ∧
      Cost.le (recCost c o (lcaSol o)) (recCost c o sol) = true := by
  obtain ⟨ha, hle, -⟩ := dl_lower_unique c hc o sol hv ht
  refine ⟨ha, ?_⟩
  rw [recCost_of_transferFree c o _ (lcaSol_validRec o) (lcaSol_transferFree o),
    recCost_of_transferFree c o sol hv ht]
  have := Nat.mul_le_mul_left c.floss (Path.length_le_of_isAnc ha)
  simp only [dlPot, Cost.le, Cost.lt, Bool.not_eq_true', decide_eq_false_iff_not] at hle ⊢
  omega

/-- With transfers forbidden the LCA reconciliation has minimum cost among all
    valid reconciliations. -/
theorem C07_opt (c : Costs) (hh : c.hgt = .inf) (hc : c.spe ≤ c.dup + 2 * c.floss)
    (o : OTree) (sol : Sol) (hv : Spec.validRec o sol = true) :
    Cost.le (recCost c o (lcaSol o)) (recCost c o sol) = true := by
  cases ht : sol.transferFree
  · rw [recCost_of_transfer c hh o sol hv ht]; exact Cost.le_inf _
  · exact (C07_opt_transferFree c hc o sol hv ht).2

/-- The property's setting: speciation cost 0, any duplication and loss costs. -/
theorem C07_opt_spe0 (c : Costs) (hh : c.hgt = .inf) (hs : c.spe = 0)
    (o : OTree) (sol : Sol) (hv : Spec.validRec o sol = true) :
    Cost.le (recCost c o (lcaSol o)) (recCost c o sol) = true :=
  C07_opt c hh (by omega) o sol hv

/-- With transfers forbidden and a positive loss cost, a valid reconciliation
    of the same cost as the LCA reconciliation has the same species at every node. -/
theorem C07_unique (c : Costs) (hh : c.hgt = .inf) (hc : c.spe ≤ c.dup + 2 * c.floss)
    (hf : 0 < c.floss) (o : OTree) (sol : Sol) (hv : Spec.validRec o sol = true)
    (heq : recCost c o sol = recCost c o (lcaSol o)) :
    sol.eraseFam = (lcaSol o).eraseFam := by
  have hl := recCost_of_transferFree c o _ (lcaSol_validRec o) (lcaSol_transferFree o)
  cases ht : sol.transferFree
  · rw [recCost_of_transfer c hh o sol hv ht, hl] at heq
    cases heq
  · rw [recCost_of_transferFree c o sol hv ht, hl] at heq
    have heq' : dlCost c sol = dlCost c (lcaSol o) := by injection heq
    obtain ⟨ha, -, hu⟩ := dl_lower_unique c hc o sol hv ht
    have := Nat.mul_le_mul_left c.floss (Path.length_le_of_isAnc ha)
    exact hu hf (by unfold dlPot; omega)

/-- Equality of solutions, for solutions carrying the plain annotations. -/
theorem C07_unique_plain (c : Costs) (hh : c.hgt = .inf) (hc : c.spe ≤ c.dup + 2 * c.floss)
    (hf : 0 < c.floss) (o : OTree) (sol : Sol) (hv : Spec.validRec o sol = true)
    (hm : famsMatch o sol = true) (heq : recCost c o sol = recCost c o (lcaSol o)) :
    sol = lcaSol o :=
  eq_of_eraseFam_eq o sol (lcaSol o) hm (lcaSol_famsMatch o) (C07_unique c hh hc hf o sol hv heq)

/-- In the oracle's terms: among all valid mappings into the species tree `S`
    (`Spec.allValid`), only the LCA reconciliation attains the LCA cost. -/
theorem C07_unique_allValid (c : Costs) (hh : c.hgt = .inf) (hc : c.spe ≤ c.dup + 2 * c.floss)
    (hf : 0 < c.floss) (S : RTree) (o : OTree) (sol : Sol) (hm : sol ∈ Spec.allValid S o)
    (heq : recCost c o sol = recCost c o (lcaSol o)) : sol = lcaSol o := by
  simp only [Spec.allValid, List.mem_filter] at hm
  exact C07_unique_plain c hh hc hf o sol hm.2 (famsMatch_of_mem_allMappings S o sol hm.1) heq

/-- The LCA reconciliation is one of the oracle's candidates: when the leaf
    species are nodes of the species tree, so is every LCA image. -/
theorem C07_mem_allValid (S : RTree) (o : OTree) (h : ∀ q ∈ o.leafSpecies, S.isNode q = true) :
    lcaSol o ∈ Spec.allValid S o := lcaSol_mem_allValid S o h

/-- Oracle form of optimality (any loss cost): the LCA reconciliation is a
    minimum-cost member of `Spec.allValid S o`. -/
theorem C07_optimal_mem (c : Costs) (hh : c.hgt = .inf) (hc : c.spe ≤ c.dup + 2 * c.floss)
    (S : RTree) (o : OTree) (h : ∀ q ∈ o.leafSpecies, S.isNode q = true) :
    lcaSol o ∈ Spec.allValid S o ∧
      ∀ s' ∈ Spec.allValid S o, Cost.le (recCost c o (lcaSol o)) (recCost c o s') = true := by
  refine ⟨lcaSol_mem_allValid S o h, fun s' hs' => ?_⟩
  simp only [Spec.allValid, List.mem_filter] at hs'
  exact C07_opt c hh hc o s' hs'.2

/-- Oracle form of uniqueness: for a positive loss cost the set of minimum-cost
    valid mappings into `S` is exactly `{lcaSol o}`. -/
theorem C07_optimal_set (c : Costs) (hh : c.hgt = .inf) (hc : c.spe ≤ c.dup + 2 * c.floss)
    (hf : 0 < c.floss) (S : RTree) (o : OTree) (h : ∀ q ∈ o.leafSpecies, S.isNode q = true)
    (sol : Sol) :
    (sol ∈ Spec.allValid S o ∧
      ∀ s' ∈ Spec.allValid S o, Cost.le (recCost c o sol) (recCost c o s') = true)
      ↔ sol = lcaSol o := by
  constructor
  · rintro ⟨hm, hmin⟩
    have hv : Spec.validRec o sol = true := by
      simp only [Spec.allValid, List.mem_filter] at hm; exact hm.2
    have h1 := hmin _ (lcaSol_mem_allValid S o h)
    have h2 := C07_opt c hh hc o sol hv
    exact C07_unique_allValid c hh hc hf S o sol hm (Cost.le_antisymm h1 h2)
  · rintro rfl
    exact C07_optimal_mem c hh hc S o h

/-- Equivalently: any valid reconciliation with a different species mapping is
    strictly more expensive. -/
theorem C07_strict (c : Costs) (hh : c.hgt = .inf) (hc : c.spe ≤ c.dup + 2 * c.floss)
    (hf : 0 < c.floss) (o : OTree) (sol : Sol) (hv : Spec.validRec o sol = true)
    (hne : sol.eraseFam ≠ (lcaSol o).eraseFam) :
    Cost.lt (recCost c o (lcaSol o)) (recCost c o sol) = true := by
  rcases Cost.trichotomy (recCost c o (lcaSol o)) (recCost c o sol) with h | h | h
  · exact absurd (C07_unique c hh hc hf o sol hv h.symm) hne
  · exact h
  · have := C07_opt c hh hc o sol hv
    simp [Cost.le, h] at this

theorem C07_unique_spe0 (c : Costs) (hh : c.hgt = .inf) (hs : c.spe = 0) (hf : 0 < c.floss)
    (o : OTree) (sol : Sol) (hv : Spec.validRec o sol = true)
    (heq : recCost c o sol = recCost c o (lcaSol o)) :
    sol.eraseFam = (lcaSol o).eraseFam :=
  C07_unique c hh (by omega) hf o sol hv heq

theorem C07_unique_plain_spe0 (c : Costs) (hh : c.hgt = .inf) (hs : c.spe = 0) (hf : 0 < c.floss)
    (o : OTree) (sol : Sol) (hv : Spec.validRec o sol = true) (hm : famsMatch o sol = true)
    (heq : recCost c o sol = recCost c o (lcaSol o)) : sol = lcaSol o :=
  C07_unique_plain c hh (by omega) hf o sol hv hm heq

/-- ((A,B),A) in the species tree (A,B): the LCA mapping has one speciation,
    one duplication and one loss. -/
def exO : OTree := .node (.node (.leaf [0] []) (.leaf [1] [])) (.leaf [0] [])
def exC : Costs := { spe := 0, dup := 2, hgt := .inf, floss := 3, sloss := 1 }

example : lcaSol exO = .node [] [] (.node [] [] (.leaf [0] []) (.leaf [1] [])) (.leaf [0] []) := by
  decide +kernel
example : mapsToLca exO (lcaSol exO) := C07_is_lca exO
example : recCost exC exO (lcaSol exO) = .fin 5 := by decide +kernel
example : exC.hgt = .inf ∧ exC.spe ≤ exC.dup + 2 * exC.floss ∧ 0 < exC.floss := by decide +kernel

example : ∀ q ∈ exO.leafSpecies, (RTree.node [.node [], .node []]).isNode q = true := by
  decide +kernel

/-- A valid competitor containing a transfer (the inner node sits in A and
    sends its right child to B): it costs `inf` when transfers are forbidden. -/
def exT : Sol := .node [] [] (.node [0] [] (.leaf [0] []) (.leaf [1] [])) (.leaf [0] [])
example : Spec.validRec exO exT = true ∧ exT.transferFree = false ∧
    recCost exC exO exT = .inf := by decide +kernel
example : Cost.le (recCost exC exO (lcaSol exO)) (recCost exC exO exT) = true :=
  C07_opt exC rfl (by decide +kernel) exO exT (by decide +kernel)

/-- Uniqueness needs a positive loss cost: with `floss = 0` (and `dup = 0`)
    two different valid mappings of ((A1,A2),B) into ((A1,A2),B) tie. -/
def exO2 : OTree := .node (.node (.leaf [0, 0] []) (.leaf [0, 1] [])) (.leaf [1] [])
def exS2 : Sol := .node [] [] (.node [] [] (.leaf [0, 0] []) (.leaf [0, 1] [])) (.leaf [1] [])
def exC0 : Costs := { spe := 0, dup := 0, hgt := .inf, floss := 0, sloss := 1 }
example : Spec.validRec exO2 exS2 = true ∧ exS2 ≠ lcaSol exO2 ∧
    recCost exC0 exO2 exS2 = recCost exC0 exO2 (lcaSol exO2) := by decide +kernel

/-- Optimality needs `spe ≤ dup + 2·floss`: outside it, raising a node to turn
    a speciation into a duplication is cheaper. -/
def exCbad : Costs := { spe := 3, dup := 0, hgt := .inf, floss := 1, sloss := 1 }
example : Spec.validRec exO2 exS2 = true ∧
    Cost.lt (recCost exCbad exO2 exS2) (recCost exCbad exO2 (lcaSol exO2)) = true := by
  decide +kernel

end SR.C07
