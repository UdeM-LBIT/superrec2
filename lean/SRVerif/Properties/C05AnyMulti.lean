/-
  C05, policy ANY, the multifurcation loop of `_spfs` / `_uspfs`
  (`sreconcile_{base,extended}_spfs`, `usreconcile_{base,extended}_uspfs` on an input with
  polytomies).

  Model (`Model/AnyMulti.lean`): the code creates ONE result entry before the loop over
  `rec_input.binarize()`; each refined input builds its tables under the given policy and
  offers every decoded output to that entry.  Under ANY a refined input therefore offers
  one output per finite root cell (`spfsCandsAny`, `uspfsCandsAny`: the lists ranked by
  `spfsAny`, `uspfsAny` of `Model/LabelDPAny.lean`), and the entry keeps one of minimum
  evaluated cost among everything offered by all pairs of refinements
  (`spfsMultiAny`, `uspfsMultiAny` = `rankOutsAny pick …`).  All theorems hold for EVERY
  valid table `Picker` `P` and every valid selection function `pick` of the result entry,
  hence for every order in which candidates may be offered.

  The `…_nested_…` theorems are the same for the variant in which every refined input is
  first solved to the end under ANY (`spfsAny` / `uspfsAny`, own result entry) and the single
  outputs are offered to an outer entry under ANY.

  Guards as in C05Any / C08Opt: ordered `spe + 2·sloss ≤ dup + 2·floss`, non-empty leaf
  syntenies, root orders not prescribed (or `OrdersOk` on every pair: `…_of_orders`);
  unordered `spe + sloss ≤ dup + 2·floss`.  Outside the coherent region membership can
  fail already for a binary input (`C05_any_incoherent_witness`).
-/
import SRVerif.Proofs.AnyMulti
import SRVerif.Properties.C05Any
import SRVerif.Properties.C08OptUn

namespace SR.C05

open SR SR.Bin Cost

/-- Membership through the multifurcation loop, for any candidate functions: it is enough
    that every pair of `binarize × binarize` whose species tree contains the leaf species
    `Covers`. -/
theorem any_mem_multi {pick : List Out → Option Out} (hp : PickOk pick) {c : Costs}
    {mode : LabelMode} {tO tS : NTree} {data : LeafData} {candsAny candsAll : RTree → OTree → List Sol}
    (hok : C08.InputOk tO tS data)
    (hcov : ∀ bO ∈ binarize tO, ∀ bS ∈ binarize tS,
      (∀ p ∈ leafSpecies (toOTree data bS bO), (shape bS.toN).isNode p = true) →
      Covers c mode (toOTree data bS bO) (candsAny (shape bS.toN) (toOTree data bS bO))
        (candsAll (shape bS.toN) (toOTree data bS bO))) :
    ∀ x ∈ rankOutsAny pick c mode data (multiCands tO tS data candsAny),
      x ∈ rankOuts c mode data (multiCands tO tS data candsAll) :=
  fun _ hx => rank_multi_any_sub c mode tO tS data _ _
    (fun bO hbO bS hbS => hcov bO hbO bS hbS (C08.C08_leafSpecies_isNode hok hbO hbS))
    (hp.mem_of_mem_toList hx)

section spfs

variable (P : Picker Nat) (hP : P.Ok) (pick : List Out → Option Out) (hp : PickOk pick)
  (c : Costs) (base : Bool) (tO tS : NTree) (data : LeafData) (pre : Option (List Nat))

theorem C05_any_card_multi_spfs : (spfsMultiAny P pick c base tO tS data pre).length ≤ 1 :=
  rankOutsAny_length_le _ _ _ _ _

theorem C05_any_card_multi_nested_spfs :
    (spfsMultiAnyNested P pick c base tO tS data pre).length ≤ 1 :=
  rankOutsAny_length_le _ _ _ _ _

include hP hp

/-- Empty results coincide (no hypothesis on the costs or on the trees). -/
theorem C05_any_empty_iff_multi_spfs :
    spfsMultiAny P pick c base tO tS data pre = [] ↔ spfsMulti c base tO tS data pre = [] := by
  unfold spfsMultiAny spfsMulti
  rw [rankOutsAny_eq_nil_iff pick c .ordered data hp, rankOuts_nil_iff]
  exact multiCands_nil_congr fun _ _ _ _ =>
    repG_nil_iff (spfs_hcl c _ base _ pre) (spfs_repG P hP c _ base _ pre)

theorem C05_any_empty_iff_multi_nested_spfs :
    spfsMultiAnyNested P pick c base tO tS data pre = [] ↔ spfsMulti c base tO tS data pre = [] := by
  unfold spfsMultiAnyNested spfsMulti
  rw [rankOutsAny_eq_nil_iff pick c .ordered data hp, rankOuts_nil_iff]
  refine multiCands_nil_congr (fun bO _ bS _ => ?_)
  rw [C05_any_empty_iff_spfs P hP c _ base _ pre, spfs_eq_rank, C05_empty_iff]

/-- Exactly one output whenever the ALL result is not empty. -/
theorem C05_any_total_multi_spfs (hne : spfsMulti c base tO tS data pre ≠ []) :
    (spfsMultiAny P pick c base tO tS data pre).length = 1 :=
  Nat.le_antisymm (C05_any_card_multi_spfs P pick c base tO tS data pre) (List.length_pos_iff.mpr
    fun h => hne ((C05_any_empty_iff_multi_spfs P hP pick hp c base tO tS data pre).mp h))

omit hp in
/-- Inside the coherent region the tables under ANY `Covers` on every pair of refinements. -/
theorem spfs_covers
    (hord : ∀ bO ∈ binarize tO, ∀ bS ∈ binarize tS, C02.OrdersOk (toOTree data bS bO) pre)
    (hok : C08.InputOk tO tS data) (hcoh : c.spe + 2 * c.sloss ≤ c.dup + 2 * c.floss) :
    ∀ bO ∈ binarize tO, ∀ bS ∈ binarize tS,
      Covers c .ordered (toOTree data bS bO)
        (spfsCandsAny P c (shape bS.toN) base (toOTree data bS bO) pre)
        (spfsCands c (shape bS.toN) base (toOTree data bS bO) pre) :=
  fun bO hbO bS hbS =>
    covers_of_rep (spfs_hcl c _ base _ pre) (spfs_repG P hP c _ base _ pre)
      (spfs_uniform c _ base _ pre (hord bO hbO bS hbS) (isBinary_shape bS)
        (C08.C08_leafSpecies_isNode hok hbO hbS) hcoh)

/-- Membership, given the guards of C05Any on every pair of `binarize × binarize`. -/
theorem C05_any_mem_multi_spfs_of_orders
    (hord : ∀ bO ∈ binarize tO, ∀ bS ∈ binarize tS, C02.OrdersOk (toOTree data bS bO) pre)
    (hok : C08.InputOk tO tS data) (hcoh : c.spe + 2 * c.sloss ≤ c.dup + 2 * c.floss) :
    ∀ x ∈ spfsMultiAny P pick c base tO tS data pre, x ∈ spfsMulti c base tO tS data pre :=
  fun _ hx => rank_multi_any_sub c .ordered tO tS data _ _
    (spfs_covers P hP c base tO tS data pre hord hok hcoh) (hp.mem_of_mem_toList hx)

theorem C05_any_mem_multi_nested_spfs_of_orders
    (hord : ∀ bO ∈ binarize tO, ∀ bS ∈ binarize tS, C02.OrdersOk (toOTree data bS bO) pre)
    (hok : C08.InputOk tO tS data) (hcoh : c.spe + 2 * c.sloss ≤ c.dup + 2 * c.floss) :
    ∀ x ∈ spfsMultiAnyNested P pick c base tO tS data pre, x ∈ spfsMulti c base tO tS data pre :=
  any_mem_multi hp hok fun bO hbO bS hbS hS => by
    -- each refined input, solved to the end under ANY, offers an arg-minimum of its candidates
    apply covers_of_ranked
    · intro s hs
      rw [← spfs_eq_rank]
      exact C05_any_mem_spfs P hP c _ base _ pre (hord bO hbO bS hbS) (isBinary_shape bS) hS hcoh s hs
    · intro hne h
      have := (C05_any_empty_iff_spfs P hP c _ base _ pre).mp h
      rw [spfs_eq_rank] at this
      exact hne ((C05_empty_iff c .ordered _ _).mp this)

end spfs

section spfs_none

variable (P : Picker Nat) (hP : P.Ok) (pick : List Out → Option Out) (hp : PickOk pick)
  (c : Costs) (base : Bool) (tO tS : NTree) (data : LeafData)

/-- Non-empty leaf syntenies give `OrdersOk` on every pair of refinements. -/
theorem orders_ok_of_ne (hok : C08.InputOk tO tS data) (hne : ∀ i ∈ tO.leaves, (data i).2 ≠ []) :
    ∀ bO ∈ binarize tO, ∀ bS ∈ binarize tS, C02.OrdersOk (toOTree data bS bO) none :=
  fun _ hbO _ hbS => C02.C02_orders_ok _ (C08.C08_guards_of_mem tO tS data hok hne hbO hbS).1

include hP hp

/-- C05 (`any` ∈ `all`) through the multifurcation loop, ordered solvers: on a
    well-formed input with non-empty leaf syntenies, inside the coherent region, the single
    output kept under ANY is one of the outputs kept under ALL — whatever the order in which
    the tables and the result entry are offered their candidates. -/
theorem C05_any_mem_multi_spfs (hok : C08.InputOk tO tS data)
    (hne : ∀ i ∈ tO.leaves, (data i).2 ≠ [])
    (hcoh : c.spe + 2 * c.sloss ≤ c.dup + 2 * c.floss) :
    ∀ x ∈ spfsMultiAny P pick c base tO tS data none, x ∈ spfsMulti c base tO tS data none :=
  C05_any_mem_multi_spfs_of_orders P hP pick hp c base tO tS data none
    (orders_ok_of_ne tO tS data hok hne) hok hcoh

theorem C05_any_mem_multi_nested_spfs (hok : C08.InputOk tO tS data)
    (hne : ∀ i ∈ tO.leaves, (data i).2 ≠ [])
    (hcoh : c.spe + 2 * c.sloss ≤ c.dup + 2 * c.floss) :
    ∀ x ∈ spfsMultiAnyNested P pick c base tO tS data none, x ∈ spfsMulti c base tO tS data none :=
  C05_any_mem_multi_nested_spfs_of_orders P hP pick hp c base tO tS data none
    (orders_ok_of_ne tO tS data hok hne) hok hcoh

/-- Both policies agree on the cost. -/
theorem C05_any_same_cost_multi_spfs (hok : C08.InputOk tO tS data)
    (hne : ∀ i ∈ tO.leaves, (data i).2 ≠ [])
    (hcoh : c.spe + 2 * c.sloss ≤ c.dup + 2 * c.floss) :
    ∀ x ∈ spfsMultiAny P pick c base tO tS data none, ∀ y ∈ spfsMulti c base tO tS data none,
      x.cost c .ordered data = y.cost c .ordered data :=
  fun x hx _ hy => rankOuts_same_cost c .ordered data _
    (C05_any_mem_multi_spfs P hP pick hp c base tO tS data hok hne hcoh x hx) hy

theorem C05_any_same_cost_multi_nested_spfs (hok : C08.InputOk tO tS data)
    (hne : ∀ i ∈ tO.leaves, (data i).2 ≠ [])
    (hcoh : c.spe + 2 * c.sloss ≤ c.dup + 2 * c.floss) :
    ∀ x ∈ spfsMultiAnyNested P pick c base tO tS data none,
      ∀ y ∈ spfsMulti c base tO tS data none, x.cost c .ordered data = y.cost c .ordered data :=
  fun x hx _ hy => rankOuts_same_cost c .ordered data _
    (C05_any_mem_multi_nested_spfs P hP pick hp c base tO tS data hok hne hcoh x hx) hy

/-- The single ANY output of the extended ordered solver is an optimum over all binary
    refinements: it refers to a pair of binary refinements (keeping clades, names,
    colours) with the original leaf data, carries a valid optimal solution of that binary
    input, of finite cost, and its cost is the minimum over ALL pairs of binary refinements
    (specification sense, any child order) of the optimum of the binary input. -/
theorem C05_any_opt_multi_spfs (hok : C08.InputOk tO tS data)
    (hne : ∀ i ∈ tO.leaves, (data i).2 ≠ [])
    (hcoh : c.spe + 2 * c.sloss ≤ c.dup + 2 * c.floss) :
    ∀ x ∈ spfsMultiAny P pick c false tO tS data none,
      C08.Refers tO tS data x ∧
      C09.IsOptimal c .ordered (toOTree data x.sTree x.oTree) x.sol ∧
      x.cost c .ordered data ≠ .inf ∧
      C08.IsRefinementOptimum c .ordered tO tS data (x.cost c .ordered data) :=
  fun x hx => C08.C08_opt_refinements_spfs c tO tS data hok hne hcoh x
    (C05_any_mem_multi_spfs P hP pick hp c false tO tS data hok hne hcoh x hx)

end spfs_none

section uspfs

variable (P : Picker Kind) (hP : P.Ok) (pick : List Out → Option Out) (hp : PickOk pick)
  (c : Costs) (base : Bool) (tO tS : NTree) (data : LeafData)

theorem C05_any_card_multi_uspfs : (uspfsMultiAny P pick c base tO tS data).length ≤ 1 :=
  rankOutsAny_length_le _ _ _ _ _

theorem C05_any_card_multi_nested_uspfs :
    (uspfsMultiAnyNested P pick c base tO tS data).length ≤ 1 :=
  rankOutsAny_length_le _ _ _ _ _

include hP hp

/-- Empty results coincide (no hypothesis on the costs or on the trees). -/
theorem C05_any_empty_iff_multi_uspfs :
    uspfsMultiAny P pick c base tO tS data = [] ↔ uspfsMulti c base tO tS data = [] := by
  unfold uspfsMultiAny uspfsMulti
  rw [rankOutsAny_eq_nil_iff pick c .unordered data hp, rankOuts_nil_iff]
  exact multiCands_nil_congr fun _ _ _ _ =>
    repG_nil_iff (uspfs_hcl c _ base _) (uspfs_repG P hP c _ base _)

theorem C05_any_empty_iff_multi_nested_uspfs :
    uspfsMultiAnyNested P pick c base tO tS data = [] ↔ uspfsMulti c base tO tS data = [] := by
  unfold uspfsMultiAnyNested uspfsMulti
  rw [rankOutsAny_eq_nil_iff pick c .unordered data hp, rankOuts_nil_iff]
  refine multiCands_nil_congr (fun bO _ bS _ => ?_)
  rw [C05_any_empty_iff_uspfs P hP c _ base _, uspfs_eq_rank, C05_empty_iff]

/-- The extended unordered solver under ANY returns exactly one output on every well-formed
    input (every cost vector). -/
theorem C05_any_total_multi_uspfs (hok : C08.InputOk tO tS data) :
    (uspfsMultiAny P pick c false tO tS data).length = 1 :=
  Nat.le_antisymm (C05_any_card_multi_uspfs P pick c false tO tS data) (List.length_pos_iff.mpr
    fun h => C08.C08_opt_refinements_uspfs_nonempty c tO tS data hok
      ((C05_any_empty_iff_multi_uspfs P hP pick hp c false tO tS data).mp h))

omit hp in
theorem uspfs_covers (hok : C08.InputOk tO tS data) (hcoh : c.spe + c.sloss ≤ c.dup + 2 * c.floss) :
    ∀ bO ∈ binarize tO, ∀ bS ∈ binarize tS,
      Covers c .unordered (toOTree data bS bO)
        (uspfsCandsAny P c (shape bS.toN) base (toOTree data bS bO))
        (uspfsCands c (shape bS.toN) base (toOTree data bS bO)) :=
  fun _ hbO bS hbS =>
    covers_of_rep (uspfs_hcl c _ base _) (uspfs_repG P hP c _ base _)
      (uspfs_uniform c _ base _ (C03.C03_kinds_faithful_all c _ base _) (isBinary_shape bS)
        (C08.C08_leafSpecies_isNode hok hbO hbS) hcoh)

/-- C05 (`any` ∈ `all`) through the multifurcation loop, unordered solvers. -/
theorem C05_any_mem_multi_uspfs (hok : C08.InputOk tO tS data)
    (hcoh : c.spe + c.sloss ≤ c.dup + 2 * c.floss) :
    ∀ x ∈ uspfsMultiAny P pick c base tO tS data, x ∈ uspfsMulti c base tO tS data :=
  fun _ hx => rank_multi_any_sub c .unordered tO tS data _ _
    (uspfs_covers P hP c base tO tS data hok hcoh) (hp.mem_of_mem_toList hx)

theorem C05_any_mem_multi_nested_uspfs (hok : C08.InputOk tO tS data)
    (hcoh : c.spe + c.sloss ≤ c.dup + 2 * c.floss) :
    ∀ x ∈ uspfsMultiAnyNested P pick c base tO tS data, x ∈ uspfsMulti c base tO tS data :=
  any_mem_multi hp hok fun _ _ bS _ hS => by
    apply covers_of_ranked
    · intro s hs
      rw [← uspfs_eq_rank]
      exact C05_any_mem_uspfs_partial P hP c _ base _ (C03.C03_kinds_faithful_all c _ base _)
        (isBinary_shape bS) hS hcoh s hs
    · intro hne h
      have := (C05_any_empty_iff_uspfs P hP c _ base _).mp h
      rw [uspfs_eq_rank] at this
      exact hne ((C05_empty_iff c .unordered _ _).mp this)

/-- Both policies agree on the cost. -/
theorem C05_any_same_cost_multi_uspfs (hok : C08.InputOk tO tS data)
    (hcoh : c.spe + c.sloss ≤ c.dup + 2 * c.floss) :
    ∀ x ∈ uspfsMultiAny P pick c base tO tS data, ∀ y ∈ uspfsMulti c base tO tS data,
      x.cost c .unordered data = y.cost c .unordered data :=
  fun x hx _ hy => rankOuts_same_cost c .unordered data _
    (C05_any_mem_multi_uspfs P hP pick hp c base tO tS data hok hcoh x hx) hy

theorem C05_any_same_cost_multi_nested_uspfs (hok : C08.InputOk tO tS data)
    (hcoh : c.spe + c.sloss ≤ c.dup + 2 * c.floss) :
    ∀ x ∈ uspfsMultiAnyNested P pick c base tO tS data, ∀ y ∈ uspfsMulti c base tO tS data,
      x.cost c .unordered data = y.cost c .unordered data :=
  fun x hx _ hy => rankOuts_same_cost c .unordered data _
    (C05_any_mem_multi_nested_uspfs P hP pick hp c base tO tS data hok hcoh x hx) hy

/-- The single ANY output of the extended unordered solver is an optimum over all binary
    refinements (see `C05_any_opt_multi_spfs`). -/
theorem C05_any_opt_multi_uspfs (hok : C08.InputOk tO tS data)
    (hcoh : c.spe + c.sloss ≤ c.dup + 2 * c.floss) :
    ∀ x ∈ uspfsMultiAny P pick c false tO tS data,
      C08.Refers tO tS data x ∧
      C09.IsOptimal c .unordered (toOTree data x.sTree x.oTree) x.sol ∧
      x.cost c .unordered data ≠ .inf ∧
      C08.IsRefinementOptimum c .unordered tO tS data (x.cost c .unordered data) :=
  fun x hx => C08.C08_opt_refinements_uspfs c tO tS data hok hcoh x
    (C05_any_mem_multi_uspfs P hP pick hp c false tO tS data hok hcoh x hx)

end uspfs

/-! The trichotomy example of `C08Opt.lean` (object tree `(0, 1, 2)`, species tree
  `(10, 11, 12)`, 3 × 3 pairs of refinements, three of optimum 3 and six of optimum 2): the
  ALL result has 6 (ordered) / 14 (unordered) outputs of cost 2; under ANY two valid
  selection rules return two DIFFERENT single members of it. -/

open SR.C08 in
example :
    (∀ i ∈ exO.leaves, (exData i).2 ≠ []) ∧ exC.spe + 2 * exC.sloss ≤ exC.dup + 2 * exC.floss ∧
    (spfsMulti exC false exO exS exData none).length = 6 ∧
    (spfsMultiAny (Picker.first Nat) List.head? exC false exO exS exData none).length = 1 ∧
    (spfsMultiAny (Picker.last Nat) List.getLast? exC false exO exS exData none).length = 1 ∧
    spfsMultiAny (Picker.first Nat) List.head? exC false exO exS exData none ≠
      spfsMultiAny (Picker.last Nat) List.getLast? exC false exO exS exData none ∧
    (∀ x ∈ spfsMultiAny (Picker.first Nat) List.head? exC false exO exS exData none,
      x ∈ spfsMulti exC false exO exS exData none ∧ x.cost exC .ordered exData = .fin 2) ∧
    (∀ x ∈ spfsMultiAnyNested (Picker.last Nat) List.getLast? exC false exO exS exData none,
      x ∈ spfsMulti exC false exO exS exData none) := by
  have hne : ∀ i ∈ exO.leaves, (exData i).2 ≠ [] := by decide
  have hcoh : exC.spe + 2 * exC.sloss ≤ exC.dup + 2 * exC.floss := by decide
  obtain ⟨hidx, hlen, hcost, _⟩ := C08_example_spfs
  have hall : spfsMulti exC false exO exS exData none ≠ [] :=
    List.ne_nil_of_length_pos (by rw [hlen]; decide)
  have hmem := C05_any_mem_multi_spfs _ (Picker.first_ok Nat) _ pickOk_head? exC false _ _ _
    C08_example_ok hne hcoh
  have hord := orders_ok_of_ne exO exS exData C08_example_ok hne
  -- the ALL run has outputs on the pairs 3 and 8: `head?` stays on the first, `getLast?` on the last
  exact ⟨hne, hcoh, hlen,
    C05_any_total_multi_spfs _ (Picker.first_ok Nat) _ pickOk_head? _ _ _ _ _ _ hall,
    C05_any_total_multi_spfs _ (Picker.last_ok Nat) _ pickOk_getLast? _ _ _ _ _ _ hall,
    rank_multi_any_head_ne_last exC .ordered exO exS exData _ _
      (fun S o => spfsCands exC S false o none)
      (spfs_covers _ (Picker.first_ok Nat) exC false _ _ _ none hord C08_example_ok hcoh)
      (spfs_covers _ (Picker.last_ok Nat) exC false _ _ _ none hord C08_example_ok hcoh)
      exIdx exIdx_sorted (i := 3) (j := 8) (by rw [← spfsMulti, hidx]; decide)
      (by rw [← spfsMulti, hidx]; decide) (by decide),
    fun x hx => ⟨hmem x hx, hcost x (hmem x hx)⟩,
    C05_any_mem_multi_nested_spfs _ (Picker.last_ok Nat) _ pickOk_getLast? _ _ _ _ _
      C08_example_ok hne hcoh⟩

open SR.C08 in
example :
    exC.spe + exC.sloss ≤ exC.dup + 2 * exC.floss ∧
    (uspfsMulti exC false exO exS exData).length = 14 ∧
    (uspfsMultiAny (Picker.first Kind) List.head? exC false exO exS exData).length = 1 ∧
    uspfsMultiAny (Picker.first Kind) List.head? exC false exO exS exData ≠
      uspfsMultiAny (Picker.last Kind) List.getLast? exC false exO exS exData ∧
    (∀ x ∈ uspfsMultiAny (Picker.last Kind) List.getLast? exC false exO exS exData,
      x ∈ uspfsMulti exC false exO exS exData ∧ x.cost exC .unordered exData = .fin 2) ∧
    (∀ x ∈ uspfsMultiAnyNested (Picker.first Kind) List.head? exC false exO exS exData,
      x ∈ uspfsMulti exC false exO exS exData) := by
  have hcoh : exC.spe + exC.sloss ≤ exC.dup + 2 * exC.floss := by decide
  obtain ⟨hidx, hlen, hcost, _⟩ := C08_example_uspfs
  have hmem := C05_any_mem_multi_uspfs _ (Picker.last_ok Kind) _ pickOk_getLast? exC false _ _ _
    C08_example_ok hcoh
  exact ⟨hcoh, hlen,
    C05_any_total_multi_uspfs _ (Picker.first_ok Kind) _ pickOk_head? _ _ _ _ C08_example_ok,
    rank_multi_any_head_ne_last exC .unordered exO exS exData _ _
      (fun S o => uspfsCands exC S false o)
      (uspfs_covers _ (Picker.first_ok Kind) exC false _ _ _ C08_example_ok hcoh)
      (uspfs_covers _ (Picker.last_ok Kind) exC false _ _ _ C08_example_ok hcoh)
      exIdx exIdx_sorted (i := 3) (j := 8) (by rw [← uspfsMulti, hidx]; decide)
      (by rw [← uspfsMulti, hidx]; decide) (by decide),
    fun x hx => ⟨hmem x hx, hcost x (hmem x hx)⟩,
    C05_any_mem_multi_nested_uspfs _ (Picker.first_ok Kind) _ pickOk_head? _ _ _ _ _
      C08_example_ok hcoh⟩

end SR.C05
