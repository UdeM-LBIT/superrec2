/-
  C02 / C04 for the ordered solvers (`spfs`: base and extended): validity of what is returned
  for all unit costs, and the bound by the SEQUENCE oracle `Spec.optimum`.

  Input guards.  `OrdersOk o pre`: every root order tried is duplicate-free and has
  every leaf synteny as a non-empty subsequence (`C02_orders_ok`: automatic without a
  prescribed order when the leaf syntenies are non-empty; with a prescribed order it
  must be a duplicate-free common supersequence).  Species: `S` binary, leaf species
  are nodes of `S`.  Coherent region: `spe + 2·sloss ≤ dup + 2·floss`.

  `spfs` is the label-DP solver `spfsD` (`Proofs/DPSolverOrd.lean`): its candidates are the
  admissible mask labellings with a complete root mask and finite cost, over the root orders
  tried.  A candidate is a valid solution in mask clothing: `ordSol` turns it into a solution
  valid under the root order it was computed for, at the EVALUATED total cost `labCost`
  (`ordSol_cand`; `totalCost … .ordered` is `_cost_rec` + `_ordered_labeling_cost`; all unit
  costs, `sloss = 0` included), and `Spec.maskSol` turns such a solution back into a candidate
  (`spfsD_cand_iff`).  Hence, inside the coherent region, the result is exactly the finite optima
  over the valid solutions with allowed species (`spfs_exact_sols`); the specification oracle is
  not involved.  That the oracle's optimum is the minimum over all valid sequence-labelled
  solutions is `C02Spec.lean`.
-/
import SRVerif.Proofs.OptAdequacyPre
import SRVerif.Proofs.DPSolverOrd

namespace SR.C02

open SR Cost

variable (c : Costs) (S : RTree) (base : Bool) (o : OTree)

/-- Decoded solutions of the `base` table use the LCA mapping. -/
theorem speciesOk_ordSol (order : List Nat) : ∀ (t : OTree) (isRoot : Bool) (ls : LSol Nat),
    Adm (ordAlg c) (annOrd S true order isRoot t) ls →
      Spec.SpeciesOk S true t (ordSol order ls) := by
  intro t
  induction t with
  | leaf sp f => intro _ ls _; cases ls <;> simp [Spec.SpeciesOk]
  | node l r ihl ihr =>
    intro isRoot ls h
    simp only [annOrd] at h
    obtain ⟨s, m, x, y, rfl, hs, -, hx, hy⟩ := h.node_inv
    simp only [ordSol, Spec.SpeciesOk]
    exact ⟨by simpa [Spec.speciesSpace, ordAlg] using hs, ihl false x hx, ihr false y hy⟩

/-- (→) is `ordSol_cand` and the species, (←) is `Spec.maskSol`; all unit costs. -/
theorem spfsD_cand_iff (pre : Option (List Nat)) (hord : OrdersOk o pre)
    (hS : base = false → ∀ p ∈ leafSpecies o, S.isNode p = true) (σ : Sol) :
    (∃ k, (spfsD c S base o pre).Cand c k ∧ (spfsD c S base o pre).out k = σ) ↔
      (Spec.validSolPre .ordered o pre σ = true ∧ Spec.SpeciesOk S base o σ) ∧
        totalCost c .ordered o σ ≠ .inf := by
  constructor
  · rintro ⟨⟨order, ls⟩, ⟨ho, adm, hr, hfin⟩, rfl⟩
    obtain ⟨_, hv, hfam, hl, hbr⟩ :=
      ordSol_cand c S base o (hord _ ho).1 (hord _ ho).2 adm (eq_of_beq hr) hfin
    refine ⟨⟨(Spec.validSolPre_iff_rootOrder o pre _).mpr
      ⟨hv, hl, hfam.symm ▸ ho, hfam.symm ▸ (hord _ ho).1⟩, ?_⟩, hbr ▸ hfin⟩
    cases base with
    | false => exact Spec.speciesOk_of_valid S o _ (hS rfl) hv
    | true => exact speciesOk_ordSol c S order o true ls adm
  · rintro ⟨⟨hv, hs⟩, hfin⟩
    obtain ⟨hv', hl', ho', _⟩ := (Spec.validSolPre_iff_rootOrder o pre σ).mp hv
    obtain ⟨adm, hroot, hnz, hrt⟩ := Spec.maskSol_of_valid c S base o
      (leaves_ne_of_leavesOk o (hord _ ho').2) σ hv' hl' hs
    exact ⟨(σ.fam, Spec.maskSol σ.fam σ), ⟨ho', adm, beq_iff_eq.mpr hroot, by
      rw [← totalCost_ordSol c S base (hord _ ho').1 o _ adm hnz hroot, hrt]; exact hfin⟩, hrt⟩

/-- `spfs` is exact (C02 + C05, coherent region), for either variant and any prescribed root
    order; the fixed forms of `C02Spec.lean`, `C02Pre.lean` read this. -/
theorem spfs_exact_sols (pre : Option (List Nat)) (hord : OrdersOk o pre)
    (hb : S.isBinary = true) (hS : ∀ p ∈ leafSpecies o, S.isNode p = true)
    (hcoh : c.spe + 2 * c.sloss ≤ c.dup + 2 * c.floss) (σ : Sol) :
    σ ∈ spfs c S base o pre ↔
      IsOptimalFor (fun σ => Spec.validSolPre .ordered o pre σ = true ∧ Spec.SpeciesOk S base o σ)
        (totalCost c .ordered o) σ ∧ totalCost c .ordered o σ ≠ .inf :=
  (spfsD c S base o pre).mem_rank_space c S (ord_slack c) hb (spfsD_spOk c S base o pre hS) hcoh
    (spfsD_bridge c S base o pre hord) _ (spfsD_cand_iff c S base o pre hord fun _ => hS) σ

theorem mem_spfsCellsFor {keep : Bool} {order : List Nat} {d : DCell Nat} :
    d ∈ spfsCellsFor c S base keep o order ↔
      d ∈ dpTable (ordAlg c) c S keep (annOrd S base order true o) ∧
        d.lab = 2 ^ order.length - 1 := by
  simp [spfsCellsFor, List.mem_filter]

/-- **C04 (reconciliation and cost clauses) for the ordered solvers**: every returned
    solution is a valid reconciliation whose evaluated total cost is finite, and its
    root synteny is one of the root orders — for all unit costs. -/
theorem C02_spfs_finite (pre : Option (List Nat)) (hord : OrdersOk o pre) :
    ∀ sol ∈ spfs c S base o pre,
      Spec.validRec o sol = true ∧ sol.fam ∈ rootOrders o pre ∧
        totalCost c .ordered o sol ≠ .inf := by
  intro sol hsol
  obtain ⟨k, ⟨ho, adm, hr, hfin⟩, rfl⟩ :=
    (spfsD c S base o pre).cand_of_mem_rank c S (ord_slack c) hsol
  obtain ⟨_, hv, hfam, _, hbr⟩ :=
    ordSol_cand c S base o (hord _ ho).1 (hord _ ho).2 adm (eq_of_beq hr) hfin
  exact ⟨hv, hfam.symm ▸ ho, hbr ▸ hfin⟩

/-- **C04 for the ordered solvers** (all unit costs, `sloss = 0` included): every
    returned solution is a valid ordered super-reconciliation (`Spec.validSol .ordered`:
    shape, leaf species, no INVALID event, leaf syntenies as given, child ⊑ parent,
    root = every family once) of finite evaluated cost.  `hperm` is automatic without
    a prescribed root order (`rootOrders_perm`). -/
theorem C02_spfs_valid (pre : Option (List Nat)) (hord : OrdersOk o pre)
    (hperm : ∀ order ∈ rootOrders o pre, Spec.isPermOf order (families o) = true ∧
      (order.length == (dedup order).length) = true) :
    ∀ sol ∈ spfs c S base o pre,
      Spec.validSol .ordered o sol = true ∧ totalCost c .ordered o sol ≠ .inf := by
  intro sol hsol
  obtain ⟨k, ⟨ho, adm, hr, hfin⟩, rfl⟩ :=
    (spfsD c S base o pre).cand_of_mem_rank c S (ord_slack c) hsol
  obtain ⟨_, hv, hfam, hl, hbr⟩ :=
    ordSol_cand c S base o (hord _ ho).1 (hord _ ho).2 adm (eq_of_beq hr) hfin
  refine ⟨?_, hbr ▸ hfin⟩
  simp only [Spec.validSol, DPSolver.out, hv, hl, hfam, (hperm _ ho).1, (hperm _ ho).2,
    Bool.and_self]

/-- **Against the specification oracle** (`Spec.optimum`: minimum over root orders of the tree
    recursion "minimum over the states of both children of the evaluator's local cost", over
    SEQUENCE labellings), coherent region: a returned solution is optimal among the valid
    solutions (`spfs_exact_sols`), so it costs the oracle's optimum.  Both variants (`base`
    restricts oracle and solver to the LCA mapping). -/
theorem C02_spfs_cost (pre : Option (List Nat)) (hord : OrdersOk o pre)
    (hb : S.isBinary = true) (hS : ∀ p ∈ leafSpecies o, S.isNode p = true)
    (hcoh : c.spe + 2 * c.sloss ≤ c.dup + 2 * c.floss) (keep : Bool) :
    ∀ sol ∈ spfs c S base o pre,
      totalCost c .ordered o sol = (Spec.optimum c S .ordered base keep o pre).1 := by
  intro sol hsol
  obtain ⟨hopt, _⟩ := (spfs_exact_sols c S base o pre hord hb hS hcoh sol).mp hsol
  exact (Spec.adequate_ord c S base o pre (rootsOk_of_valid hopt.1.1)).cost_of_exact keep hopt

/-- **C02**, the conclusion of `C02_statement` (`C02.lean`) for both solvers
    (`base = false` extended, `base = true` LCA mapping) and any root orders satisfying
    the input guards: inside the coherent region every returned solution is a valid
    ordered super-reconciliation and costs no more than the specification's optimum. -/
theorem C02_spfs (pre : Option (List Nat)) (hord : OrdersOk o pre)
    (hperm : ∀ order ∈ rootOrders o pre, Spec.isPermOf order (families o) = true ∧
      (order.length == (dedup order).length) = true)
    (hb : S.isBinary = true) (hS : ∀ p ∈ leafSpecies o, S.isNode p = true)
    (hcoh : c.spe + 2 * c.sloss ≤ c.dup + 2 * c.floss) :
    ∀ sol ∈ spfs c S base o pre,
      Spec.validSol .ordered o sol = true ∧
      Cost.le (totalCost c .ordered o sol) (Spec.optimum c S .ordered base false o pre).1 = true :=
  fun sol h => ⟨(C02_spfs_valid c S base o pre hord hperm sol h).1,
    le_of_eq (C02_spfs_cost c S base o pre hord hb hS hcoh false sol h)⟩

/-- A coherent, well-formed input (`ab` / `b`) on which the hypotheses hold and the solver returns something. -/
example :
    let c : Costs := { spe := 1, dup := 1, hgt := .fin 1, floss := 1, sloss := 1 }
    let S : RTree := .node [.node [], .node []]
    let o : OTree := .node (.leaf [0] [1, 2]) (.leaf [1] [2])
    S.isBinary = true ∧ (∀ p ∈ leafSpecies o, S.isNode p = true) ∧
    (∀ f ∈ leafSyntenies o, f ≠ []) ∧ c.spe + 2 * c.sloss ≤ c.dup + 2 * c.floss ∧
    rootOrders o none = [[1, 2]] ∧
    (spfs c S false o none).map (totalCost c .ordered o) = [.fin 1] := by
  decide +kernel

end SR.C02
