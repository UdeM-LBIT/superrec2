/-
  C03 for the CODE-STRUCTURED model of the unordered solvers (`uspfsCode`,
  `Model/UspfsCode.lean`, whose head says what is transliterated).

  It REFINES the label-DP model `uspfs` (`Model/Solvers.lean`) about which C03–C05, C09, C10
  are proved, for every input whose leaf species are nodes of the species tree (in Python
  they are `TreeNode`s of that tree by construction; without it the label DP would place
  children at species the code never iterates over): table values, tags, decoded outputs and
  result agree, and the headline theorems are restated for the code-structured model.
-/
import SRVerif.Proofs.UspfsCodeDecode
import SRVerif.Properties.C03Full
import SRVerif.Properties.C05Un

namespace SR.C03

open SR Cost UspfsCode

/-- **Cell-by-cell equality of the table values**, at every object node `q` (`tq` = the
    annotated subtree there), every species and both kinds. -/
theorem C03_code_table_values (c : Costs) (S : RTree) (base : Bool) (o : OTree)
    (hS : ∀ p ∈ leafSpecies o, S.isNode p = true) (keep : Bool)
    (q : Path) (tq : ATree UnAnn) (hq : subAt (annUn S base o [] o) q = some tq)
    (s : Path) (k : Kind) :
    Cell.value .min (cellAt (codeTable .all c S base o) q s k) =
      Cost.toExt (match findCell (dpTable (unAlg c) c S keep tq) (s, k) with
        | some d => d.cost
        | none => .inf) := by
  have hok := spOk_subAt c S _ (spOk_annUn c S base o o hS []) q tq hq
  obtain ⟨tq', hsim, hrow⟩ := codeTable_row c S base o q tq hq
  rw [hrow, (rowOf_rowOk c S keep tq' tq hsim hok).value s k, costAt]
  -- the statement's `match` and `costAt`'s are two auxiliary matchers: compared by cases
  cases findCell (dpTable (unAlg c) c S keep tq) (s, k) <;> rfl

/-- **The tags of an internal entry**: not instantiated when the label DP has no cell;
    otherwise exactly the pairs of child (species, kind) among the candidates of `entry`
    that attain its value. -/
theorem C03_code_table_tags (c : Costs) (S : RTree) (base : Bool) (o : OTree)
    (hS : ∀ p ∈ leafSpecies o, S.isNode p = true) (keep : Bool)
    (q : Path) (b : UnAnn) (l r : ATree UnAnn)
    (hq : subAt (annUn S base o [] o) q = some (.node b l r)) (s : Path) (k : Kind) :
    (findCell (dpTable (unAlg c) c S keep (.node b l r)) (s, k) = none →
      cellAt (codeTable .all c S base o) q s k = none) ∧
    (∀ d, findCell (dpTable (unAlg c) c S keep (.node b l r)) (s, k) = some d →
      ∀ t, t ∈ Cell.infos (cellAt (codeTable .all c S base o) q s k) ↔
        (d.cost, t) ∈ cands (unAlg c) c S b s k l.data r.data
          (dpTable (unAlg c) c S keep l) (dpTable (unAlg c) c S keep r)) := by
  have hok := spOk_subAt c S _ (spOk_annUn c S base o o hS []) q _ hq
  obtain ⟨tq', hsim, hrow⟩ := codeTable_row c S base o q _ hq
  rw [hrow]
  cases tq' with
  | leaf _ _ => simp [AnnSim] at hsim
  | node a l' r' =>
    rw [findCell_dpTable_node]
    by_cases hs : s ∈ a.allowed
    · have h := node_cell c S keep a b l' r' l r hsim
        (rowOf_rowOk c S keep l' l hsim.2.2.2.1 hok.2.1)
        (rowOf_rowOk c S keep r' r hsim.2.2.2.2 hok.2.2) s k hs
      rw [if_pos ⟨(hsim.2.2.1 s).mp hs, mem_labs c b k⟩]
      refine ⟨h.absent, fun d hd t => ?_⟩
      obtain ⟨e, hce, _, ht⟩ := h.present d hd
      rw [hce]
      exact ht t
    · rw [if_neg (fun h => hs ((hsim.2.2.1 s).mpr h.1))]
      exact ⟨fun _ => by simp only [rowOf, if_neg hs], fun d hd => by cases hd⟩

theorem C03_code_decoded (c : Costs) (S : RTree) (base : Bool) (o : OTree)
    (hS : ∀ p ∈ leafSpecies o, S.isNode p = true) (sol : Sol) :
    sol ∈ (levelOrder S).flatMap (decodeRoot .all c S base o) ↔
      sol ∈ (uspfsCells c S base true o).flatMap
        (fun d => d.sols.map (unSol (annUn S base o [] o) (annUn S base o [] o).data.lcaSet)) :=
  decoded_iff c S base o (spOk_annUn c S base o o hS []) sol

/-- **Refinement**: the code-structured model and the label-DP model return the same set. -/
theorem C03_code_refines (c : Costs) (S : RTree) (base : Bool) (o : OTree)
    (hS : ∀ p ∈ leafSpecies o, S.isNode p = true) (sol : Sol) :
    sol ∈ uspfsCode c S base o ↔ sol ∈ uspfs c S base o :=
  mem_uspfsCode_iff c S base o (spOk_annUn c S base o o hS []) sol

/-- The result entry holds every output once. -/
theorem C03_code_nodup (c : Costs) (S : RTree) (base : Bool) (o : OTree) :
    (uspfsCode c S base o).Nodup := by
  unfold uspfsCode uspfsCodePol
  rw [resultEntry_eq]
  exact (Entry.inv_fresh .min .all _).nodup

/-- The hypothesis of the refinement cannot be dropped: with a leaf mapped outside the
    species tree the label DP still places it, the code never visits that species. -/
theorem C03_code_refines_needs_leaf_species :
    ¬ ∀ (c : Costs) (S : RTree) (base : Bool) (o : OTree) (sol : Sol),
      sol ∈ uspfsCode c S base o ↔ sol ∈ uspfs c S base o := by
  intro h
  have := h { spe := 0, dup := 1, hgt := .fin 1, floss := 1, sloss := 1 } (.node []) false
    (.node (.leaf [5] [1]) (.leaf [5] [1])) (.node [] [1] (.leaf [5] [1]) (.leaf [5] [1]))
  revert this
  decide +kernel

/-- `C03_full_eq` for `uspfsCode`: the evaluated cost of every returned solution IS the
    minimum over all valid solutions (every species mapping, every labelling between
    required and allowed content). -/
theorem C03_code_full_eq (c : Costs) (S : RTree) (base : Bool) (o : OTree)
    (hb : S.isBinary = true) (hS : ∀ p ∈ leafSpecies o, S.isNode p = true)
    (hcoh : c.spe + c.sloss ≤ c.dup + 2 * c.floss) :
    ∀ sol ∈ uspfsCode c S base o,
      totalCost c .unordered o sol = (Spec.optimum c S .unordered base false o none).1 :=
  fun sol h => C03_full_eq c S base o hb hS hcoh sol ((C03_code_refines c S base o hS sol).mp h)

/-- `C04_unord` for `uspfsCode`: every returned solution is a valid unordered
    super-reconciliation of finite cost (every cost vector, both variants). -/
theorem C03_code_valid (c : Costs) (S : RTree) (base : Bool) (o : OTree)
    (hS : ∀ p ∈ leafSpecies o, S.isNode p = true) :
    C04.C04_statement .unordered c o (uspfsCode c S base o) :=
  fun sol h => C04.C04_unord c S base o sol ((C03_code_refines c S base o hS sol).mp h)

/-- `C05_unord_all` for `uspfsCode`: under ALL the result is EXACTLY the set of canonical
    solutions of minimum evaluated cost, each once. -/
theorem C03_code_all (c : Costs) (S : RTree) (base : Bool) (o : OTree)
    (hb : S.isBinary = true) (hS : ∀ p ∈ leafSpecies o, S.isNode p = true)
    (hcoh : c.spe + c.sloss ≤ c.dup + 2 * c.floss) :
    C05.C05_all_statement (uspfsCode c S base o) c .unordered o (CanonSol S base o) := by
  refine ⟨fun sol => ?_, C03_code_nodup c S base o⟩
  rw [C03_code_refines c S base o hS sol]
  exact (C05.C05_unord_all c S base o hb hS hcoh).1 sol

theorem C03_code_nonempty (c : Costs) (S : RTree) (base : Bool) (o : OTree)
    (hb : S.isBinary = true) (hS : ∀ p ∈ leafSpecies o, S.isNode p = true) :
    uspfsCode c S base o ≠ [] := by
  obtain ⟨m, hm⟩ := List.exists_mem_of_ne_nil _ (C03_uspfs_total c S base o hb hS)
  intro h
  have := (C03_code_refines c S base o hS m).mpr hm
  rw [h] at this
  cases this

/-- All members have the same evaluated cost: the minimum table value at the root. -/
theorem C03_code_table_min (c : Costs) (S : RTree) (base : Bool) (o : OTree)
    (hb : S.isBinary = true) (hS : ∀ p ∈ leafSpecies o, S.isNode p = true)
    (hcoh : c.spe + c.sloss ≤ c.dup + 2 * c.floss) :
    ∀ sol ∈ uspfsCode c S base o, totalCost c .unordered o sol = uspfsTableMin c S base o :=
  fun sol h =>
    C03_result_cost c S base o hb hS hcoh sol ((C03_code_refines c S base o hS sol).mp h)

/-! Non-vacuity: an input with gains at two depths, an INHERIT node in the optimum and a tie
    (`sloss = 0`): two solutions; the entry of object node `[0]` at species `[0]`, kind LCA,
    holds two tags (right child LCA or INHERIT). -/
example :
    let c : Costs := { spe := 0, dup := 1, hgt := .fin 1, floss := 1, sloss := 0 }
    let S : RTree := .node [.node [], .node []]
    let o : OTree :=
      .node (.node (.leaf [0] [1, 2]) (.node (.leaf [0] [1]) (.leaf [0] [1]))) (.leaf [1] [1, 2])
    S.isBinary = true ∧ (∀ p ∈ leafSpecies o, S.isNode p = true) ∧
    c.spe + c.sloss ≤ c.dup + 2 * c.floss ∧
    (uspfsCode c S false o).length = 2 ∧
    (∀ sol ∈ uspfsCode c S false o, sol ∈ uspfs c S false o) ∧
    Cell.value .min (cellAt (codeTable .all c S false o) [] [] .lca) = .fin 2 ∧
    (Cell.infos (cellAt (codeTable .all c S false o) [0] [0] .lca)).length = 2 ∧
    Cell.value .min (cellAt (codeTable .all c S false o) [0, 1] [0] .inh) = .fin 1 := by
  decide +kernel

end SR.C03
