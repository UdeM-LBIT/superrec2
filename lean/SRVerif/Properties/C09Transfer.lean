/-
  C09 — the cost clauses transferred to the dynamic-programming solvers through their
  optimality theorems (nothing about the DP is re-proved here): `reconcile_thl` inside
  `spe ≤ dup + 2·floss`, the ordered solvers (`spfs`, any prescribed root order) inside
  `spe + 2·sloss ≤ dup + 2·floss`, the unordered ones inside `spe + sloss ≤ dup + 2·floss`: the
  `thl` clauses from `C01_thl_all`, `C01_thl`, `C01_thl_table_opt`, those of `spfs` from
  `mem_spfs_pre_iff` (`Proofs/SolverExact.lean`; scaling through `exact_same_order`),
  `C09_mono_uspfs` from `C03.uspfs_optimal_iff`.
  Monotonicity of the returned costs needs the coherence of the CHEAPER vector only (that of the
  `thl` table minimum both).  Coherence is preserved by scaling
  (`C09_coherent_scale_gen`), so "inside the coherent region before and after the change" is one
  hypothesis.  The clauses that speak of the optimisers' own table minima, and the scaling clause
  of the unordered solvers, are in `C09Dp.lean`.
-/
import SRVerif.Properties.C09Costs
import SRVerif.Properties.C01Thl
import SRVerif.Proofs.SolverExact

namespace SR.C09

open SR SR.EventLog Cost

theorem C09_coherent_scale (k : Nat) (c : Costs) (h : c.spe ≤ c.dup + 2 * c.floss) :
    (Costs.scale k c).spe ≤ (Costs.scale k c).dup + 2 * (Costs.scale k c).floss := by
  simpa using C09_coherent_scale_gen k 0 c (by simpa using h)

/-- Scaling with `k > 0` neither enters nor leaves the coherent region. -/
theorem C09_coherent_scale_iff (k : Nat) (hk : 0 < k) (c : Costs) :
    (Costs.scale k c).spe ≤ (Costs.scale k c).dup + 2 * (Costs.scale k c).floss
      ↔ c.spe ≤ c.dup + 2 * c.floss := by
  refine ⟨fun h => ?_, C09_coherent_scale k c⟩
  have h' : k * c.spe ≤ k * (c.dup + 2 * c.floss) := by
    rw [Nat.mul_add, Nat.mul_left_comm]; exact h
  exact Nat.le_of_mul_le_mul_left h' hk

/-- **C09 scaling for `reconcile_thl`** (coherent region). -/
theorem C09_scale_thl (c : Costs) (S : RTree) (o : OTree) (hb : S.isBinary = true)
    (hS : ∀ p ∈ leafSpecies o, S.isNode p = true) (hcoh : c.spe ≤ c.dup + 2 * c.floss)
    (k : Nat) (hk : 0 < k) :
    (∀ s, s ∈ thl (Costs.scale k c) S o ↔ s ∈ thl c S o) ∧
    (∀ s ∈ thl c S o,
      totalCost (Costs.scale k c) .plain o s = Cost.scale k (totalCost c .plain o s)) ∧
    thlTableMin (Costs.scale k c) S o = Cost.scale k (thlTableMin c S o) := by
  have hcoh' := C09_coherent_scale k c hcoh
  refine ⟨fun s => ?_, fun s _ => C09_eval_scale k c .plain o s, ?_⟩
  · rw [(C01.C01_thl_all (Costs.scale k c) S o hb hS hcoh').1 s,
      (C01.C01_thl_all c S o hb hS hcoh).1 s]
    simp only [C09_eval_scale_le k hk]
  · rw [C01.C01_thl_table_opt _ S o hb hS hcoh', C01.C01_thl_table_opt c S o hb hS hcoh]
    exact (C09_rank_scale k hk c .plain o (Spec.allValid S o)).2

/-- **C09 monotonicity for `reconcile_thl`**: with the cheaper vector coherent, no
    solution returned under the dearer costs is cheaper than one returned under the
    cheaper costs; with both coherent the optimiser's table minimum is monotone. -/
theorem C09_mono_thl (c c' : Costs) (hcc : leCosts c c') (S : RTree) (o : OTree)
    (hb : S.isBinary = true) (hS : ∀ p ∈ leafSpecies o, S.isNode p = true)
    (hcoh : c.spe ≤ c.dup + 2 * c.floss) :
    (∀ s ∈ thl c S o, ∀ s' ∈ thl c' S o,
      Cost.le (totalCost c .plain o s) (totalCost c' .plain o s') = true) ∧
    (c'.spe ≤ c'.dup + 2 * c'.floss →
      Cost.le (thlTableMin c S o) (thlTableMin c' S o) = true) := by
  constructor
  · intro s hs s' hs'
    obtain ⟨hv', hm', _⟩ := C01.C01_thl_finite c' S o s' hs'
    have hv : Spec.validRec o s' = true := by
      simpa [Spec.validSol] using hv'
    exact Cost.le_trans ((C01.C01_thl c S o hb hS hcoh s hs).2 s' hv hm')
      (C09_eval_mono c c' hcc .plain o s')
  · intro hcoh'
    rw [C01.C01_thl_table_opt c S o hb hS hcoh, C01.C01_thl_table_opt c' S o hb hS hcoh']
    exact (C09_rank_mono c c' hcc .plain o (Spec.allValid S o)).1

/-! Non-vacuity: a coherent, well-formed input with a non-trivial optimum. -/

example : exS.isBinary = true ∧ (∀ p ∈ leafSpecies exO, exS.isNode p = true) ∧
    exC.spe ≤ exC.dup + 2 * exC.floss ∧
    (thl exC exS exO).map (totalCost exC .plain exO) = [.fin 4] ∧
    thl (Costs.scale 3 exC) exS exO = thl exC exS exO ∧
    thlTableMin (Costs.scale 3 exC) exS exO = .fin 12 := by
  decide +kernel

example : leCosts exC exC' ∧ exC'.spe ≤ exC'.dup + 2 * exC'.floss ∧
    thlTableMin exC exS exO = .fin 4 ∧ thlTableMin exC' exS exO = .fin 8 := by
  refine ⟨⟨?_, ?_, ?_, ?_, ?_⟩, ?_⟩ <;> decide +kernel

/-- **C09 scaling for the ordered solvers** (base and extended; coherent region):
    the returned set is unchanged and the cost of every returned solution is scaled. -/
theorem C09_scale_spfs (c : Costs) (S : RTree) (base : Bool) (o : OTree) (pre : Option (List Nat))
    (hord : C02.OrdersOk o pre) (hb : S.isBinary = true)
    (hS : ∀ p ∈ leafSpecies o, S.isNode p = true)
    (hcoh : c.spe + 2 * c.sloss ≤ c.dup + 2 * c.floss) (k : Nat) (hk : 0 < k) :
    (∀ s, s ∈ spfs (Costs.scale k c) S base o pre ↔ s ∈ spfs c S base o pre) ∧
    ∀ s ∈ spfs c S base o pre,
      totalCost (Costs.scale k c) .ordered o s = Cost.scale k (totalCost c .ordered o s) := by
  exact ⟨exact_same_order (mem_spfs_pre_iff c S base o pre hord hb hS hcoh)
      (mem_spfs_pre_iff _ S base o pre hord hb hS (C09_coherent_scale_gen k 2 c hcoh))
      (C09_eval_scale_le k hk c .ordered o) (C09_eval_scale_fin k c .ordered o),
    fun s _ => C09_eval_scale k c .ordered o s⟩

/-- **C09 monotonicity for the ordered solvers**: with the cheaper vector coherent,
    no solution returned under the dearer costs is cheaper than one returned under
    the cheaper costs. -/
theorem C09_mono_spfs (c c' : Costs) (hcc : leCosts c c') (S : RTree) (base : Bool) (o : OTree)
    (pre : Option (List Nat)) (hord : C02.OrdersOk o pre) (hb : S.isBinary = true)
    (hS : ∀ p ∈ leafSpecies o, S.isNode p = true)
    (hcoh : c.spe + 2 * c.sloss ≤ c.dup + 2 * c.floss) :
    ∀ s ∈ spfs c S base o pre, ∀ s' ∈ spfs c' S base o pre,
      Cost.le (totalCost c .ordered o s) (totalCost c' .ordered o s') = true := by
  intro s hs s' hs'
  -- `s` is optimal among the solutions valid under `pre` (exactness for `c`); `s'` is one
  -- (soundness needs no coherence of `c'`)
  obtain ⟨hv', _, hsp'⟩ := C02.C02_spfs_valid_pre c' S o base pre hord (fun _ => hS) s' hs'
  have hV' : VPre base o pre s' := ⟨hv', fun e => by
    subst e; exact (C02.speciesOk_base_iff_pre S o pre s' hv').mp hsp'⟩
  exact Cost.le_trans
    (((mem_spfs_pre_iff c S base o pre hord hb hS hcoh s).mp hs).1.2
      s' hV')
    (C09_eval_mono c c' hcc .ordered o s')

/-- **C09 monotonicity for the unordered solvers** (both variants): with the cheaper
    vector coherent, no solution returned under the dearer costs is cheaper than one
    returned under the cheaper costs — for the EVALUATED cost (`C09Dp.lean` has the
    optimiser's own table minimum). -/
theorem C09_mono_uspfs (c c' : Costs) (hcc : EventLog.leCosts c c') (S : RTree) (base : Bool) (o : OTree)
    (G : GuardUn c S o) :
    ∀ s ∈ uspfs c S base o, ∀ s' ∈ uspfs c' S base o,
      Cost.le (totalCost c .unordered o s) (totalCost c' .unordered o s') = true := by
  intro s hs s' hs'
  obtain ⟨hv, _, hsp⟩ := ((C03.uspfsD_cand_iff c' S base o s').mp (C04.cand_of_mem_uspfs hs')).1
  exact Cost.le_trans
    (((C03.uspfs_optimal_iff c S base o G.bin G.sp G.coh s).mp hs).1.2 _
      ⟨hv, (Spec.speciesOk_iff_spAllowed S base o _).mpr hsp⟩)
    (C09_eval_mono c c' hcc .unordered o _)

example : C02.OrdersOk exO none :=
  C02.C02_orders_ok exO (by decide)

example : exC.spe + 2 * exC.sloss ≤ exC.dup + 2 * exC.floss ∧
    (spfs exC exS false exO none).map (totalCost exC .ordered exO) = [.fin 5] ∧
    spfs (Costs.scale 2 exC) exS false exO none = spfs exC exS false exO none ∧
    (spfs (Costs.scale 2 exC) exS false exO none).map
      (totalCost (Costs.scale 2 exC) .ordered exO) = [.fin 10] := by
  decide +kernel

end SR.C09
