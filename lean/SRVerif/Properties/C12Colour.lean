/-
  C12 (bridge, colours) — the cost line on the written text for COLOURED input trees.

  An input file may colour any node of `object_tree` / `species_tree` (README "Adding color"; the
  reader keeps the NHX `color` feature, the solvers ignore it, `to_dict` writes it back with
  `features=["color"]`).  `embPlainC nm cl …` / `embSuperC nm cl …` (`Model/SolOutputColour.lean`)
  are the objects the tool builds for an input whose node at path `q` is called `nm.oname q` and
  coloured `cl.ocol q`; every named coloured tree is one.  The theorems hold for every `nm.Ok` and
  every `cl.Ok` of `Proofs/SolOutputColour.lean` (each colour present is a non-empty word over
  `[A-Za-z0-9_.-]`, e.g. `0000FF`, `red`: the alphabet of C11's `SafeNames`; `#0000FF` is NOT
  covered); the evaluator never reads a colour.
-/
import SRVerif.Proofs.SolOutputColour
import SRVerif.Properties.C12Json

namespace SR.C12

open SR SR.Ser SR.Cli SR.SolOut SR.C11 SR.Json

/-- The trees of the coloured input object: node at path `q` named by `nm`, coloured by `cl`. -/
theorem C12_col_trees (nm : Naming) (cl : Colouring) (c : Costs) (S : RTree) (o : OTree) :
    (embInputC nm cl c S o).objectTree = ntOfC nm.oname cl.ocol o.shape ∧
    (embInputC nm cl c S o).speciesTree = ntOfC nm.sname cl.scol S ∧
    (ntOfC nm.oname cl.ocol o.shape).pre.map tagNT = o.shape.preorder.map (tagPC nm.oname cl.ocol) ∧
    (ntOfC nm.sname cl.scol S).pre.map tagNT = S.preorder.map (tagPC nm.sname cl.scol) :=
  embInputC_eq nm cl c S o ▸ ⟨rfl, rfl, pre_ntOfC _ _ _, pre_ntOfC _ _ _⟩

/-- Every named coloured tree is `ntOfC` of its own names, colours and shape: no input tree is
    outside the embedding because of its colours. -/
theorem C12_col_every_tree (t : NT) : ntOfC (nameFn t) (colFn t) (shapeNT t) = t := ntOfC_self t

/-- The blank colouring is the embedding of `Model/SolOutput.lean`. -/
theorem C12_col_blank (nm : Naming) (c : Costs) (S : RTree) (o : OTree) :
    embInputC nm Colouring.blank c S o = embInput nm c S o ∧ Colouring.blank.Ok S o :=
  ⟨embInputC_blank nm c S o, Colouring.blank_ok S o⟩

theorem C12_col_emb_wf_plain {nm : Naming} {cl : Colouring} {S : RTree} {o : OTree} (c : Costs)
    (hnm : nm.Ok S o) (hcl : cl.Ok S o) (hS : ∀ p ∈ leafSpecies o, S.isNode p = true)
    (withSyn : Bool) {s : Sol} (hv : Spec.validRec o s = true) :
    (embPlainC nm cl c S o withSyn s).WF :=
  embPlainC_wf c hnm hcl hS withSyn hv

theorem C12_col_emb_wf_super {nm : Naming} {cl : Colouring} {S : RTree} {o : OTree}
    (arr : List String → List String) (c : Costs) (hnm : nm.Ok S o) (hcl : cl.Ok S o)
    (hS : ∀ p ∈ leafSpecies o, S.isNode p = true) (ordered : Bool) {s : Sol}
    (hv : Spec.validRec o s = true) : (embSuperC nm cl arr c S o ordered s).WF :=
  embSuperC_wf arr c hnm hcl hS ordered hv

/-- The evaluator ignores colours: on ANY parsed structure, recolouring both trees in any way
    (safe or not) leaves the evaluated cost unchanged; the reader `decode` likewise. -/
theorem C12_col_eval_ignores_colours (cl : Colouring) (i : RecInput) (m : TreeMapping) :
    evalPlain (i.recolour cl) m = evalPlain i m ∧
    (∀ syn b, evalSuper (i.recolour cl) m syn b = evalSuper i m syn b) ∧
    ∀ los os famAt col t p, decode los os famAt (recolNT col t) p = decode los os famAt t p :=
  ⟨evalPlain_recolour cl i m, fun syn b => evalSuper_recolour cl i m syn b,
    fun los os famAt col t p => decode_recol los os famAt col t p⟩

theorem C12_col_emb_cost_plain (nm : Naming) (cl : Colouring) (c : Costs) (S : RTree) {o : OTree}
    {s : Sol} (hv : Spec.validRec o s = true) (withSyn : Bool) :
    evalPlain (embPlainC nm cl c S o withSyn s).input.base
        (embPlainC nm cl c S o withSyn s).objectSpecies = totalCost c .plain o s :=
  evalPlain_embC nm cl c S hv withSyn

theorem C12_col_emb_cost_super (nm : Naming) (cl : Colouring)
    (hf : ∀ a b, nm.fname a = nm.fname b → a = b) (arr : List String → List String)
    (harr : ∀ l, (arr l).Perm l) (c : Costs) (S : RTree) {o : OTree} {s : Sol}
    (hv : Spec.validRec o s = true) (ordered : Bool) :
    evalSuper (embSuperC nm cl arr c S o ordered s).input.base
        (embSuperC nm cl arr c S o ordered s).objectSpecies
        (embSuperC nm cl arr c S o ordered s).syntenies (embSuperC nm cl arr c S o ordered s).ordered
      = totalCost c (if ordered then .ordered else .unordered) o s :=
  evalSuper_embC nm cl hf arr harr c S hv ordered

theorem C12_col_cost_line_text_thl {nm : Naming} {cl : Colouring} {S : RTree} {o : OTree}
    (c : Costs) (hnm : nm.Ok S o) (hcl : cl.Ok S o) (hb : S.isBinary = true)
    (hS : ∀ p ∈ leafSpecies o, S.isNode p = true) (withSyn : Bool) :
    let emb := embPlainC nm cl c S o withSyn
    let cost := fun x : RecOutput => evalPlain x.input.base x.objectSpecies
    let toD := fun x : RecOutput => x.toDict Newick.write
    let enc := fun x : RecOutput => renderDict (toD x)
    TextLineOK toD PlainDictBack c .plain o (thl c S o) ((thl c S o).map emb)
      (reconcileRun "thl" (dispatch "thl" (kindOf withSyn) "all") ((thl c S o).map emb) cost enc) ∧
    ∀ (P : Picker Unit), P.Ok → c.spe ≤ c.dup + 2 * c.floss →
      TextLineOK toD PlainDictBack c .plain o (thl c S o) ((thlAny P c S o).map emb)
        (reconcileRun "thl" (dispatch "thl" (kindOf withSyn) "any") ((thlAny P c S o).map emb)
          cost enc) := by
  intro emb cost toD enc
  obtain ⟨h1, h2⟩ := (embPlainC_ok c hnm hcl hS withSyn).cost_line_thl enc hb hS withSyn
  exact ⟨C12_text_plain h1, fun P hP hc => C12_text_plain (h2 P hP hc)⟩

theorem C12_col_cost_line_text_exh {nm : Naming} {cl : Colouring} {S : RTree} {o : OTree}
    (c : Costs) (hnm : nm.Ok S o) (hcl : cl.Ok S o) (hS : ∀ p ∈ leafSpecies o, S.isNode p = true)
    (withSyn : Bool) :
    let emb := embPlainC nm cl c S o withSyn
    let cost := fun x : RecOutput => evalPlain x.input.base x.objectSpecies
    let toD := fun x : RecOutput => x.toDict Newick.write
    let enc := fun x : RecOutput => renderDict (toD x)
    TextLineOK toD PlainDictBack c .plain o (exhaustive c o) ((exhaustive c o).map emb)
      (reconcileRun "exh" (dispatch "exh" (kindOf withSyn) "all") ((exhaustive c o).map emb)
        cost enc) ∧
    ∀ (pick : List Sol → Option Sol), PickOk pick →
      TextLineOK toD PlainDictBack c .plain o (exhaustive c o) ((exhaustiveAny pick c o).map emb)
        (reconcileRun "exh" (dispatch "exh" (kindOf withSyn) "any")
          ((exhaustiveAny pick c o).map emb) cost enc) := by
  intro emb cost toD enc
  obtain ⟨h1, h2⟩ := (embPlainC_ok c hnm hcl hS withSyn).cost_line_exh enc withSyn
  exact ⟨C12_text_plain h1, fun pick hp => C12_text_plain (h2 pick hp)⟩

theorem C12_col_cost_line_text_lca {nm : Naming} {cl : Colouring} {S : RTree} {o : OTree}
    (c : Costs) (hnm : nm.Ok S o) (hcl : cl.Ok S o) (hS : ∀ p ∈ leafSpecies o, S.isNode p = true)
    (withSyn : Bool) (sol : String) (hsol : sol = "any" ∨ sol = "all") :
    let emb := embPlainC nm cl c S o withSyn
    let cost := fun x : RecOutput => evalPlain x.input.base x.objectSpecies
    let toD := fun x : RecOutput => x.toDict Newick.write
    let enc := fun x : RecOutput => renderDict (toD x)
    TextLineOK toD PlainDictBack c .plain o (rankByCost c .plain o [lcaSol o]) ([lcaSol o].map emb)
      (reconcileRun "lca" (dispatch "lca" (kindOf withSyn) sol) ([lcaSol o].map emb) cost enc) := by
  intro emb cost toD enc
  exact C12_text_plain ((embPlainC_ok c hnm hcl hS withSyn).cost_line_lca enc withSyn sol hsol)

theorem C12_col_cost_line_text_spfs {nm : Naming} {cl : Colouring} {S : RTree} {o : OTree}
    (c : Costs) (hnm : nm.Ok S o) (hcl : cl.Ok S o) (hb : S.isBinary = true)
    (hS : ∀ p ∈ leafSpecies o, S.isNode p = true) (base : Bool) (pre : Option (List Nat)) :
    let emb := embSuperC nm cl id c S o true
    let cost := fun x : SRecOutput => evalSuper x.input.base x.objectSpecies x.syntenies x.ordered
    let toD := fun x : SRecOutput => x.toDict Newick.write
    let enc := fun x : SRecOutput => renderDict (toD x)
    let all := spfs c S base o pre
    let runAll := reconcileRun (spfsName base) (dispatch (spfsName base) .super "all")
      (all.map emb) cost enc
    (all = [] → runAll.status = 1 ∧ runAll.stdout = "") ∧
    (all ≠ [] → TextLineOK toD SuperDictBack c .ordered o all (all.map emb) runAll) ∧
    ∀ (P : Picker Nat), P.Ok → C02.OrdersOk o pre → c.spe + 2 * c.sloss ≤ c.dup + 2 * c.floss →
      let any := spfsAny P c S base o pre
      let runAny := reconcileRun (spfsName base) (dispatch (spfsName base) .super "any")
        (any.map emb) cost enc
      (any = [] ↔ all = []) ∧ (all = [] → runAny.status = 1 ∧ runAny.stdout = "") ∧
      (all ≠ [] → TextLineOK toD SuperDictBack c .ordered o all (any.map emb) runAny) := by
  intro emb cost toD enc all runAll
  obtain ⟨h1, h2, h3⟩ :=
    (embSuperC_ok id (fun _ => List.Perm.refl _) c hnm hcl hS true).cost_line_spfs enc hb hS base pre
  refine ⟨h1, fun hne => C12_text_super (h2 hne), fun P hP hord hc => ?_⟩
  obtain ⟨g1, g2, g3⟩ := h3 P hP hord hc
  exact ⟨g1, g2, fun hne => C12_text_super (g3 hne)⟩

theorem C12_col_cost_line_text_uspfs {nm : Naming} {cl : Colouring} {S : RTree} {o : OTree}
    (arr : List String → List String) (harr : ∀ l, (arr l).Perm l) (c : Costs) (hnm : nm.Ok S o)
    (hcl : cl.Ok S o) (hb : S.isBinary = true) (hS : ∀ p ∈ leafSpecies o, S.isNode p = true)
    (base : Bool) :
    let emb := embSuperC nm cl arr c S o false
    let cost := fun x : SRecOutput => evalSuper x.input.base x.objectSpecies x.syntenies x.ordered
    let toD := fun x : SRecOutput => x.toDict Newick.write
    let enc := fun x : SRecOutput => renderDict (toD x)
    let all := uspfs c S base o
    TextLineOK toD SuperDictBack c .unordered o all (all.map emb)
      (reconcileRun (uspfsName base) (dispatch (uspfsName base) .super "all") (all.map emb)
        cost enc) ∧
    ∀ (P : Picker Kind), P.Ok → (∀ f ∈ leafSyntenies o, f ≠ []) →
      c.spe + c.sloss ≤ c.dup + 2 * c.floss →
      TextLineOK toD SuperDictBack c .unordered o all ((uspfsAny P c S base o).map emb)
        (reconcileRun (uspfsName base) (dispatch (uspfsName base) .super "any")
          ((uspfsAny P c S base o).map emb) cost enc) := by
  intro emb cost toD enc all
  obtain ⟨h1, h2⟩ := (embSuperC_ok arr harr c hnm hcl hS false).cost_line_uspfs enc hb hS base
  exact ⟨C12_text_super h1, fun P hP hne hc => C12_text_super (h2 P hP hne hc)⟩

theorem C12_col_all_superset_any_thl (render : OutputDict → String) (nm : Naming) (cl : Colouring)
    (c : Costs) (S : RTree) (o : OTree) (hb : S.isBinary = true)
    (hS : ∀ p ∈ leafSpecies o, S.isNode p = true) (withSyn : Bool) (P : Picker Unit) (hP : P.Ok)
    (hcoh : c.spe ≤ c.dup + 2 * c.floss) :
    let enc := fun s => render ((embPlainC nm cl c S o withSyn s).toDict Newick.write)
    ∀ ℓ ∈ (thlAny P c S o).map enc, ℓ ∈ (thl c S o).map enc :=
  C12_lines_mono _ _ _ (C05.C05_any_mem_thl P hP c S o hb hS hcoh)

theorem C12_col_all_superset_any_exh (render : OutputDict → String) (nm : Naming) (cl : Colouring)
    (c : Costs) (S : RTree) (o : OTree) (withSyn : Bool) (pick : List Sol → Option Sol)
    (hp : PickOk pick) :
    let enc := fun s => render ((embPlainC nm cl c S o withSyn s).toDict Newick.write)
    ∀ ℓ ∈ (exhaustiveAny pick c o).map enc, ℓ ∈ (exhaustive c o).map enc :=
  C12_lines_mono _ _ _ (C05.C05_any_mem_exh pick c o hp)

theorem C12_col_all_superset_any_spfs (render : OutputDict → String) (nm : Naming) (cl : Colouring)
    (c : Costs) (S : RTree) (o : OTree) (hb : S.isBinary = true)
    (hS : ∀ p ∈ leafSpecies o, S.isNode p = true) (base : Bool) (pre : Option (List Nat))
    (hord : C02.OrdersOk o pre) (P : Picker Nat) (hP : P.Ok)
    (hcoh : c.spe + 2 * c.sloss ≤ c.dup + 2 * c.floss) :
    let enc := fun s => render ((embSuperC nm cl id c S o true s).toDict Newick.write)
    ∀ ℓ ∈ (spfsAny P c S base o pre).map enc, ℓ ∈ (spfs c S base o pre).map enc :=
  C12_lines_mono _ _ _ (C05.C05_any_mem_spfs P hP c S base o pre hord hb hS hcoh)

theorem C12_col_all_superset_any_uspfs (render : OutputDict → String) (nm : Naming) (cl : Colouring)
    (arr : List String → List String) (c : Costs) (S : RTree) (o : OTree)
    (hb : S.isBinary = true) (hS : ∀ p ∈ leafSpecies o, S.isNode p = true) (base : Bool)
    (hne : ∀ f ∈ leafSyntenies o, f ≠ []) (P : Picker Kind) (hP : P.Ok)
    (hcoh : c.spe + c.sloss ≤ c.dup + 2 * c.floss) :
    let enc := fun s => render ((embSuperC nm cl arr c S o false s).toDict Newick.write)
    ∀ ℓ ∈ (uspfsAny P c S base o).map enc, ℓ ∈ (uspfs c S base o).map enc :=
  C12_lines_mono _ _ _ (C05.C05_any_mem_uspfs P hP c S base o hb hS hne hcoh)

/-- The node `O0 = (S0_00, O01)` coloured `0000FF`, the species `S1` coloured
    `red`, on the example input of `C12Bridge.lean`. -/
def exColouring : Colouring :=
  { scol := fun p => if p = [1] then some "red" else none
    ocol := fun p => if p = [0] then some "0000FF" else none }

theorem exColouring_ok : exColouring.Ok exS exO where
  sSafe := by decide
  oSafe := by decide

/-- The colour is in the written text: the coloured embedding is NOT the uncoloured one, and the
    Newick string handed to `json.dump` carries `[&&NHX:color=0000FF]` on `O0`. -/
theorem C12_col_written_colour :
    (thl exCosts exS exO).map (fun s =>
      ((embPlainC exNaming exColouring exCosts exS exO true s).toDict Newick.write).input.object_tree)
      = ["((S0_00,(S0_010,S0_011)O01)O0[&&NHX:color=0000FF],S1_1)OR;"] ∧
    (thl exCosts exS exO).map (fun s =>
      ((embPlainC exNaming exColouring exCosts exS exO true s).toDict Newick.write).input.species_tree)
      = ["(S0,S1[&&NHX:color=red])SR;"] := by
  decide +kernel

example (render : OutputDict → String) :
    ∃ k, ∀ x ∈ (thl exCosts exS exO).map (embPlainC exNaming exColouring exCosts exS exO true),
      PlainBack x k := by
  obtain ⟨k, _, _, _, _, h⟩ :=
    ((embPlainC_ok exCosts exNaming_ok exColouring_ok (by decide) true).cost_line_thl
      (fun x => render (x.toDict Newick.write)) (S := exS) (by decide) (by decide) true).1
  exact ⟨k, h⟩

example (render : OutputDict → String) :
    ∃ k, ∀ x ∈ (uspfs exCosts exS false exO).map
        (embSuperC exNaming exColouring id exCosts exS exO false), SuperBack x k := by
  obtain ⟨k, _, _, _, _, h⟩ := ((embSuperC_ok id (fun _ => List.Perm.refl _) exCosts exNaming_ok
    exColouring_ok (by decide) false).cost_line_uspfs (fun x => render (x.toDict Newick.write))
    (S := exS) (by decide) (by decide) false).1
  exact ⟨k, h⟩

end SR.C12
