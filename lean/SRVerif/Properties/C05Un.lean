/-
  C05 for the unordered solvers (`uspfs`: SuperDTL = extended, base): under the policy `all` the
  result is EXACTLY the set of canonical solutions of minimum evaluated cost, each once —
  `C05_all_statement` at the solution space `C03.CanonSol`, which is the one C05 names for the
  unordered solvers — for `S` binary, leaf species nodes of `S`, `spe + sloss ≤ dup + 2·floss`
  (implied by the coherent region).  It is `C03.C03_canonical_all`.
-/
import SRVerif.Properties.C05
import SRVerif.Properties.C03Canon

namespace SR.C05

open SR Cost

/-- **C05, unordered solvers**: `all` = exactly the canonical optimal set, each once. -/
theorem C05_unord_all (c : Costs) (S : RTree) (base : Bool) (o : OTree)
    (hb : S.isBinary = true) (hS : ∀ p ∈ leafSpecies o, S.isNode p = true)
    (hcoh : c.spe + c.sloss ≤ c.dup + 2 * c.floss) :
    C05_all_statement (uspfs c S base o) c .unordered o (C03.CanonSol S base o) :=
  C03.C03_canonical_all c S base o hb hS hcoh

/-- Whatever single member of the `all` result the policy `any` keeps is a canonical
    optimum. -/
theorem C05_unord_any (c : Costs) (S : RTree) (base : Bool) (o : OTree)
    (hb : S.isBinary = true) (hS : ∀ p ∈ leafSpecies o, S.isNode p = true)
    (hcoh : c.spe + c.sloss ≤ c.dup + 2 * c.floss) (σ : Sol) (h : σ ∈ uspfs c S base o) :
    C03.CanonSol S base o σ ∧ ∀ σ', C03.CanonSol S base o σ' →
      Cost.le (totalCost c .unordered o σ) (totalCost c .unordered o σ') = true :=
  ((C03.C03_canonical_all c S base o hb hS hcoh).1 σ).mp h

/-! With `sloss = 0` the two canonical labellings of the inner node tie and
    both are returned; the solution space is not a singleton. -/
example :
    let c : Costs := { spe := 0, dup := 1, hgt := .fin 1, floss := 1, sloss := 0 }
    let S : RTree := .node [.node [], .node []]
    let o : OTree :=
      .node (.node (.leaf [0] [1, 2]) (.node (.leaf [0] [1]) (.leaf [0] [1]))) (.leaf [1] [1, 2])
    S.isBinary = true ∧ (∀ p ∈ leafSpecies o, S.isNode p = true) ∧
    c.spe + c.sloss ≤ c.dup + 2 * c.floss ∧
    (uspfs c S false o).length = 2 ∧
    (uspfs c S false o).all (fun σ => Spec.canonicalUn o [] [] σ) = true := by
  decide +kernel

end SR.C05
