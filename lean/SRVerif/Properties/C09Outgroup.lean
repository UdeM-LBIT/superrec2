/-
  C09 (outgroup) — "The minimum cost is unchanged by adding an outgroup species
  that carries no object."

  Model of the change: the new species tree is `S.withOutgroup = node [S, node []]`
  (new root `[]`, old tree below child 0, empty outgroup leaf `[1]`); every old
  species `p` is renamed `Path.og p = 0 :: p`, so the new input is `o.mapSp Path.og`.

  Claimed under `spe + k·sloss ≤ dup + 4·floss` (`k = ogSlack mode` = 0 plain, 2 ordered,
  1 unordered; implied by the coherent region `spe + k·sloss ≤ dup + 2·floss` to which C09 is
  confined, `C09_outgroup_coherent`).  The hypothesis cannot be dropped
  (`C09_outgroup_needs_slack`): for `spe > dup + 4·floss` a duplication at the new root beats
  the forced speciation at the old root.  With no hypothesis: new minimum ≤ old minimum
  (`C09_outgroup_le`).

  Not claimed: "the optimal SET is unchanged".  It is false for `floss = 0`
  (`C09_outgroup_extra_optimum`: a duplication at the new root is co-optimal); what holds is
  the restriction to solutions avoiding the new root (`C09_outgroup`, third clause), and for
  `floss > 0` and coherent costs the full statement (`C09_outgroup_strict`, `C09_outgroup_set`).
-/
import SRVerif.Proofs.Outgroup
import SRVerif.Proofs.PresentLift

namespace SR.C09

open SR

/-- **New minimum ≤ old minimum**, with no hypothesis on the costs: every valid
    solution of the old input yields a valid solution of the new one of equal cost. -/
theorem C09_outgroup_le (c : Costs) (mode : LabelMode) (o : OTree) (m m' : Cost)
    (hm : IsMinCost c mode o m) (hm' : IsMinCost c mode (o.mapSp Path.og) m') :
    Cost.le m' m = true := by
  rcases hm.2 with e | ⟨s, hs, e⟩
  · rw [e]; exact Cost.le_inf _
  · rw [← e, ← (transfer_og o).cost c mode s]
    exact hm'.1 _ (by show Spec.validSol mode _ _ = true
                      rw [(transfer_og o).valid]; exact hs)

/-- A valid solution over the tree with an outgroup puts every node at the new
    root or at an old species — never at the outgroup leaf `[1]`. -/
theorem C09_outgroup_species (mode : LabelMode) (o : OTree) (sol : Sol)
    (hv : Spec.validSol mode (o.mapSp Path.og) sol = true) :
    sol.allSp Path.ogOk = true ∧ sol.allSp (fun p => p != [1]) = true := by
  have hr : Spec.validRec (o.mapSp Path.og) sol = true := by
    simp only [Spec.validSol, Bool.and_eq_true] at hv; exact hv.1
  have h := validRec_allSp_ogOk _ sol hr (leafSpecies_og_ok o)
  refine ⟨h, ?_⟩
  clear hv hr
  induction sol with
  | leaf s g =>
    simp only [Sol.allSp, bne_iff_ne] at h ⊢
    exact Path.ogOk_ne_outgroup h
  | node s g l r ihl ihr =>
    simp only [Sol.allSp, Bool.and_eq_true, bne_iff_ne] at h ⊢
    exact ⟨⟨Path.ogOk_ne_outgroup h.1.1, ihl h.1.2⟩, ihr h.2⟩

/-- Projection back to the old tree keeps validity and does not increase the cost,
    when `spe + k·sloss ≤ dup + 4·floss`. -/
theorem C09_outgroup_project (c : Costs) (mode : LabelMode)
    (hc : c.spe + ogSlack mode * c.sloss ≤ c.dup + 4 * c.floss) (o : OTree) (sol : Sol)
    (hv : Spec.validSol mode (o.mapSp Path.og) sol = true) :
    Spec.validSol mode o (sol.mapSp Path.unog) = true ∧
    Cost.le (totalCost c mode o (sol.mapSp Path.unog)) (totalCost c mode (o.mapSp Path.og) sol)
      = true := by
  have hr : Spec.validRec (o.mapSp Path.og) sol = true := by
    simp only [Spec.validSol, Bool.and_eq_true] at hv; exact hv.1
  have h1 := validSol_unog mode _ sol hv (leafSpecies_og_ok o)
  have h2 := totalCost_unog_le c mode hc _ sol hr (leafSpecies_og_ok o)
  rw [OTree.unog_og] at h1 h2
  exact ⟨h1, h2⟩

/-- The coherent region of the properties implies the hypothesis. -/
theorem C09_outgroup_coherent (c : Costs) (mode : LabelMode)
    (hcoh : c.spe + ogSlack mode * c.sloss ≤ c.dup + 2 * c.floss) :
    c.spe + ogSlack mode * c.sloss ≤ c.dup + 4 * c.floss := by omega

/-- **C09, outgroup** (all three modes).  When `spe + k·sloss ≤ dup + 4·floss`:
    1. the minimum cost over valid solutions is unchanged;
    2. `sol` is optimal for the old input iff its embedding is optimal for the new;
    3. an optimal solution of the new input that avoids the new root (and the
       outgroup) is the embedding of an optimal solution of the old input. -/
theorem C09_outgroup (c : Costs) (mode : LabelMode)
    (hc : c.spe + ogSlack mode * c.sloss ≤ c.dup + 4 * c.floss) (o : OTree) :
    (∀ m, IsMinCost c mode o m ↔ IsMinCost c mode (o.mapSp Path.og) m) ∧
    (∀ sol, IsOptimal c mode o sol ↔ IsOptimal c mode (o.mapSp Path.og) (sol.mapSp Path.og)) ∧
    (∀ sol', IsOptimal c mode (o.mapSp Path.og) sol' →
      sol'.allSp (fun p => Path.ogOk p && (p != [])) = true →
      IsOptimal c mode o (sol'.mapSp Path.unog) ∧ (sol'.mapSp Path.unog).mapSp Path.og = sol') := by
  obtain ⟨h2, h1⟩ := (transfer_og o).spec c mode (Sol.mapSp Path.unog) (C09_outgroup_project c mode hc o)
  refine ⟨h1, h2, fun sol' hopt havoid => ?_⟩
  have e := Sol.og_unog_of_avoid sol' havoid
  exact ⟨by rw [h2, e]; exact hopt, e⟩

/-- The hypothesis of `C09_outgroup` is needed: with `spe = 5 > dup + 4·floss = 4`
    and no transfers, two genes in the two species of `(A,B)` must be joined by a
    speciation (cost 5) in the old tree, but by a duplication at the new root
    (cost `0 + 1·4 = 4`) in the tree with an outgroup. -/
theorem C09_outgroup_needs_slack :
    let c : Costs := { spe := 5, dup := 0, hgt := .inf, floss := 1, sloss := 0 }
    let o : OTree := .node (.leaf [0] []) (.leaf [1] [])
    let cheap : Sol := .node [] [] (.leaf [0, 0] []) (.leaf [0, 1] [])
    ¬ (c.spe + ogSlack .plain * c.sloss ≤ c.dup + 4 * c.floss) ∧
    (exhaustive c o).map (totalCost c .plain o) = [.fin 5] ∧
    Spec.validSol .plain (o.mapSp Path.og) cheap = true ∧
    totalCost c .plain (o.mapSp Path.og) cheap = .fin 4 ∧
    (exhaustive c (o.mapSp Path.og)).map (totalCost c .plain (o.mapSp Path.og)) = [.fin 4] := by
  decide +kernel

/-- With `floss = 0` the new input has additional optimal solutions (a
    duplication at the new root), so the optimal SETS differ although the minimum
    does not: here 3 optimal solutions before, 4 after, all of cost 1. -/
theorem C09_outgroup_extra_optimum :
    let c : Costs := { spe := 1, dup := 1, hgt := .fin 1, floss := 0, sloss := 0 }
    let o : OTree := .node (.leaf [0] []) (.leaf [1] [])
    let extra : Sol := .node [] [] (.leaf [0, 0] []) (.leaf [0, 1] [])
    c.spe + ogSlack .plain * c.sloss ≤ c.dup + 2 * c.floss ∧
    (exhaustive c o).map (totalCost c .plain o) = [.fin 1, .fin 1, .fin 1] ∧
    extra ∈ exhaustive c (o.mapSp Path.og) ∧
    (∀ s ∈ exhaustive c o, s.mapSp Path.og ≠ extra) ∧
    (exhaustive c (o.mapSp Path.og)).length = 4 ∧
    (∀ s' ∈ exhaustive c (o.mapSp Path.og), totalCost c .plain (o.mapSp Path.og) s' = .fin 1) := by
  decide +kernel

/-- **For a positive full-loss cost no optimal solution uses the new root**
    (coherent costs, all three modes, optimal cost finite): every optimal solution of
    the new input avoids the new root and the outgroup, hence (by `C09_outgroup`) is
    the embedding of an optimal solution of the old input. -/
theorem C09_outgroup_strict (c : Costs) (mode : LabelMode)
    (hcoh : c.spe + ogSlack mode * c.sloss ≤ c.dup + 2 * c.floss) (hfl : 0 < c.floss)
    (o : OTree) (sol' : Sol) (hopt : IsOptimal c mode (o.mapSp Path.og) sol')
    (hfin : totalCost c mode (o.mapSp Path.og) sol' ≠ .inf) :
    sol'.allSp Path.avoid = true ∧
    IsOptimal c mode o (sol'.mapSp Path.unog) ∧ (sol'.mapSp Path.unog).mapSp Path.og = sol' := by
  have hc : c.spe + ogSlack mode * c.sloss ≤ c.dup + 4 * c.floss := by omega
  have hc' : c.spe + ogSlack mode * c.sloss < c.dup + 4 * c.floss := by omega
  have havoid : sol'.allSp Path.avoid = true := by
    cases hbad : sol'.allSp Path.avoid with
    | true => rfl
    | false =>
      exfalso
      have hr : Spec.validRec (o.mapSp Path.og) sol' = true := by
        have := hopt.1
        simp only [Spec.validSol, Bool.and_eq_true] at this; exact this.1
      have hlt := totalCost_unog_lt c mode hc' hfl _ sol' hr (leafSpecies_og_avoid o) hbad hfin
      rw [OTree.unog_og] at hlt
      obtain ⟨hpv, _⟩ := C09_outgroup_project c mode hc o sol' hopt.1
      have hle := hopt.2 ((sol'.mapSp Path.unog).mapSp Path.og)
        (by show Spec.validSol mode _ _ = true
            rw [(transfer_og o).valid]; exact hpv)
      rw [(transfer_og o).cost] at hle
      simp only [Cost.le, hlt, Bool.not_true] at hle
      cases hle
  exact ⟨havoid, (C09_outgroup c mode hc o).2.2 sol' hopt havoid⟩

/-- **The optimal set** for `floss > 0` (coherent costs): the optimal solutions of
    finite cost of the new input are exactly the embeddings of the optimal solutions
    of the old input. -/
theorem C09_outgroup_set (c : Costs) (mode : LabelMode)
    (hcoh : c.spe + ogSlack mode * c.sloss ≤ c.dup + 2 * c.floss) (hfl : 0 < c.floss)
    (o : OTree) (sol' : Sol) (hfin : totalCost c mode (o.mapSp Path.og) sol' ≠ .inf) :
    IsOptimal c mode (o.mapSp Path.og) sol' ↔
      ∃ sol, IsOptimal c mode o sol ∧ sol.mapSp Path.og = sol' := by
  have hc : c.spe + ogSlack mode * c.sloss ≤ c.dup + 4 * c.floss := by omega
  constructor
  · intro hopt
    obtain ⟨_, h2, h3⟩ := C09_outgroup_strict c mode hcoh hfl o sol' hopt hfin
    exact ⟨_, h2, h3⟩
  · rintro ⟨sol, hs, rfl⟩
    exact ((C09_outgroup c mode hc o).2.1 sol).mp hs

/-- The enlarged species tree: nodes and binarity. -/
theorem C09_outgroup_tree (S : RTree) :
    (∀ q, S.withOutgroup.isNode q = true ↔
      q = [] ∨ q = [1] ∨ ∃ p, q = Path.og p ∧ S.isNode p = true) ∧
    S.withOutgroup.isBinary = S.isBinary :=
  ⟨RTree.isNode_withOutgroup_iff S, RTree.isBinary_withOutgroup S⟩

/-- `reconcile_exhaustive`: a reconciliation is returned for the old input iff its
    embedding is returned for the new one, and all returned costs agree
    (`spe ≤ dup + 4·floss`). -/
theorem C09_outgroup_exh (c : Costs) (hc : c.spe ≤ c.dup + 4 * c.floss) (o : OTree) :
    (∀ sol, sol ∈ exhaustive c o ↔ sol.mapSp Path.og ∈ exhaustive c (o.mapSp Path.og)) ∧
    (∀ s ∈ exhaustive c o, ∀ s' ∈ exhaustive c (o.mapSp Path.og),
      totalCost c .plain (o.mapSp Path.og) s' = totalCost c .plain o s) := by
  have hc' : c.spe + ogSlack .plain * c.sloss ≤ c.dup + 4 * c.floss := by simpa [ogSlack] using hc
  have hg : ∀ s, (Spec.validRec (o.mapSp Path.og) s = true ∧ plainLabels (o.mapSp Path.og) s = true) →
      (Spec.validRec o (s.mapSp Path.unog) = true ∧ plainLabels o (s.mapSp Path.unog) = true) ∧
      Cost.le (totalCost c .plain o (s.mapSp Path.unog)) (totalCost c .plain (o.mapSp Path.og) s)
        = true := by
    rintro s ⟨h1, h2⟩
    have a := validRec_unog _ s h1 (validRec_allSp_ogOk _ s h1 (leafSpecies_og_ok o))
    have b := totalCost_unog_le c .plain hc' _ s h1 (leafSpecies_og_ok o)
    have d := plainLabels_mapSp Path.unog (o.mapSp Path.og) s
    rw [OTree.unog_og] at a b d
    exact ⟨⟨a, by rw [d]; exact h2⟩, b⟩
  have hiff := (transfer_og o).exh c _ hg
  refine ⟨hiff, fun s hs s' hs' => ?_⟩
  rw [← (transfer_og o).cost c .plain s]
  rw [hiff, mem_exhaustive_iff] at hs
  exact IsOptimalFor.cost_eq ((mem_exhaustive_iff _ _ _).mp hs') hs

/-- `reconcile_thl` over the tree with an outgroup (well-formed input, coherent
    costs): a reconciliation is returned for the old input iff its embedding is
    returned for the new one. -/
theorem C09_outgroup_thl (c : Costs) (S : RTree) (o : OTree) (hb : S.isBinary = true)
    (hS : ∀ q ∈ leafSpecies o, S.isNode q = true) (hcoh : c.spe ≤ c.dup + 2 * c.floss) (sol : Sol) :
    sol ∈ thl c S o ↔ sol.mapSp Path.og ∈ thl c S.withOutgroup (o.mapSp Path.og) := by
  refine (present_og S o).thl c hb hS hcoh (Sol.mapSp Path.unog) (fun s hs => ?_) sol
  have a := validRec_unog _ s hs.1 (validRec_allSp_ogOk _ s hs.1 (leafSpecies_og_ok o))
  have b := totalCost_unog_le c .plain (by simp [ogSlack]; omega) _ s hs.1 (leafSpecies_og_ok o)
  have d := mem_allMappings_mapSp Path.unog S.withOutgroup S (fun _ => S.isNode_unog) _ s hs.2
  rw [OTree.unog_og] at a b d
  exact ⟨⟨a, d⟩, b⟩

/-- The optimiser's own minimum (the minimum table value at the root) is
    unchanged by the outgroup. -/
theorem C09_outgroup_thl_min (c : Costs) (S : RTree) (o : OTree) (hb : S.isBinary = true)
    (hS : ∀ q ∈ leafSpecies o, S.isNode q = true) (hcoh : c.spe ≤ c.dup + 2 * c.floss) :
    thlTableMin c S.withOutgroup (o.mapSp Path.og) = thlTableMin c S o := by
  have hb' : S.withOutgroup.isBinary = true := by rw [RTree.isBinary_withOutgroup]; exact hb
  have hS' := (present_og S o).sp hS
  obtain ⟨m, hm⟩ := List.exists_mem_of_ne_nil _ (C01.C01_thl_total c S o hb hS)
  have hm' := (C09_outgroup_thl c S o hb hS hcoh m).mp hm
  rw [← C01.C01_thl_table_min c S o hb hS hcoh m hm,
    ← C01.C01_thl_table_min c _ _ hb' hS' hcoh _ hm']
  exact (transfer_og o).cost c .plain m

def ogS : RTree := .node [.node [.node [], .node []], .node []]
def ogO : OTree := .node (.node (.leaf [0, 0] [1, 2]) (.leaf [1] [2])) (.leaf [0, 1] [1])
def ogC : Costs := { spe := 1, dup := 1, hgt := .fin 1, floss := 1, sloss := 1 }

-- The hypotheses of `C09_outgroup`, `C09_outgroup_thl` hold on a non-trivial input; the
-- new tree really is larger; minimum and optimal sets correspond.
example :
    (∀ mode, ogC.spe + ogSlack mode * ogC.sloss ≤ ogC.dup + 4 * ogC.floss) ∧
    ogS.isBinary = true ∧ (∀ q ∈ leafSpecies ogO, ogS.isNode q = true) ∧
    ogC.spe ≤ ogC.dup + 2 * ogC.floss ∧
    ogS.withOutgroup.preorder = [[], [0], [0, 0], [0, 0, 0], [0, 0, 1], [0, 1], [1]] ∧
    ogO.mapSp Path.og =
      .node (.node (.leaf [0, 0, 0] [1, 2]) (.leaf [0, 1] [2])) (.leaf [0, 0, 1] [1]) ∧
    (thl ogC ogS ogO).map (totalCost ogC .plain ogO) = [.fin 2, .fin 2, .fin 2, .fin 2, .fin 2] ∧
    (thl ogC ogS.withOutgroup (ogO.mapSp Path.og)) = (thl ogC ogS ogO).map (Sol.mapSp Path.og) ∧
    thlTableMin ogC ogS.withOutgroup (ogO.mapSp Path.og) = .fin 2 := by
  refine ⟨fun mode => by cases mode <;> decide, ?_⟩
  decide +kernel

-- Projection of a solution that uses the new root: valid, and strictly cheaper here.
example :
    let sol' : Sol := .node [] [] (.node [0] [] (.leaf [0, 0, 0] [1, 2]) (.leaf [0, 1] [2]))
      (.leaf [0, 0, 1] [1])
    Spec.validSol .plain (ogO.mapSp Path.og) sol' = true ∧
    totalCost ogC .plain (ogO.mapSp Path.og) sol' = .fin 7 ∧
    Spec.validSol .plain ogO (sol'.mapSp Path.unog) = true ∧
    totalCost ogC .plain ogO (sol'.mapSp Path.unog) = .fin 5 := by
  decide +kernel

-- `floss > 0`: every optimal reconciliation of the new input avoids the new root, and the
-- optimal set is the embedded old one (`C09_outgroup_strict`, `C09_outgroup_set`).
example :
    0 < ogC.floss ∧ (∀ mode, ogC.spe + ogSlack mode * ogC.sloss ≤ ogC.dup + 2 * ogC.floss) ∧
    (∀ s' ∈ exhaustive ogC (ogO.mapSp Path.og), s'.allSp Path.avoid = true) ∧
    exhaustive ogC (ogO.mapSp Path.og) = (exhaustive ogC ogO).map (Sol.mapSp Path.og) := by
  refine ⟨by decide, fun mode => by cases mode <;> decide, ?_⟩
  decide +kernel

-- Ordered mode: a labelled solution using the new root (a duplication there) is valid; its
-- projection (a duplication at the old root, two skipped species fewer) stays valid and is cheaper.
example :
    let sol' : Sol := .node [] [1, 2] (.node [0] [1, 2] (.leaf [0, 0, 0] [1, 2]) (.leaf [0, 1] [2]))
      (.leaf [0, 0, 1] [1])
    Spec.validSol .ordered (ogO.mapSp Path.og) sol' = true ∧
    Spec.validSol .ordered ogO (sol'.mapSp Path.unog) = true ∧
    internalEvent [] [0] [0, 0, 1] = .dup ∧ internalEvent [] [] [0, 1] = .dup ∧
    Cost.lt (totalCost ogC .ordered ogO (sol'.mapSp Path.unog))
      (totalCost ogC .ordered (ogO.mapSp Path.og) sol') = true ∧
    totalCost ogC .ordered (ogO.mapSp Path.og) sol' ≠ .inf := by
  decide +kernel

end SR.C09
