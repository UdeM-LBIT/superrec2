/-
  C12 (JSON text) — the text layer of the output: `json.loads (json.dumps v) = v` on the model of
  `Model/Json.lean` (`render` = `json.dumps` with the default options, `parse` = `json.loads`,
  `parseRaw` = `json.loads` with `object_pairs_hook`; tied to CPython byte for byte by
  `harness/checks/c12_json.py`), which `cli/reconcile.py::dump_results` writes with and
  `json.load` in `cli/reconcile.py` and `cli/draw.py` reads with.  Then the same on the dictionary
  structure of `Model/Serialize.lean`, and the cost-line theorems of `C12Bridge.lean` on the written
  text: `C12_text_of_cost_line` turns their conclusion `CostLineOK` into `TextLineOK` (every line of
  the output parses to a dictionary that `from_dict` reads back with the printed cost).
-/
import SRVerif.Proofs.JsonDict
import SRVerif.Properties.C12Bridge

namespace SR.C12

open SR SR.Ser SR.Cli SR.SolOut SR.C11 SR.Json

/-- `json.loads(json.dumps(v)) = v` for every value without repeated keys: all strings (escapes
    included), all integers, both infinities, any nesting. -/
theorem C12_json_roundtrip : ∀ v : JVal, WFJ v → parse (render v) = some v := parse_render

/-- With `object_pairs_hook` (pairs kept as read) nothing is needed. -/
theorem C12_json_roundtrip_pairs : ∀ v : JVal, parseRaw (render v) = some v := parseRaw_render

/-- `WFJ` cannot be dropped for `json.loads`: a repeated key is collapsed (first position, last
    value). -/
theorem C12_json_wf_needed :
    ¬ WFJ (.obj [("a", .int 1), ("b", .null), ("a", .int 2)]) ∧
    parse (render (.obj [("a", .int 1), ("b", .null), ("a", .int 2)]))
      = some (.obj [("a", .int 2), ("b", .null)]) :=
  ⟨by decide +kernel, (parse_render_norm _).trans (by decide +kernel)⟩

/-- `json.dumps(v)` has no line break, so "one object per line" is well defined for
    `dump_results`. -/
theorem C12_json_one_line (v : JVal) : '\n' ∉ (render v).toList ∧ '\r' ∉ (render v).toList :=
  render_no_newline v

/-- The fuel of the parser is not a restriction: on characters, for every value. -/
theorem C12_json_roundtrip_chars (v : JVal) : parseC (renderV v) = some v := parseC_renderV v

/-- `json.loads(json.dumps(d))`, read by key, is `d`, for every dictionary structure whose
    mappings are Python `dict`s. -/
theorem C12_json_dict_roundtrip (d : OutputDict) (h : DictOk d) : parseDict (renderDict d) = some d := by
  simp [parseDict, renderDict, parse_render _ (wf_dictToJ d h), dictOfJ_dictToJ]

/-- With the pairs kept: every dictionary structure. -/
theorem C12_json_dict_roundtrip_pairs (d : OutputDict) :
    (parseRaw (renderDict d)).bind dictOfJ = some d := by
  simp [renderDict, parseRaw_render, dictOfJ_dictToJ]

theorem C12_to_dict_ok_plain (write : NT → String) (x : RecOutput) : DictOk (x.toDict write) :=
  dictOk_recOutput write x

theorem C12_to_dict_ok_super (write : NT → String) (x : SRecOutput) : DictOk (x.toDict write) :=
  dictOk_srecOutput write x

theorem C12_json_dict_one_line (d : OutputDict) : '\n' ∉ (renderDict d).toList :=
  (render_no_newline _).1

/-- The conclusion of the cost-line theorems read on the OUTPUT TEXT of a run that wrote the
    objects `outs` (`toD` is `to_dict`): status 0; the last stderr line is "Minimum cost: k";
    `k` is the `totalCost` of every optimal solution; the output text is `dump_results` with
    `json.dumps`; its newline-terminated lines are the written objects, in order, one per line;
    and every line is parsed by `json.loads` to a dictionary that comes back (`from_dict`) as an
    object of evaluated cost `k`. -/
def TextLineOK {ρ : Type} (toD : ρ → OutputDict) (DictBack : OutputDict → Cost → Prop) (c : Costs)
    (mode : LabelMode) (o : OTree) (opt : List Sol) (outs : List ρ) (run : RunOut) : Prop :=
  ∃ k : Cost, run.status = 0 ∧ run.stderr.getLast? = some (minCostText k) ∧
    (∀ s ∈ opt, totalCost c mode o s = k) ∧
    run.stdout = dumpResults (fun x => renderDict (toD x)) outs ∧
    termLines run.stdout.toList = outs.map (fun x => (renderDict (toD x)).toList) ∧
    ∀ ℓ ∈ termLines run.stdout.toList, ∃ d, parseDict (String.ofList ℓ) = some d ∧ DictBack d k

/-- From dictionaries to the text: no hypothesis about JSON is left. -/
theorem C12_text_of_cost_line {ρ : Type} (toD : ρ → OutputDict) (hok : ∀ x, DictOk (toD x))
    (DictBack : OutputDict → Cost → Prop) (c : Costs) (mode : LabelMode) (o : OTree)
    (opt : List Sol) (outs : List ρ) (run : RunOut)
    (h : CostLineOK (fun x k => DictBack (toD x) k) c mode o opt (fun x => renderDict (toD x))
      outs run) :
    TextLineOK toD DictBack c mode o opt outs run := by
  obtain ⟨k, h1, h2, h3, h4, h5⟩ := h
  have hl : termLines run.stdout.toList = outs.map (fun x => (renderDict (toD x)).toList) := by
    rw [h4]
    exact C12_one_object_per_result _ outs (fun x _ => C12_json_dict_one_line _)
  refine ⟨k, h1, h2, h3, h4, hl, fun ℓ hℓ => ?_⟩
  rw [hl] at hℓ
  obtain ⟨x, hx, rfl⟩ := List.mem_map.mp hℓ
  exact ⟨toD x, by rw [String.ofList_toList]; exact C12_json_dict_roundtrip _ (hok x), h5 x hx⟩

theorem C12_text_plain {c : Costs} {mode : LabelMode} {o : OTree} {opt : List Sol}
    {outs : List RecOutput} {run : RunOut}
    (h : CostLineOK (fun x k => PlainDictBack (x.toDict Newick.write) k) c mode o opt
      (fun x => renderDict (x.toDict Newick.write)) outs run) :
    TextLineOK (fun x : RecOutput => x.toDict Newick.write) PlainDictBack c mode o opt outs run :=
  C12_text_of_cost_line _ (C12_to_dict_ok_plain _) _ _ _ _ _ _ _ h

theorem C12_text_super {c : Costs} {mode : LabelMode} {o : OTree} {opt : List Sol}
    {outs : List SRecOutput} {run : RunOut}
    (h : CostLineOK (fun x k => SuperDictBack (x.toDict Newick.write) k) c mode o opt
      (fun x => renderDict (x.toDict Newick.write)) outs run) :
    TextLineOK (fun x : SRecOutput => x.toDict Newick.write) SuperDictBack c mode o opt outs run :=
  C12_text_of_cost_line _ (C12_to_dict_ok_super _) _ _ _ _ _ _ _ h

theorem C12_cost_line_text_thl {nm : Naming} {S : RTree} {o : OTree} (c : Costs) (hnm : nm.Ok S o)
    (hb : S.isBinary = true) (hS : ∀ p ∈ leafSpecies o, S.isNode p = true) (withSyn : Bool) :
    let emb := embPlain nm c S o withSyn
    let cost := fun x : RecOutput => evalPlain x.input.base x.objectSpecies
    let toD := fun x : RecOutput => x.toDict Newick.write
    let enc := fun x : RecOutput => renderDict (toD x)
    TextLineOK toD PlainDictBack c .plain o (thl c S o) ((thl c S o).map emb)
      (reconcileRun "thl" (dispatch "thl" (kindOf withSyn) "all") ((thl c S o).map emb) cost enc) ∧
    ∀ (P : Picker Unit), P.Ok → c.spe ≤ c.dup + 2 * c.floss →
      TextLineOK toD PlainDictBack c .plain o (thl c S o) ((thlAny P c S o).map emb)
        (reconcileRun "thl" (dispatch "thl" (kindOf withSyn) "any") ((thlAny P c S o).map emb)
          cost enc) := by
  intro emb cost toD enc
  obtain ⟨h1, h2⟩ := C12_cost_line_thl renderDict c hnm hb hS withSyn
  exact ⟨C12_text_plain h1, fun P hP hc => C12_text_plain (h2 P hP hc)⟩

theorem C12_cost_line_text_exh {nm : Naming} {S : RTree} {o : OTree} (c : Costs) (hnm : nm.Ok S o)
    (hS : ∀ p ∈ leafSpecies o, S.isNode p = true) (withSyn : Bool) :
    let emb := embPlain nm c S o withSyn
    let cost := fun x : RecOutput => evalPlain x.input.base x.objectSpecies
    let toD := fun x : RecOutput => x.toDict Newick.write
    let enc := fun x : RecOutput => renderDict (toD x)
    TextLineOK toD PlainDictBack c .plain o (exhaustive c o) ((exhaustive c o).map emb)
      (reconcileRun "exh" (dispatch "exh" (kindOf withSyn) "all") ((exhaustive c o).map emb)
        cost enc) ∧
    ∀ (pick : List Sol → Option Sol), PickOk pick →
      TextLineOK toD PlainDictBack c .plain o (exhaustive c o) ((exhaustiveAny pick c o).map emb)
        (reconcileRun "exh" (dispatch "exh" (kindOf withSyn) "any")
          ((exhaustiveAny pick c o).map emb) cost enc) := by
  intro emb cost toD enc
  obtain ⟨h1, h2⟩ := C12_cost_line_exh renderDict c hnm hS withSyn
  exact ⟨C12_text_plain h1, fun pick hp => C12_text_plain (h2 pick hp)⟩

theorem C12_cost_line_text_lca {nm : Naming} {S : RTree} {o : OTree}
    (c : Costs) (hnm : nm.Ok S o) (hS : ∀ p ∈ leafSpecies o, S.isNode p = true) (withSyn : Bool)
    (sol : String) (hsol : sol = "any" ∨ sol = "all") :
    let emb := embPlain nm c S o withSyn
    let cost := fun x : RecOutput => evalPlain x.input.base x.objectSpecies
    let toD := fun x : RecOutput => x.toDict Newick.write
    let enc := fun x : RecOutput => renderDict (toD x)
    TextLineOK toD PlainDictBack c .plain o (rankByCost c .plain o [lcaSol o]) ([lcaSol o].map emb)
      (reconcileRun "lca" (dispatch "lca" (kindOf withSyn) sol) ([lcaSol o].map emb) cost enc) := by
  intro emb cost toD enc
  exact C12_text_plain (C12_cost_line_lca renderDict c hnm hS withSyn sol hsol)

theorem C12_cost_line_text_spfs {nm : Naming} {S : RTree} {o : OTree} (c : Costs) (hnm : nm.Ok S o)
    (hb : S.isBinary = true) (hS : ∀ p ∈ leafSpecies o, S.isNode p = true) (base : Bool)
    (pre : Option (List Nat)) :
    let emb := embSuper nm id c S o true
    let cost := fun x : SRecOutput => evalSuper x.input.base x.objectSpecies x.syntenies x.ordered
    let toD := fun x : SRecOutput => x.toDict Newick.write
    let enc := fun x : SRecOutput => renderDict (toD x)
    let all := spfs c S base o pre
    let runAll := reconcileRun (spfsName base) (dispatch (spfsName base) .super "all")
      (all.map emb) cost enc
    (all = [] → runAll.status = 1 ∧ runAll.stdout = "") ∧
    (all ≠ [] → TextLineOK toD SuperDictBack c .ordered o all (all.map emb) runAll) ∧
    ∀ (P : Picker Nat), P.Ok → C02.OrdersOk o pre → c.spe + 2 * c.sloss ≤ c.dup + 2 * c.floss →
      let any := spfsAny P c S base o pre
      let runAny := reconcileRun (spfsName base) (dispatch (spfsName base) .super "any")
        (any.map emb) cost enc
      (any = [] ↔ all = []) ∧ (all = [] → runAny.status = 1 ∧ runAny.stdout = "") ∧
      (all ≠ [] → TextLineOK toD SuperDictBack c .ordered o all (any.map emb) runAny) := by
  intro emb cost toD enc all runAll
  obtain ⟨h1, h2, h3⟩ := C12_cost_line_spfs renderDict c hnm hb hS base pre
  refine ⟨h1, fun hne => C12_text_super (h2 hne), fun P hP hord hc => ?_⟩
  obtain ⟨g1, g2, g3⟩ := h3 P hP hord hc
  exact ⟨g1, g2, fun hne => C12_text_super (g3 hne)⟩

/-- The sets are written in any iteration order `arr`. -/
theorem C12_cost_line_text_uspfs {nm : Naming} {S : RTree} {o : OTree}
    (arr : List String → List String) (harr : ∀ l, (arr l).Perm l) (c : Costs) (hnm : nm.Ok S o)
    (hb : S.isBinary = true) (hS : ∀ p ∈ leafSpecies o, S.isNode p = true) (base : Bool) :
    let emb := embSuper nm arr c S o false
    let cost := fun x : SRecOutput => evalSuper x.input.base x.objectSpecies x.syntenies x.ordered
    let toD := fun x : SRecOutput => x.toDict Newick.write
    let enc := fun x : SRecOutput => renderDict (toD x)
    let all := uspfs c S base o
    TextLineOK toD SuperDictBack c .unordered o all (all.map emb)
      (reconcileRun (uspfsName base) (dispatch (uspfsName base) .super "all") (all.map emb)
        cost enc) ∧
    ∀ (P : Picker Kind), P.Ok → (∀ f ∈ leafSyntenies o, f ≠ []) →
      c.spe + c.sloss ≤ c.dup + 2 * c.floss →
      TextLineOK toD SuperDictBack c .unordered o all ((uspfsAny P c S base o).map emb)
        (reconcileRun (uspfsName base) (dispatch (uspfsName base) .super "any")
          ((uspfsAny P c S base o).map emb) cost enc) := by
  intro emb cost toD enc all
  obtain ⟨h1, h2⟩ := C12_cost_line_uspfs renderDict arr harr c hnm hb hS base
  exact ⟨C12_text_super h1, fun P hP hne hc => C12_text_super (h2 P hP hne hc)⟩

/-- `C12_cost_line_uspfs_json` of `C12Bridge.lean` with its hypothesis discharged (`superdtl`
    / `base_uspfs`, `--solutions all`): every written line parses (pairs kept: no condition on the
    dictionary at all) to a dictionary read back with the cost of every optimal solution. -/
theorem C12_cost_line_uspfs_json_inst {nm : Naming} {S : RTree} {o : OTree}
    (arr : List String → List String) (harr : ∀ l, (arr l).Perm l) (c : Costs) (hnm : nm.Ok S o)
    (hb : S.isBinary = true) (hS : ∀ p ∈ leafSpecies o, S.isNode p = true) (base : Bool) :
    let enc := fun s => renderDict ((embSuper nm arr c S o false s).toDict Newick.write)
    ∃ k : Cost, (∀ s ∈ uspfs c S base o, totalCost c .unordered o s = k) ∧
      ∀ ℓ ∈ (uspfs c S base o).map enc, ∃ d y, (parseRaw ℓ).bind dictOfJ = some d ∧
        SRecOutput.fromDict newickRead d = .ok y ∧
        evalSuper y.input.base y.objectSpecies y.syntenies y.ordered = k :=
  C12_cost_line_uspfs_json renderDict (fun s => (parseRaw s).bind dictOfJ)
    C12_json_dict_roundtrip_pairs arr harr c hnm hb hS base

/-- A value with every kind of string escape (quote, backslash, the short escapes, a control
    character, DEL, Latin-1, U+2028, an astral character), big and negative integers, both
    infinities, empty containers, an empty key: rendered as CPython renders it, and read back. -/
def exVal : JVal :=
  .obj [("a\"\\/\n\r\t\x08\x0c\x01\x7fé\u2028😀", .arr [.int 0, .int (-12), .int 1234567890123456789012,
          .inf, .ninf, .null, .bool true, .bool false, .arr [], .obj []]),
        ("", .str ""), ("k", .obj [("k", .arr [.arr [.str "Infinity"]])])]

example : WFJ exVal := by decide +kernel

example : renderV exVal =
    ("{\"a\\\"\\\\/\\n\\r\\t\\b\\f\\u0001\\u007f\\u00e9\\u2028\\ud83d\\ude00\": [0, -12, " ++
     "1234567890123456789012, Infinity, -Infinity, null, true, false, [], {}], \"\": \"\", " ++
     "\"k\": {\"k\": [[\"Infinity\"]]}}").toList := by
  -- A literal is `String.ofList` of its characters, so `toList_ofList` reads them off; evaluating
  -- `String.toList` would decode the UTF-8 bytes instead.
  rewrite [String.toList_append, String.toList_append]
  iterate 3 rewrite [String.toList_ofList]
  decide +kernel

example : parseC (renderV exVal) = some exVal := C12_json_roundtrip_chars exVal

example : parse (render exVal) = some exVal := C12_json_roundtrip exVal (by decide +kernel)

/-- Whitespace between tokens, upper-case hexadecimal, `\/`: accepted as `json.loads` does. -/
example : parseC " {\n \"a\" :\t[ 1 ,-2,\r\n \"\\u00E9\\/\" ] , \"b\":{ } }\n ".toList
    = some (.obj [("a", .arr [.int 1, .int (-2), .str "é/"]), ("b", .obj [])]) := by
  rewrite [String.toList_ofList]
  decide +kernel

/-- Rejected as `json.loads` rejects (or reads as a float / keeps a lone surrogate: outside the
    model): leading zero, trailing comma, a raw control character in a string, a float, a lone
    surrogate, text after the value. -/
example : parseC "[01]".toList = none ∧ parseC "[1,]".toList = none ∧
    parseC "\"a\nb\"".toList = none ∧ parseC "1.5".toList = none ∧
    parseC "\"\\ud800\"".toList = none ∧ parseC "1 2".toList = none := by
  decide +kernel

/-- A real solver dictionary: the line that `reconcile --algorithm superdtl` writes for the
    solution of `C12Bridge.lean`'s example (`to_dict` with the Newick writer, then `json.dumps`;
    on characters — `decide` on computed `String`s is slow in the kernel) … -/
def exLine : List Char :=
  "{\"input\": {\"object_tree\": \"((S0_00,(S0_010,S0_011)O01)O0,S1_1)OR;\", ".toList ++
  "\"species_tree\": \"(S0,S1)SR;\", \"leaf_object_species\": {\"S0_00\": \"S0\", ".toList ++
  "\"S0_010\": \"S0\", \"S0_011\": \"S0\", \"S1_1\": \"S1\"}, \"costs\": {\"SPECIATION\": 0, ".toList ++
  "\"DUPLICATION\": 1, \"HORIZONTAL_TRANSFER\": 1, \"FULL_LOSS\": 1, \"SEGMENTAL_LOSS\": 1}, ".toList ++
  "\"leaf_syntenies\": {\"S0_00\": [\"gg\", \"ggg\"], \"S0_010\": [\"gg\"], \"S0_011\": [\"gg\"], ".toList ++
  "\"S1_1\": [\"gg\", \"ggg\"]}}, \"object_species\": {\"OR\": \"SR\", \"O0\": \"S0\", ".toList ++
  "\"S0_00\": \"S0\", \"O01\": \"S0\", \"S0_010\": \"S0\", \"S0_011\": \"S0\", \"S1_1\": \"S1\"}, ".toList ++
  "\"syntenies\": {\"OR\": [\"gg\", \"ggg\"], \"O0\": [\"gg\", \"ggg\"], \"S0_00\": [\"gg\", \"ggg\"], ".toList ++
  "\"O01\": [\"gg\"], \"S0_010\": [\"gg\"], \"S0_011\": [\"gg\"], \"S1_1\": [\"gg\", \"ggg\"]}, ".toList ++
  "\"ordered\": false}".toList

example :
    (uspfs exCosts exS false exO).map (fun s =>
      renderV (dictToJ ((embSuper exNaming id exCosts exS exO false s).toDict Newick.write)))
    = [exLine] := by
  unfold exLine
  iterate 10 rewrite [String.toList_ofList]
  decide +kernel

/-- … and read back: `json.loads`, then the keys looked up as `from_dict` does. -/
example :
    (uspfs exCosts exS false exO).map (fun s =>
      ((parseC (renderV (dictToJ ((embSuper exNaming id exCosts exS exO false s).toDict
        Newick.write)))).map JVal.norm).bind dictOfJ)
    = (uspfs exCosts exS false exO).map (fun s =>
      some ((embSuper exNaming id exCosts exS exO false s).toDict Newick.write)) :=
  List.map_congr_left fun s _ => by
    rw [C12_json_roundtrip_chars, Option.map_some,
      norm_wf _ (wf_dictToJ _ (C12_to_dict_ok_super _ _)), Option.bind_some, dictOfJ_dictToJ]

/-- The text theorems apply to that input: every line written by `reconcile --algorithm thl
    --solutions all` parses to a dictionary read back with the printed cost. -/
example :
    ∃ k, ∀ ℓ ∈ termLines (reconcileRun "thl" (dispatch "thl" (kindOf true) "all")
        ((thl exCosts exS exO).map (embPlain exNaming exCosts exS exO true))
        (fun x : RecOutput => evalPlain x.input.base x.objectSpecies)
        (fun x : RecOutput => renderDict (x.toDict Newick.write))).stdout.toList,
      ∃ d, parseDict (String.ofList ℓ) = some d ∧ PlainDictBack d k := by
  obtain ⟨k, _, _, _, _, _, h⟩ := (C12_cost_line_text_thl exCosts exNaming_ok
    (by decide +kernel) (by decide +kernel) true).1
  exact ⟨k, h⟩

example :
    ∃ k, ∀ x ∈ (uspfs exCosts exS false exO).map (embSuper exNaming id exCosts exS exO false),
      ∃ d, parseDict (renderDict (x.toDict Newick.write)) = some d ∧ SuperDictBack d k := by
  obtain ⟨k, _, _, _, _, hl, h⟩ := (C12_cost_line_text_uspfs id
    (fun _ => List.Perm.refl _) exCosts exNaming_ok (by decide +kernel) (by decide +kernel) false).1
  refine ⟨k, fun x hx => ?_⟩
  have := h (renderDict (x.toDict Newick.write)).toList (by
    rw [hl]; exact List.mem_map.mpr ⟨x, hx, rfl⟩)
  rwa [String.ofList_toList] at this

end SR.C12
