/-
  C10 for the unordered solvers: the bridge between the DP's per-kind edge charges and the cost
  evaluator on the materialised contents (`faithful_spec` / `faithful_root`,
  `Proofs/UnContentDecode.lean`), under the names of this property, and what it gives for the
  optimiser's own table values (`uspfsTableMin`).
  Guards: `S` binary, leaf species nodes of `S`, `spe + sloss ≤ dup + 2·floss`
  (implied by the coherent region).
-/
import SRVerif.Properties.C10Ext

namespace SR.C10

open SR Cost

/-- `faithful_root` (`Proofs/UnContentDecode.lean`) under this property's name: the evaluator on
    the materialised solution agrees with the generic cost, for every admissible labelling of
    finite generic cost with LCA root. -/
theorem C10_un_bridge (c : Costs) (S : RTree) (base : Bool) (o : OTree) (ls : LSol Kind)
    (adm : Adm (unAlg c) (annUn S base o [] o) ls) (hroot : ls.lab = .lca)
    (hfin : labCost (unAlg c) c (annUn S base o [] o) ls ≠ .inf) :
    totalCost c .unordered o (unSol (annUn S base o [] o) (annUn S base o [] o).data.lcaSet ls) =
      labCost (unAlg c) c (annUn S base o [] o) ls :=
  faithful_root c S base o ls adm hroot hfin

/-- `C03.C03_kinds_faithful` (`Properties/C03Kinds.lean`) under this property's name. -/
theorem C10_kinds_faithful : C03.C03_kinds_faithful_statement :=
  C03.C03_kinds_faithful

variable (c : Costs) (S : RTree) (o : OTree)

/-- The evaluated cost of a returned solution is the value of the root cell it was
    decoded from and is at most the value of every root cell: the optimiser's belief
    (`uspfsTableMin`) is the evaluated cost of what it returns.  Both variants. -/
theorem C10_uspfs_cost_eq_table (base : Bool) (hb : S.isBinary = true)
    (hS : ∀ p ∈ leafSpecies o, S.isNode p = true)
    (hcoh : c.spe + c.sloss ≤ c.dup + 2 * c.floss) :
    ∀ a ∈ uspfs c S base o,
      (∃ d ∈ uspfsCells c S base true o, totalCost c .unordered o a = d.cost) ∧
      ∀ d' ∈ uspfsCells c S base true o, Cost.le (totalCost c .unordered o a) d'.cost = true := by
  intro a ha
  have hval := C03.C03_table_value c S base o hb hS hcoh
  obtain ⟨hmem, -⟩ := (mem_rankByCost c .unordered o _ a).mp ha
  obtain ⟨d, hd, hmem⟩ := List.mem_flatMap.mp hmem
  obtain ⟨ls, hls, rfl⟩ := List.mem_map.mp hmem
  refine ⟨⟨d, hd, hval d hd ls hls⟩, fun d' hd' => ?_⟩
  rw [C03.C03_result_cost c S base o hb hS hcoh _ ha, uspfsTableMin, ← uspfsD_cells,
    (uspfsD c S base o).cells_costs c S]
  exact minList_le (List.mem_map.mpr ⟨d', hd', rfl⟩)

/-- Extended ≤ base, unordered, at the level of the optimiser's tables: the minimum
    root value of the extended table is at most that of the base table, and the
    extended solver returns something whenever the base solver does. -/
theorem C10_ext_le_base_unordered_table (hb : S.isBinary = true)
    (hS : ∀ p ∈ leafSpecies o, S.isNode p = true)
    (hcoh : c.spe + c.sloss ≤ c.dup + 2 * c.floss) :
    Cost.le (uspfsTableMin c S false o) (uspfsTableMin c S true o) = true ∧
    (uspfs c S true o ≠ [] → uspfs c S false o ≠ []) :=
  ⟨uspfsD_tableMin c S false o ▸ uspfsD_tableMin c S true o ▸
    (uspfsD c S false o).tableMin_le_of_cands c S hb (C03.uspfsD_spOk c S false o hS)
      (uspfsD c S true o) c (un_slack c) (C03.uspfsD_spOk c S true o hS) hcoh
      fun k hk => ⟨k, uspfs_cand_ext c S o hS hk⟩,
    (C10_ext_le_base_unordered c S o hb hS hcoh).2⟩

/-- A well-formed coherent input with two families on which INHERIT labels are used,
    the extended solver is strictly cheaper than the base one, and the evaluated costs
    are the table minima. -/
example :
    let c : Costs := { spe := 0, dup := 5, hgt := .fin 1, floss := 5, sloss := 1 }
    let S : RTree := .node [.node [.node [], .node []], .node []]
    let o : OTree := .node (.node (.leaf [0, 0] [1, 2]) (.leaf [1] [2])) (.leaf [0, 1] [1])
    S.isBinary = true ∧ (∀ p ∈ leafSpecies o, S.isNode p = true) ∧
    c.spe + c.sloss ≤ c.dup + 2 * c.floss ∧
    (uspfs c S false o).map (totalCost c .unordered o) = [.fin 1] ∧
    (uspfs c S true o).map (totalCost c .unordered o) = [.fin 21] ∧
    uspfsTableMin c S false o = .fin 1 ∧ uspfsTableMin c S true o = .fin 21 := by
  dsimp only
  rw [ex_solvers.2.2.1, ex_solvers.2.2.2]
  decide +kernel

end SR.C10
