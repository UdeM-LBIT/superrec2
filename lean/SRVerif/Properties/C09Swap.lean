/-
  C09 (child swaps) — "The minimum cost and the set of optimal solutions are
  unchanged by reordering the children of any node of either tree."

  Stated at the level of the specification, in all three modes: valid solutions (`Spec.validSol`)
  and the evaluator `totalCost`; `IsOptimal` / `IsMinCost` (`Proofs/Optima.lean`) are "valid and
  no valid solution is cheaper" / "the minimum over the valid solutions".  Then for the solvers
  `exhaustive` and `thl`.  Each theorem is a presentation (`Proofs/Present.lean`: `transfer_swapAt`,
  `transfer_mirror`, `present_swapAt` for the object tree, `transfer_mapSp`, `present_swapSp` for
  the species tree)
  lifted to a solver (`Proofs/PresentLift.lean`).
-/
import SRVerif.Proofs.PresentLift

namespace SR.C09

open SR

/-- The swap is an involution on inputs and on solutions. -/
theorem C09_swap_obj_invol (p : Path) (o : OTree) (sol : Sol) :
    (o.swapAt p).swapAt p = o ∧ (sol.swapAt p).swapAt p = sol :=
  ⟨OTree.swapAt_swapAt p o, Sol.swapAt_swapAt p sol⟩

theorem C09_mirror_obj_invol (o : OTree) (sol : Sol) :
    o.mirror.mirror = o ∧ sol.mirror.mirror = sol :=
  ⟨OTree.mirror_mirror o, Sol.mirror_mirror sol⟩

/-- **C09, object-child swap** (all three modes): a solution is optimal for `o` iff its image
    under `Sol.swapAt p` is optimal for `o.swapAt p` (an involution, `C09_swap_obj_invol`, so
    every optimal solution of the swapped input is such an image), and the two inputs have
    the same minimum cost. -/
theorem C09_swap_obj (c : Costs) (mode : LabelMode) (p : Path) (o : OTree) :
    (∀ sol, IsOptimal c mode o sol ↔ IsOptimal c mode (o.swapAt p) (sol.swapAt p)) ∧
    (∀ m, IsMinCost c mode o m ↔ IsMinCost c mode (o.swapAt p) m) :=
  (transfer_swapAt p o).spec c mode _ ((transfer_swapAt p o).retrValid (Sol.swapAt_swapAt p) c mode)

theorem C09_mirror_obj (c : Costs) (mode : LabelMode) (o : OTree) :
    (∀ sol, IsOptimal c mode o sol ↔ IsOptimal c mode o.mirror sol.mirror) ∧
    (∀ m, IsMinCost c mode o m ↔ IsMinCost c mode o.mirror m) :=
  (transfer_mirror o).spec c mode _ ((transfer_mirror o).retrValid Sol.mirror_mirror c mode)

/-- `reconcile_exhaustive` commutes with the swap. -/
theorem C09_swap_obj_exh (c : Costs) (p : Path) (o : OTree) (sol : Sol) :
    sol ∈ exhaustive c o ↔ sol.swapAt p ∈ exhaustive c (o.swapAt p) :=
  (transfer_swapAt p o).exh c _ ((transfer_swapAt p o).retrExh (Sol.swapAt_swapAt p) c) sol

theorem C09_mirror_obj_exh (c : Costs) (o : OTree) (sol : Sol) :
    sol ∈ exhaustive c o ↔ sol.mirror ∈ exhaustive c o.mirror :=
  (transfer_mirror o).exh c _ ((transfer_mirror o).retrExh Sol.mirror_mirror c) sol

/-- `reconcile_thl` commutes with the swap (well-formed input, coherent costs). -/
theorem C09_swap_obj_thl (c : Costs) (S : RTree) (p : Path) (o : OTree) (hb : S.isBinary = true)
    (hS : ∀ q ∈ leafSpecies o, S.isNode q = true) (hcoh : c.spe ≤ c.dup + 2 * c.floss) (sol : Sol) :
    sol ∈ thl c S o ↔ sol.swapAt p ∈ thl c S (o.swapAt p) :=
  (present_swapAt S p o).thl c hb hS hcoh _ ((present_swapAt S p o).retrThl (Sol.swapAt_swapAt p) c) sol

/-- The relabelling of species induced by exchanging the children `i`, `j` of the
    species node `p` preserves every query the models make on species, and is an
    injective involution. -/
theorem C09_swap_sp_paths (p : Path) (i j : Nat) :
    let φ := Path.swapAt p i j
    (∀ a b, Path.isAnc (φ a) (φ b) = Path.isAnc a b) ∧
    (∀ a b, Path.isStrictAnc (φ a) (φ b) = Path.isStrictAnc a b) ∧
    (∀ a b, Path.comparable (φ a) (φ b) = Path.comparable a b) ∧
    (∀ a b, Path.lcp (φ a) (φ b) = φ (Path.lcp a b)) ∧
    (∀ a b, Path.dist (φ a) (φ b) = Path.dist a b) ∧
    (∀ a, (φ a).length = a.length) ∧
    (∀ s a b, internalEvent (φ s) (φ a) (φ b) = internalEvent s a b) ∧
    (∀ c s a b, localRecCost c (φ s) (φ a) (φ b) = localRecCost c s a b) ∧
    (∀ a b, φ a = φ b → a = b) ∧ (∀ a, φ (φ a) = a) ∧
    (∀ q, φ (p ++ i :: q) = p ++ j :: q) ∧ (∀ q, φ (p ++ j :: q) = p ++ i :: q) ∧
    (∀ q, Path.isStrictAnc p q = false → φ q = q) := by
  intro φ
  have h := Path.swapAt_emb p i j
  exact ⟨h.isAnc, h.isStrictAnc, h.comparable, h.lcp, h.dist, Path.relabelAt_len _ p,
    h.internalEvent, h.localRecCost, h.inj, Path.swapAt_invol p i j, Path.swapAt_left p i j,
    Path.swapAt_right p i j, Path.relabelAt_of_not_below _ p⟩

/-- **C09, species-child swap** (all modes): a solution is optimal iff its relabelling is
    optimal for the relabelled input, and the minimum is equal.  (The relabelling of paths
    is an involution, `C09_swap_sp_paths`.) -/
theorem C09_swap_sp (c : Costs) (mode : LabelMode) (p : Path) (i j : Nat) (o : OTree) :
    (∀ sol, IsOptimal c mode o sol ↔
      IsOptimal c mode (o.mapSp (Path.swapAt p i j)) (sol.mapSp (Path.swapAt p i j))) ∧
    (∀ m, IsMinCost c mode o m ↔ IsMinCost c mode (o.mapSp (Path.swapAt p i j)) m) :=
  (transfer_mapSp (Path.swapAt_emb p i j) o).spec c mode _
    ((transfer_mapSp (Path.swapAt_emb p i j) o).retrValid (Sol.swapSp_invol p i j) c mode)

/-- The species tree with the two child subtrees exchanged has exactly the
    relabelled nodes, and is binary iff the original is. -/
theorem C09_swap_sp_nodes (S : RTree) (p : Path) (i j : Nat) (hi : i < S.arityAt p)
    (hj : j < S.arityAt p) :
    (∀ q, (S.swapAt p i j).isNode (Path.swapAt p i j q) = S.isNode q) ∧
    (S.swapAt p i j).isBinary = S.isBinary :=
  ⟨RTree.isNode_swapAt p S i j hi hj, RTree.isBinary_swapAt S p i j⟩

/-- `reconcile_exhaustive` commutes with the relabelling. -/
theorem C09_swap_sp_exh (c : Costs) (p : Path) (i j : Nat) (o : OTree) (sol : Sol) :
    sol ∈ exhaustive c o ↔
      sol.mapSp (Path.swapAt p i j) ∈ exhaustive c (o.mapSp (Path.swapAt p i j)) :=
  (transfer_mapSp (Path.swapAt_emb p i j) o).exh c _
    ((transfer_mapSp (Path.swapAt_emb p i j) o).retrExh (Sol.swapSp_invol p i j) c) sol

/-- `reconcile_thl` over the swapped species tree returns the relabelled
    solutions (well-formed input, coherent costs). -/
theorem C09_swap_sp_thl (c : Costs) (S : RTree) (p : Path) (i j : Nat) (o : OTree)
    (hi : i < S.arityAt p) (hj : j < S.arityAt p) (hb : S.isBinary = true)
    (hS : ∀ q ∈ leafSpecies o, S.isNode q = true) (hcoh : c.spe ≤ c.dup + 2 * c.floss) (sol : Sol) :
    sol ∈ thl c S o ↔
      sol.mapSp (Path.swapAt p i j) ∈
        thl c (S.swapAt p i j) (o.mapSp (Path.swapAt p i j)) :=
  (present_swapSp S p i j hi hj o).thl c hb hS hcoh _
    ((present_swapSp S p i j hi hj o).retrThl (Sol.swapSp_invol p i j) c) sol

/-- Test data: the species tree `((A,B),C)` and the object tree `((x, y), z)` with `x` at `A`
    (synteny `[1,2]`), `y` at `C` (`[2]`), `z` at `B` (`[1]`). -/
def swS : RTree := .node [.node [.node [], .node []], .node []]
def swO : OTree := .node (.node (.leaf [0, 0] [1, 2]) (.leaf [1] [2])) (.leaf [0, 1] [1])
def swC : Costs := { spe := 1, dup := 1, hgt := .fin 1, floss := 1, sloss := 1 }

-- The swaps really change input and solutions, and the solver results correspond.
example :
    swO.swapAt [0] = .node (.node (.leaf [1] [2]) (.leaf [0, 0] [1, 2])) (.leaf [0, 1] [1]) ∧
    swO.mirror = .node (.leaf [0, 1] [1]) (.node (.leaf [1] [2]) (.leaf [0, 0] [1, 2])) ∧
    (exhaustive swC swO).length = 5 ∧
    (exhaustive swC (swO.swapAt [0])) ≠ exhaustive swC swO ∧
    (∀ s ∈ exhaustive swC swO, s.swapAt [0] ∈ exhaustive swC (swO.swapAt [0])) ∧
    (∀ s ∈ exhaustive swC swO, s.mirror ∈ exhaustive swC swO.mirror) := by
  decide +kernel

-- Species swap at the node `[0]` (children A and B): inputs, tree and results move.
example :
    swO.mapSp (Path.swapAt [0] 0 1) =
      .node (.node (.leaf [0, 1] [1, 2]) (.leaf [1] [2])) (.leaf [0, 0] [1]) ∧
    (swS.swapAt [] 0 1).preorder = [[], [0], [1], [1, 0], [1, 1]] ∧
    swS.isBinary = true ∧ (∀ q ∈ leafSpecies swO, swS.isNode q = true) ∧
    swC.spe ≤ swC.dup + 2 * swC.floss ∧ 0 < swS.arityAt [0] ∧ 1 < swS.arityAt [0] ∧
    (thl swC swS swO).length = 5 ∧
    (∀ s ∈ thl swC swS swO,
      s.mapSp (Path.swapAt [0] 0 1) ∈ thl swC (swS.swapAt [0] 0 1) (swO.mapSp (Path.swapAt [0] 0 1))) := by
  decide +kernel

-- Ordered mode: a valid labelled solution stays valid with the same cost.
example :
    let sol : Sol := .node [] [1, 2] (.node [0] [1, 2] (.leaf [0, 0] [1, 2]) (.leaf [1] [2]))
      (.leaf [0, 1] [1])
    Spec.validSol .ordered swO sol = true ∧
    Spec.validSol .ordered (swO.swapAt []) (sol.swapAt []) = true ∧
    totalCost swC .ordered swO sol = .fin 6 ∧
    totalCost swC .ordered (swO.swapAt []) (sol.swapAt []) = .fin 6 ∧
    totalCost swC .unordered swO.mirror sol.mirror = totalCost swC .unordered swO sol := by
  decide +kernel

-- Unordered mode: a valid set-labelled solution stays valid with the same cost after a swap
-- below the root and after the full mirror (the gain node of family 2 moves from position
-- `[0]` to position `[1]` under the mirror).
example :
    let sol : Sol := .node [] [1] (.node [0] [1, 2] (.leaf [0, 0] [1, 2]) (.leaf [1] [2]))
      (.leaf [0, 1] [1])
    Spec.validSol .unordered swO sol = true ∧
    Spec.validSol .unordered (swO.swapAt [0]) (sol.swapAt [0]) = true ∧
    Spec.validSol .unordered swO.mirror sol.mirror = true ∧
    gainsAt swO [0] = [2] ∧ gainsAt swO.mirror [1] = [2] ∧ gainsAt swO.mirror [0] = [] ∧
    totalCost swC .unordered swO.mirror sol.mirror = totalCost swC .unordered swO sol ∧
    totalCost swC .unordered swO sol ≠ .inf := by
  decide +kernel

end SR.C09
