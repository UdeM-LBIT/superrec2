/-
  C01 (THL half), C04 and C05 for `reconcile_thl` — the optimiser's table
  recurrence computes the minimum, over all valid reconciliations, of the cost the
  EVALUATOR assigns, inside the coherent region `spe ≤ dup + 2·floss`.

  Well-formedness of an input `(S, o)`: the species tree is binary
  (`S.isBinary`) and every leaf species is a node of it
  (`∀ p ∈ leafSpecies o, S.isNode p`).  Binarity is needed (`C01_thl_wf_needed`).

  `thl` is the label-DP solver `thlD` (`Proofs/DPSolverThl.lean`): its candidates are the
  mappings over `S` of finite evaluated cost (`thlD_cand_iff`), and everything below is an
  instance of `Proofs/DPSolver.lean`.  Outside the coherent region `thl` is not optimal
  (`C01_incoherent_witness` in `C01.lean`: it returns cost 8 while a valid reconciliation of
  cost 5 exists).
-/
import SRVerif.Proofs.DPSolverThl

namespace SR.C01

open SR Cost

variable (c : Costs) (S : RTree) (o : OTree)

/-- **Table value = evaluated cost = optimum per root species** (coherent region). -/
theorem C01_thl_cell_exact (hb : S.isBinary = true)
    (hS : ∀ p ∈ leafSpecies o, S.isNode p = true) (hcoh : c.spe ≤ c.dup + 2 * c.floss) :
    ∀ d ∈ thlCells c S true o,
      (∀ ls ∈ d.sols, recCost c o (plainSol o ls) = d.cost) ∧
      (∃ ls, ls ∈ d.sols) ∧
      (∀ sol ∈ Spec.allMappings S o, Spec.validRec o sol = true → sol.sp = d.sp →
        Cost.le d.cost (recCost c o sol) = true) := by
  intro d hd
  refine ⟨fun ls hls => ?_, dp_nonempty thlAlg c S _ d hd, fun sol hsol _ hsp => ?_⟩
  · rw [← totalCost_plain]
    exact (thlD S o).value_of_decoded c S thl_slack hb (thlD_spOk S o hS) hcoh (thlD_bridge c S o)
      (List.mem_singleton.mpr rfl) ((thlD_cells c S o true).symm ▸ hd) hls
  · obtain ⟨adm, e⟩ := adm_toLSol S o sol hsol
    have h := (table_exact thlAlg c S thl_slack hcoh hb _ (annPlain_internal_spOk S o hS) d hd).2.2
      _ adm (by rw [toLSol_sp, hsp]) rfl
    rwa [labCost_thl c S o _ adm, e] at h

/-- **C04 for `thl`** (all unit costs, no coherence): every returned solution maps
    every node, keeps the leaves in their species, has no INVALID event and a
    finite cost. -/
theorem C01_thl_finite : ∀ sol ∈ thl c S o,
    Spec.validSol .plain o sol = true ∧ sol ∈ Spec.allMappings S o ∧
      totalCost c .plain o sol ≠ .inf := by
  intro sol hsol
  obtain ⟨hm, hfin⟩ := (thlD_cand_iff c S o sol).mp
    ((thlD S o).cand_of_mem_rank c S thl_slack (thl_eq c S o ▸ hsol))
  exact ⟨by simp [Spec.validSol, recCost_valid c o sol hfin], hm,
    by rw [totalCost_plain]; exact hfin⟩

/-- **Totality**: `thl` returns at least one solution on every well-formed input
    (the LCA reconciliation is a candidate).  No coherence needed. -/
theorem C01_thl_total (hb : S.isBinary = true) (hS : ∀ p ∈ leafSpecies o, S.isNode p = true) :
    thl c S o ≠ [] := by
  obtain ⟨hm, _, hfin⟩ := thlD_lca c S o hS
  obtain ⟨k, hk, _⟩ := (thlD_cand_iff c S o _).mpr ⟨hm, hfin⟩
  exact thl_eq c S o ▸ (thlD S o).rank_ne_nil c S hb (thlD_spOk S o hS) .plain o hk

/-- **C05 for `thl`**: inside the coherent region the result is exactly the set of
    ALL valid reconciliations of minimum cost, each once (`C05_all_statement` with
    `Valid sol := validRec o sol ∧ sol ∈ allMappings S o`). -/
theorem C01_thl_all (hb : S.isBinary = true) (hS : ∀ p ∈ leafSpecies o, S.isNode p = true)
    (hcoh : c.spe ≤ c.dup + 2 * c.floss) :
    (∀ sol, sol ∈ thl c S o ↔
      (Spec.validRec o sol = true ∧ sol ∈ Spec.allMappings S o) ∧
      ∀ sol', (Spec.validRec o sol' = true ∧ sol' ∈ Spec.allMappings S o) →
        Cost.le (totalCost c .plain o sol) (totalCost c .plain o sol') = true) ∧
    (thl c S o).Nodup := by
  rw [thl_eq]
  refine (thlD S o).all_of_space c S thl_slack hb (thlD_spOk S o hS) hcoh (thlD_bridge c S o) _
    (fun σ => ?_) ?_
  · rw [thlD_cand_iff, totalCost_plain]
    exact ⟨fun h => ⟨⟨recCost_valid c o σ h.2, h.1⟩, h.2⟩, fun h => ⟨h.1.2, h.2⟩⟩
  · obtain ⟨hm, hv, hfin⟩ := thlD_lca c S o hS
    exact ⟨_, ⟨hv, hm⟩, by rw [totalCost_plain]; exact hfin⟩

/-- **C01 for `thl`** (the body of `C01_thl_statement` of `C01.lean`): inside
    the coherent region every returned solution is a valid reconciliation and no
    valid reconciliation is cheaper. -/
theorem C01_thl (hb : S.isBinary = true) (hS : ∀ p ∈ leafSpecies o, S.isNode p = true)
    (hcoh : c.spe ≤ c.dup + 2 * c.floss) : ∀ sol ∈ thl c S o,
    Spec.validRec o sol = true ∧
    ∀ sol', Spec.validRec o sol' = true → sol' ∈ Spec.allMappings S o →
      Cost.le (totalCost c .plain o sol) (totalCost c .plain o sol') = true := by
  intro sol hsol
  obtain ⟨h, hmin⟩ := ((C01_thl_all c S o hb hS hcoh).1 sol).mp hsol
  exact ⟨h.1, fun sol' hv hm => hmin sol' ⟨hv, hm⟩⟩

/-- **The optimiser's belief is right** (coherent region): the minimum table value
    at the root equals the evaluated cost of every returned solution … -/
theorem C01_thl_table_min (hb : S.isBinary = true) (hS : ∀ p ∈ leafSpecies o, S.isNode p = true)
    (hcoh : c.spe ≤ c.dup + 2 * c.floss) :
    ∀ sol ∈ thl c S o, totalCost c .plain o sol = thlTableMin c S o :=
  fun _ hsol => thlD_tableMin c S o ▸ (thlD S o).cost_eq_tableMin c S thl_slack hb
    (thlD_spOk S o hS) hcoh (thlD_bridge c S o) (thl_eq c S o ▸ hsol)

/-- … and it is the minimum of the evaluated cost over ALL valid reconciliations
    (the specification `Spec.allValid`, which shares nothing with the optimiser). -/
theorem C01_thl_table_opt (hb : S.isBinary = true) (hS : ∀ p ∈ leafSpecies o, S.isNode p = true)
    (hcoh : c.spe ≤ c.dup + 2 * c.floss) :
    thlTableMin c S o = Cost.minList ((Spec.allValid S o).map (totalCost c .plain o)) := by
  obtain ⟨m, hm⟩ := List.exists_mem_of_ne_nil _ (C01_thl_total c S o hb hS)
  rw [← C01_thl_table_min c S o hb hS hcoh m hm]
  symm
  obtain ⟨hv, hmem, _⟩ := C01_thl_finite c S o m hm
  have h := C01_thl c S o hb hS hcoh m hm
  apply minList_eq
  · intro x hx
    obtain ⟨s', hs', rfl⟩ := List.mem_map.mp hx
    simp only [Spec.allValid, List.mem_filter] at hs'
    exact h.2 s' hs'.2 hs'.1
  · right
    refine List.mem_map.mpr ⟨m, ?_, rfl⟩
    simp only [Spec.allValid, List.mem_filter]
    exact ⟨hmem, h.1⟩

/-- Inside the coherent region `reconcile_thl` and `reconcile_exhaustive` return the
    same set of reconciliations (C10 for this pair). -/
theorem C01_thl_eq_exhaustive (hb : S.isBinary = true)
    (hS : ∀ p ∈ leafSpecies o, S.isNode p = true) (hcoh : c.spe ≤ c.dup + 2 * c.floss) :
    ∀ sol, sol ∈ thl c S o ↔ sol ∈ exhaustive c o := by
  intro sol
  rw [(C01_thl_all c S o hb hS hcoh).1 sol]
  unfold exhaustive
  rw [mem_rankByCost]
  have key : ∀ s, (Spec.validRec o s = true ∧ s ∈ Spec.allMappings S o) ↔ s ∈ generateAll o :=
    fun s => by rw [mem_generateAll_iff_allValid S o hS, Spec.allValid, List.mem_filter, and_comm]
  simp only [key]

/-- The binarity guard cannot be dropped from `C01_thl`: over the
    ternary star `(A,B,C)` with `((a_A, c_C), b_B)`, spe = dup = 0, floss = 2,
    hgt = 3 (coherent), the optimiser has no speciation role for the third child,
    prices `(a,c)` at the root as a duplication (table 4, evaluated 0) and therefore
    prefers a transfer; it returns cost 3 while a valid reconciliation of cost 2 exists. -/
theorem C01_thl_wf_needed :
    let c : Costs := { spe := 0, dup := 0, hgt := .fin 3, floss := 2, sloss := 1 }
    let S : RTree := .node [.node [], .node [], .node []]
    let o : OTree := .node (.node (.leaf [0] []) (.leaf [2] [])) (.leaf [1] [])
    let better : Sol := .node [] [] (.node [] [] (.leaf [0] []) (.leaf [2] [])) (.leaf [1] [])
    c.spe ≤ c.dup + 2 * c.floss ∧ (∀ p ∈ leafSpecies o, S.isNode p = true) ∧ S.isBinary = false ∧
    (thl c S o).map (totalCost c .plain o) = [.fin 3] ∧
    Spec.validRec o better = true ∧ better ∈ Spec.allMappings S o ∧
    totalCost c .plain o better = .fin 2 := by
  decide +kernel

/-- A well-formed coherent input with five co-optimal reconciliations: all
    hypotheses of `C01_thl`, `C01_thl_total`, `C01_thl_all` hold, and `thl` returns
    all five. -/
example :
    let c : Costs := { spe := 1, dup := 1, hgt := .fin 1, floss := 1, sloss := 1 }
    let S : RTree := .node [.node [.node [], .node []], .node []]
    let o : OTree := .node (.node (.leaf [0, 0] []) (.leaf [1] [])) (.leaf [0, 1] [])
    S.isBinary = true ∧ (∀ p ∈ leafSpecies o, S.isNode p = true) ∧
    c.spe ≤ c.dup + 2 * c.floss ∧
    (thl c S o).map (totalCost c .plain o) = [.fin 2, .fin 2, .fin 2, .fin 2, .fin 2] := by
  decide +kernel

/-- Cells of a small table: the cell values are the evaluated costs of what they decode to. -/
example :
    let c : Costs := { spe := 0, dup := 1, hgt := .fin 1, floss := 1, sloss := 1 }
    let S : RTree := .node [.node [], .node []]
    let o : OTree := .node (.leaf [0] []) (.leaf [1] [])
    (thlCells c S true o).map (fun d => (d.sp, d.cost, d.sols.map (fun ls => recCost c o (plainSol o ls)))) =
      [([], .fin 0, [.fin 0]), ([0], .fin 1, [.fin 1]), ([1], .fin 1, [.fin 1])] := by
  decide +kernel

end SR.C01
