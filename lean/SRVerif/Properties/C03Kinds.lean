/-
  C03 — the unordered DP's own label cost is the evaluator's (`C03_kinds_faithful_statement`,
  Properties/C03Dp.lean): for a kind labelling with an LCA root and finite generic cost the
  per-kind edge charges of `_compute_uspfs_entry` coincide with the evaluator's subset tests on the
  materialised contents (`faithful_root`, Proofs/UnContentDecode.lean: a node of kind INHERIT
  reached through finite edges holds a family that no leaf below it carries, so its content is
  never a subset of the content of an LCA child).  Hence `uspfs` as an exact optimiser over its
  candidates (`uspfs_exact`) and the agreement of table values and evaluated costs.
-/
import SRVerif.Properties.C03Dp
import SRVerif.Proofs.UnContentDecode

namespace SR.C03

open SR Cost

/-- The evaluator charges the output of a candidate kind labelling what the DP charged. -/
theorem uspfsD_bridge (c : Costs) (S : RTree) (base : Bool) (o : OTree) :
    ∀ k, (uspfsD c S base o).Cand c k →
      totalCost c .unordered o ((uspfsD c S base o).out k) = (uspfsD c S base o).lc c k :=
  fun k h => faithful_root c S base o k.2 h.2.1 (eq_of_beq h.2.2.1) h.2.2.2

theorem uspfs_exact (c : Costs) (S : RTree) (base : Bool) (o : OTree) (hb : S.isBinary = true)
    (hS : ∀ p ∈ leafSpecies o, S.isNode p = true) :
    Exact (c.spe + c.sloss ≤ c.dup + 2 * c.floss) (uspfs c S base o)
      (totalCost c .unordered o) (uspfsD c S base o).out ((uspfsD c S base o).Cand c)
      ((uspfsD c S base o).lc c) :=
  uspfs_eq c S base o ▸ (uspfsD c S base o).exact c S (un_slack c) hb
    (uspfsD_spOk c S base o hS) (uspfsD_bridge c S base o)

/-- **Kinds faithful, unguarded**: for every input and every cost vector, the evaluated
    cost of a decoded solution is the generic cost of its kind labelling. -/
theorem C03_kinds_faithful_all (c : Costs) (S : RTree) (base : Bool) (o : OTree) :
    let t := annUn S base o [] o
    ∀ d ∈ uspfsCells c S base true o, ∀ ls ∈ d.sols,
      totalCost c .unordered o (unSol t t.data.lcaSet ls) = labCost (unAlg c) c t ls := by
  intro t d hd ls hls
  exact uspfsD_bridge c S base o _ ((uspfsD c S base o).cand_of_decoded c S (un_slack c)
    (List.mem_singleton.mpr rfl) hd hls)

/-- **`C03_kinds_faithful_statement`** as stated in `C03Dp.lean`; its three guards (`S` binary, leaf
    species in `S`, non-empty leaf syntenies) are not used. -/
theorem C03_kinds_faithful : C03_kinds_faithful_statement :=
  fun c S base o _ _ _ => C03_kinds_faithful_all c S base o

/-- Inside `spe + sloss ≤ dup + 2·floss` the value of a root cell IS the evaluated cost of each
    of its decoded solutions. -/
theorem C03_table_value (c : Costs) (S : RTree) (base : Bool) (o : OTree)
    (hb : S.isBinary = true) (hS : ∀ p ∈ leafSpecies o, S.isNode p = true)
    (hcoh : c.spe + c.sloss ≤ c.dup + 2 * c.floss) :
    let t := annUn S base o [] o
    ∀ d ∈ uspfsCells c S base true o, ∀ ls ∈ d.sols,
      totalCost c .unordered o (unSol t t.data.lcaSet ls) = d.cost := by
  intro t d hd ls hls
  exact (uspfsD c S base o).value_of_decoded c S (un_slack c) hb (uspfsD_spOk c S base o hS) hcoh
    (uspfsD_bridge c S base o) (List.mem_singleton.mpr rfl) hd hls

/-- Inside `spe + sloss ≤ dup + 2·floss` every returned solution has evaluated cost
    `uspfsTableMin`: the optimiser's belief and the evaluator agree on the results. -/
theorem C03_result_cost (c : Costs) (S : RTree) (base : Bool) (o : OTree)
    (hb : S.isBinary = true) (hS : ∀ p ∈ leafSpecies o, S.isNode p = true)
    (hcoh : c.spe + c.sloss ≤ c.dup + 2 * c.floss) :
    ∀ sol ∈ uspfs c S base o, totalCost c .unordered o sol = uspfsTableMin c S base o := by
  intro sol hsol
  exact uspfsD_tableMin c S base o ▸ (uspfsD c S base o).cost_eq_tableMin c S (un_slack c) hb
    (uspfsD_spOk c S base o hS) hcoh (uspfsD_bridge c S base o) (uspfs_eq c S base o ▸ hsol)

/-! Non-vacuity: an input (with `sloss = 0`, so that kinds tie) whose root cells decode
    to six kind labellings, one of them with an INHERIT node two levels down; the table minimum
    is 2 and two solutions are returned. -/
example :
    let c : Costs := { spe := 0, dup := 1, hgt := .fin 1, floss := 1, sloss := 0 }
    let S : RTree := .node [.node [], .node []]
    let o : OTree :=
      .node (.node (.leaf [0] [1, 2]) (.node (.leaf [0] [1]) (.leaf [0] [1]))) (.leaf [1] [1, 2])
    S.isBinary = true ∧ (∀ p ∈ leafSpecies o, S.isNode p = true) ∧
    c.spe + c.sloss ≤ c.dup + 2 * c.floss ∧
    ((uspfsCells c S false true o).flatMap (·.sols)).length = 6 ∧
    ((uspfsCells c S false true o).flatMap (·.sols)).any
      (fun ls => match ls with
        | .node _ _ (.node _ _ _ (.node _ .inh _ _)) _ => true | _ => false) = true ∧
    uspfsTableMin c S false o = .fin 2 ∧ (uspfs c S false o).length = 2 := by
  decide +kernel

end SR.C03
