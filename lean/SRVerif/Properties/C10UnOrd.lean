/-
  C10 — the third conjunct: the unordered optimum never exceeds the ordered one, and hence the
  whole guarded statement `C10_guarded_statement` of `C10All.lean`.

  Both solvers are exact with respect to their specification oracle:
  `C02_spfs_subset_optimum` (ordered: the returned cost is `Spec.optimum … .ordered`, the
  minimum over all valid sequence-labelled solutions) and `C03_full_eq` (unordered: the
  returned cost is `Spec.optimum … .unordered`, the minimum over EVERY feasible set
  labelling, canonical or not).  Between the two oracles (`C10_oracle_unordered_le_ordered`): an
  optimal sequence-labelled solution `σ` (root order duplicate-free) induces the set labelling
  `setSol σ` (`Proofs/UnLeOrdSol.lean`: same species; at each node the set of families of the
  sequence, pruned to the families whose gain node is an ancestor-or-self of the node), which
  is feasible for the unordered oracle and node by node no dearer (`setSol_main`).  No
  coherence, no binary species tree and no non-emptiness hypothesis is needed at this level.
-/
import SRVerif.Properties.C10All
import SRVerif.Properties.C02Spec
import SRVerif.Properties.C03Full
import SRVerif.Proofs.UnLeOrdSol

namespace SR.C10

open SR Cost Spec

/-- Oracle level: the minimum over all feasible unordered solutions is at most the
    minimum over all feasible ordered solutions (all root orders), for every input, all unit
    costs, either variant. -/
theorem C10_oracle_unordered_le_ordered (c : Costs) (S : RTree) (base keep keep' : Bool)
    (o : OTree) :
    (Spec.optimum c S .unordered base keep o none).1 ≼
      (Spec.optimum c S .ordered base keep' o none).1 := by
  by_cases hinf : (Spec.optimum c S .ordered base keep' o none).1 = .inf
  · rw [hinf]; exact le_inf _
  obtain ⟨md, hmd, σ, hf, hc⟩ := optimum_attained c S base .ordered keep' o none hinf
  simp only [modeDatas, List.mem_map] at hmd
  obtain ⟨order, ho, rfl⟩ := hmd
  have hfin : specCost c (.ordered order) o [] σ ≠ .inf := by rw [hc]; exact hinf
  obtain ⟨_, _, hfam⟩ := C02.valid_of_feasible_root c S o base order ho σ hf hfin
  obtain ⟨hf', hle, _⟩ := setSol_main c S base o order (C02.rootsOk_none o order ho).1 o [] σ
    (isSub_root o)
    (by rw [hfam]) hf hfin
  rw [← hc]
  exact le_trans
    (optimum_le c S base .unordered keep o none .unordered (by simp [modeDatas]) _ hf') hle

/-- Solver level, either variant: under the guards of the property every solution returned
    by the unordered solver costs at most every solution returned by the ordered solver of the
    same variant. -/
theorem C10_unordered_le_ordered_gen (c : Costs) (S : RTree) (o : OTree) (base : Bool)
    (hb : S.isBinary = true) (hS : ∀ p ∈ leafSpecies o, S.isNode p = true)
    (hne : ∀ f ∈ leafSyntenies o, f ≠ [])
    (hcoh : c.spe + 2 * c.sloss ≤ c.dup + 2 * c.floss) :
    ∀ a ∈ uspfs c S base o, ∀ b ∈ spfs c S base o none,
      Cost.le (totalCost c .unordered o a) (totalCost c .ordered o b) = true := by
  intro a ha b hb'
  rw [C03.C03_full_eq c S base o hb hS (by omega) a ha,
    (C02.C02_spfs_subset_optimum c S o base hne hb hS hcoh b hb').2]
  exact C10_oracle_unordered_le_ordered c S base false true o

/-- Unordered ≤ ordered for the extended solvers: the third conjunct of
    `C10_guarded_statement` (`C10All.lean`). -/
theorem C10_unordered_le_ordered : C10_unordered_le_ordered_statement :=
  fun c S o hb hS hne hcoh => C10_unordered_le_ordered_gen c S o false hb hS hne hcoh

/-- The same for the base solvers (LCA species mapping on both sides). -/
theorem C10_unordered_le_ordered_base (c : Costs) (S : RTree) (o : OTree)
    (hb : S.isBinary = true) (hS : ∀ p ∈ leafSpecies o, S.isNode p = true)
    (hne : ∀ f ∈ leafSyntenies o, f ≠ [])
    (hcoh : c.spe + 2 * c.sloss ≤ c.dup + 2 * c.floss) :
    ∀ a ∈ uspfs c S true o, ∀ b ∈ spfs c S true o none,
      Cost.le (totalCost c .unordered o a) (totalCost c .ordered o b) = true :=
  C10_unordered_le_ordered_gen c S o true hb hS hne hcoh

/-- All four inequalities of C10 on every guarded input. -/
theorem C10_guarded : C10_guarded_statement :=
  C10_guarded_of_unordered_le_ordered C10_unordered_le_ordered

/-! On a guarded input both solvers return solutions, the inequality is strict for the
  extended variant (1 < 2) and an equality for the base variant (21 = 21); the set labelling
  induced by the two ordered optima prunes the root `[1, 2]` to `[1]` (family 2 is gained
  below the root) and costs 2 resp. 1 under the unordered oracle. -/
example :
    let c : Costs := { spe := 0, dup := 5, hgt := .fin 1, floss := 5, sloss := 1 }
    let S : RTree := .node [.node [.node [], .node []], .node []]
    let o : OTree := .node (.node (.leaf [0, 0] [1, 2]) (.leaf [1] [2])) (.leaf [0, 1] [1])
    S.isBinary = true ∧ (∀ p ∈ leafSpecies o, S.isNode p = true) ∧
    (∀ f ∈ leafSyntenies o, f ≠ []) ∧ c.spe + 2 * c.sloss ≤ c.dup + 2 * c.floss ∧
    (uspfs c S false o).map (totalCost c .unordered o) = [.fin 1] ∧
    (spfs c S false o none).map (totalCost c .ordered o) = [.fin 2, .fin 2] ∧
    (spfs c S false o none).map (fun b => (setSol o [] b).fam) = [[1], [1]] ∧
    (spfs c S false o none).map (fun b => specCost c .unordered o [] (setSol o [] b))
      = [.fin 2, .fin 1] ∧
    (uspfs c S true o).map (totalCost c .unordered o) = [.fin 21] ∧
    (spfs c S true o none).map (totalCost c .ordered o) = [.fin 21] ∧
    (Spec.optimum c S .unordered false false o none).1 = .fin 1 ∧
    (Spec.optimum c S .ordered false false o none).1 = .fin 2 := by
  dsimp only
  rw [ex_solvers.1, ex_solvers.2.1, ex_solvers.2.2.1, ex_solvers.2.2.2]
  decide +kernel

/-- Three families, family 3 gained inside the left subtree: the induced set labelling
    drops it from the root (`[1, 3, 2]` becomes `[1, 2]`); ordered optimum 7, induced set
    labelling 6, unordered optimum 6. -/
example :
    let c : Costs := { spe := 0, dup := 5, hgt := .fin 1, floss := 5, sloss := 1 }
    let S : RTree := .node [.node [.node [], .node []], .node []]
    let o : OTree := .node (.node (.leaf [0, 0] [1, 3, 2]) (.leaf [0, 1] [1, 3]))
      (.node (.leaf [1] [1, 2]) (.leaf [1] [2]))
    S.isBinary = true ∧ (∀ p ∈ leafSpecies o, S.isNode p = true) ∧
    (∀ f ∈ leafSyntenies o, f ≠ []) ∧ c.spe + 2 * c.sloss ≤ c.dup + 2 * c.floss ∧
    (spfs c S false o none).map (fun b => (b.fam, totalCost c .ordered o b, (setSol o [] b).fam,
        specCost c .unordered o [] (setSol o [] b)))
      = [([1, 3, 2], .fin 7, [1, 2], .fin 6), ([1, 3, 2], .fin 7, [1, 2], .fin 6)] ∧
    (uspfs c S false o).map (totalCost c .unordered o) = [.fin 6] := by
  decide +kernel

end SR.C10
