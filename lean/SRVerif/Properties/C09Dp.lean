/-
  C09 — the cost clauses for the label solvers that speak of their TABLES, and the scaling
  clause of the unordered solvers (`usreconcile_{base,extended}_uspfs`: exactness,
  `mem_uspfs_iff`, and `exact_same_order`).
  The table clauses rest on the table minimum being the minimum of the generic cost `labCost` over
  the solver's candidates (`DPSolver.tableMin_le`, `tableMin_attained`): the candidates under
  both cost vectors are the same labellings (`Proofs/DPCostChange.lean`).
  The result sets of the ordered solvers and the monotonicity of the EVALUATED cost of what
  `uspfs` returns are in `C09Transfer.lean`.
-/
import SRVerif.Properties.C09Costs
import SRVerif.Proofs.DPCostChange
import SRVerif.Properties.C03Dp
import SRVerif.Proofs.SolverExact

namespace SR.C09

open SR SR.EventLog Cost

theorem C09_un_shape (c₁ c₂ : Costs) : SameShape (unAlg c₁) (unAlg c₂) := ⟨rfl, rfl, rfl⟩
theorem C09_ord_shape (c₁ c₂ : Costs) : SameShape (ordAlg c₁) (ordAlg c₂) := ⟨rfl, rfl, rfl⟩

theorem C09_un_edges_mono {c d : Costs} (h : leCosts c d) (a : UnAnn) (lab : Kind) (ca : UnAnn)
    (lc : Kind) :
    (unAlg c).conserv a lab ca lc ≼ (unAlg d).conserv a lab ca lc ∧
    (unAlg c).segment a lab ca lc ≼ (unAlg d).segment a lab ca lc := by
  have h5 : Cost.fin c.sloss ≼ Cost.fin d.sloss := (Cost.fin_le_fin _ _).mpr h.2.2.2.2
  simp only [unAlg]
  cases lab <;> cases lc <;> simp only [] <;> constructor <;>
    first
      | exact Cost.le_refl _
      | exact h5
      | (split <;> first | exact Cost.le_refl _ | exact h5)

theorem C09_ord_edges_scale (k : Nat) (c : Costs) (a : OrdAnn) (m : Nat) (ca : OrdAnn) (mc : Nat) :
    (ordAlg (scaleCosts k c)).conserv a m ca mc = scale k ((ordAlg c).conserv a m ca mc) ∧
    (ordAlg (scaleCosts k c)).segment a m ca mc = scale k ((ordAlg c).segment a m ca mc) := by
  simp only [ordAlg, scaleCosts]
  constructor <;> split <;> simp [Cost.scale, Nat.mul_left_comm]

theorem C09_ord_edges_mono {c d : Costs} (h : leCosts c d) (a : OrdAnn) (m : Nat) (ca : OrdAnn)
    (mc : Nat) :
    (ordAlg c).conserv a m ca mc ≼ (ordAlg d).conserv a m ca mc ∧
    (ordAlg c).segment a m ca mc ≼ (ordAlg d).segment a m ca mc := by
  have h5 := h.2.2.2.2
  simp only [ordAlg]
  constructor <;> split <;>
    first
      | exact Cost.le_refl _
      | exact (Cost.fin_le_fin _ _).mpr (Nat.mul_le_mul_left _ h5)

/-- **C09 scaling for the unordered solvers** (base and extended; coherent region
    `spe + sloss ≤ dup + 2·floss`, binary species tree containing the leaf species). -/
theorem C09_scale_uspfs (c : Costs) (S : RTree) (base : Bool) (o : OTree)
    (hb : S.isBinary = true) (hS : ∀ p ∈ leafSpecies o, S.isNode p = true)
    (hcoh : c.spe + c.sloss ≤ c.dup + 2 * c.floss) (k : Nat) (hk : 0 < k) :
    (∀ s, s ∈ uspfs (Costs.scale k c) S base o ↔ s ∈ uspfs c S base o) ∧
    (∀ s ∈ uspfs c S base o,
      totalCost (Costs.scale k c) .unordered o s = Cost.scale k (totalCost c .unordered o s)) ∧
    uspfsTableMin (Costs.scale k c) S base o = Cost.scale k (uspfsTableMin c S base o) := by
  have hcoh' : (Costs.scale k c).spe + (Costs.scale k c).sloss
      ≤ (Costs.scale k c).dup + 2 * (Costs.scale k c).floss := by
    simpa using C09_coherent_scale_gen k 1 c (by simpa using hcoh)
  have hset := exact_same_order (mem_uspfs_iff ⟨hb, hS, hcoh⟩ base)
    (mem_uspfs_iff ⟨hb, hS, hcoh'⟩ base) (C09_eval_scale_le k hk c .unordered o)
    (C09_eval_scale_fin k c .unordered o)
  refine ⟨hset, fun s _ => C09_eval_scale k c .unordered o s, ?_⟩
  -- the table minimum is the evaluated cost of any member, and there is one
  obtain ⟨s, hs⟩ := List.exists_mem_of_ne_nil _ (C03.C03_uspfs_total c S base o hb hS)
  rw [← C03.C03_result_cost _ S base o hb hS hcoh' s ((hset s).mpr hs),
    ← C03.C03_result_cost c S base o hb hS hcoh s hs]
  exact C09_eval_scale k c .unordered o s

/-- **C09 monotonicity for the unordered optimiser's own minimum** (dearer vector in
    the coherent region). -/
theorem C09_mono_uspfs_table (c c' : Costs) (hcc : leCosts c c') (S : RTree) (base : Bool)
    (o : OTree) (hb : S.isBinary = true) (hS : ∀ p ∈ leafSpecies o, S.isNode p = true)
    (hcoh' : c'.spe + c'.sloss ≤ c'.dup + 2 * c'.floss) :
    Cost.le (uspfsTableMin c S base o) (uspfsTableMin c' S base o) = true := by
  rw [← uspfsD_tableMin, ← uspfsD_tableMin]
  exact (uspfsD c S base o).tableMin_le_of_cands c S hb (C03.uspfsD_spOk c S base o hS)
    (uspfsD c' S base o) c' (un_slack c') (C03.uspfsD_spOk c' S base o hS) hcoh' fun k hk =>
      ⟨k, (uspfsD c S base o).cand_of_dearer c (unAlg c') c' (C09_un_shape _ _)
        (fun _ => labCost_mono (unAlg c) (unAlg c') hcc (C09_un_edges_mono hcc) _) hk⟩

theorem C09_scale_spfs_table (c : Costs) (S : RTree) (base : Bool) (o : OTree)
    (pre : Option (List Nat)) (hb : S.isBinary = true)
    (hS : ∀ p ∈ leafSpecies o, S.isNode p = true)
    (hcoh : c.spe + 2 * c.sloss ≤ c.dup + 2 * c.floss) (k : Nat) (hk : 0 < k) :
    spfsTableMin (Costs.scale k c) S base o pre = Cost.scale k (spfsTableMin c S base o pre) := by
  -- `Costs.scale` (of the statements, `C09.lean`) and `scaleCosts` (of the lemmas,
  -- `Spec/EventLog.lean`) are the same function (`C09_scale_eq`, by `rfl`)
  have hsc := fun order => labCost_scale hk (ordAlg c) (ordAlg (scaleCosts k c)) c
    (C09_ord_edges_scale k c) (annOrd S base order true o)
  refine (spfsD c S base o pre).tableMin_scale c S (spfsD (scaleCosts k c) S base o pre) _
    (ord_slack c) (ord_slack _) hb (spfsD_spOk c S base o pre hS) (spfsD_spOk _ S base o pre hS)
    hcoh (C09_coherent_scale_gen k 2 c hcoh) (fun κ => ?_) (fun κ => hsc κ.1 κ.2)
  -- the candidates are the same: same admissible labellings, finite generic cost on both sides
  have hfin := hsc κ.1 κ.2 ▸ scale_ne_inf k (labCost (ordAlg c) c _ κ.2)
  exact ⟨fun h => ⟨h.1, adm_congr (C09_ord_shape _ _) _ _ h.2.1, h.2.2.1, hfin.mp h.2.2.2⟩,
    fun h => ⟨h.1, adm_congr (C09_ord_shape _ _) _ _ h.2.1, h.2.2.1, hfin.mpr h.2.2.2⟩⟩

theorem C09_mono_spfs_table (c c' : Costs) (hcc : leCosts c c') (S : RTree) (base : Bool)
    (o : OTree) (pre : Option (List Nat)) (hb : S.isBinary = true)
    (hS : ∀ p ∈ leafSpecies o, S.isNode p = true)
    (hcoh' : c'.spe + 2 * c'.sloss ≤ c'.dup + 2 * c'.floss) :
    Cost.le (spfsTableMin c S base o pre) (spfsTableMin c' S base o pre) = true :=
  (spfsD c S base o pre).tableMin_le_of_cands c S hb (spfsD_spOk c S base o pre hS)
    (spfsD c' S base o pre) c' (ord_slack c') (spfsD_spOk c' S base o pre hS) hcoh' fun k hk =>
      ⟨k, (spfsD c S base o pre).cand_of_dearer c (ordAlg c') c' (C09_ord_shape _ _)
        (fun _ => labCost_mono (ordAlg c) (ordAlg c') hcc (C09_ord_edges_mono hcc) _) hk⟩

example : exS.isBinary = true ∧ (∀ p ∈ leafSpecies exO, exS.isNode p = true) ∧
    exC.spe + exC.sloss ≤ exC.dup + 2 * exC.floss ∧
    (uspfs exC exS false exO).map (totalCost exC .unordered exO) = [.fin 4] ∧
    uspfs (Costs.scale 3 exC) exS false exO = uspfs exC exS false exO ∧
    uspfsTableMin exC exS false exO = .fin 4 ∧
    uspfsTableMin (Costs.scale 3 exC) exS false exO = .fin 12 := by
  decide +kernel

example : leCosts exC exC' ∧ exC'.spe + exC'.sloss ≤ exC'.dup + 2 * exC'.floss ∧
    exC'.spe + 2 * exC'.sloss ≤ exC'.dup + 2 * exC'.floss ∧
    uspfsTableMin exC' exS false exO = .fin 10 ∧
    spfsTableMin exC exS false exO none = .fin 5 ∧
    spfsTableMin (Costs.scale 3 exC) exS false exO none = .fin 15 ∧
    spfsTableMin exC' exS false exO none = .fin 10 := by
  refine ⟨⟨?_, ?_, ?_, ?_, ?_⟩, ?_⟩ <;> decide +kernel

end SR.C09
