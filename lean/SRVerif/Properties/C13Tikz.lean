/-
  C13 — the drawing: `tikz.render ∘ layout.compute` succeeds on every valid
  reconciliation in a binary species tree (every dictionary look-up of
  `_layout_branches`, `_layout_subtrees` and `_tikz_draw_branches` finds its
  key), for both orientations, and the emitted statements contain exactly one
  event node per object node, one loss marker per full loss counted by the
  evaluator and one transfer arrow per transfer, ending at the transferred
  child.

  `C13_lookups : C13_lookups_statement` and `C13_tikz : C13_tikz_statement`
  (statements in `Properties/C13.lean`).  `C13_lookups` is also C14's
  `C14_anchors` (`Properties/C14Anchors.lean`).
-/
import SRVerif.Properties.C13Full
import SRVerif.Proofs.BranchesDraw

namespace SR.C13

open SR SR.Layout

/-- Look-ups (C13 / C14): on a valid reconciliation whose species
    are nodes of a binary species tree, `tikz.render(rec, layout.compute(rec,
    params), params)` raises no `KeyError` / `AssertionError`, whatever the
    node sizes, the parameters and the orientation. -/
theorem C13_lookups (o : Orientation) (P : Params) (sizes : Key → Size) (S : RTree) (ot : OTree)
    (sol : Sol) (hv : Spec.validRec ot sol = true) (hin : inTree S sol = true) :
    C13_lookups_statement o P sizes S sol := by
  intro hbin
  obtain ⟨st, hst, _⟩ := C13_no_keyerror S ot sol hv hin
  obtain ⟨ss, h, _⟩ := render_succeeds o P sizes (good_of_valid hv hin) hbin hst
  exact ⟨ss, h⟩

/-- `C13_tikz_statement` holds of a valid reconciliation in a binary species tree. -/
theorem C13_tikz (o : Orientation) (P : Params) (sizes : Key → Size) (S : RTree) (ot : OTree)
    (sol : Sol) (hv : Spec.validRec ot sol = true) (hin : inTree S sol = true)
    (hbin : S.isBinary = true) : C13_tikz_statement o P sizes S sol := by
  obtain ⟨st, hst, _⟩ := C13_no_keyerror S ot sol hv hin
  have hgood := good_of_valid hv hin
  obtain ⟨ss, hr, hperm⟩ := render_succeeds o P sizes hgood hbin hst
  have wire := computeBranches_wiring hgood hbin hst
  have hloss : ∀ b ∈ allBranches S st, b.kind = .loss → ∀ p, b.key ≠ .gene p := by
    intro b hb hk p
    obtain ⟨t, _, hbt⟩ := mem_allBranches.1 hb
    obtain ⟨q, _, _, _, _, i, _, _, _, hkey, _⟩ := C13_losses_partial S ot sol st hv hin hst t b hbt hk
    rw [hkey]; simp
  have hhgt : ∀ b ∈ allBranches S st, b.kind = .hgt → ∃ t, b.right = some t := by
    intro b hb hk
    obtain ⟨t, _, hbt⟩ := mem_allBranches.1 hb
    obtain ⟨g, _, hright, _⟩ := wire.hgt t b hbt hk
    exact ⟨_, hright⟩
  have hone : ∀ p sub, subAt sol p = some sub →
      ((allBranches S st).filter fun b => b.key = .gene p).length = 1 := by
    intro p sub hp
    have := C13_nodes_unique S ot sol st hv hin hst p sub hp
    rwa [← List.filter_flatMap] at this
  have hnd : ((allBranches S st).map (·.key)).Nodup := by
    have := C13_keys_nodup S sol st hst
    simpa [allBranches, keysOf, List.map_flatMap] using this
  refine ⟨ss, hr, ?_, ?_, ?_⟩
  · intro p sub hp
    show (ss.filter (isEventOf (.gene p))).length = 1
    refine Eq.trans ?_ (hone p sub hp)
    rw [length_filter_of_perm (hperm _ rfl)]
    apply List.sum_map_indicator
    intro b hb
    by_cases hk : b.kind = .loss
    · rw [count_event_loss _ _ hk, if_neg (hloss b hb hk p)]
    · exact count_event _ _ hk (hhgt b hb)
  · show (ss.filter isLossStmt).length = evalLossCount sol
    rw [length_filter_of_perm (hperm _ rfl), List.sum_map_indicator (fun b _ => count_lossMarker b),
      ← (C13_losses S ot sol st hv hin hst).1]
    simp only [allBranches, List.filter_flatMap, List.length_flatMap]
    rfl
  · intro p sp f l r hp hE
    obtain ⟨b0, hb0, hkey0, hkind0, hright0, _⟩ :=
      C13_transfers S ot sol st hv hin hst p sp f l r hp hE
    have hb0' : b0 ∈ allBranches S st :=
      mem_allBranches.2 ⟨sp, RTree.mem_postorder_of_isNode _ S (hgood p _ hp).1, hb0⟩
    show (ss.filter (isTransferTo (.gene p)
      (.gene (if Path.isAnc sp l.sp then p ++ [1] else p ++ [0])))).length = 1
    refine Eq.trans ?_ (hone p _ hp)
    rw [length_filter_of_perm (hperm _ rfl)]
    apply List.sum_map_indicator
    intro b hb
    by_cases hk : b.key = .gene p
    · have : b = b0 := List.inj_on_of_nodup_map hnd hb hb0' (hk.trans hkey0.symm)
      subst this
      rw [if_pos hk]
      apply count_transfer_eq _ _ _ hk hkind0
      exact hright0
    · rw [if_neg hk]
      exact count_transfer_ne _ _ _ hk

def exP : Params := ⟨4, 5, 10, 12, 4⟩
def exSizes : Key → Size := fun _ => ⟨1, 1⟩

example : Spec.validRec exO exSol = true ∧ inTree exS exSol = true ∧ exS.isBinary = true := by decide +kernel

/-- The running example (speciation, duplication with one loss, transfer),
    vertical: the statement kinds emitted, `\path`s dropped. -/
example : (match render .vertical exP exSizes exS exSol with
    | .ok ss => ss.filter (· ≠ Stmt.path)
    | .error _ => []) =
    [.event (.gene []) .spec,
     .event (.gene [0, 1]) .leaf, .lossMarker (.loss [0, 0] [0]), .event (.gene [0]) .dup,
     .event (.gene [0, 0]) .leaf, .event (.gene [1, 1]) .leaf,
     .event (.gene [1, 0]) .leaf, .transfer (.gene [1]) (.gene [1, 1]), .event (.gene [1]) .hgt] := by
  decide +kernel

end SR.C13
