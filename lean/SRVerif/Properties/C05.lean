/-
  C05 — the result entry shared by every solver (`rankByCost`).

  The policy `all` is what the solver models compute; `any` returns one member
  (first tag kept by `Entry.update`, C16_any).  Given the candidates decoded from the
  table, the result is exactly the arg-minimum set of the evaluated cost,
  duplicate-free, and all its members have the same cost.
-/
import SRVerif.Proofs.Cost

namespace SR.C05

open SR

/-- Full statement for a solver `f` with solution space `Valid`: the result is
    exactly the set of valid solutions of minimum cost, each once. -/
def C05_all_statement (f : List Sol) (c : Costs) (mode : LabelMode) (o : OTree)
    (Valid : Sol → Prop) : Prop :=
  (∀ sol, sol ∈ f ↔ Valid sol ∧ ∀ sol', Valid sol' →
      Cost.le (totalCost c mode o sol) (totalCost c mode o sol') = true) ∧ f.Nodup

theorem C05_same_cost (c : Costs) (mode : LabelMode) (o : OTree) (cands : List Sol)
    (s s' : Sol) (h : s ∈ rankByCost c mode o cands) (h' : s' ∈ rankByCost c mode o cands) :
    totalCost c mode o s = totalCost c mode o s' := by
  rw [mem_rankByCost] at h h'
  exact Cost.le_antisymm (h.2 s' h'.1) (h'.2 s h.1)

theorem C05_argmin (c : Costs) (mode : LabelMode) (o : OTree) (cands : List Sol) :
    (∀ s, s ∈ rankByCost c mode o cands ↔
      s ∈ cands ∧ ∀ s' ∈ cands, Cost.le (totalCost c mode o s) (totalCost c mode o s') = true)
    ∧ (rankByCost c mode o cands).Nodup :=
  ⟨fun s => mem_rankByCost c mode o cands s, nodup_rankByCost _ _ _ _⟩

theorem C05_empty_iff (c : Costs) (mode : LabelMode) (o : OTree) (cands : List Sol) :
    rankByCost c mode o cands = [] ↔ cands = [] :=
  rankByCost_eq_nil_iff c mode o cands

end SR.C05
