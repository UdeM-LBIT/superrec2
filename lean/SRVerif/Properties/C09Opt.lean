/-
  C09 — the child swaps and the outgroup at the level of the executable oracle
  `Spec.optimum` (plain mode): bridge between `Properties/C09Swap.lean` /
  `Properties/C09Outgroup.lean` (statements about valid solutions and the evaluator)
  and the oracle-adequacy theorems of `Proofs/OptAdequacyPlain.lean`
  (`optimum_plain_isMinCost` in `Proofs/SolverExact.lean`), through `Present.optimumPlain`.
-/
import SRVerif.Properties.C09Outgroup

namespace SR.C09

open SR

/-- Object-child swap: the oracle's optimum is unchanged. -/
theorem C09_swap_obj_optimum (c : Costs) (S : RTree) (p : Path) (o : OTree) (keep : Bool)
    (pre : Option (List Nat)) (hS : ∀ q ∈ leafSpecies o, S.isNode q = true) :
    (Spec.optimum c S .plain false keep (o.swapAt p) pre).1 =
      (Spec.optimum c S .plain false keep o pre).1 :=
  (present_swapAt S p o).optimumPlain c keep pre hS _
    ((present_swapAt S p o).retrValid (Sol.swapAt_swapAt p) c .plain)

theorem C09_mirror_obj_optimum (c : Costs) (S : RTree) (o : OTree) (keep : Bool)
    (pre : Option (List Nat)) (hS : ∀ q ∈ leafSpecies o, S.isNode q = true) :
    (Spec.optimum c S .plain false keep o.mirror pre).1 =
      (Spec.optimum c S .plain false keep o pre).1 :=
  (present_mirror S o).optimumPlain c keep pre hS _
    ((present_mirror S o).retrValid Sol.mirror_mirror c .plain)

/-- Species-child swap: the oracle's optimum over the swapped species tree on the
    relabelled input is unchanged. -/
theorem C09_swap_sp_optimum (c : Costs) (S : RTree) (p : Path) (i j : Nat) (o : OTree)
    (keep : Bool) (pre : Option (List Nat)) (hi : i < S.arityAt p) (hj : j < S.arityAt p)
    (hS : ∀ q ∈ leafSpecies o, S.isNode q = true) :
    (Spec.optimum c (S.swapAt p i j) .plain false keep (o.mapSp (Path.swapAt p i j)) pre).1 =
      (Spec.optimum c S .plain false keep o pre).1 :=
  (present_swapSp S p i j hi hj o).optimumPlain c keep pre hS _
    ((present_swapSp S p i j hi hj o).retrValid (Sol.swapSp_invol p i j) c .plain)

/-- Outgroup: the oracle's optimum over the enlarged species tree is unchanged
    (`spe ≤ dup + 4·floss`). -/
theorem C09_outgroup_optimum (c : Costs) (hc : c.spe ≤ c.dup + 4 * c.floss) (S : RTree) (o : OTree)
    (keep : Bool) (pre : Option (List Nat)) (hS : ∀ q ∈ leafSpecies o, S.isNode q = true) :
    (Spec.optimum c S.withOutgroup .plain false keep (o.mapSp Path.og) pre).1 =
      (Spec.optimum c S .plain false keep o pre).1 :=
  (present_og S o).optimumPlain c keep pre hS _
    (C09_outgroup_project c .plain (by simpa [ogSlack] using hc) o)

-- Non-vacuity: the oracle on the test input of `C09Outgroup.lean`.
example :
    (Spec.optimum ogC ogS .plain false false ogO none).1 = .fin 2 ∧
    (Spec.optimum ogC ogS.withOutgroup .plain false false (ogO.mapSp Path.og) none).1 = .fin 2 ∧
    (Spec.optimum ogC (ogS.swapAt [0] 0 1) .plain false false (ogO.mapSp (Path.swapAt [0] 0 1)) none).1
      = .fin 2 ∧
    (Spec.optimum ogC ogS .plain false false (ogO.swapAt [0]) none).1 = .fin 2 := by
  decide +kernel

end SR.C09
