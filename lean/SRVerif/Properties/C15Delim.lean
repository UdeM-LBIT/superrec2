/-
  C15 — "one `\begin{tikzpicture}` / `\end{tikzpicture}`" for the ASSEMBLED TEXT.

  `C15_structure` (Properties/C15.lean) states the clause on the list of blocks that `render`
  joins: no block other than the two delimiter lines EQUALS a delimiter.  Here the clause is
  proved for the text itself, by counting occurrences (`countOcc`, the number of positions at
  which the pattern starts): the text `render` returns contains each delimiter exactly once, the
  opening one first, and everything before, between and after them is delimiter-free.

  What has to be known about the hole fillings is `noD` (`Proofs/TikzDelim.lean`): no `{` right
  after `n` or `d` and no `{` in front — an occurrence of `\begin{tikzpicture}` /
  `\end{tikzpicture}` needs `n{t` / `d{t`, and the generated templates are checked
  (`Template.delimFree`, decided by the kernel) never to complete such a triple around a hole.
  `C15_delim_label_needed` shows that the hypothesis on the labels is needed.
-/
import SRVerif.Properties.C15Label
import SRVerif.Properties.C15DrawValid
import SRVerif.Proofs.TikzDelimDraw

namespace SR.C15

open SR SR.Layout SR.Tikz SR.TikzDraw

/-- **A safe filling contains neither delimiter.** -/
theorem C15_safe_no_delim (f : Str) (h : noD f = true) :
    countOcc beginPicture f = 0 ∧ countOcc endPicture f = 0 := by
  obtain ⟨st', h', _⟩ := drun_of_noD (st := .z) (by decide) h
  exact countOcc_eq_zero_of_drun h'

/-- What `noD` says: the string does not start with `{`, and no `{` follows an `n` or a `d`. -/
theorem C15_safe_meaning (s : Str) :
    noD s = true ↔ s.head? ≠ some '{' ∧ ∀ a b x, s = a ++ x :: '{' :: b → x ≠ 'n' ∧ x ≠ 'd' := by
  rw [noD, no2_iff]
  simp [isND]

/-- **Every filling of a hole that is not a label hole is safe**: coordinates, numbers, TeX
    lengths, colour names, indices, colour codes and the templates' own keywords contain no brace. -/
theorem C15_fillings_safe (k : HoleKind) (f : Str) (hk : Template.holeOK k = true)
    (hl : k ≠ .label) (hf : fillOK k f = true) : noD f = true :=
  noD_of_fillOK hk hl hf

theorem C15_coord_safe (p : Pos) : noD (fmtPos p) = true := fmtPos_noD p

theorem C15_colorName_safe (i : Nat) : noD (colorName Generated.colorPrefix i) = true := by
  apply noD_of_alnum
  simp only [colorName, List.all_append, Bool.and_eq_true]
  exact ⟨colorPrefix_alnum, natStr_alnum i⟩

/-- The property's alphabet for node names and family names. -/
def nameChar (c : Char) : Bool := isAlnum c || c == '_' || c == '\\'

/-- Names over letters, digits, `_` and `\` contain no brace. -/
theorem C15_alphabet_braceFree (s : Str) (h : s.all nameChar = true) : braceFree s = true :=
  braceFree_of_all nameChar (by decide) (by decide) s h

/-- **Every label of the layout is safe.**  For a brace-free node name and brace-free family
    names, whatever the wrap width and whatever the parent's synteny, the label of a leaf
    (`leafLabel`) and of an internal node (`internalLabel`) contain no `{` except the one after
    `\textsubscript`: no `n{`, no `d{`, no `{` in front. -/
theorem C15_labels_safe (w : Option Nat) (syn par : Option (List Str)) (name : Str)
    (hn : braceFree name = true) (hs : ∀ fams, syn = some fams → ∀ f ∈ fams, braceFree f = true)
    (l : Str) :
    (leafLabel w syn name = some l → noD l = true) ∧
    (internalLabel w syn par = some l → noD l = true) := by
  obtain ⟨h1, h2⟩ := C15_label_shape w syn par name hn hs l
  refine ⟨fun h => ?_, fun h => noD_of_braceFree (h2 h)⟩
  rcases h1 h with hb | ⟨sp, gene, hsp, hgene, rfl⟩
  · exact noD_of_braceFree hb
  · exact noD_append (noD_append (noD_append (noD_of_braceFree hsp) (by decide))
      (noD_of_braceFree hgene)) (by decide)

theorem C15_labels_safe_alphabet (w : Option Nat) (syn par : Option (List Str)) (name : Str)
    (hn : name.all nameChar = true)
    (hs : ∀ fams, syn = some fams → ∀ f ∈ fams, f.all nameChar = true) (l : Str) :
    (leafLabel w syn name = some l → noD l = true) ∧
    (internalLabel w syn par = some l → noD l = true) :=
  C15_labels_safe w syn par name (C15_alphabet_braceFree _ hn)
    (fun fams h f hf => C15_alphabet_braceFree _ (hs fams h f hf)) l

/-- Species labels (escaped, wrapped at any width) of brace-free names are safe; the second conjunct
    (the content forced into an unlabelled transfer node is safe) holds without the hypotheses. -/
theorem C15_speciesLabel_safe (w : Option Nat) (name label : Str) (hn : braceFree name = true)
    (h : speciesLabel w name = some label) : noD label = true ∧ noD phantomDash = true :=
  ⟨noD_of_braceFree (speciesLabel_braceFree hn h), phantom_noD⟩

/-- **Exactly one picture environment in the text.**  For every sequence of drawing calls over
    the statement templates of the source with admissible fillings whose text fillings are safe,
    the text `render` returns contains `\begin{tikzpicture}` exactly once and
    `\end{tikzpicture}` exactly once. -/
theorem C15_delims_once (defs : Str) (calls : List Call) (hd : DefsOK defs)
    (hc : ∀ c ∈ calls, CallOK c) (hs : ∀ c ∈ calls, CallSafe c) :
    let text := Tikz.render Generated.renderSkeleton Generated.layerNames Generated.colorPrefix
      Generated.joiner defs calls
    countOcc beginPicture text = 1 ∧ countOcc endPicture text = 1 :=
  render_delims_once defs calls hd hc hs

/-- **The shape of the text**: definitions and colour definitions (`A`), the opening delimiter on
    its own line, the body (`B`), the closing delimiter on its own line, a final newline; `A` and
    `B` contain no delimiter.  In particular the opening delimiter precedes the closing one and
    every `\definecolor` line precedes the picture. -/
theorem C15_structure_text (defs : Str) (calls : List Call) (hd : DefsOK defs)
    (hc : ∀ c ∈ calls, CallOK c) (hs : ∀ c ∈ calls, CallSafe c) :
    let colors := (resolveCalls [] calls).1
    let out := (resolveCalls [] calls).2
    let A := List.intercalate ['\n']
      ([defs] ++ (enumFrom 0 colors).map (colorDefLine Generated.colorPrefix))
    let B := List.intercalate ['\n'] (bodyBlocks Generated.layerNames Generated.colorPrefix out)
    Tikz.render Generated.renderSkeleton Generated.layerNames Generated.colorPrefix
        Generated.joiner defs calls = A ++ ['\n'] ++ beginPicture ++ ['\n'] ++ B ++ ['\n'] ++ endPicture ++ ['\n']
    ∧ countOcc beginPicture A = 0 ∧ countOcc endPicture A = 0
    ∧ countOcc beginPicture B = 0 ∧ countOcc endPicture B = 0 := by
  intro colors out A B
  obtain ⟨a1, b1⟩ := head_body_free defs calls hd hc hs (.inl rfl)
  obtain ⟨a2, b2⟩ := head_body_free defs calls hd hc hs (.inr rfl)
  refine ⟨?_, a1, a2, b1, b2⟩
  rw [render_shape]
  simp [A, B, colors, out, List.append_assoc]

/-- **Exactly one picture environment, for every layout.**  Whatever the layout, the orientation
    and the parameters: if the drawing code does not raise, the decorations are admissible
    (`DecoOK`) and the branch labels are safe (`NamesSafe` — discharged by `C15_labels_safe` for
    the labels the layout computes from brace-free names and families), the assembled text
    contains each delimiter exactly once. -/
theorem C15_draw_delims_once (o : Orientation) (dp : DParams) (deco : Deco) (defs : Str)
    (S : RTree) (spOf : Path → Option Path) (all : List SubLayout) (calls : List DrawCall)
    (hok : DecoOK dp deco) (hn : NamesSafe deco) (hd : DefsOK defs)
    (h : drawCalls o dp deco S spOf all = .ok calls) :
    countOcc beginPicture (assemble defs calls) = 1 ∧
    countOcc endPicture (assemble defs calls) = 1 := by
  apply render_delims_once defs _ hd (C15_draw_admissible o dp deco S spOf all calls hok h)
  intro c hc
  obtain ⟨d, hd', rfl⟩ := List.mem_map.1 hc
  exact drawCalls_safe hok hn h d hd'

/-- Exactly one picture environment in the text of `renderText` (`tikz.render(rec, layout, params)`),
    under the hypotheses of `C15_draw_delims_once`. -/
theorem C15_draw_text_delims_once (o : Orientation) (dp : DParams) (deco : Deco)
    (defsFills : List Str) (S : RTree) (spOf : Path → Option Path) (all : List SubLayout)
    (text : Str) (hok : DecoOK dp deco) (hn : NamesSafe deco)
    (hd : DefsOK (defsText o defsFills))
    (h : renderText o dp deco defsFills S spOf all = .ok text) :
    countOcc beginPicture text = 1 ∧ countOcc endPicture text = 1 := by
  unfold renderText at h
  cases hc : drawCalls o dp deco S spOf all with
  | error e => simp [hc] at h
  | ok calls =>
    simp only [hc, Except.ok.injEq] at h
    subst h
    exact C15_draw_delims_once o dp deco _ S spOf all calls hok hn hd hc

/-- **End to end, for the layout of every valid reconciliation** in a binary species tree, a
    label width other than 0, admissible decorations and safe labels: `layout.compute` returns a
    layout, the drawing code makes its calls without raising, and the assembled text has balanced
    braces and contains `\begin{tikzpicture}` and `\end{tikzpicture}` exactly once each. -/
theorem C15_draw_valid_delims (o : Orientation) (P : Params) (sizes : Key → Size) (dp : DParams)
    (deco : Deco) (defs : Str) (S : RTree) (ot : OTree) (sol : Sol)
    (hv : Spec.validRec ot sol = true) (hin : SR.C13.inTree S sol = true)
    (hb : S.isBinary = true) (hw : dp.labelWidth ≠ some 0) (hok : DecoOK dp deco)
    (hn : NamesSafe deco) (hd : DefsOK defs) :
    ∃ all calls, compute o P sizes S sol = .ok all ∧
      drawCalls o dp deco S (spOfSol sol) all = .ok calls ∧
      isBalanced (assemble defs calls) = true ∧
      countOcc beginPicture (assemble defs calls) = 1 ∧
      countOcc endPicture (assemble defs calls) = 1 := by
  obtain ⟨all, calls, h1, h2, _, _, _, _, _, h8⟩ :=
    C15_draw_valid_all o P sizes dp deco defs S ot sol hv hin hb hw hok hd
  obtain ⟨h9, h10⟩ := C15_draw_delims_once o dp deco defs S (spOfSol sol) all calls hok hn hd h2
  exact ⟨all, calls, h1, h2, h8, h9, h10⟩

/-- Every branch label has the form of a label the layout computes: it is the output of `leafLabel` or
    of `internalLabel` (`_compute_branches`) for SOME wrap width, syntenies and brace-free node name and
    family names (the property's alphabet: `C15_alphabet_braceFree`).  Nothing ties these to the
    reconciliation, the layout or `dp.labelWidth`. -/
def LabelsFromLayout (deco : Deco) : Prop :=
  ∀ s k, ∃ (w : Option Nat) (syn par : Option (List Str)) (name : Str),
    braceFree name = true ∧ (∀ fams, syn = some fams → ∀ f ∈ fams, braceFree f = true) ∧
    (leafLabel w syn name = some (deco.name s k) ∨ internalLabel w syn par = some (deco.name s k))

/-- Labels computed by the layout are balanced (`DecoOK.name`) and safe (`NamesSafe`). -/
theorem C15_names_of_labels (deco : Deco) (h : LabelsFromLayout deco) :
    (∀ s k, isBalanced (deco.name s k) = true) ∧ NamesSafe deco := by
  constructor
  · intro s k
    obtain ⟨w, syn, par, name, hn, hs, hl | hl⟩ := h s k
    · exact (C15_labels_balanced w syn par name hn hs _).1 hl
    · exact (C15_labels_balanced w syn par name hn hs _).2 hl
  · intro s k
    obtain ⟨w, syn, par, name, hn, hs, hl | hl⟩ := h s k
    · exact (C15_labels_safe w syn par name hn hs _).1 hl
    · exact (C15_labels_safe w syn par name hn hs _).2 hl

/-- **One picture environment, over the property's input space**: for the layout of every valid
    reconciliation in a binary species tree, drawn with alphanumeric colour codes, brace-free
    species names, a brace-free rounding length, a label width other than 0 and labels of the form
    the layout computes from brace-free names and families (`LabelsFromLayout`), the text has balanced braces and contains
    each delimiter exactly once. -/
theorem C15_draw_valid_delims_labels (o : Orientation) (P : Params) (sizes : Key → Size)
    (dp : DParams) (deco : Deco) (defs : Str) (S : RTree) (ot : OTree) (sol : Sol)
    (hv : Spec.validRec ot sol = true) (hin : SR.C13.inTree S sol = true)
    (hb : S.isBinary = true) (hw : dp.labelWidth ≠ some 0)
    (hcol : ∀ s k, (deco.color s k).all isAlnum = true)
    (hsp : ∀ s, braceFree (deco.spName s) = true) (hr : braceFree dp.rounding = true)
    (hlab : LabelsFromLayout deco) (hd : DefsOK defs) :
    ∃ all calls, compute o P sizes S sol = .ok all ∧
      drawCalls o dp deco S (spOfSol sol) all = .ok calls ∧
      isBalanced (assemble defs calls) = true ∧
      countOcc beginPicture (assemble defs calls) = 1 ∧
      countOcc endPicture (assemble defs calls) = 1 :=
  C15_draw_valid_delims o P sizes dp deco defs S ot sol hv hin hb hw
    ⟨hcol, (C15_names_of_labels deco hlab).1, hsp, hr⟩ (C15_names_of_labels deco hlab).2 hd

/-- `\end{tikzpicture}` has balanced braces, so it is an admissible label for `C15_balanced`
    (`CallOK`) — but it is not safe, and a speciation node labelled with it yields a text with
    TWO closing delimiters (the opening one still occurs once). -/
theorem C15_delim_label_needed :
    let c : Call := Call.mk 3 Generated.tmpl_stmt_8
      [.color "ff0000".toList, .text "1.5,2".toList, .text endPicture]
    let text := Tikz.render Generated.renderSkeleton Generated.layerNames Generated.colorPrefix
      Generated.joiner (defsText .vertical exDefsFills) [c]
    (3, Generated.tmpl_stmt_8) ∈ Generated.statements ∧
    reqsOK Generated.tmpl_stmt_8.holes c.fills = true ∧ noD endPicture = false ∧
    countOcc beginPicture text = 1 ∧ countOcc endPicture text = 2 := by
  intro c text
  obtain ⟨_, _, _, _, n1, n2, e1, e2⟩ := delims_disjoint
  obtain ⟨d1, d2⟩ := defs_no_delims _ exDefs_ok
  -- the occurrences are those inside the blocks, and the definitions block has none: only the
  -- few short blocks after it are evaluated
  have key : ∀ pat, countOcc pat (defsText .vertical exDefsFills) = 0 → '\n' ∉ pat → pat ≠ [] →
      countOcc pat text = ((List.drop 1 (renderBlocks Generated.renderSkeleton Generated.layerNames
        Generated.colorPrefix (defsText .vertical exDefsFills) [c])).map (countOcc pat)).sum := by
    intro pat h0 hn he
    show countOcc pat (Tikz.render _ _ _ _ _ _) = _
    rw [Tikz.render, Generated.joiner_newline, countOcc_intercalate hn he, skeleton_std,
      renderBlocks_std]
    simp only [List.cons_append, List.map_cons, List.sum_cons, h0,
      Nat.zero_add, List.drop_succ_cons, List.drop_zero]
  refine ⟨by decide +kernel, by decide +kernel, by decide +kernel, ?_, ?_⟩
  · rw [key _ d1 n1 e1]
    decide +kernel
  · rw [key _ d2 n2 e2]
    decide +kernel

theorem Example.namesSafe : NamesSafe Example.deco := by
  intro s k; simp only [Example.deco]; split <;> decide +kernel

example : NamesSafe Example.deco := Example.namesSafe

/- The example of `C15Draw.lean` (species tree `((A,B),C)`, a speciation, a loss, a transfer,
    label `a\_A`, wrapped species label) meets the hypotheses of `C15_draw_text_delims_once`,
    which gives the counts for the 2000+ characters of its text. -/
example :
    (match renderText .vertical Example.dp Example.deco exDefsFills Example.S
        (spOfSol Example.sol) Example.all with
      | .ok text => countOcc beginPicture text == 1 && countOcc endPicture text == 1
          && decide (2000 < text.length)
      | .error _ => false) = true := by
  have hl := Example.text_long
  split
  · rename_i text hr
    rw [hr] at hl
    obtain ⟨h1, h2⟩ :=
      C15_draw_text_delims_once _ _ _ _ _ _ _ _ Example.decoOK Example.namesSafe exDefs_ok hr
    simp only [h1, h2, hl, BEq.rfl, Bool.and_self]
  · rename_i e hr
    rw [hr] at hl
    exact hl

/-- A leaf name with a subscript and a wrapped synteny label are safe, a brace is not; `countOcc` on
    short strings. -/
example :
    leafLabel (some 6) none "E_coli_3".toList = some "E\\_coli\\textsubscript{3}".toList ∧
    noD "E\\_coli\\textsubscript{3}".toList = true ∧
    noD "a\\_1,\\\\b,\\\\c\\_d".toList = true ∧ noD "en{d".toList = false ∧
    noD "{x}".toList = false ∧
    countOcc beginPicture ("x".toList ++ beginPicture ++ "y".toList ++ beginPicture) = 2 := by
  decide +kernel

/-- The scan of the templates is not vacuous: the delimiter lines themselves fail it; so does a
    hole entered right after `n{`, and a literal `{t…` right after a hole (the filling may end in
    `n`).  Another environment (`\begin{scope}`) or `\begin` in front of a hole pass. -/
example :
    Template.delimFree Generated.tmpl_line_0 = false ∧
    Template.delimFree Generated.tmpl_line_1 = false ∧
    Template.delimFree [.lit "\\begin{".toList, .hole .label, .lit "}".toList] = false ∧
    Template.delimFree [.hole .label, .lit "{tikzpicture}".toList] = false ∧
    Template.delimFree [.lit "\\begin{scope}".toList, .hole .label, .lit "\\end{scope}".toList] = true ∧
    Template.delimFree [.lit "\\begin".toList, .hole .unit, .lit "}".toList] = true := by
  decide +kernel

/-- the example decoration of `C15Draw.lean` consists of labels the layout computes -/
example : LabelsFromLayout Example.deco := by
  intro s k
  simp only [Example.deco]
  split
  · refine ⟨none, some ["a_A".toList], none, [], by decide, ?_, Or.inl (by decide)⟩
    intro fams h f hf
    cases h
    simp only [List.mem_singleton] at hf
    subst hf; decide
  · exact ⟨none, none, none, [], by decide, (by intro f h; cases h), Or.inr (by decide)⟩

/-- names over the alphabet: letters, digits, `_`, `\` -/
example : "tikzpicture_end\\begin".toList.all nameChar = true ∧
    "a{b".toList.all nameChar = false := by decide +kernel

end SR.C15
