/-
  C05, the policy ANY end to end.

  `Model/LabelDPAny.lean` models `RetentionPolicy.ANY` through the whole of each
  solver (`thlAny`, `spfsAny`, `uspfsAny`): every role aggregate, every table
  cell and the result entry keep ONE tag, chosen by selection functions
  (`Picker`) among the tags the policy ALL would keep.  Every theorem below
  holds for EVERY valid `Picker` (`P.Ok`: a member is returned, failure only on
  the empty list), hence for every order in which the code may offer candidates;
  the code's own rule "first optimal candidate wins" is `Picker.first`
  (`Agg.ofList_updateAny`, `C05_any_first_is_code`).

  Cardinality, emptiness and membership in `reachAny` of the ALL groups need no hypothesis on
  the costs.  `any ∈ all` and `same cost` need that the evaluated cost is constant on the outputs
  of each root cell (`Uniform`), and exactly that: under ANY a root cell contributes ONE of the
  solutions it decodes to under ALL, and the result entry ranks these representatives by
  EVALUATED cost, whereas the table ranks by table value.  `Uniform` is discharged from
  `table value = evaluated cost` inside each solver's coherent region (uspfs: the `…_partial`
  theorems, from the hypothesis `KindsFaithfulAt`, the bridge `C03_kinds_faithful_statement` of
  `C03Dp.lean` for the input at hand; `C05AnyUn.lean` has them without that hypothesis).
  `C05_any_incoherent_witness`: outside the coherent region the hypothesis is needed — for
  `thl`, with the code's own choice rule (`Picker.first`), the ANY solution has cost 7 while all
  eight ALL solutions have cost 6.
-/
import SRVerif.Proofs.DPSolverAny
import SRVerif.Properties.C01Thl
import SRVerif.Proofs.DPSolverOrd
import SRVerif.Properties.C03Dp
import SRVerif.Properties.C05

namespace SR.C05

open SR Cost

section thl

variable (P : Picker Unit) (hP : P.Ok) (c : Costs) (S : RTree) (o : OTree)

theorem thl_hcl (s : Sol) :
    s ∈ (thlCells c S true o).flatMap (fun d => d.sols.map (plainSol o)) ↔
      ∃ g ∈ thlGroups c S o, s ∈ g := mem_flatMap_groups

include hP in
theorem thl_repG :
    RepG ((thlCellsAny P c S o).flatMap (fun d => d.sols.map (plainSol o))) (thlGroups c S o) :=
  (dpTableAny_rep P hP thlAlg c S (annPlain S o)).repG (plainSol o)

theorem thl_uniform (hb : S.isBinary = true) (hS : ∀ p ∈ leafSpecies o, S.isNode p = true)
    (hcoh : c.spe ≤ c.dup + 2 * c.floss) :
    Uniform (totalCost c .plain o) (thlGroups c S o) :=
  Uniform.of_cells (·.cost) fun _ hd _ hls =>
    (thlD S o).value_of_decoded c S thl_slack hb (thlD_spOk S o hS) hcoh (thlD_bridge c S o)
      (List.mem_singleton.mpr rfl) ((thlD_cells c S o true).symm ▸ hd) hls

theorem C05_any_card_thl : (thlAny P c S o).length ≤ 1 := rankAny_length_le _ _ _ _ _

include hP

theorem C05_any_empty_iff_thl : thlAny P c S o = [] ↔ thl c S o = [] :=
  rankAny_nil_iff P.sol c .plain o hP.sol (thl_hcl c S o) (thl_repG P hP c S o)

theorem C05_any_total_thl (hb : S.isBinary = true)
    (hS : ∀ p ∈ leafSpecies o, S.isNode p = true) : (thlAny P c S o).length = 1 :=
  Nat.le_antisymm (C05_any_card_thl P c S o) (List.length_pos_iff.mpr fun h =>
    C01.C01_thl_total c S o hb hS ((C05_any_empty_iff_thl P hP c S o).mp h))

theorem C05_any_reach_thl : ∀ s ∈ thlAny P c S o,
    s ∈ reachAny (totalCost c .plain o) (thlGroups c S o) :=
  fun _ h => rankAny_reach P.sol c .plain o hP.sol (thl_repG P hP c S o) h

theorem C05_any_mem_thl_of_uniform (hu : Uniform (totalCost c .plain o) (thlGroups c S o)) :
    ∀ s ∈ thlAny P c S o, s ∈ thl c S o :=
  fun _ h => rankAny_mem_all P.sol c .plain o hP.sol (thl_hcl c S o) (thl_repG P hP c S o) hu h

/-- **C05 (`any` ∈ `all`) for `thl`**: inside the coherent region, on a well-formed
    input, whatever the order in which candidates are offered. -/
theorem C05_any_mem_thl (hb : S.isBinary = true) (hS : ∀ p ∈ leafSpecies o, S.isNode p = true)
    (hcoh : c.spe ≤ c.dup + 2 * c.floss) : ∀ s ∈ thlAny P c S o, s ∈ thl c S o :=
  C05_any_mem_thl_of_uniform P hP c S o (thl_uniform c S o hb hS hcoh)

theorem C05_any_same_cost_thl (hb : S.isBinary = true)
    (hS : ∀ p ∈ leafSpecies o, S.isNode p = true) (hcoh : c.spe ≤ c.dup + 2 * c.floss) :
    ∀ s ∈ thlAny P c S o, ∀ s' ∈ thl c S o,
      totalCost c .plain o s = totalCost c .plain o s' :=
  fun s h s' h' => C05_same_cost c .plain o _ s s' (C05_any_mem_thl P hP c S o hb hS hcoh s h) h'

/-- Hence the single ANY solution is a minimum-cost valid reconciliation. -/
theorem C05_any_opt_thl (hb : S.isBinary = true) (hS : ∀ p ∈ leafSpecies o, S.isNode p = true)
    (hcoh : c.spe ≤ c.dup + 2 * c.floss) : ∀ s ∈ thlAny P c S o,
    Spec.validRec o s = true ∧
    ∀ s', Spec.validRec o s' = true → s' ∈ Spec.allMappings S o →
      Cost.le (totalCost c .plain o s) (totalCost c .plain o s') = true :=
  fun s h => C01.C01_thl c S o hb hS hcoh s (C05_any_mem_thl P hP c S o hb hS hcoh s h)

omit hP in
/-- Under `Uniform` the reachable set is exactly the ALL result. -/
theorem C05_reach_eq_all_thl (hb : S.isBinary = true)
    (hS : ∀ p ∈ leafSpecies o, S.isNode p = true) (hcoh : c.spe ≤ c.dup + 2 * c.floss) (s : Sol) :
    s ∈ reachAny (totalCost c .plain o) (thlGroups c S o) ↔ s ∈ thl c S o :=
  reachAny_eq_all c .plain o (thl_hcl c S o)
    (thl_repG (Picker.first Unit) (Picker.first_ok Unit) c S o) (thl_uniform c S o hb hS hcoh) s

end thl

section spfs

variable (P : Picker Nat) (hP : P.Ok) (c : Costs) (S : RTree) (base : Bool) (o : OTree)
  (pre : Option (List Nat))

theorem spfs_hcl (s : Sol) :
    s ∈ ((rootOrders o pre).flatMap fun order =>
      (spfsCellsFor c S base true o order).flatMap (fun d => d.sols.map (ordSol order))) ↔
      ∃ g ∈ spfsGroups c S base o pre, s ∈ g :=
  (spfsD c S base o pre).mem_cands_iff_groups c S s

include hP in
theorem spfs_repG :
    RepG ((rootOrders o pre).flatMap fun order =>
      (spfsCellsForAny P c S base o order).flatMap (fun d => d.sols.map (ordSol order)))
      (spfsGroups c S base o pre) :=
  (spfsD c S base o pre).repG c S P hP

theorem spfs_uniform (hord : C02.OrdersOk o pre) (hb : S.isBinary = true)
    (hS : ∀ p ∈ leafSpecies o, S.isNode p = true)
    (hcoh : c.spe + 2 * c.sloss ≤ c.dup + 2 * c.floss) :
    Uniform (totalCost c .ordered o) (spfsGroups c S base o pre) :=
  (spfsD c S base o pre).uniform c S (ord_slack c) hb (spfsD_spOk c S base o pre hS) hcoh
    fun order ho _ hd _ hls => spfsD_bridge c S base o pre hord _
      ((spfsD c S base o pre).cand_of_decoded c S (ord_slack c) ho hd hls)

theorem C05_any_card_spfs : (spfsAny P c S base o pre).length ≤ 1 := rankAny_length_le _ _ _ _ _

include hP

theorem C05_any_empty_iff_spfs : spfsAny P c S base o pre = [] ↔ spfs c S base o pre = [] :=
  rankAny_nil_iff P.sol c .ordered o hP.sol (spfs_hcl c S base o pre) (spfs_repG P hP c S base o pre)

theorem C05_any_reach_spfs : ∀ s ∈ spfsAny P c S base o pre,
    s ∈ reachAny (totalCost c .ordered o) (spfsGroups c S base o pre) :=
  fun _ h => rankAny_reach P.sol c .ordered o hP.sol (spfs_repG P hP c S base o pre) h

theorem C05_any_mem_spfs_of_uniform
    (hu : Uniform (totalCost c .ordered o) (spfsGroups c S base o pre)) :
    ∀ s ∈ spfsAny P c S base o pre, s ∈ spfs c S base o pre :=
  fun _ h => rankAny_mem_all P.sol c .ordered o hP.sol (spfs_hcl c S base o pre)
    (spfs_repG P hP c S base o pre) hu h

/-- **C05 (`any` ∈ `all`) for the ordered solvers**, inside the coherent region. -/
theorem C05_any_mem_spfs (hord : C02.OrdersOk o pre) (hb : S.isBinary = true)
    (hS : ∀ p ∈ leafSpecies o, S.isNode p = true)
    (hcoh : c.spe + 2 * c.sloss ≤ c.dup + 2 * c.floss) :
    ∀ s ∈ spfsAny P c S base o pre, s ∈ spfs c S base o pre :=
  C05_any_mem_spfs_of_uniform P hP c S base o pre (spfs_uniform c S base o pre hord hb hS hcoh)

theorem C05_any_same_cost_spfs (hord : C02.OrdersOk o pre) (hb : S.isBinary = true)
    (hS : ∀ p ∈ leafSpecies o, S.isNode p = true)
    (hcoh : c.spe + 2 * c.sloss ≤ c.dup + 2 * c.floss) :
    ∀ s ∈ spfsAny P c S base o pre, ∀ s' ∈ spfs c S base o pre,
      totalCost c .ordered o s = totalCost c .ordered o s' :=
  fun s h s' h' => C05_same_cost c .ordered o _ s s'
    (C05_any_mem_spfs P hP c S base o pre hord hb hS hcoh s h) h'

theorem C05_any_total_spfs
    (hne : spfs c S base o pre ≠ []) : (spfsAny P c S base o pre).length = 1 :=
  Nat.le_antisymm (C05_any_card_spfs P c S base o pre)
    (List.length_pos_iff.mpr fun h => hne ((C05_any_empty_iff_spfs P hP c S base o pre).mp h))

omit hP in
theorem C05_reach_eq_all_spfs (hord : C02.OrdersOk o pre) (hb : S.isBinary = true)
    (hS : ∀ p ∈ leafSpecies o, S.isNode p = true)
    (hcoh : c.spe + 2 * c.sloss ≤ c.dup + 2 * c.floss) (s : Sol) :
    s ∈ reachAny (totalCost c .ordered o) (spfsGroups c S base o pre) ↔ s ∈ spfs c S base o pre :=
  reachAny_eq_all c .ordered o (spfs_hcl c S base o pre)
    (spfs_repG (Picker.first Nat) (Picker.first_ok Nat) c S base o pre)
    (spfs_uniform c S base o pre hord hb hS hcoh) s

end spfs

section uspfs

variable (P : Picker Kind) (hP : P.Ok) (c : Costs) (S : RTree) (base : Bool) (o : OTree)

theorem uspfs_hcl (s : Sol) :
    s ∈ (uspfsCells c S base true o).flatMap
      (fun d => d.sols.map (unSol (annUn S base o [] o) (annUn S base o [] o).data.lcaSet)) ↔
      ∃ g ∈ uspfsGroups c S base o, s ∈ g := mem_flatMap_groups

include hP in
theorem uspfs_repG :
    RepG ((uspfsCellsAny P c S base o).flatMap
      (fun d => d.sols.map (unSol (annUn S base o [] o) (annUn S base o [] o).data.lcaSet)))
      (uspfsGroups c S base o) :=
  ((dpTableAny_rep P hP (unAlg c) c S (annUn S base o [] o)).filter_lab
    (fun l => l == Kind.lca)).repG _

/-- The bridge of `C03_kinds_faithful_statement`, for one input: the evaluator
    charges a decoded kind labelling what the DP charged. -/
def KindsFaithfulAt (c : Costs) (S : RTree) (base : Bool) (o : OTree) : Prop :=
  let t := annUn S base o [] o
  ∀ d ∈ uspfsCells c S base true o, ∀ ls ∈ d.sols,
    totalCost c .unordered o (unSol t t.data.lcaSet ls) = labCost (unAlg c) c t ls

theorem uspfs_uniform (hfaith : KindsFaithfulAt c S base o) (hb : S.isBinary = true)
    (hS : ∀ p ∈ leafSpecies o, S.isNode p = true)
    (hcoh : c.spe + c.sloss ≤ c.dup + 2 * c.floss) :
    Uniform (totalCost c .unordered o) (uspfsGroups c S base o) :=
  Uniform.of_cells (·.cost) fun d hd ls hls => by
    rw [hfaith d hd ls hls, (uspfsD c S base o).cost_of_decoded c S (un_slack c) hb
      (C03.uspfsD_spOk c S base o hS) hcoh (List.mem_singleton.mpr rfl) hd hls]

theorem C05_any_card_uspfs : (uspfsAny P c S base o).length ≤ 1 := rankAny_length_le _ _ _ _ _

include hP

theorem C05_any_empty_iff_uspfs : uspfsAny P c S base o = [] ↔ uspfs c S base o = [] :=
  rankAny_nil_iff P.sol c .unordered o hP.sol (uspfs_hcl c S base o) (uspfs_repG P hP c S base o)

theorem C05_any_reach_uspfs : ∀ s ∈ uspfsAny P c S base o,
    s ∈ reachAny (totalCost c .unordered o) (uspfsGroups c S base o) :=
  fun _ h => rankAny_reach P.sol c .unordered o hP.sol (uspfs_repG P hP c S base o) h

theorem C05_any_total_uspfs (hne : uspfs c S base o ≠ []) : (uspfsAny P c S base o).length = 1 :=
  Nat.le_antisymm (C05_any_card_uspfs P c S base o)
    (List.length_pos_iff.mpr fun h => hne ((C05_any_empty_iff_uspfs P hP c S base o).mp h))

theorem C05_any_mem_uspfs_of_uniform
    (hu : Uniform (totalCost c .unordered o) (uspfsGroups c S base o)) :
    ∀ s ∈ uspfsAny P c S base o, s ∈ uspfs c S base o :=
  fun _ h => rankAny_mem_all P.sol c .unordered o hP.sol (uspfs_hcl c S base o)
    (uspfs_repG P hP c S base o) hu h

/-- `any` ∈ `all` for the unordered solvers; `C05_any_mem_uspfs` (`C05AnyUn.lean`) is its
    proof. -/
def C05_any_mem_uspfs_statement : Prop :=
  ∀ (P : Picker Kind), P.Ok → ∀ (c : Costs) (S : RTree) (base : Bool) (o : OTree),
    S.isBinary = true → (∀ p ∈ leafSpecies o, S.isNode p = true) →
    (∀ f ∈ leafSyntenies o, f ≠ []) → c.spe + c.sloss ≤ c.dup + 2 * c.floss →
    ∀ s ∈ uspfsAny P c S base o, s ∈ uspfs c S base o

/-- `any` ∈ `all` for the unordered solvers, GIVEN the bridge between the DP's
    per-kind charges and the evaluator on the input at hand. -/
theorem C05_any_mem_uspfs_partial (hfaith : KindsFaithfulAt c S base o) (hb : S.isBinary = true)
    (hS : ∀ p ∈ leafSpecies o, S.isNode p = true)
    (hcoh : c.spe + c.sloss ≤ c.dup + 2 * c.floss) :
    ∀ s ∈ uspfsAny P c S base o, s ∈ uspfs c S base o :=
  C05_any_mem_uspfs_of_uniform P hP c S base o (uspfs_uniform c S base o hfaith hb hS hcoh)

theorem C05_any_same_cost_uspfs_partial (hfaith : KindsFaithfulAt c S base o)
    (hb : S.isBinary = true) (hS : ∀ p ∈ leafSpecies o, S.isNode p = true)
    (hcoh : c.spe + c.sloss ≤ c.dup + 2 * c.floss) :
    ∀ s ∈ uspfsAny P c S base o, ∀ s' ∈ uspfs c S base o,
      totalCost c .unordered o s = totalCost c .unordered o s' :=
  fun s h s' h' => C05_same_cost c .unordered o _ s s'
    (C05_any_mem_uspfs_partial P hP c S base o hfaith hb hS hcoh s h) h'

omit hP in
/-- The bridge statement of `C03Dp.lean` gives the hypothesis for every input. -/
theorem C05_any_mem_uspfs_of_bridge (hbridge : C03.C03_kinds_faithful_statement) :
    C05_any_mem_uspfs_statement := by
  intro P hP c S base o hb hS hne hcoh
  exact C05_any_mem_uspfs_partial P hP c S base o (hbridge c S base o hb hS hne) hb hS hcoh

end uspfs

/-- Outside the coherent region `any ∈ all` and `same cost` FAIL for `thl`, with
    the code's own rule (first optimal candidate): the ANY solution costs 7, the
    eight ALL solutions cost 6. -/
theorem C05_any_incoherent_witness :
    let c : Costs := { spe := 3, dup := 0, hgt := .fin 2, floss := 1, sloss := 0 }
    let S : RTree := .node [.node [.node [], .node []], .node [.node [], .node []]]
    let o : OTree := .node (.node (.leaf [0, 1] []) (.leaf [0, 0] []))
      (.node (.leaf [1, 1] []) (.leaf [1, 0] []))
    let any : Sol := .node [0, 0] [] (.node [0, 0] [] (.leaf [0, 1] []) (.leaf [0, 0] []))
      (.node [1] [] (.leaf [1, 1] []) (.leaf [1, 0] []))
    S.isBinary = true ∧ (∀ p ∈ leafSpecies o, S.isNode p = true) ∧
    ¬ c.spe ≤ c.dup + 2 * c.floss ∧
    thlAny (Picker.first Unit) c S o = [any] ∧ any ∉ thl c S o ∧
    totalCost c .plain o any = .fin 7 ∧
    (thl c S o).map (totalCost c .plain o) = List.replicate 8 (.fin 6) := by
  decide +kernel

/-- The rule of the code (`Entry.update` under ANY, `Agg.updateAny`) is the selection function
    `head?`; and `Picker.first`, which uses it, is a valid `Picker` at the three label types. -/
theorem C05_any_first_is_code {τ : Type} [DecidableEq τ] (xs : List (Cost × τ)) :
    xs.foldl (fun e p => e.updateAny p.1 p.2) Agg.empty = (Agg.ofList xs).any List.head? ∧
    (Picker.first Unit).Ok ∧ (Picker.first Nat).Ok ∧ (Picker.first Kind).Ok :=
  ⟨Agg.ofList_updateAny xs, Picker.first_ok _, Picker.first_ok _, Picker.first_ok _⟩

/-- A coherent well-formed input with five co-optimal reconciliations: two valid
    pickers return two DIFFERENT members of the ALL result. -/
example :
    let c : Costs := { spe := 1, dup := 1, hgt := .fin 1, floss := 1, sloss := 1 }
    let S : RTree := .node [.node [.node [], .node []], .node []]
    let o : OTree := .node (.node (.leaf [0, 0] []) (.leaf [1] [])) (.leaf [0, 1] [])
    S.isBinary = true ∧ (∀ p ∈ leafSpecies o, S.isNode p = true) ∧
    c.spe ≤ c.dup + 2 * c.floss ∧ (thl c S o).length = 5 ∧
    (thlAny (Picker.first Unit) c S o).length = 1 ∧
    (thlAny (Picker.last Unit) c S o).length = 1 ∧
    thlAny (Picker.first Unit) c S o ≠ thlAny (Picker.last Unit) c S o ∧
    (∀ s ∈ thlAny (Picker.first Unit) c S o, s ∈ thl c S o) ∧
    (∀ s ∈ thlAny (Picker.last Unit) c S o, s ∈ thl c S o) := by
  decide +kernel

/-- Ordered: two root orders, ties; the ANY result is one member. -/
example :
    let c : Costs := { spe := 0, dup := 1, hgt := .fin 1, floss := 1, sloss := 1 }
    let S : RTree := .node [.node [], .node []]
    let o : OTree := .node (.leaf [0] [0]) (.leaf [1] [1])
    c.spe + 2 * c.sloss ≤ c.dup + 2 * c.floss ∧
    2 ≤ (spfs c S false o none).length ∧
    (spfsAny (Picker.first Nat) c S false o none).length = 1 ∧
    (∀ s ∈ spfsAny (Picker.last Nat) c S false o none, s ∈ spfs c S false o none) := by
  decide +kernel

/-- Unordered: the ANY result is one member of the ALL result. -/
example :
    let c : Costs := { spe := 1, dup := 1, hgt := .fin 1, floss := 1, sloss := 1 }
    let S : RTree := .node [.node [], .node []]
    let o : OTree := .node (.leaf [0] [1, 2]) (.leaf [1] [2])
    c.spe + c.sloss ≤ c.dup + 2 * c.floss ∧
    (uspfsAny (Picker.first Kind) c S false o).length = 1 ∧
    (∀ s ∈ uspfsAny (Picker.first Kind) c S false o, s ∈ uspfs c S false o) ∧
    (∀ s ∈ uspfsAny (Picker.last Kind) c S false o, s ∈ uspfs c S false o) := by
  decide +kernel

end SR.C05
