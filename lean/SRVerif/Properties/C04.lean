/-
  C04 — Every returned solution is a valid, complete (super-)reconciliation.

  `Spec.validSol mode o sol`: `sol` has the shape of the input tree `o`
  (every node is mapped), leaves sit in their given species, no node has the
  event INVALID, and the labelling is admissible for the mode.
-/
import SRVerif.Proofs.Cost
import SRVerif.Proofs.Enum
import SRVerif.Spec.Opt

namespace SR.C04

open SR

/-- Full statement (`sols` = an algorithm's result); proved for `thl`, `spfs` (`C04Dp.lean`) and
    `uspfs` (`C04Un.lean`). -/
def C04_statement (mode : LabelMode) (c : Costs) (o : OTree) (sols : List Sol) : Prop :=
  ∀ sol ∈ sols, Spec.validSol mode o sol = true ∧ totalCost c mode o sol ≠ .inf

/-- C04 for the unordered solvers, every input (`C04Un.C04_unord`). -/
def C04_unord_statement : Prop :=
  ∀ (c : Costs) (S : RTree) (base : Bool) (o : OTree),
    C04_statement .unordered c o (uspfs c S base o)

theorem lcaSol_sp_leaf (sp : Path) (f : List Nat) : (lcaSol (.leaf sp f)).sp = sp := rfl

/-- The LCA reconciliation is valid for every input. -/
theorem C04_lca (o : OTree) : Spec.validSol .plain o (lcaSol o) = true := by
  simp [Spec.validSol, ((mem_generateAll o (lcaSol o)).mp (lcaSol_mem_generateAll o)).1]

/-- What holds of every candidate offered to a result entry holds of what it keeps (for any
    predicate `P`; for C04, validity). -/
theorem C04_rank (c : Costs) (mode : LabelMode) (o : OTree) (cands : List Sol)
    (P : Sol → Prop) (h : ∀ s ∈ cands, P s) : ∀ s ∈ rankByCost c mode o cands, P s :=
  fun s hs => h s ((mem_rankByCost c mode o cands s).mp hs).1

example : Spec.validSol .plain (.node (.leaf [0] []) (.leaf [1] []))
    (lcaSol (.node (.leaf [0] []) (.leaf [1] []))) = true := by decide +kernel

end SR.C04
