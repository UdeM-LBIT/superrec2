/-
  C12 — the glue of `cli/reconcile.py` and `cli/draw.py` (model: `Model/CliGlue.lean`, on top of
  `Model/Cli.lean`): the input document, the option language of the cost arguments (its lexer
  and operator precedence are tied to Python by the harness, not by a theorem), status and
  output of a run, `draw`.  `showT`, `termLines` of the statements: `Proofs/CliGlue.lean`.
  The cost line is a composition: `CostLineOK` its conclusion, `C12_cost_line_core` the
  composition for any type of written object, from C05 alone (`C12Bridge.lean` instantiates
  it, with C01 / C03 / C04 for the solvers); `C12_cost_line` leaves the interface as
  hypotheses and reads back by C11.
-/
import SRVerif.Proofs.CliGlue
import SRVerif.Properties.C12
import SRVerif.Properties.C11
import SRVerif.Properties.C05AnyUn

namespace SR.C12

open SR SR.Ser SR.Cli

/-- `read_input` on the parsed document `doc` with the evaluated cost options
    `argCosts`, when it succeeds:
    * `object_tree` and `species_tree` are string keys of the document, read by the Newick
      reader into `ot`, `st`;
    * the trees of the input are `label_internal` of them (`O#` / `S#`);
    * the costs are the command line's (`dict(…)` of the pairs), whatever the file says;
    * the class is `SuperReconciliationInput` iff the key `leaf_syntenies` is present, and
      then the leaf syntenies are the parsed value of that key;
    * without `leaf_object_species` the leaf assignment is `get_species_mapping(ot, st)`,
      otherwise the parsed value of that key. -/
theorem C12_read_input (read : String → Option NT) (doc : List (String × JV)) (argCosts : CostValues)
    (inp : AnyInput) (h : readDoc read doc argCosts = .ok inp) :
    ∃ ots sts ot st,
      doc.lookup "object_tree" = some (.str ots) ∧ read ots = some ot ∧
      doc.lookup "species_tree" = some (.str sts) ∧ read sts = some st ∧
      inp.base.objectTree = labelTree "O" ot ∧ inp.base.speciesTree = labelTree "S" st ∧
      inp.base.costs = Dict.ofList argCosts ∧
      (AnyInput.kind inp = InputKind.super ↔ (doc.lookup "leaf_syntenies").isSome) ∧
      (doc.lookup "leaf_object_species" = none →
        inp.base.leafObjectSpecies = getSpeciesMapping ot st) ∧
      (∀ v, doc.lookup "leaf_object_species" = some v → ∃ l, v.asStrMap = some l ∧
        parseTreeMapping ot st l = .ok inp.base.leafObjectSpecies) ∧
      (∀ v, doc.lookup "leaf_syntenies" = some v → ∃ l i, v.asSynMap = some l ∧ inp = .super i ∧
        parseSynMapping ot l = .ok i.leafSyntenies) := by
  unfold readDoc at h
  obtain ⟨d, hd, h⟩ := bind_ok h
  obtain ⟨k1, _, k2, _, _, k3, k4, k5, k6⟩ := docToDict_ok hd
  obtain ⟨ot, st, r1, r2, t1, t2, t3, t4, t5, t6, t7⟩ := readInput_ok (liftSer_ok h)
  refine ⟨d.object_tree, d.species_tree, ot, st, k1, r1, k2, r2, t1, t2, t3, ?_, ?_, ?_, ?_⟩
  · rw [t4]
    cases hl : doc.lookup "leaf_syntenies" with
    | none => simp [k5.2 hl]
    | some v =>
      simp only [Option.isSome_some, iff_true]
      intro hn
      rw [k5.1 hn] at hl
      cases hl
  · intro hn
    exact t5 (k3.2 hn)
  · intro v hv
    cases hl : d.leaf_object_species with
    | none => rw [k3.1 hl] at hv; cases hv
    | some l => exact ⟨l, (k4 v hv).trans hl, t6 l hl⟩
  · intro v hv
    cases hl : d.leaf_syntenies with
    | none => rw [k5.1 hl] at hv; cases hv
    | some l =>
      obtain ⟨i, hi, hp⟩ := t7 l hl
      exact ⟨l, i, (k6 v hv).trans hl, hi, hp⟩

/-- Keys: a missing `object_tree` is a `KeyError`; so is a missing `species_tree` once the
    object tree has been read; every key other than the four documented ones — `costs`
    included — is ignored. -/
theorem C12_read_input_keys (read : String → Option NT) (doc doc' : List (String × JV))
    (argCosts : CostValues) :
    (doc.lookup "object_tree" = none → readDoc read doc argCosts = .error (.ser .keyError)) ∧
    (∀ ots ot, doc.lookup "object_tree" = some (.str ots) → read ots = some ot →
      doc.lookup "species_tree" = none → readDoc read doc argCosts = .error (.ser .keyError)) ∧
    ((∀ k ∈ ["object_tree", "species_tree", "leaf_object_species", "leaf_syntenies"],
        doc'.lookup k = doc.lookup k) →
      readDoc read doc' argCosts = readDoc read doc argCosts) := by
  refine ⟨fun h => ?_, fun ots ot h1 h2 h3 => ?_, fun h => ?_⟩
  · simp [readDoc, docToDict, docStr, h, bind, Except.bind]
  · simp [readDoc, docToDict, docStr, h1, h2, h3, bind, Except.bind, JV.asStr, readTree, liftSer]
  · have a := h "object_tree" (by simp)
    have b := h "species_tree" (by simp)
    have c := h "leaf_object_species" (by simp)
    have e := h "leaf_syntenies" (by simp)
    simp only [readDoc, docToDict, docStr, docOpt, a, b, c, e]

/-- With pairwise distinct given names, the trees an algorithm receives are uniquely named
    (hypothesis of C11), given names untouched (C12_label). -/
theorem C12_read_input_names (read : String → Option NT) (doc : List (String × JV))
    (argCosts : CostValues) (inp : AnyInput) (h : readDoc read doc argCosts = .ok inp)
    (hg : ∀ k s t, doc.lookup k = some (.str s) → read s = some t →
      (t.names.filter (fun nm => !isUnnamed nm)).Nodup) :
    inp.base.objectTree.UniqueNames ∧ inp.base.speciesTree.UniqueNames := by
  obtain ⟨ots, sts, ot, st, k1, r1, k2, r2, t1, t2, _⟩ := C12_read_input read doc argCosts inp h
  rw [t1, t2]
  exact ⟨(C12_label_tree "O" ot (hg _ _ _ k1 r1)).2, (C12_label_tree "S" st (hg _ _ _ k2 r2)).2⟩

/-- The option language.
    1. Round trip: every expression tree is the parse of its fully parenthesised token
       string (`showT`: atoms, `-(e)`, `+(e)`, `((a) op (b))`).
    2. Python's evaluation order: the left operand is evaluated first and its exception
       wins; a name is a `NameError`; only `//` raises (`ZeroDivisionError`, by integer zero,
       whatever the dividend).
    3. On costs (non-negative integers and `float('inf')`) `+` is the `+` of the cost model
       and `//` is the floor division of the integers. -/
theorem C12_eval_cost :
    (∀ e : CExpr, parseGo (showT e) [] [] true = .ok e) ∧
    (∀ (o : BinOp) (a b : CExpr), (∀ v, a.eval ≠ .val v) → (CExpr.bin o a b).eval = a.eval) ∧
    (∀ (o : BinOp) (a b : CExpr) (x : Val), a.eval = .val x → (∀ v, b.eval ≠ .val v) →
      (CExpr.bin o a b).eval = b.eval) ∧
    (∀ s, (CExpr.name s).eval = .nameError) ∧
    (∀ a : Val, a.fdiv (.int 0) = .zeroDivision) ∧
    (∀ (a b : Val) (x y : Cost), a.toCost = some x → b.toCost = some y →
      (a.add b).toCost = some (x + y)) ∧
    (∀ a b : Int, b ≠ 0 → Val.fdiv (.int a) (.int b) = .val (.int (Int.fdiv a b))) := by
  refine ⟨parseGo_showT, ?_, ?_, fun _ => rfl, ?_, fun a b x y => toCost_add, fdiv_int⟩
  · intro o a b h
    cases ha : a.eval with
    | val v => exact absurd ha (h v)
    | _ => simp [CExpr.eval, ha]
  · intro o a b x ha h
    cases hb : b.eval with
    | val v => exact absurd hb (h v)
    | _ => simp [CExpr.eval, ha, hb]
  · intro a; cases a <;> rfl

/-- `args.cost_*`: without options the defaults of `get_default_cost()`, in the order of
    `cost_events`; the LAST occurrence of an option wins; an option whose expression
    raises makes the whole command fail with the exception of the FIRST such option in
    argv order. -/
theorem C12_cost_args :
    costArgs [] = .ok [(.node "SPECIATION", .int 0), (.node "DUPLICATION", .int 1),
      (.node "HORIZONTAL_TRANSFER", .int 1), (.edge "FULL_LOSS", .int 1),
      (.edge "SEGMENTAL_LOSS", .int 1)] ∧
    ((costArgs []).toOption.bind costValues = some defaultCost) ∧
    (costArgs [("dup", "1"), ("hgt", "float('inf')"), ("dup", "2+3")]).toOption.bind costValues
      = some [(.node "SPECIATION", .fin 0), (.node "DUPLICATION", .fin 5),
        (.node "HORIZONTAL_TRANSFER", .inf), (.edge "FULL_LOSS", .fin 1),
        (.edge "SEGMENTAL_LOSS", .fin 1)] ∧
    costArgs [("dup", "1//0"), ("spe", "zz")] = .error .zeroDivision ∧
    costArgs [("spe", "zz"), ("dup", "1//0")] = .error .nameError ∧
    costArgs [("hgt", "inf")] = .error .nameError ∧
    (∀ (k s : String) (r : List (String × String)) (e : EvalRes), evalCost s = e →
      (∀ v, e ≠ .val v) → costArgs ((k, s) :: r) = .error e) := by
  refine ⟨by decide +kernel, by decide +kernel, by decide +kernel, by decide +kernel,
    by decide +kernel, by decide +kernel, ?_⟩
  intro k s r e he hv
  cases e with
  | val v => exact absurd rfl (hv v)
  | _ => simp [costArgs, evalOpts, he]

/-- `dump_results` writes one line per result, in the order of the result list: when no
    encoding contains a newline (`json.dump` without `indent` never emits one), the
    newline-terminated lines of the output text are exactly the encodings, in order. -/
theorem C12_one_object_per_result {ρ : Type} (enc : ρ → String) (results : List ρ)
    (hnl : ∀ r ∈ results, '\n' ∉ (enc r).toList) :
    termLines (dumpResults enc results).toList = results.map (fun r => (enc r).toList) := by
  rw [dumpResults_toList]
  have := termLines_flatten (results.map (fun r => (enc r).toList)) (by
    intro l hl
    obtain ⟨r, hr, rfl⟩ := List.mem_map.mp hl
    exact hnl r hr)
  simpa [List.map_map, Function.comp_def] using this

/-- `reconcile` once the input is read (`r` = dispatch of `call_algorithm`, `results` = what
    the algorithm returns if called):
    * the status is 1 iff the dispatch is an error or no result is returned (0 otherwise;
      2 is argparse's refusal);
    * "Minimum cost: <cost of results[0]>" is printed iff the algorithm ran and returned
      something, and then it is the last line of stderr;
    * nothing is written unless the status is 0, and then `dump_results` of all results;
    * it agrees with `reconcileOutcome` of `Model/Cli.lean`. -/
theorem C12_status {ρ : Type} (algo : String) (r : CallResult) (results : List ρ)
    (cost : ρ → Cost) (enc : ρ → String) (hr : r ≠ .rejected) :
    let run := reconcileRun algo r results cost enc
    (run.status = 1 ↔ (r = .errorNeedsSyntenies ∨ r = .unsupportedSignature ∨ results = [])) ∧
    (run.status = 0 ∨ run.status = 1) ∧
    ((∃ c, minCostText c ∈ run.stderr) ↔ ((∃ w p, r = .run w p) ∧ results ≠ [])) ∧
    (∀ w p x rest, r = .run w p → results = x :: rest →
      run.stderr.getLast? = some (minCostText (cost x)) ∧ run.stdout = dumpResults enc results) ∧
    (run.status ≠ 0 → run.stdout = "") ∧
    (run.status = (reconcileOutcome r results enc).1) ∧
    (r = .errorNeedsSyntenies → run = ⟨1, [errorText algo], ""⟩) := by
  intro run
  cases r with
  | rejected => exact absurd rfl hr
  | errorNeedsSyntenies =>
    refine ⟨⟨fun _ => .inl rfl, fun _ => rfl⟩, .inr rfl, ⟨?_, ?_⟩, ?_, fun _ => rfl, rfl, fun _ => rfl⟩
    · rintro ⟨c, hc⟩
      exact absurd (List.mem_singleton.mp hc) (minCostText_ne_errorText c algo)
    · rintro ⟨⟨w, p, h⟩, _⟩; cases h
    · intro w p x rest h; cases h
  | unsupportedSignature =>
    refine ⟨⟨fun _ => .inr (.inl rfl), fun _ => rfl⟩, .inr rfl, ⟨?_, ?_⟩, ?_, fun _ => rfl, rfl, ?_⟩
    · rintro ⟨c, hc⟩; cases hc
    · rintro ⟨⟨w, p, h⟩, _⟩; cases h
    · intro w p x rest h; cases h
    · intro h; cases h
  | run w p =>
    cases results with
    | nil =>
      refine ⟨⟨fun _ => .inr (.inr rfl), fun _ => rfl⟩, .inr rfl, ⟨?_, ?_⟩, ?_, fun _ => rfl, rfl, ?_⟩
      · rintro ⟨c, hc⟩
        cases w
        · cases hc
        · exact absurd (List.mem_singleton.mp hc) (minCostText_ne_warnText c algo)
      · rintro ⟨_, h⟩; exact absurd rfl h
      · intro w' p' x rest _ h; cases h
      · intro h; cases h
    | cons x rest =>
      refine ⟨⟨?_, ?_⟩, .inl rfl, ⟨?_, ?_⟩, ?_, ?_, rfl, ?_⟩
      · intro h; cases h
      · rintro (h | h | h) <;> cases h
      · intro _; exact ⟨⟨w, p, rfl⟩, List.cons_ne_nil _ _⟩
      · intro _; exact ⟨cost x, List.mem_append_right _ (List.mem_singleton.mpr rfl)⟩
      · intro w' p' x' rest' _ h
        cases h
        exact ⟨List.getLast?_concat .., rfl⟩
      · intro h; exact absurd rfl h
      · intro h; cases h

/-- Policy ANY of `reconcile_thl` returns something (exactly one solution:
    `C05_any_total_thl`). -/
theorem thlAny_ne_nil (P : Picker Unit) (hP : P.Ok) (c : Costs) (S : RTree) (o : OTree)
    (hb : S.isBinary = true) (hS : ∀ p ∈ leafSpecies o, S.isNode p = true) :
    thlAny P c S o ≠ [] := by
  intro h
  have := C05.C05_any_total_thl P hP c S o hb hS
  rw [h] at this
  cases this

/-- The conclusion of the cost-line theorems, for a run that wrote the objects `outs`
    (encoded by `enc`), `opt` being the optimal set of the model (the ALL result): status 0;
    the last stderr line is "Minimum cost: k"; `k` is the `totalCost` of every optimal
    solution; the output text is `dump_results` of the objects; every object comes back
    with cost `k`. -/
def CostLineOK {ρ : Type} (Back : ρ → Cost → Prop) (c : Costs) (mode : LabelMode) (o : OTree)
    (opt : List Sol) (enc : ρ → String) (outs : List ρ) (run : RunOut) : Prop :=
  ∃ k : Cost, run.status = 0 ∧ run.stderr.getLast? = some (minCostText k) ∧
    (∀ s ∈ opt, totalCost c mode o s = k) ∧
    run.stdout = dumpResults enc outs ∧ ∀ x ∈ outs, Back x k

/-- The generic composition: results inside the optimal set, evaluated cost of the embedded
    object = `totalCost`, every embedded object comes back with its own cost. -/
theorem C12_cost_line_core {ρ : Type} (Back : ρ → Cost → Prop) (c : Costs) (mode : LabelMode)
    (o : OTree) (cands results : List Sol)
    (hres : ∀ s ∈ results, s ∈ rankByCost c mode o cands) (hne : results ≠ [])
    (emb : Sol → ρ) (cost : ρ → Cost) (enc : ρ → String)
    (hev : ∀ s ∈ results, cost (emb s) = totalCost c mode o s)
    (hback : ∀ s ∈ results, Back (emb s) (cost (emb s))) (algo : String) (w : Bool)
    (p : Option String) :
    CostLineOK Back c mode o (rankByCost c mode o cands) enc (results.map emb)
      (reconcileRun algo (.run w p) (results.map emb) cost enc) := by
  cases hr : results with
  | nil => exact absurd hr hne
  | cons s0 rest =>
    have hs0 : s0 ∈ results := by rw [hr]; simp
    have hk : ∀ s ∈ rankByCost c mode o cands, totalCost c mode o s = totalCost c mode o s0 :=
      fun s hs => C05.C05_same_cost c mode o cands s s0 hs (hres s0 hs0)
    refine ⟨totalCost c mode o s0, ?_, ?_, hk, ?_, ?_⟩
    · simp [reconcileRun]
    · simp [reconcileRun, hev s0 hs0]
    · simp [reconcileRun]
    · intro x hx
      rw [← hr] at hx
      obtain ⟨s, hs, rfl⟩ := List.mem_map.mp hx
      have := hback s hs
      rwa [hev s hs, hk s (hres s hs)] at this

section composition

variable {write : NT → String} {read : String → Option NT}

/-- The algorithm returns solutions `results ≠ []` that all belong to
    the optimal set `rankByCost c mode o cands` (policy ALL: `results` IS that set; policy
    ANY: C05Any).  `emb` turns a solution into the serialisable output object, whose
    evaluated cost (`ev`, invariant under the normalisation of set-valued syntenies that
    the JSON form performs, as in `C11_same_evaluation`) is the `totalCost` of the solution.
    Then the run has status 0, its last stderr line is "Minimum cost: k" with `k` the cost
    of every optimal solution, the output text is one line per result, and EVERY line parses
    back (`json.loads`, then `from_dict`) to an object whose evaluated cost is `k`. -/
theorem C12_cost_line (hN : NewickLaw write read)
    (render : OutputDict → String) (parse : String → Option OutputDict)
    (hjson : ∀ d, parse (render d) = some d)
    (ev : RecInput → TreeMapping → SynMapping → Bool → Cost)
    (hset : ∀ i m s b, ev i m (normSyn s) b = ev i m s b)
    (c : Costs) (mode : LabelMode) (o : OTree) (cands : List Sol) (emb : Sol → SRecOutput)
    (results : List Sol) (hres : ∀ s ∈ results, s ∈ rankByCost c mode o cands)
    (hne : results ≠ [])
    (hwf : ∀ s ∈ results, (emb s).WF)
    (hev : ∀ s ∈ results, ev (emb s).input.base (emb s).objectSpecies (emb s).syntenies
      (emb s).ordered = totalCost c mode o s)
    (algo : String) (w : Bool) (p : Option String) :
    let cost := fun x : SRecOutput => ev x.input.base x.objectSpecies x.syntenies x.ordered
    let enc := fun x : SRecOutput => render (x.toDict write)
    let run := reconcileRun algo (.run w p) (results.map emb) cost enc
    ∃ k : Cost, run.status = 0 ∧ run.stderr.getLast? = some (minCostText k) ∧
      run.stdout = dumpResults enc (results.map emb) ∧
      (∀ s ∈ rankByCost c mode o cands, totalCost c mode o s = k) ∧
      ∀ ℓ ∈ (results.map emb).map enc, ∃ d y, parse ℓ = some d ∧
        SRecOutput.fromDict read d = .ok y ∧ cost y = k := by
  intro cost enc run
  obtain ⟨k, h1, h2, h3, h4, h5⟩ := C12_cost_line_core
    (fun x k => ∃ d y, parse (enc x) = some d ∧ SRecOutput.fromDict read d = .ok y ∧ cost y = k)
    c mode o cands results hres hne emb cost enc hev (fun s hs => by
      obtain ⟨y, hy, hcost⟩ := C11.C11_same_evaluation ev hset hN (hwf s hs)
      exact ⟨_, y, hjson _, hy, hcost⟩) algo w p
  refine ⟨k, h1, h2, h4, h3, fun ℓ hℓ => ?_⟩
  obtain ⟨x, hx, rfl⟩ := List.mem_map.mp hℓ
  exact h5 x hx

/-- `C12_cost_line` for the policy ALL of `thl` (which is `rankByCost` of its candidates by
    definition), the interface still hypotheses: `emb` ranges over `SRecOutput`, so this is
    not the concrete run of `reconcile -a thl`, which writes `RecOutput`s
    (`C12_cost_line_thl` in `C12Bridge.lean` is). -/
theorem C12_cost_line_all (hN : NewickLaw write read)
    (render : OutputDict → String) (parse : String → Option OutputDict)
    (hjson : ∀ d, parse (render d) = some d)
    (ev : RecInput → TreeMapping → SynMapping → Bool → Cost)
    (hset : ∀ i m s b, ev i m (normSyn s) b = ev i m s b)
    (c : Costs) (S : RTree) (o : OTree) (emb : Sol → SRecOutput)
    (hne : thl c S o ≠ [])
    (hwf : ∀ s ∈ thl c S o, (emb s).WF)
    (hev : ∀ s ∈ thl c S o, ev (emb s).input.base (emb s).objectSpecies (emb s).syntenies
      (emb s).ordered = totalCost c .plain o s) :
    let cost := fun x : SRecOutput => ev x.input.base x.objectSpecies x.syntenies x.ordered
    let enc := fun x : SRecOutput => render (x.toDict write)
    let run := reconcileRun "thl" (dispatch "thl" .plain "all") ((thl c S o).map emb) cost enc
    ∃ k : Cost, run.status = 0 ∧ run.stderr.getLast? = some (minCostText k) ∧
      ∀ ℓ ∈ ((thl c S o).map emb).map enc, ∃ d y, parse ℓ = some d ∧
        SRecOutput.fromDict read d = .ok y ∧ cost y = k := by
  rw [(dispatch_plain_algo thl_registered all_choice).2]
  obtain ⟨k, h1, h2, _, _, h5⟩ := C12_cost_line hN render parse hjson ev hset c .plain o _ emb
    (thl c S o) (fun s hs => hs) hne hwf hev "thl" false _
  exact ⟨k, h1, h2, h5⟩

/-- `C12_cost_line` for the policy ANY of `reconcile_thl`, for every selection rule `P` (every
    order in which the code may offer candidates), inside the coherent region; the interface
    still hypotheses, as in `C12_cost_line_all`. -/
theorem C12_cost_line_any_thl (hN : NewickLaw write read)
    (render : OutputDict → String) (parse : String → Option OutputDict)
    (hjson : ∀ d, parse (render d) = some d)
    (ev : RecInput → TreeMapping → SynMapping → Bool → Cost)
    (hset : ∀ i m s b, ev i m (normSyn s) b = ev i m s b)
    (P : Picker Unit) (hP : P.Ok) (c : Costs) (S : RTree) (o : OTree)
    (hb : S.isBinary = true) (hS : ∀ p ∈ leafSpecies o, S.isNode p = true)
    (hcoh : c.spe ≤ c.dup + 2 * c.floss) (emb : Sol → SRecOutput)
    (hwf : ∀ s ∈ thlAny P c S o, (emb s).WF)
    (hev : ∀ s ∈ thlAny P c S o, ev (emb s).input.base (emb s).objectSpecies (emb s).syntenies
      (emb s).ordered = totalCost c .plain o s) :
    let cost := fun x : SRecOutput => ev x.input.base x.objectSpecies x.syntenies x.ordered
    let enc := fun x : SRecOutput => render (x.toDict write)
    let run := reconcileRun "thl" (dispatch "thl" .plain "any") ((thlAny P c S o).map emb) cost enc
    ∃ k : Cost, run.status = 0 ∧ run.stderr.getLast? = some (minCostText k) ∧
      (∀ s' ∈ thl c S o, totalCost c .plain o s' = k) ∧
      ∀ ℓ ∈ ((thlAny P c S o).map emb).map enc, ∃ d y, parse ℓ = some d ∧
        SRecOutput.fromDict read d = .ok y ∧ cost y = k := by
  rw [(dispatch_plain_algo thl_registered any_choice).2]
  have hne := thlAny_ne_nil P hP c S o hb hS
  have hmem := C05.C05_any_mem_thl P hP c S o hb hS hcoh
  obtain ⟨k, h1, h2, _, h4, h5⟩ := C12_cost_line hN render parse hjson ev hset c .plain o _ emb
    (thlAny P c S o) hmem hne hwf hev "thl" false _
  exact ⟨k, h1, h2, h4, h5⟩

end composition

/-- If every ANY result is an ALL result, every line written under `--solutions any` is
    written under `--solutions all`. -/
theorem C12_lines_mono {ρ σ : Type} (enc : ρ → σ) (any all : List ρ) (h : ∀ s ∈ any, s ∈ all) :
    ∀ ℓ ∈ any.map enc, ℓ ∈ all.map enc := by
  intro ℓ hℓ
  obtain ⟨s, hs, rfl⟩ := List.mem_map.mp hℓ
  exact List.mem_map.mpr ⟨s, h s hs, rfl⟩

/-- `--solutions all` writes every line `--solutions any` writes (from C05Any), for the three
    families of table-driven solvers, for every selection rule (every offering order), inside
    each family's coherent region, on well-formed binary inputs. -/
theorem C12_all_superset_any {ρ : Type} (emb : Sol → ρ) (enc : ρ → String) (c : Costs) (S : RTree)
    (o : OTree) (hb : S.isBinary = true) (hS : ∀ p ∈ leafSpecies o, S.isNode p = true) :
    (∀ (P : Picker Unit), P.Ok → c.spe ≤ c.dup + 2 * c.floss →
      ∀ ℓ ∈ ((thlAny P c S o).map emb).map enc, ℓ ∈ ((thl c S o).map emb).map enc) ∧
    (∀ (P : Picker Nat), P.Ok → ∀ (base : Bool) (pre : Option (List Nat)), C02.OrdersOk o pre →
      c.spe + 2 * c.sloss ≤ c.dup + 2 * c.floss →
      ∀ ℓ ∈ ((spfsAny P c S base o pre).map emb).map enc, ℓ ∈ ((spfs c S base o pre).map emb).map enc) ∧
    (∀ (P : Picker Kind), P.Ok → ∀ (base : Bool), (∀ f ∈ leafSyntenies o, f ≠ []) →
      c.spe + c.sloss ≤ c.dup + 2 * c.floss →
      ∀ ℓ ∈ ((uspfsAny P c S base o).map emb).map enc, ℓ ∈ ((uspfs c S base o).map emb).map enc) := by
  refine ⟨fun P hP hcoh => ?_, fun P hP base pre hord hcoh => ?_, fun P hP base hne hcoh => ?_⟩
  · exact C12_lines_mono enc _ _ (C12_lines_mono emb _ _ (C05.C05_any_mem_thl P hP c S o hb hS hcoh))
  · exact C12_lines_mono enc _ _
      (C12_lines_mono emb _ _ (C05.C05_any_mem_spfs P hP c S base o pre hord hb hS hcoh))
  · exact C12_lines_mono enc _ _
      (C12_lines_mono emb _ _ (C05.C05_any_mem_uspfs P hP c S base o hb hS hne hcoh))

/-- `draw`: the class is chosen on the presence of `syntenies` (`drawRead`, `Model/Cli.lean`);
    the orientation defaults to `HORIZONTAL`, is the upper-cased option for `vertical` and
    `horizontal`, and `diagonal` is refused (sample values); an
    explicit TYPE wins over the file name; without it stdout and `*.tex` give TikZ, `*.pdf`
    gives a PDF, anything else is an error with status 1; TikZ output always succeeds, PDF
    output fails exactly when XeLaTeX fails. -/
theorem C12_draw :
    (∀ (read : String → Option NT) (d : OutputDict), d.syntenies = none →
      drawRead read d = (RecOutput.fromDict read d).map AnyOutput.plain) ∧
    (∀ (read : String → Option NT) (d : OutputDict) l, d.syntenies = some l →
      drawRead read d = (SRecOutput.fromDict read d).map AnyOutput.super) ∧
    drawOrientation none = some "HORIZONTAL" ∧
    drawOrientation (some "vertical") = some "VERTICAL" ∧
    drawOrientation (some "horizontal") = some "HORIZONTAL" ∧
    drawOrientation (some "diagonal") = none ∧
    (∀ t name, drawOutputType (some t) name = some t) ∧
    drawOutputType none "-" = some .tikz ∧
    (∀ name : String, name.endsWith ".tex" = true → drawOutputType none name = some .tikz) ∧
    (∀ name : String, name ≠ "-" → name.endsWith ".tex" = false → name.endsWith ".pdf" = true →
      drawOutputType none name = some .pdf) ∧
    (∀ name : String, name ≠ "-" → name.endsWith ".tex" = false → name.endsWith ".pdf" = false →
      drawOutputType none name = none ∧ ∀ b, drawStatus none name b = 1) ∧
    (∀ given name b, drawOutputType given name = some .tikz → drawStatus given name b = 0) ∧
    (∀ given name b, drawOutputType given name = some .pdf →
      drawStatus given name b = if b then 0 else 1) := by
  refine ⟨?_, ?_, by decide +kernel, by decide +kernel, by decide +kernel, by decide +kernel,
    fun _ _ => rfl, by decide +kernel, ?_, ?_, ?_, ?_, ?_⟩
  · intro read d h
    simp only [drawRead, h]
    cases RecOutput.fromDict read d <;> rfl
  · intro read d l h
    simp only [drawRead, h]
    cases SRecOutput.fromDict read d <;> rfl
  · intro name h; simp [drawOutputType, h]
  · intro name h1 h2 h3; simp [drawOutputType, h1, h2, h3]
  · intro name h1 h2 h3
    have : drawOutputType none name = none := by simp [drawOutputType, h1, h2, h3]
    exact ⟨this, fun b => by simp [drawStatus, this]⟩
  · intro given name b h; simp [drawStatus, h]
  · intro given name b h; simp [drawStatus, h]

example : evalCost "2 * (3 + 4) // 5 - -1" = .val (.int 3) := by decide +kernel
example : evalCost " float ( 'inf' ) * 2" = .val .pinf := by decide +kernel
example : evalCost "0 * float('inf')" = .val .nan := by decide +kernel
example : evalCost "-7//2" = .val (.int (-4)) := by decide +kernel
example : evalCost "1//0 + zz" = .zeroDivision ∧ evalCost "zz + 1//0" = .nameError := by decide +kernel
example : evalCost "01" = .syntaxError ∧ evalCost "1 +" = .syntaxError ∧ evalCost "" = .syntaxError := by
  decide +kernel
example : evalCost "2**3" = .outside ∧ evalCost "5//float('inf')" = .outside ∧ evalCost "()" = .outside := by
  decide +kernel
example : showT (.bin .mul (.lit 2) (.neg (.lit 3)))
    = [.lpar, .lpar, .int 2, .rpar, .star, .lpar, .minus, .lpar, .int 3, .rpar, .rpar, .rpar] := by
  decide +kernel

def exOt : NT := .node "" none [.node "x_1" none [], .node "Y_2" none []]
def exSt : NT := .node "" none [.node "X" none [], .node "y" none []]
def exRead : String → Option NT := fun s => if s = "O" then some exOt else if s = "S" then some exSt else none
def exDoc : List (String × JV) := [("species_tree", .str "S"), ("costs", .num 5), ("object_tree", .str "O"),
  ("leaf_syntenies", .obj [("x_1", .arr [.str "a", .str "b"])])]

/-- A document without names on the ancestors, without `leaf_object_species`, with a
    `costs` key that is ignored; the reader is a stub knowing two strings. -/
example :
    ((readDoc exRead exDoc defaultCost).toOption.map (fun i => decide (AnyInput.kind i = .super))) = some true ∧
    ((readDoc exRead exDoc defaultCost).toOption.map (fun i => i.base.objectTree.names))
      = some ["O0", "x_1", "Y_2"] ∧
    ((readDoc exRead exDoc defaultCost).toOption.map (fun i => i.base.speciesTree.names))
      = some ["S0", "X", "y"] ∧
    ((readDoc exRead exDoc defaultCost).toOption.map (fun i => i.base.leafObjectSpecies))
      = some [([0], [0]), ([1], [1])] ∧
    ((readDoc exRead exDoc defaultCost).toOption.map (fun i => i.base.costs)) = some defaultCost := by
  decide +kernel

example : (reconcileRun "lca" (dispatch "lca" .super "any") [7] (fun _ => Cost.fin 4) toString)
    = ⟨0, [warnText "lca", "Minimum cost: 4"], "7\n"⟩ := by rfl
example : (reconcileRun "superdtl" (dispatch "superdtl" .plain "all") [7] (fun _ => Cost.fin 4) toString)
    = ⟨1, [errorText "superdtl"], ""⟩ := by rfl
example : termLines "{\"a\": 1}\n{\"a\": 2}\n".toList = ["{\"a\": 1}".toList, "{\"a\": 2}".toList] := by decide +kernel

end SR.C12
