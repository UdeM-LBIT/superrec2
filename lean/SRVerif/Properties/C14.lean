/-
  C14 — geometry of `layout.compute` (`Model/Layout.lean`, part 2; exact rational coordinates,
  the two orientations transcribed separately from the two branches of every
  `if params.orientation == …`): sibling species boxes are apart and nested in their parent's
  box, the HORIZONTAL layout is the transpose of the VERTICAL one (errors included), trunks of
  distinct species do not overlap.  The theorems speak of the output list of `compute`; species
  are identified by `SubLayout.sp` (`C14_species`: one entry per species, in pre-order).
-/
import SRVerif.Proofs.LayoutGeom
import SRVerif.Properties.C13

namespace SR.C14

open SR SR.Layout

/-- `a` lies inside `b` (closed rectangles). -/
def inside (a b : Rect) : Prop :=
  b.x ≤ a.x ∧ b.y ≤ a.y ∧ a.x + a.w ≤ b.x + b.w ∧ a.y + a.h ≤ b.y + b.h

/-- `(x, y)` is a point of the closed rectangle `r`. -/
def hasPoint (r : Rect) (x y : Rat) : Prop :=
  r.x ≤ x ∧ x ≤ r.x + r.w ∧ r.y ≤ y ∧ y ≤ r.y + r.h

/-- `(x, y)` is an interior point of `r`. -/
def hasInteriorPoint (r : Rect) (x y : Rat) : Prop :=
  r.x < x ∧ x < r.x + r.w ∧ r.y < y ∧ y < r.y + r.h

/-- `a` ends at least `m` before `b` starts, along the ACROSS axis (the axis
    along which sibling species are laid out: x when VERTICAL, y when
    HORIZONTAL). -/
def acrossSep (o : Orientation) (m : Rat) (a b : Rect) : Prop :=
  match o with
  | .vertical => a.x + a.w + m ≤ b.x
  | .horizontal => a.y + a.h + m ≤ b.y

/-- `a` ends at least `m` before `b` starts, along the SEQUENCE axis (root to
    leaves: y when VERTICAL, x when HORIZONTAL). -/
def seqSep (o : Orientation) (m : Rat) (a b : Rect) : Prop :=
  match o with
  | .vertical => a.y + a.h + m ≤ b.y
  | .horizontal => a.x + a.w + m ≤ b.x

/-- `a` starts on the same line as `b` along the SEQUENCE axis. -/
def seqFlush (o : Orientation) (a b : Rect) : Prop :=
  match o with
  | .vertical => a.y = b.y
  | .horizontal => a.x = b.x

/-- Two rectangles separated along one of the two axes. -/
def separated (a b : Rect) : Prop :=
  a.x + a.w ≤ b.x ∨ b.x + b.w ≤ a.x ∨ a.y + a.h ≤ b.y ∨ b.y + b.h ≤ a.y

/-- The numeric hypotheses: measured sizes positive, spacing parameters
    non-negative, minimal subtree spacing positive.  (`0 ≤ P.gsp` is asked for, and no proof reads
    it: `NumHyps.hyps`.) -/
def NumHyps (P : Params) (sizes : Key → Size) : Prop :=
  (∀ k, 0 < (sizes k).w ∧ 0 < (sizes k).h) ∧ 0 ≤ P.pad ∧ 0 ≤ P.gsp ∧ 0 ≤ P.overhead ∧
    0 ≤ P.level ∧ 0 < P.minsp

/-- The hypotheses are satisfiable (default-like parameters, unit sizes). -/
example : NumHyps ⟨4, 5, 10, 12, 4⟩ (fun _ => ⟨1, 1⟩) := by
  have one : (0 : Rat) < 1 := by decide +kernel
  exact ⟨fun _ => ⟨one, one⟩, by decide +kernel, by decide +kernel, by decide +kernel,
    by decide +kernel, by decide +kernel⟩

theorem NumHyps.hyps {P : Params} {sizes : Key → Size} (h : NumHyps P sizes) : Hyps P sizes :=
  ⟨h.1, h.2.1, h.2.2.2.1, h.2.2.2.2.1, h.2.2.2.2.2⟩

theorem no_common_point_of_acrossSep {o : Orientation} {m : Rat} {a b : Rect} (hm : 0 < m)
    (h : acrossSep o m a b) : ¬ ∃ x y, hasPoint a x y ∧ hasPoint b x y := by
  rintro ⟨x, y, ⟨_, h2, _, h4⟩, ⟨h5, _, h7, _⟩⟩
  cases o <;> simp only [acrossSep] at h <;> linarith

theorem no_common_interior_of_separated {a b : Rect} (h : separated a b) :
    ¬ ∃ x y, hasInteriorPoint a x y ∧ hasInteriorPoint b x y := by
  rintro ⟨x, y, ⟨h1, h2, h3, h4⟩, ⟨h5, h6, h7, h8⟩⟩
  rcases h with h | h | h | h <;> linarith

/-- A rectangle of positive size has an interior point (so
    `¬ ∃ common interior point` is a real constraint). -/
example : hasInteriorPoint ⟨0, 0, 2, 2⟩ 1 1 := by
  refine ⟨?_, ?_, ?_, ?_⟩ <;> norm_num

/-- Species tree `((,),)`: five species. -/
def exS : RTree := .node [.node [.node [], .node []], .node []]

/-- A speciation at the root whose right child is an extant gene of species
    `[1]` and whose left child is a duplication in species `[0]` with two
    genes in `[0,0]` (so both copies go down from `[0]` to `[0,0]`: two full
    losses, recorded in `[0]`). -/
def exSol : Sol :=
  .node [] [] (.node [0] [] (.leaf [0, 0] []) (.leaf [0, 0] [])) (.leaf [1] [])

def exP : Params := ⟨4, 5, 10, 12, 4⟩
def exSizes : Key → Size := fun _ => ⟨1, 1⟩

example : NumHyps exP exSizes := by
  have one : (0 : Rat) < 1 := by decide +kernel
  exact ⟨fun _ => ⟨one, one⟩, by decide +kernel, by decide +kernel, by decide +kernel,
    by decide +kernel, by decide +kernel⟩

/-- On this instance `compute` succeeds in both orientations and lists the
    five species; `[]` and `[0]` are internal species whose children
    `[0], [1]` and `[0,0], [0,1]` are in the list, so the hypotheses of
    `C14_siblings`, `C14_trunk_above_children` and `C14_trunks` are met by
    actual entries. -/
example : ∃ all, compute .vertical exP exSizes exS exSol = .ok all ∧
    all.map (·.sp) = [[], [0], [0, 0], [0, 1], [1]] := ⟨_, rfl, by decide +kernel⟩

example : ∃ all, compute .horizontal exP exSizes exS exSol = .ok all ∧
    all.map (·.sp) = [[], [0], [0, 0], [0, 1], [1]] := ⟨_, rfl, by decide +kernel⟩

/-- The premises of `C14_siblings` are met by entries of that list. -/
example : ∃ all, compute .vertical exP exSizes exS exSol = .ok all ∧
    ∃ par ∈ all, ∃ l ∈ all, ∃ r ∈ all, l.sp = par.sp ++ [0] ∧ r.sp = par.sp ++ [1] := by
  refine ⟨_, rfl, ?_⟩
  decide +kernel

/-- `compute` returns one `SubLayout` per species of the tree, in pre-order. -/
theorem C14_species (o : Orientation) (P : Params) (sizes : Key → Size) (S : RTree) (sol : Sol)
    (all : List SubLayout) (h : compute o P sizes S sol = .ok all) :
    all.map (·.sp) = S.preorder := by
  cases o
  · exact computeV_species h
  · exact computeH_species h

/-- For every internal species `par` with children `l` (index 0) and `r`
    (index 1): the boxes of `l` and `r` are separated by at least
    `min_subtree_spacing` along the across-axis — hence have no common point,
    boundary included — and both lie inside the box of `par`. -/
theorem C14_siblings (o : Orientation) (P : Params) (sizes : Key → Size) (S : RTree) (sol : Sol)
    (all : List SubLayout)
    (hpos : ∀ k, 0 < (sizes k).w ∧ 0 < (sizes k).h)
    (hpad : 0 ≤ P.pad) (hgsp : 0 ≤ P.gsp) (hov : 0 ≤ P.overhead) (hlev : 0 ≤ P.level)
    (hmin : 0 < P.minsp)
    (h : compute o P sizes S sol = .ok all) :
    ∀ par l r, par ∈ all → l ∈ all → r ∈ all → l.sp = par.sp ++ [0] → r.sp = par.sp ++ [1] →
      acrossSep o P.minsp l.rect r.rect ∧
      (¬ ∃ x y, hasPoint l.rect x y ∧ hasPoint r.rect x y) ∧
      inside l.rect par.rect ∧ inside r.rect par.rect := by
  have hy := NumHyps.hyps ⟨hpos, hpad, hgsp, hov, hlev, hmin⟩
  intro par l r hp hl hr hl' hr'
  have key : acrossSep o P.minsp l.rect r.rect ∧ inside l.rect par.rect ∧
      inside r.rect par.rect := by
    cases o
    · exact (computeV_facts hy h).siblings par l r hp hl hr hl' hr'
    · obtain ⟨h1, ⟨a1, a2, a3, a4⟩, ⟨b1, b2, b3, b4⟩⟩ :=
        (computeH_facts hy h).siblings par.tr l.tr r.tr (List.mem_map_of_mem hp)
          (List.mem_map_of_mem hl) (List.mem_map_of_mem hr) hl' hr'
      exact ⟨h1, ⟨a2, a1, a4, a3⟩, ⟨b2, b1, b4, b3⟩⟩
  exact ⟨key.1, no_common_point_of_acrossSep hmin key.1, key.2.1, key.2.2⟩

example (x y : Rat) : Pos.tr ⟨x, y⟩ = ⟨y, x⟩ := rfl
example (x y w h : Rat) : Rect.tr ⟨x, y, w, h⟩ = ⟨y, x, h, w⟩ := rfl
example (w h : Rat) : Size.swap ⟨w, h⟩ = ⟨h, w⟩ := rfl
example (b : FBranch) : b.tr = ⟨b.key, b.kind, b.left, b.right, b.rect.tr, b.aParent.tr,
    b.aLeft.tr, b.aRight.tr, b.aChild.tr⟩ := rfl
example (l : SubLayout) : l.tr = ⟨l.sp, l.rect.tr, l.trunk.tr, l.fork,
    l.anchors.map (fun e => (e.1, e.2.tr)), l.branches.map FBranch.tr⟩ := rfl

/-- The HORIZONTAL layout is the transposed VERTICAL layout of the same
    reconciliation with the measured sizes exchanged — errors included, no
    hypothesis on sizes or parameters. -/
theorem C14_mirror (P : Params) (sizes : Key → Size) (S : RTree) (sol : Sol) :
    computeH P sizes S sol =
      (computeV P (fun k => (sizes k).swap) S sol).map (List.map SubLayout.tr) :=
  computeH_tr P sizes S sol

theorem C14_mirror_compute (P : Params) (sizes : Key → Size) (S : RTree) (sol : Sol) :
    compute .horizontal P sizes S sol =
      (compute .vertical P (fun k => (sizes k).swap) S sol).map (List.map SubLayout.tr) :=
  C14_mirror P sizes S sol

theorem C14_mirror_compute_conv (P : Params) (sizes : Key → Size) (S : RTree) (sol : Sol) :
    compute .vertical P sizes S sol =
      (compute .horizontal P (fun k => (sizes k).swap) S sol).map (List.map SubLayout.tr) := by
  rw [C14_mirror_compute]
  simp only [Size.swap_swap]
  show computeV P sizes S sol =
    Except.map (List.map SubLayout.tr) (Except.map (List.map SubLayout.tr) (computeV P sizes S sol))
  cases computeV P sizes S sol with
  | error e => rfl
  | ok all => simp only [Except.map_ok', map_tr_tr]

/-- Every trunk lies inside the box of its species, starts on the box's first
    edge along the sequence axis, and all extents are non-negative. -/
theorem C14_trunk_inside (o : Orientation) (P : Params) (sizes : Key → Size) (S : RTree)
    (sol : Sol) (all : List SubLayout) (hn : NumHyps P sizes)
    (h : compute o P sizes S sol = .ok all) :
    ∀ a, a ∈ all → inside a.trunk a.rect ∧ seqFlush o a.trunk a.rect ∧
      0 ≤ a.rect.w ∧ 0 ≤ a.rect.h ∧ 0 ≤ a.trunk.w ∧ 0 ≤ a.trunk.h ∧ 0 ≤ a.fork := by
  intro a ha
  cases o
  · obtain ⟨t1, t2, t3, t4⟩ := (computeV_facts hn.hyps h).trunkIn a ha
    obtain ⟨n1, n2, n3, n4, n5⟩ := (computeV_facts hn.hyps h).nonneg a ha
    exact ⟨⟨t1, le_of_eq t3.symm, t2, t4⟩, t3, n1, n2, n3, n4, n5⟩
  · obtain ⟨t1, t2, t3, t4⟩ := (computeH_facts hn.hyps h).trunkIn a.tr (List.mem_map_of_mem ha)
    obtain ⟨n1, n2, n3, n4, n5⟩ := (computeH_facts hn.hyps h).nonneg a.tr (List.mem_map_of_mem ha)
    exact ⟨⟨le_of_eq t3.symm, t1, t4, t2⟩, t3, n2, n1, n4, n3, n5⟩

/-- A species' trunk ends, along the sequence axis, at least
    `level_spacing + fork thickness` before the box of every proper
    descendant `d` (in particular of its two children) starts. -/
theorem C14_trunk_above_children (o : Orientation) (P : Params) (sizes : Key → Size) (S : RTree)
    (sol : Sol) (all : List SubLayout) (hn : NumHyps P sizes)
    (h : compute o P sizes S sol = .ok all) :
    ∀ par d k q, par ∈ all → d ∈ all → d.sp = par.sp ++ k :: q →
      seqSep o (P.level + par.fork) par.trunk d.rect := by
  intro par d k q hp hd hsp
  cases o
  · have := (computeV_facts hn.hyps h).trunkAbove par d k q hp hd hsp
    simp only [seqSep]
    linarith
  · have := (computeH_facts hn.hyps h).trunkAbove par.tr d.tr k q (List.mem_map_of_mem hp)
      (List.mem_map_of_mem hd) hsp
    simp only [seqSep]
    simp only [SubLayout.tr, Rect.tr] at this
    linarith

/-- Trunks of two distinct species are separated along one of the axes, hence
    have no common interior point. -/
theorem C14_trunks (o : Orientation) (P : Params) (sizes : Key → Size) (S : RTree) (sol : Sol)
    (all : List SubLayout)
    (hpos : ∀ k, 0 < (sizes k).w ∧ 0 < (sizes k).h)
    (hpad : 0 ≤ P.pad) (hgsp : 0 ≤ P.gsp) (hov : 0 ≤ P.overhead) (hlev : 0 ≤ P.level)
    (hmin : 0 < P.minsp)
    (h : compute o P sizes S sol = .ok all) :
    ∀ a b, a ∈ all → b ∈ all → a.sp ≠ b.sp →
      separated a.trunk b.trunk ∧
      ¬ ∃ x y, hasInteriorPoint a.trunk x y ∧ hasInteriorPoint b.trunk x y := by
  have hy := NumHyps.hyps ⟨hpos, hpad, hgsp, hov, hlev, hmin⟩
  intro a b ha hb hab
  have key : separated a.trunk b.trunk := by
    cases o
    · exact (computeV_facts hy h).trunks a b ha hb hab
    · rcases (computeH_facts hy h).trunks a.tr b.tr (List.mem_map_of_mem ha)
        (List.mem_map_of_mem hb) hab with h1 | h1 | h1 | h1
      · exact .inr (.inr (.inl h1))
      · exact .inr (.inr (.inr h1))
      · exact .inl h1
      · exact .inr (.inl h1)
  exact ⟨key, no_common_interior_of_separated key⟩

/-- The anchor clause: every dictionary look-up made while
    laying out the branches (`layout["branches"][left]["rect"]`) and while
    drawing (`X_layout.anchors[...]`, `layout.branches[...]`) succeeds, i.e.
    the model of `tikz.render ∘ layout.compute` returns `.ok`.  Proved as
    `C14_anchors` in `Properties/C14Anchors.lean`. -/
def C14_anchors_statement (o : Orientation) (P : Params) (sizes : Key → Size) (S : RTree)
    (ot : OTree) (sol : Sol) : Prop :=
  Spec.validRec ot sol = true → SR.C13.inTree S sol = true → S.isBinary = true →
    ∃ ss, render o P sizes S sol = .ok ss

/-- **C14, anchors** (the transfer part, without binarity): on a valid reconciliation
    `_compute_branches` never fails — in particular every
    `anchor_nodes.remove(k)` finds `k` — and the end point of every transfer
    arrow, `foreign_layout.anchors[right_gene]`, is an anchor of the species
    the transferred child is mapped to (it is never removed from
    `anchor_nodes`).  The other look-ups (keys referenced by duplication /
    transfer branches occur EARLIER in the same species' branch list; the kept
    child of a loss or speciation branch is still an anchor of the child species
    at the end) are `C14_anchors_order` and `C14_anchor_keys` in
    `Properties/C14Anchors.lean`. -/
theorem C14_anchors_partial (S : RTree) (ot : OTree) (sol : Sol)
    (hv : Spec.validRec ot sol = true) (hin : SR.C13.inTree S sol = true) :
    ∃ st, computeBranches S sol = .ok st ∧
      ∀ p sp f l r, subAt sol p = some (.node sp f l r) → internalEvent sp l.sp r.sp = .hgt →
        ∃ b, b ∈ brs st sp ∧ b.key = .gene p ∧
          b.right = some (.gene (if Path.isAnc sp l.sp then p ++ [1] else p ++ [0])) ∧
          Key.gene (if Path.isAnc sp l.sp then p ++ [1] else p ++ [0]) ∈
            ancs st (if Path.isAnc sp l.sp then r.sp else l.sp) := by
  obtain ⟨st, hst, _⟩ := SR.C13.C13_no_keyerror S ot sol hv hin
  refine ⟨st, hst, ?_⟩
  intro p sp f l r hp hE
  obtain ⟨b, hb, hk, _, hr, ha⟩ := SR.C13.C13_transfers S ot sol st hv hin hst p sp f l r hp hE
  exact ⟨b, hb, hk, hr, ha⟩

example : Spec.validRec SR.C13.exO SR.C13.exSol = true ∧ SR.C13.inTree SR.C13.exS SR.C13.exSol = true := by
  decide +kernel

end SR.C14
