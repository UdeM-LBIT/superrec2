/-
  C12 ∘ C08 — node names on the command-line path for a MULTIFURCATING input:

      read_input → label_internal → ReconciliationInput.binarize()
                 → (each refinement written to Newick and re-parsed)
                 → label_internal again (`_spfs` / `_uspfs`) → output.

  Models composed here: `Cli.labelTree` (= `label_internal` on one tree,
  `Model/Cli.lean`, property C12), `Bin.binarize` (`Model/Binarize.lean`, property C08),
  `Newick.write` / `Newick.readNT` (`Model/Newick.lean`, property C11).  The statement
  is per tree and generic in the prefix: `"O"` for the object tree, `"S"` for the
  species tree (`Cli.labelInternal` applies `labelTree "O"` / `labelTree "S"`).

  Vocabulary (`Proofs/CliRefineTree.lean`): `lvs t` the leaf names of a name tree;
  `cn t` its nodes in pre-order as pairs (clade, name), the clade being the list of leaf
  names below the node — a node is identified by its clade up to `List.Perm`;
  `given t` (`Proofs/CliRefineBridge.lean`) the names that are neither empty nor `NoName`.

  The two models use different trees (`Ser.NT`: name, colour, children; `Bin.NTree` /
  `BinT`: leaf ids and annotation codes).  The bridge (`Proofs/CliRefineBridge.lean`) is
  a decoding `Dec` (what each leaf id and each annotation code stands for; the empty
  annotation of a new node is the empty name) with `decN` / `decB : coded tree → NT`.
  The composition is stated for ANY code of the labelled tree and any re-parse that keeps
  given names and keeps unnamed nodes unnamed (`C12_refine_code`), and for the canonical code
  with the re-parse of the Newick model (`C12_refine_cli`), which is not the identity: the
  writer prints the empty name of a new node as `NoName`; `label_internal` treats both as
  unnamed.

  Clauses (`Clauses`), for every tree of any arity ≥ 2 and any nesting:
  (1) all names of the output tree are pairwise distinct, none empty, none `NoName`;
  (2) every node of the input is found in the output with the same clade and the name
      it has after the FIRST labelling (which are the input's names where given) — so
      user names are untouched and first-round `O#`/`S#` names are kept;
  (3) every other node of the output is called `prefix ++ k`, a name used nowhere in the
      labelled input;
  (4) the output is binary with the leaves of the input.
-/
import SRVerif.Proofs.CliRefineEnc

namespace SR.C12

open SR.Ser SR.Cli SR.Bin

/-- The clauses, for the input tree `t`, the tree `t₁` after the first labelling and an
    output tree `b₁` (a refinement after the second labelling).  They are the fields of
    `Cli.Refined` (`Proofs/CliRefineCompose.lean`, where they are proved) written out without
    `isUnnamed` and `mkName`: `clauses_of_refined`. -/
def Clauses (pfx : String) (t t₁ b₁ : NT) : Prop :=
  -- (1)
  (b₁.names.Nodup ∧ ∀ x ∈ b₁.names, x ≠ "" ∧ x ≠ "NoName") ∧
  -- (2): the first labelling keeps every clade in place and renames as `label_internal` does
  ((cn t₁).map (·.1) = (cn t).map (·.1) ∧ t₁.names = labelNames pfx t.names) ∧
  -- … every node of the labelled input is in the output, same clade, same name
  (∀ x ∈ cn t₁, ∃ y ∈ cn b₁, y.1.Perm x.1 ∧ y.2 = x.2) ∧
  -- … in particular every node the user named
  (∀ x ∈ cn t, x.2 ≠ "" → x.2 ≠ "NoName" → ∃ y ∈ cn b₁, y.1.Perm x.1 ∧ y.2 = x.2) ∧
  -- (3)
  (∀ y ∈ cn b₁, (∀ x ∈ cn t₁, ¬ y.1.Perm x.1) →
    ∃ k : Nat, y.2 = pfx ++ toString k ∧ pfx ++ toString k ∉ t₁.names) ∧
  -- (4)
  (isBin b₁ = true ∧ (lvs b₁).Perm (lvs t))

theorem isUnnamed_eq_false_iff (x : String) : isUnnamed x = false ↔ x ≠ "" ∧ x ≠ "NoName" := by
  simp [isUnnamed]

theorem clauses_of_refined {pfx : String} {t t₁ b₁ : NT} (h : Refined pfx t t₁ b₁) :
    Clauses pfx t t₁ b₁ :=
  ⟨⟨h.nodup, fun x hx => (isUnnamed_eq_false_iff x).mp (h.named x hx)⟩,
   ⟨h.first_clades, h.first_names⟩, h.kept,
   fun x hx h1 h2 => h.user x hx ((isUnnamed_eq_false_iff _).mpr ⟨h1, h2⟩),
   h.fresh, h.binary, h.leaves⟩

/-- The composition for any code of the labelled tree.

    `t`: the input tree; its leaves are named and its given names (leaves and ancestors
    together) are pairwise distinct.  `(tN, d)`: a code of `labelTree pfx t` in the domain
    of `binarize` (every internal node has at least two children).  `b`: ANY member of
    `binarize tN`.  `r`: what re-parsing `decB d b` gives, only known to keep given names
    and to keep unnamed nodes unnamed.  Then `labelTree pfx r` satisfies the clauses. -/
theorem C12_refine_code (pfx : String) (t : NT)
    (hleaf : ∀ x ∈ lvs t, isUnnamed x = false) (hg : (given t).Nodup)
    (d : Dec) (tN : NTree) (hwfN : tN.WF = true) (henc : decN d tN = labelTree pfx t)
    (b : BinT) (hb : b ∈ binarize tN) (r : NT) (hr : Relab Same (decB d b) r) :
    Clauses pfx t (labelTree pfx t) (labelTree pfx r) :=
  clauses_of_refined (refine_compose pfx t hleaf hg _ (henc ▸ binarize_isRefinement d hwfN hb) r hr)

/-- … in particular when re-parsing is the identity. -/
theorem C12_refine_code_id (pfx : String) (t : NT)
    (hleaf : ∀ x ∈ lvs t, isUnnamed x = false) (hg : (given t).Nodup)
    (d : Dec) (tN : NTree) (hwfN : tN.WF = true) (henc : decN d tN = labelTree pfx t)
    (b : BinT) (hb : b ∈ binarize tN) :
    Clauses pfx t (labelTree pfx t) (labelTree pfx (decB d b)) :=
  C12_refine_code pfx t hleaf hg d tN hwfN henc b hb _ (Relab.refl Same.refl _)

/-- Every name tree has a code: the canonical one decodes to the tree, and it is in the
    domain of `binarize` when every node has no child or at least two. -/
theorem C12_refine_encode (t : NT) :
    decN (decOf t) (encode t) = t ∧ (wf2 t = true → (encode t).WF = true) :=
  ⟨decN_encode t, wf_encode t⟩

/-- The Newick re-parse of a tree whose names are safe or EMPTY (a refinement: the new
    nodes have the empty name): it succeeds, and gives the tree with every empty name
    replaced by `NoName` — for `label_internal`, the same tree. -/
theorem C12_refine_reparse (t : NT) (h : safeTreeE t = true) :
    Newick.readNT (Newick.write t) = .ok (fixEmpty t) ∧ Relab Same t (fixEmpty t) :=
  ⟨reparse t h, relab_fixEmpty t⟩

/-- The composition as `reconcile` runs it on one tree.

    `t`: any name tree in which every node has no child or at least two (any arity, any
    nesting), whose names are Newick-safe or empty (`safeTreeE`: no `:;(),[]=` TAB LF CR,
    no white space at an end), whose leaves are named and whose given names are pairwise
    distinct; the prefix is a word over `[A-Za-z0-9_.-]` (`"O"`, `"S"`).
    For EVERY refinement `b` listed by `binarize` for the labelled tree: writing it and
    reading it back succeeds with some tree `r`, and `labelTree pfx r` — the tree the
    solutions are written with — satisfies the clauses. -/
theorem C12_refine_cli (pfx : String) (hpfx : pfx.toList.all NT.safeChar = true) (t : NT)
    (hwf : wf2 t = true) (hsafe : safeTreeE t = true)
    (hleaf : ∀ x ∈ lvs t, isUnnamed x = false) (hg : (given t).Nodup)
    (b : BinT) (hb : b ∈ binarize (encode (labelTree pfx t))) :
    ∃ r, Newick.readNT (Newick.write (decB (decOf (labelTree pfx t)) b)) = .ok r ∧
      Clauses pfx t (labelTree pfx t) (labelTree pfx r) := by
  obtain ⟨r, h1, h2, _⟩ := refine_cli_full pfx hpfx t hwf hsafe hleaf hg b hb
  exact ⟨r, h1, clauses_of_refined h2⟩

/-- The colour clauses (C08: a refinement keeps every clade "with its name and colour"):
    `cc` lists the nodes in pre-order as (clade, colour).  The three fields of `Cli.RefinedCol`,
    as a conjunction. -/
def ColourClauses (t t₁ b₁ : NT) : Prop :=
  -- the first labelling leaves clades and colours where they are
  cc t₁ = cc t ∧
  -- every node of the input is found in the output with the same clade and colour (or none)
  (∀ x ∈ cc t, ∃ y ∈ cc b₁, y.1.Perm x.1 ∧ y.2 = x.2) ∧
  -- every coloured node of the output is a node of the input: the new nodes have no colour
  (∀ y ∈ cc b₁, y.2 ≠ none → ∃ x ∈ cc t, y.1.Perm x.1 ∧ y.2 = x.2)

/-- `C12_refine_cli` together with the colours and with the fact that a clade identifies a
    node of the output: two nodes of the output with the same clade are the same node
    (so "the node with the clade of this input node", which clauses (2) and (3) speak
    about, is well defined; it is also the only node carrying its name, by (1)).  The last
    conjunct restates the one before it. -/
theorem C12_refine_cli_full (pfx : String) (hpfx : pfx.toList.all NT.safeChar = true) (t : NT)
    (hwf : wf2 t = true) (hsafe : safeTreeE t = true)
    (hleaf : ∀ x ∈ lvs t, isUnnamed x = false) (hg : (given t).Nodup)
    (b : BinT) (hb : b ∈ binarize (encode (labelTree pfx t))) :
    ∃ r, Newick.readNT (Newick.write (decB (decOf (labelTree pfx t)) b)) = .ok r ∧
      Clauses pfx t (labelTree pfx t) (labelTree pfx r) ∧
      ColourClauses t (labelTree pfx t) (labelTree pfx r) ∧
      (cn (labelTree pfx r)).Pairwise (fun x y => ¬ x.1.Perm y.1) ∧
      (∀ x ∈ cn (labelTree pfx r), ∀ y ∈ cn (labelTree pfx r), x.1.Perm y.1 → x = y) := by
  obtain ⟨r, h1, h2, h3, h4⟩ := refine_cli_full pfx hpfx t hwf hsafe hleaf hg b hb
  exact ⟨r, h1, clauses_of_refined h2, ⟨h3.first, h3.kept, h3.from_input⟩, h4,
    fun x hx y hy hp => eq_of_rel_of_pairwise (R := SameClade) List.Perm.symm h4 hx hy hp⟩

/-- The colours for any code of the labelled tree (as `C12_refine_code`). -/
theorem C12_refine_code_colours (pfx : String) (t : NT)
    (hleaf : ∀ x ∈ lvs t, isUnnamed x = false)
    (d : Dec) (tN : NTree) (hwfN : tN.WF = true) (henc : decN d tN = labelTree pfx t)
    (b : BinT) (hb : b ∈ binarize tN) (r : NT) (hr : Relab Same (decB d b) r) :
    ColourClauses t (labelTree pfx t) (labelTree pfx r) :=
  let h := refine_colours pfx t hleaf _ (henc ▸ binarize_isRefinement d hwfN hb) r hr
  ⟨h.first, h.kept, h.from_input⟩

/-- Both trees of an input, as `ReconciliationInput.label_internal` / `.binarize()` treat
    them: the object tree with prefix `O`, the species tree with prefix `S`, every pair of
    refinements (the product that `binarize()` enumerates), each re-parsed, the pair
    labelled again by `label_internal`. -/
theorem C12_refine_input (x : RecInput)
    (hwfO : wf2 x.objectTree = true) (hsafeO : safeTreeE x.objectTree = true)
    (hleafO : ∀ n ∈ lvs x.objectTree, isUnnamed n = false) (hgO : (given x.objectTree).Nodup)
    (hwfS : wf2 x.speciesTree = true) (hsafeS : safeTreeE x.speciesTree = true)
    (hleafS : ∀ n ∈ lvs x.speciesTree, isUnnamed n = false) (hgS : (given x.speciesTree).Nodup)
    (bO : BinT) (hbO : bO ∈ binarize (encode (labelInternal x).objectTree))
    (bS : BinT) (hbS : bS ∈ binarize (encode (labelInternal x).speciesTree)) :
    ∃ rO rS,
      Newick.readNT (Newick.write (decB (decOf (labelInternal x).objectTree) bO)) = .ok rO ∧
      Newick.readNT (Newick.write (decB (decOf (labelInternal x).speciesTree) bS)) = .ok rS ∧
      Clauses "O" x.objectTree (labelInternal x).objectTree
        (labelInternal { x with objectTree := rO, speciesTree := rS }).objectTree ∧
      Clauses "S" x.speciesTree (labelInternal x).speciesTree
        (labelInternal { x with objectTree := rO, speciesTree := rS }).speciesTree := by
  obtain ⟨rO, h1, h2⟩ := C12_refine_cli "O" (by decide) x.objectTree hwfO hsafeO hleafO hgO bO hbO
  obtain ⟨rS, h3, h4⟩ := C12_refine_cli "S" (by decide) x.speciesTree hwfS hsafeS hleafS hgS bS hbS
  exact ⟨rO, rS, h1, h3, h2, h4⟩

/-- Clause (2) on its own: the second `label_internal` keeps every name present after
    the first, on the node with the same clade, in every refinement. -/
theorem C12_refine_keeps (pfx : String) (hpfx : pfx.toList.all NT.safeChar = true) (t : NT)
    (hwf : wf2 t = true) (hsafe : safeTreeE t = true)
    (hleaf : ∀ x ∈ lvs t, isUnnamed x = false) (hg : (given t).Nodup)
    (b : BinT) (hb : b ∈ binarize (encode (labelTree pfx t))) :
    ∃ r, Newick.readNT (Newick.write (decB (decOf (labelTree pfx t)) b)) = .ok r ∧
      ∀ x ∈ cn (labelTree pfx t), ∃ y ∈ cn (labelTree pfx r), y.1.Perm x.1 ∧ y.2 = x.2 := by
  obtain ⟨r, h1, h2⟩ := C12_refine_cli pfx hpfx t hwf hsafe hleaf hg b hb
  exact ⟨r, h1, h2.2.2.1⟩

/-- A generated name is never empty or `NoName`, whatever the prefix (it ends with a
    digit): the second pass cannot mistake a first-round name for an unnamed node. -/
theorem C12_refine_generated_named (pfx : String) (k : Nat) :
    isUnnamed (mkName pfx k) = false :=
  isUnnamed_mkName pfx k

/-! ### Non-vacuity

`(a_1, (b_1, c_1, d_1)[color=red], (e_1, f_1)O1)`: the root and one trichotomy are
unnamed, the user's `O1` looks like a generated name.  First labelling: root `O0`, the
trichotomy `O2` (`O1` is taken).  3 · 3 = 9 refinements, two new nodes each, named `O3`
and `O4` by the second labelling.  (The same nine trees are what the real
`label_internal` / `binarize` / `label_internal` produce for this input.) -/

def exT : NT :=
  .node "" none [.node "a_1" none [],
    .node "" (some "red") [.node "b_1" none [], .node "c_1" none [], .node "d_1" none []],
    .node "O1" none [.node "e_1" none [], .node "f_1" none []]]

/-- The hypotheses of `C12_refine_cli` hold of it. -/
theorem exT_ok : "O".toList.all NT.safeChar = true ∧ wf2 exT = true ∧ safeTreeE exT = true
    ∧ (∀ x ∈ lvs exT, isUnnamed x = false) ∧ (given exT).Nodup := by decide +kernel

example : "O".toList.all NT.safeChar = true ∧ wf2 exT = true ∧ safeTreeE exT = true
    ∧ (∀ x ∈ lvs exT, isUnnamed x = false) ∧ (given exT).Nodup := exT_ok

example : (labelTree "O" exT).names = ["O0", "a_1", "O2", "b_1", "c_1", "d_1", "O1", "e_1", "f_1"] := by
  decide +kernel

example : (binarize (encode (labelTree "O" exT))).length = 9 := by decide +kernel

/-- The first refinement: as coded tree, as written (new nodes `NoName`), as output. -/
def exB : BinT :=
  .node (some 0) (.leaf 1)
    (.node none (.node (some 2) (.leaf 3) (.node none (.leaf 4) (.leaf 5)))
      (.node (some 6) (.leaf 7) (.leaf 8)))

example : (binarize (encode (labelTree "O" exT))).head? = some exB := by decide +kernel

theorem exB_mem : exB ∈ binarize (encode (labelTree "O" exT)) := by decide +kernel

example : Newick.write (decB (decOf (labelTree "O" exT)) exB)
    = "(a_1,((b_1,(c_1,d_1)NoName)O2[&&NHX:color=red],(e_1,f_1)O1)NoName)O0;" := by decide +kernel

example : cn (labelTree "O" (fixEmpty (decB (decOf (labelTree "O" exT)) exB)))
    = [(["a_1", "b_1", "c_1", "d_1", "e_1", "f_1"], "O0"), (["a_1"], "a_1"),
       (["b_1", "c_1", "d_1", "e_1", "f_1"], "O3"), (["b_1", "c_1", "d_1"], "O2"),
       (["b_1"], "b_1"), (["c_1", "d_1"], "O4"), (["c_1"], "c_1"), (["d_1"], "d_1"),
       (["e_1", "f_1"], "O1"), (["e_1"], "e_1"), (["f_1"], "f_1")] := by decide +kernel

example : cc (labelTree "O" (fixEmpty (decB (decOf (labelTree "O" exT)) exB)))
    = [(["a_1", "b_1", "c_1", "d_1", "e_1", "f_1"], none), (["a_1"], none),
       (["b_1", "c_1", "d_1", "e_1", "f_1"], none), (["b_1", "c_1", "d_1"], some "red"),
       (["b_1"], none), (["c_1", "d_1"], none), (["c_1"], none), (["d_1"], none),
       (["e_1", "f_1"], none), (["e_1"], none), (["f_1"], none)] := by decide +kernel

/-- The theorem applied to it. -/
example : ∃ r, Newick.readNT (Newick.write (decB (decOf (labelTree "O" exT)) exB)) = .ok r ∧
    Clauses "O" exT (labelTree "O" exT) (labelTree "O" r) :=
  C12_refine_cli "O" exT_ok.1 exT exT_ok.2.1 exT_ok.2.2.1 exT_ok.2.2.2.1 exT_ok.2.2.2.2 exB exB_mem

example : ∃ r, Newick.readNT (Newick.write (decB (decOf (labelTree "O" exT)) exB)) = .ok r ∧
    Clauses "O" exT (labelTree "O" exT) (labelTree "O" r) ∧
    ColourClauses exT (labelTree "O" exT) (labelTree "O" r) ∧
    (cn (labelTree "O" r)).Pairwise (fun x y => ¬ x.1.Perm y.1) ∧
    (∀ x ∈ cn (labelTree "O" r), ∀ y ∈ cn (labelTree "O" r), x.1.Perm y.1 → x = y) :=
  C12_refine_cli_full "O" exT_ok.1 exT exT_ok.2.1 exT_ok.2.2.1 exT_ok.2.2.2.1 exT_ok.2.2.2.2 exB
    exB_mem

/-- The hypotheses are needed: with two nodes given the same name the output has
    colliding names (nothing renames a given name). -/
example :
    let t : NT := .node "X" none [.node "a" none [], .node "X" none [.node "b" none [], .node "c" none []]]
    ¬ (given t).Nodup ∧ ¬ (labelTree "O" t).names.Nodup := by decide +kernel

end SR.C12
