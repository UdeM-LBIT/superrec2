/-
  C05, the policy ANY of the CODE-STRUCTURED model of `reconcile_thl`
  (`Model/ThlCode.lean`: `thlCodeAny`); `C05AnyCodeSpfs.lean` and
  `C05AnyCodeUspfs.lean` hold the ordered and the unordered solvers.

  The code-structured models take the retention policy as a parameter, exactly as
  the Python solvers do (it flows to the table, to the aggregate entries, to
  `Entry.combine` and to the result entry).  The theorems below relate the run under
  `RetentionPolicy.ANY` to the run of THE SAME model under `RetentionPolicy.ALL`
  (which `C01_thlCode_refines` ties to the label-DP model `thl`), for all inputs:

  * `C05_code_any_table_thl`   at every (object node, species) the two tables are
        instantiated together, hold the SAME VALUE (the value of an `Entry` does not
        depend on the retention policy, `Entry.Inv.anySub`), the ANY entry keeps at
        most one tag, which is one of the ALL tags, and keeps one when ALL does;
  * `C05_code_any_decode_thl`  every mapping decoded from the ANY table is decoded
        from the ALL table (same object node, same species), and an ALL cell that
        decodes to something has an ANY decoding;
  * `C05_code_any_card_thl`, `C05_code_any_empty_iff_thl`, `C05_code_any_total_thl`
        at most one solution; none iff the ALL result is empty; exactly one
        otherwise (no hypothesis on the costs, on `S` or on the leaf species);
  * `C05_code_any_mem_thl_of_uniform`   the ANY solution is one of the ALL solutions
        and the two result entries have the same value, PROVIDED the evaluated cost
        is constant on the decodings of each root cell of the ALL table;
  * `C05_code_any_mem_thl`, `C05_code_any_same_cost_thl`, `C05_code_any_opt_thl`
        inside the coherent region `spe ≤ dup + 2·floss`, on a well-formed input (the
        hypotheses of `C05_any_mem_thl`): member of `thlCode`, hence of `thl`; same
        cost as every ALL solution; a minimum-cost valid reconciliation;
  * `C05_code_any_incoherent_witness_thl`   outside the coherent region the
        hypothesis is needed, for the code-structured model too.
-/
import SRVerif.Proofs.AnyCodeThl
import SRVerif.Properties.C01Code

namespace SR.C05

open SR Cost AnyCode

section thl

open ThlCode

variable (c : Costs) (S : RTree) (o : OTree)

theorem rows_sub (r : Retain) : ∀ p ∈ postorderNodes o [],
    Rows r c S (computeTable r c S o) p.2 p.1 :=
  fun p hp q hq => computeTable_rec r c S o q (postorderNodes_sub o [] p hp q hq)

/-- **The two tables.**  At every object node `p.1` and species `s`: instantiated
    together, same value, at most one ANY tag, which is one of the ALL tags, and
    there is one as soon as ALL has one. -/
theorem C05_code_any_table_thl : ∀ p ∈ postorderNodes o [], ∀ s,
    ((computeTable .any c S o).get (p.1, s) = none ↔ (computeTable .all c S o).get (p.1, s) = none) ∧
    (computeTable .any c S o).value (p.1, s) = (computeTable .all c S o).value (p.1, s) ∧
    ((computeTable .any c S o).infos (p.1, s)).length ≤ 1 ∧
    (∀ t ∈ (computeTable .any c S o).infos (p.1, s), t ∈ (computeTable .all c S o).infos (p.1, s)) ∧
    ((computeTable .all c S o).infos (p.1, s) ≠ [] → (computeTable .any c S o).infos (p.1, s) ≠ []) :=
  fun p hp s =>
    (cellRel_rows c S _ _ p.2 p.1 (rows_sub c S o .any p hp) (rows_sub c S o .all p hp) s).cellSub.spec

/-- **Decoding.**  What `_decode_thl_table` generates from the ANY table at (object
    node, species) is generated from the ALL table, and something is generated as
    soon as the ALL table generates something. -/
theorem C05_code_any_decode_thl : ∀ p ∈ postorderNodes o [], ∀ s,
    (∀ sol ∈ decode (computeTable .any c S o) p.2 p.1 s,
      sol ∈ decode (computeTable .all c S o) p.2 p.1 s) ∧
    (decode (computeTable .all c S o) p.2 p.1 s ≠ [] →
      decode (computeTable .any c S o) p.2 p.1 s ≠ []) :=
  fun p hp s => decodings c S _ _ p.2 p.1 (rows_sub c S o .any p hp) (rows_sub c S o .all p hp) s

theorem C05_code_any_card_thl : (thlCodeAny c S o).length ≤ 1 := (reconcile_rel c S o).1

theorem C05_code_any_empty_iff_thl : thlCodeAny c S o = [] ↔ thlCode c S o = [] :=
  (reconcile_rel c S o).2.1

theorem C05_code_any_total_thl (hne : thlCode c S o ≠ []) : (thlCodeAny c S o).length = 1 := by
  have h1 := List.length_pos_iff.mpr fun h => hne ((C05_code_any_empty_iff_thl c S o).mp h)
  have h2 := C05_code_any_card_thl c S o
  omega

/-- The evaluated cost is constant on the decodings of each root cell of the ALL table. -/
def UniformThl (c : Costs) (S : RTree) (o : OTree) : Prop :=
  ∀ s ∈ S.levelorder, ∀ x ∈ decode (computeTable .all c S o) o [] s,
    ∀ y ∈ decode (computeTable .all c S o) o [] s, recCost c o x = recCost c o y

theorem C05_code_any_mem_thl_of_uniform (hu : UniformThl c S o) :
    (reconcile .any c S o).value = (reconcile .all c S o).value ∧
    ∀ sol ∈ thlCodeAny c S o, sol ∈ thlCode c S o :=
  (reconcile_rel c S o).2.2 hu

/-- Inside the coherent region the table value is the evaluated cost of every
    decoding (`C01_thlCode_decode`, `C01_thl_cell_exact`). -/
theorem uniformThl (hb : S.isBinary = true) (hS : ∀ p ∈ leafSpecies o, S.isNode p = true)
    (hcoh : c.spe ≤ c.dup + 2 * c.floss) : UniformThl c S o := by
  intro s _ x hx y hy
  have hdec := C01.C01_thlCode_decode c S o hS ([], o) (root_mem_postorderNodes o []) s
  obtain ⟨d, hd, hsp, lx, hlx, rfl⟩ := (hdec x).mp hx
  obtain ⟨d', hd', hsp', ly, hly, rfl⟩ := (hdec y).mp hy
  have hdd : d' = d := dp_functional thlAlg c S true _ hd' hd (by rw [hsp', hsp]) rfl
  subst hdd
  obtain ⟨hex, _, _⟩ := C01.C01_thl_cell_exact c S o hb hS hcoh d' hd
  rw [hex lx hlx, hex ly hly]

/-- **C05 (`any` ∈ `all`) for the code-structured `reconcile_thl`**: inside the
    coherent region, on a well-formed input, the solution returned under ANY is one
    of those returned under ALL by the same code — hence by the label-DP model. -/
theorem C05_code_any_mem_thl (hb : S.isBinary = true) (hS : ∀ p ∈ leafSpecies o, S.isNode p = true)
    (hcoh : c.spe ≤ c.dup + 2 * c.floss) :
    ∀ sol ∈ thlCodeAny c S o, sol ∈ thlCode c S o ∧ sol ∈ thl c S o := by
  intro sol hsol
  have h := (C05_code_any_mem_thl_of_uniform c S o (uniformThl c S o hb hS hcoh)).2 sol hsol
  exact ⟨h, ((C01.C01_thlCode_refines c S o hS).1 sol).mp h⟩

/-- Both policies agree on the cost: the two result entries have the same value,
    which is the evaluated cost of the ANY solution and of every ALL solution. -/
theorem C05_code_any_same_cost_thl (hb : S.isBinary = true)
    (hS : ∀ p ∈ leafSpecies o, S.isNode p = true) (hcoh : c.spe ≤ c.dup + 2 * c.floss) :
    (reconcile .any c S o).value = (reconcile .all c S o).value ∧
    ∀ sol ∈ thlCodeAny c S o, ∀ sol' ∈ thlCode c S o,
      totalCost c .plain o sol = totalCost c .plain o sol' := by
  refine ⟨(C05_code_any_mem_thl_of_uniform c S o (uniformThl c S o hb hS hcoh)).1, ?_⟩
  intro sol hsol sol' hsol'
  have h := (C05_code_any_mem_thl c S o hb hS hcoh sol hsol).1
  have e1 := (C01.C01_thlCode_refines c S o hS).2.2 sol h
  have e2 := (C01.C01_thlCode_refines c S o hS).2.2 sol' hsol'
  exact toExt_inj (e1.symm.trans e2)

/-- Hence the single ANY solution is a minimum-cost valid reconciliation. -/
theorem C05_code_any_opt_thl (hb : S.isBinary = true) (hS : ∀ p ∈ leafSpecies o, S.isNode p = true)
    (hcoh : c.spe ≤ c.dup + 2 * c.floss) :
    (thlCodeAny c S o).length = 1 ∧ ∀ sol ∈ thlCodeAny c S o,
      Spec.validRec o sol = true ∧
      ∀ sol', Spec.validRec o sol' = true → sol' ∈ Spec.allMappings S o →
        Cost.le (totalCost c .plain o sol) (totalCost c .plain o sol') = true :=
  ⟨C05_code_any_total_thl c S o (C01.C01_thlCode_total c S o hb hS),
    fun sol h => C01.C01_thlCode_optimal c S o hb hS hcoh sol
      (C05_code_any_mem_thl c S o hb hS hcoh sol h).1⟩

/-- Outside the coherent region `any ∈ all` FAILS for the code-structured model:
    the ANY solution costs 7, the eight ALL solutions cost 6 (the witness of
    `C05_any_incoherent_witness`). -/
theorem C05_code_any_incoherent_witness_thl :
    let c : Costs := { spe := 3, dup := 0, hgt := .fin 2, floss := 1, sloss := 0 }
    let S : RTree := .node [.node [.node [], .node []], .node [.node [], .node []]]
    let o : OTree := .node (.node (.leaf [0, 1] []) (.leaf [0, 0] []))
      (.node (.leaf [1, 1] []) (.leaf [1, 0] []))
    let any : Sol := .node [0, 0] [] (.node [0, 0] [] (.leaf [0, 1] []) (.leaf [0, 0] []))
      (.node [1] [] (.leaf [1, 1] []) (.leaf [1, 0] []))
    S.isBinary = true ∧ (∀ p ∈ leafSpecies o, S.isNode p = true) ∧
    ¬ c.spe ≤ c.dup + 2 * c.floss ∧
    thlCodeAny c S o = [any] ∧ any ∉ thlCode c S o ∧
    (reconcile .any c S o).value = .fin 7 ∧ (reconcile .all c S o).value = .fin 6 ∧
    (thlCode c S o).length = 8 := by
  decide +kernel

/-- A coherent well-formed input with five co-optimal reconciliations: the ANY run
    returns one of the five, of the same cost; the root cell of the ALL table keeps
    several tags where the ANY table keeps one. -/
example :
    let c : Costs := { spe := 1, dup := 1, hgt := .fin 1, floss := 1, sloss := 1 }
    let S : RTree := .node [.node [.node [], .node []], .node []]
    let o : OTree := .node (.node (.leaf [0, 0] []) (.leaf [1] [])) (.leaf [0, 1] [])
    S.isBinary = true ∧ (∀ p ∈ leafSpecies o, S.isNode p = true) ∧
    c.spe ≤ c.dup + 2 * c.floss ∧ (thlCode c S o).length = 5 ∧
    (thlCodeAny c S o).length = 1 ∧ (∀ s ∈ thlCodeAny c S o, s ∈ thlCode c S o) ∧
    (reconcile .any c S o).value = .fin 2 ∧ (reconcile .all c S o).value = .fin 2 ∧
    2 ≤ ((computeTable .all c S o).infos ([], [0, 1])).length ∧
    ((computeTable .any c S o).infos ([], [0, 1])).length = 1 := by
  decide +kernel

/-- Transfers forbidden and a leaf species outside `S`: both results are empty. -/
example :
    let c : Costs := { spe := 0, dup := 1, hgt := .inf, floss := 1, sloss := 1 }
    let S : RTree := .node [.node [], .node []]
    let o : OTree := .node (.leaf [0] []) (.leaf [2] [])
    thlCode c S o = [] ∧ thlCodeAny c S o = [] := by
  decide +kernel

end thl

end SR.C05
