/-
  C14 with the hypothesis `compute … = .ok all` discharged: for a valid reconciliation on a
  binary species tree `layout.compute` succeeds (`C14_compute_ok`), so the geometric clauses of
  `Properties/C14.lean` hold of the layout (`C14_geometry`); and the branches of a species lie
  inside its box, across inside its trunk with `species_branch_padding` on both sides, its
  anchors on the first edge of the trunk (`C14_branches_inside`, clause by clause in `BranchGeom`).
-/
import SRVerif.Properties.C14Anchors
import SRVerif.Proofs.LayoutAnchorsInside
import Mathlib.Data.List.Nodup

namespace SR.C14

open SR SR.Layout

/-- Equal `sp` means same entry, because the list of species is the duplicate-free pre-order. -/
theorem C14_species_unique_any (o : Orientation) (P : Params) (sizes : Key → Size) (S : RTree)
    (sol : Sol) (all : List SubLayout) (h : compute o P sizes S sol = .ok all) :
    ∀ a b, a ∈ all → b ∈ all → a.sp = b.sp → a = b := by
  have hnd : (all.map (·.sp)).Nodup := by
    rw [C14_species o P sizes S sol all h]; exact RTree.nodup_preorder S
  exact fun a b ha hb hab => List.inj_on_of_nodup_map hnd ha hb hab

/-- The hypothesis `hn` is not used (`C14_species_unique_any`). -/
theorem C14_species_unique (o : Orientation) (P : Params) (sizes : Key → Size) (S : RTree)
    (sol : Sol) (all : List SubLayout) (hn : NumHyps P sizes)
    (h : compute o P sizes S sol = .ok all) :
    ∀ a b, a ∈ all → b ∈ all → a.sp = b.sp → a = b :=
  C14_species_unique_any o P sizes S sol all h

/-- All geometric clauses of C14 at once, with existence of the layout: for a
    valid reconciliation on a binary species tree and numeric parameters as in
    `NumHyps`, `layout.compute` returns a list `all` with one entry per species
    (pre-order), and on it: sibling boxes are separated by `min_subtree_spacing`
    and nested in the parent's box; every trunk lies in its box, flush with its
    start; trunks end `level_spacing + fork` before the boxes of descendants;
    trunks of distinct species are separated. -/
theorem C14_geometry (o : Orientation) (P : Params) (sizes : Key → Size) (S : RTree) (ot : OTree)
    (sol : Sol) (hn : NumHyps P sizes) (hv : Spec.validRec ot sol = true)
    (hin : SR.C13.inTree S sol = true) (hbin : S.isBinary = true) :
    ∃ all, compute o P sizes S sol = .ok all ∧ all.map (·.sp) = S.preorder ∧
      (∀ a b, a ∈ all → b ∈ all → a.sp = b.sp → a = b) ∧
      (∀ par l r, par ∈ all → l ∈ all → r ∈ all → l.sp = par.sp ++ [0] → r.sp = par.sp ++ [1] →
        acrossSep o P.minsp l.rect r.rect ∧
        (¬ ∃ x y, hasPoint l.rect x y ∧ hasPoint r.rect x y) ∧
        inside l.rect par.rect ∧ inside r.rect par.rect) ∧
      (∀ a, a ∈ all → inside a.trunk a.rect ∧ seqFlush o a.trunk a.rect) ∧
      (∀ par d k q, par ∈ all → d ∈ all → d.sp = par.sp ++ k :: q →
        seqSep o (P.level + par.fork) par.trunk d.rect) ∧
      (∀ a b, a ∈ all → b ∈ all → a.sp ≠ b.sp → separated a.trunk b.trunk) := by
  obtain ⟨all, h⟩ := C14_compute_ok o P sizes S ot sol hv hin hbin
  have ⟨hpos, hpad, hgsp, hov, hlev, hmin⟩ := hn
  refine ⟨all, h, C14_species o P sizes S sol all h, C14_species_unique o P sizes S sol all hn h,
    C14_siblings o P sizes S sol all hpos hpad hgsp hov hlev hmin h, ?_,
    C14_trunk_above_children o P sizes S sol all hn h, ?_⟩
  · intro a ha
    obtain ⟨h1, h2, _⟩ := C14_trunk_inside o P sizes S sol all hn h a ha
    exact ⟨h1, h2⟩
  · intro a b ha hb hab
    exact (C14_trunks o P sizes S sol all hpos hpad hgsp hov hlev hmin h a b ha hb hab).1

/-- `a` lies, along the ACROSS axis, inside the extent of `b`, at least `m`
    away from both ends. -/
def acrossWithin (o : Orientation) (m : Rat) (a b : Rect) : Prop :=
  match o with
  | .vertical => b.x + m ≤ a.x ∧ a.x + a.w + m ≤ b.x + b.w
  | .horizontal => b.y + m ≤ a.y ∧ a.y + a.h + m ≤ b.y + b.h

/-- `a` starts, along the SEQUENCE axis, at least `m` after `b` starts. -/
def seqAfter (o : Orientation) (m : Rat) (a b : Rect) : Prop :=
  match o with
  | .vertical => b.y + m ≤ a.y
  | .horizontal => b.x + m ≤ a.x

/-- `p` lies on the edge of `t` where `t` starts along the sequence axis, at
    least `m` away from both ends of that edge. -/
def onFirstEdge (o : Orientation) (m : Rat) (p : Pos) (t : Rect) : Prop :=
  match o with
  | .vertical => p.y = t.y ∧ t.x + m ≤ p.x ∧ p.x + m ≤ t.x + t.w
  | .horizontal => p.x = t.x ∧ t.y + m ≤ p.y ∧ p.y + m ≤ t.y + t.h

/-- The clauses of `C14_branches_inside` for one species layout: every branch rect lies in the
    species' box, across inside the trunk with `pad` on both sides, along the sequence axis at
    least `overhead` after the start of the trunk; it has positive extents and contains its four
    anchor points; every anchor of the species lies on the first edge of the trunk, `pad` from
    both ends, and is a point of the trunk. -/
def BranchGeom (o : Orientation) (P : Params) (lay : SubLayout) : Prop :=
  (∀ fb ∈ lay.branches,
    inside fb.rect lay.rect ∧ acrossWithin o P.pad fb.rect lay.trunk ∧
    seqAfter o P.overhead fb.rect lay.trunk ∧ 0 < fb.rect.w ∧ 0 < fb.rect.h ∧
    hasPoint fb.rect fb.aParent.x fb.aParent.y ∧ hasPoint fb.rect fb.aLeft.x fb.aLeft.y ∧
    hasPoint fb.rect fb.aRight.x fb.aRight.y ∧ hasPoint fb.rect fb.aChild.x fb.aChild.y) ∧
  (∀ e ∈ lay.anchors, onFirstEdge o P.pad e.2 lay.trunk ∧ hasPoint lay.trunk e.2.x e.2.y)

theorem insideV_rect {P : Params} {sl : SubLayout} (hI : InsideV P sl) (hpad : 0 ≤ P.pad)
    (hov : 0 ≤ P.overhead)
    (htr : sl.rect.x ≤ sl.trunk.x ∧ sl.trunk.x + sl.trunk.w ≤ sl.rect.x + sl.rect.w ∧
      sl.trunk.y = sl.rect.y ∧ sl.trunk.y + sl.trunk.h ≤ sl.rect.y + sl.rect.h)
    {fb : FBranch} (hfb : fb ∈ sl.branches) :
    sl.rect.x ≤ fb.rect.x ∧ sl.rect.y ≤ fb.rect.y ∧
      fb.rect.x + fb.rect.w ≤ sl.rect.x + sl.rect.w ∧ fb.rect.y + fb.rect.h ≤ sl.rect.y + sl.rect.h :=
  ⟨by linarith only [hI.left fb hfb, htr.1, hpad], by linarith only [hI.top fb hfb, htr.2.2.1, hov],
    by linarith only [hI.right fb hfb, htr.2.1, hpad], hI.bottom fb hfb⟩

theorem insideV_anchor {P : Params} {sl : SubLayout} (hI : InsideV P sl) (hpad : 0 ≤ P.pad)
    (hth : 0 ≤ sl.trunk.h) {e : Key × Pos} (he : e ∈ sl.anchors) :
    sl.trunk.x ≤ e.2.x ∧ e.2.x ≤ sl.trunk.x + sl.trunk.w ∧ sl.trunk.y ≤ e.2.y ∧
      e.2.y ≤ sl.trunk.y + sl.trunk.h := by
  obtain ⟨b1, b2, b3⟩ := hI.anchors e he
  exact ⟨by linarith only [b2, hpad], by linarith only [b3, hpad], b1.ge, by linarith only [b1, hth]⟩

theorem branchGeom_V {P : Params} {sl : SubLayout} (hI : InsideV P sl) (hpad : 0 ≤ P.pad)
    (hov : 0 ≤ P.overhead)
    (htr : sl.rect.x ≤ sl.trunk.x ∧ sl.trunk.x + sl.trunk.w ≤ sl.rect.x + sl.rect.w ∧
      sl.trunk.y = sl.rect.y ∧ sl.trunk.y + sl.trunk.h ≤ sl.rect.y + sl.rect.h)
    (hth : 0 ≤ sl.trunk.h) : BranchGeom .vertical P sl := by
  refine ⟨fun fb hfb => ?_, fun e he => ⟨hI.anchors e he, insideV_anchor hI hpad hth he⟩⟩
  obtain ⟨pw, ph, q1, q2, q3, q4⟩ := hI.pts fb hfb
  -- `Rect.has r p` (the `q`s) unfolds to `hasPoint r p.x p.y`
  exact ⟨insideV_rect hI hpad hov htr hfb, ⟨hI.left fb hfb, hI.right fb hfb⟩, hI.top fb hfb, pw, ph,
    q1, q2, q3, q4⟩

theorem branchGeom_H {P : Params} {sl : SubLayout} (hI : InsideV P sl) (hpad : 0 ≤ P.pad)
    (hov : 0 ≤ P.overhead)
    (htr : sl.rect.x ≤ sl.trunk.x ∧ sl.trunk.x + sl.trunk.w ≤ sl.rect.x + sl.rect.w ∧
      sl.trunk.y = sl.rect.y ∧ sl.trunk.y + sl.trunk.h ≤ sl.rect.y + sl.rect.h)
    (hth : 0 ≤ sl.trunk.h) : BranchGeom .horizontal P sl.tr := by
  refine ⟨?_, ?_⟩
  · intro fb hfb
    simp only [SubLayout.tr, List.mem_map] at hfb
    obtain ⟨fb0, hfb0, rfl⟩ := hfb
    obtain ⟨i1, i2, i3, i4⟩ := insideV_rect hI hpad hov htr hfb0
    obtain ⟨pw, ph, q1, q2, q3, q4⟩ := hI.pts fb0 hfb0
    exact ⟨⟨i2, i1, i4, i3⟩, ⟨hI.left fb0 hfb0, hI.right fb0 hfb0⟩, hI.top fb0 hfb0, ph, pw,
      (Rect.has_tr _ _).2 q1, (Rect.has_tr _ _).2 q2, (Rect.has_tr _ _).2 q3, (Rect.has_tr _ _).2 q4⟩
  · intro e he
    simp only [SubLayout.tr, trAnchors, List.mem_map] at he
    obtain ⟨e0, he0, rfl⟩ := he
    exact ⟨hI.anchors e0 he0, (Rect.has_tr sl.trunk e0.2).2 (insideV_anchor hI hpad hth he0)⟩

/-- **C14, branches inside the species' box** (both orientations). -/
theorem C14_branches_inside (o : Orientation) (P : Params) (sizes : Key → Size) (S : RTree)
    (ot : OTree) (sol : Sol) (hn : NumHyps P sizes) (hv : Spec.validRec ot sol = true)
    (hin : SR.C13.inTree S sol = true) (hbin : S.isBinary = true) :
    ∃ all, compute o P sizes S sol = .ok all ∧ ∀ lay ∈ all, BranchGeom o P lay := by
  have hgood := SR.C13.good_of_valid hv hin
  have hfork : ∀ st, computeBranches S sol = .ok st → ∀ t b, b ∈ brs st t →
      (b.kind = .spec ∨ b.kind = .loss) → S.isNode (t ++ [0]) = true := by
    intro st hst t b hb hk
    have w := computeBranches_wiring hgood hbin hst
    rcases hk with hk | hk
    · obtain ⟨_, _, _, _, h0, _⟩ := w.spec t b hb hk
      exact h0
    · obtain ⟨_, _, _, hnode, _⟩ := w.loss t b hb hk
      exact RTree.isNode_child_zero hnode
  have hy := hn.hyps
  cases o with
  | vertical =>
    obtain ⟨all, h⟩ := C14_compute_ok .vertical P sizes S ot sol hv hin hbin
    refine ⟨all, h, ?_⟩
    intro lay hlay
    have hI := computeV_inside hy h hfork lay hlay
    have hf := computeV_facts hy h
    exact branchGeom_V hI hy.pad hy.overhead (hf.trunkIn lay hlay) (hf.nonneg lay hlay).2.2.2.1
  | horizontal =>
    obtain ⟨allV, h⟩ := C14_compute_ok .vertical P (fun k => (sizes k).swap) S ot sol hv hin hbin
    have hc : compute .horizontal P sizes S sol = .ok (allV.map SubLayout.tr) :=
      computeH_ok.2 ⟨allV, h, rfl⟩
    refine ⟨_, hc, ?_⟩
    intro lay hlay
    obtain ⟨l0, hl0, rfl⟩ := List.mem_map.1 hlay
    have hI := computeV_inside hy.swap h hfork l0 hl0
    have hf := computeV_facts hy.swap h
    exact branchGeom_H hI hy.pad hy.overhead (hf.trunkIn l0 hl0) (hf.nonneg l0 hl0).2.2.2.1

/-- The hypotheses are met (unit sizes, default-like parameters, the example of
    `Properties/C13.lean`), and its layout has 8 branches and 5 anchors in 5 species. -/
example : NumHyps exP exSizes ∧ Spec.validRec SR.C13.exO SR.C13.exSol = true ∧
    SR.C13.inTree SR.C13.exS SR.C13.exSol = true ∧ SR.C13.exS.isBinary = true := by
  have one : (0 : Rat) < 1 := by decide +kernel
  exact ⟨⟨fun _ => ⟨one, one⟩, by decide +kernel, by decide +kernel, by decide +kernel,
    by decide +kernel, by decide +kernel⟩, by decide +kernel, by decide +kernel, by decide +kernel⟩

example : ∃ all, compute .vertical exP exSizes SR.C13.exS SR.C13.exSol = .ok all ∧
    (all.map fun l => l.branches.length) = [1, 3, 2, 0, 2] ∧
    (all.map fun l => l.anchors.length) = [1, 1, 2, 0, 1] := ⟨_, rfl, by decide +kernel, by decide +kernel⟩

end SR.C14
