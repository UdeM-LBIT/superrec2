/-
  C15 — the labels the layout computes are admissible fillings of the `label` holes.

  `C15_draw_balanced` / `C15_draw_valid_all` take the labels as a parameter (`Deco.name`) with
  the hypothesis `DecoOK.name : isBalanced (deco.name s k)` (`C15_balanced` takes the fillings,
  with `CallOK`).
  Here: for brace-free node names and family names (the property's alphabet has no brace), EVERY
  label produced by the model of `_compute_branches` — leaf or internal, with or without synteny,
  wrapped at any width or not — is brace-free up to the one `\textsubscript{…}` group, hence
  balanced.  So the balance clause holds for the labels of the property's input space, not only
  for labels assumed balanced.
-/
import SRVerif.Proofs.TikzEscape
import SRVerif.Proofs.TikzBraces
import SRVerif.Proofs.TikzWrap

namespace SR.C15

open SR.Tikz

/-- The synteny text of a node (escaped families joined by `", "`, wrapped at any width with the
    TeX line break between the lines) contains no brace when the family names contain none. -/
theorem C15_syntenyText_braceFree (w : Option Nat) (fams : List Str)
    (hf : ∀ f ∈ fams, braceFree f = true) (text : Str)
    (h : syntenyText w (some fams) = some text) : braceFree text = true := by
  have hflat : braceFree (formatSynteny (fams.map escape)) = true := by
    refine intercalate_closed (P := fun s => braceFree s = true) rfl ?_ (by decide) _ ?_
    · intro a b ha hb
      rw [braceFree_append, ha, hb]
      rfl
    · intro l hl
      obtain ⟨f, hfm, rfl⟩ := List.mem_map.1 hl
      exact braceFree_escape f (hf f hfm)
  cases w with
  | none =>
    cases h
    exact hflat
  | some w => exact balancedWrapText_braceFree (by decide) hflat h

/-- **The shape of every label of the layout.**  For a brace-free node name and brace-free family
    names, whatever the wrap width and whatever the parent's synteny: the label `_compute_branches`
    gives a leaf (`leafLabel`) is brace-free, or is `species\textsubscript{gene}` with both parts
    brace-free; the label it gives an internal node (`internalLabel`) is brace-free. -/
theorem C15_label_shape (w : Option Nat) (syn par : Option (List Str)) (name : Str)
    (hn : braceFree name = true) (hs : ∀ fams, syn = some fams → ∀ f ∈ fams, braceFree f = true)
    (l : Str) :
    (leafLabel w syn name = some l → braceFree l = true ∨ ∃ sp gene, braceFree sp = true ∧
      braceFree gene = true ∧ l = sp ++ "\\textsubscript{".toList ++ gene ++ ['}']) ∧
    (internalLabel w syn par = some l → braceFree l = true) := by
  have hnone : ∀ w', syntenyText w' none = some [] := fun _ => rfl
  constructor
  · intro h
    simp only [leafLabel, Option.map_eq_some_iff] at h
    obtain ⟨text, ht, rfl⟩ := h
    by_cases he : text.isEmpty = true
    · simp only [he, Bool.not_true, Bool.false_eq_true, if_false]
      cases hr : rsplitUnderscore name with
      | none => exact .inl (braceFree_escape _ hn)
      | some p =>
        obtain ⟨h1, h2⟩ := rsplit_braceFree hn hr
        exact .inr ⟨_, _, braceFree_escape _ h1, braceFree_escape _ h2, rfl⟩
    · simp only [he, Bool.not_false, if_true]
      cases syn with
      | none => rw [hnone] at ht; cases ht; simp at he
      | some fams => exact .inl (C15_syntenyText_braceFree w fams (hs fams rfl) text ht)
  · intro h
    simp only [internalLabel, Option.map_eq_some_iff] at h
    obtain ⟨text, ht, rfl⟩ := h
    split
    · rfl
    · cases syn with
      | none => rw [hnone] at ht; cases ht; rfl
      | some fams => exact C15_syntenyText_braceFree w fams (hs fams rfl) text ht

/-- **Every label of the layout is balanced** — the hypothesis `DecoOK.name` of the drawing
    theorems. -/
theorem C15_labels_balanced (w : Option Nat) (syn par : Option (List Str)) (name : Str)
    (hn : braceFree name = true) (hs : ∀ fams, syn = some fams → ∀ f ∈ fams, braceFree f = true)
    (l : Str) :
    (leafLabel w syn name = some l → isBalanced l = true) ∧
    (internalLabel w syn par = some l → isBalanced l = true) := by
  obtain ⟨h1, h2⟩ := C15_label_shape w syn par name hn hs l
  refine ⟨fun h => ?_, fun h => isBalanced_of_braceFree _ (h2 h)⟩
  rcases h1 h with hb | ⟨sp, gene, hsp, hgene, rfl⟩
  · exact isBalanced_of_braceFree _ hb
  · have key : isBalanced ("\\textsubscript{".toList ++ gene ++ ['}']) = true := by
      rw [isBalanced_iff, balAux_insert _ _ _ (isBalanced_of_braceFree _ hgene)]
      decide
    rw [List.append_assoc, List.append_assoc, ← List.append_assoc ("\\textsubscript{".toList)]
    exact isBalanced_append _ _ (isBalanced_of_braceFree _ hsp) key

/-- Non-vacuity: a wrapped label of three families with underscores, and a subscripted leaf name. -/
example : syntenyText (some 6) (some ["a_1".toList, "b".toList, "c_d".toList])
    = some "a\\_1,\\\\b,\\\\c\\_d".toList := by decide +kernel
example : leafLabel (some 6) none "E_coli_3".toList = some "E\\_coli\\textsubscript{3}".toList := by decide +kernel

end SR.C15
