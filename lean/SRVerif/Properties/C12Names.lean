/-
  C12 (bridge, names) — `Naming.Ok` DERIVED from `label_internal`.

  The cost-line theorems (`C12Bridge.lean`, `C12Json.lean`, `C12Colour.lean`) assume `Naming.Ok`:
  names pairwise distinct and safe on the nodes of both trees.  The tool does not take names on
  trust: `reconcile` runs `label_internal` (`Model/Cli.lean: labelInternal`, theorems `C12_label*`
  of `C12.lean`) on the input it read, THEN solves, THEN writes.  Here the link, with hypotheses on
  the FILE only (`FileOk`).

  WHICH NAMES ARE COVERED.  Given names and colours must satisfy `NT.safeStr`: non-empty, every
  character an ASCII letter, an ASCII digit, `_`, `.` or `-` (`Char.isAlphanum` is ASCII-only).
  This is the alphabet of C11's `SafeNames` (`RecOutput.WF`), narrower than what the Newick
  codec round-trips (`Newick.safeName`: anything without `:;(),[]=`, TAB, LF, CR and without a
  blank at either end).  So `x_1`, `Ecoli_3`, `O0`, `0000FF`, `E.coli_1`, `sp-1` are covered;
  `é`, `#0000FF`, `a b` are inside the codec's domain but OUTSIDE these theorems (they would need
  C11's `WF` restated with `Newick.safeName`).  The property's own quantifier (`<species>_<id>`
  leaf names, generated `O#`/`S#`) is covered.  A given name `NoName` counts as unnamed (ete3's
  legacy default) and is replaced, as in the code.
-/
import SRVerif.Proofs.LabelNaming
import SRVerif.Properties.C12
import SRVerif.Properties.C12Colour

namespace SR.C12

open SR SR.Ser SR.Cli SR.SolOut SR.C11 SR.Json

/-- What the input FILE must give for one tree: given names pairwise distinct, each a word. -/
structure GivenNamesOk (t : NT) : Prop where
  distinct : (t.names.filter (fun nm => !isUnnamed nm)).Nodup
  safe : ∀ x ∈ t.names, isUnnamed x = false → NT.safeStr x = true

/-- The naming after `label_internal` (`O#` on the object tree, `S#` on the species tree). -/
def labelledNaming (ot st : NT) (fname : Nat → String) : Naming :=
  { sname := nameFn (labelTree "S" st), oname := nameFn (labelTree "O" ot), fname := fname }

/-- The colours of the file (the pass does not touch them). -/
def labelledColouring (ot st : NT) : Colouring :=
  { scol := colFn (labelTree "S" st), ocol := colFn (labelTree "O" ot) }

/-- One tree: after the pass, the tree is uniquely named by words. -/
theorem C12_label_tree_safe (pfx : String) (hp : pfx.toList.all NT.safeChar = true) (t : NT)
    (h : GivenNamesOk t) :
    (labelTree pfx t).UniqueNames ∧ (∀ x ∈ (labelTree pfx t).names, NT.safeStr x = true) ∧
    shapeNT (labelTree pfx t) = shapeNT t := by
  obtain ⟨hn, hu⟩ := C12_label_tree pfx t h.distinct
  refine ⟨hu, fun x hx => ?_, shape_labelTree pfx t⟩
  rw [hn] at hx
  exact labelNames_safe hp _ h.safe x hx

/-- `Naming.Ok` of the names the tool works with, from the file: for input trees whose GIVEN names
    (the non-empty ones other than `NoName`) are pairwise distinct inside each tree and are words
    over `[A-Za-z0-9_.-]`, the names AFTER `label_internal` satisfy `Naming.Ok` on the nodes of the
    two shapes (families: any injective `fname`, untouched by the pass).  No hypothesis that given
    names avoid the generated form `O#` / `S#`: the pass searches the tree live and skips taken
    names (clause 4 of `C12_label` in `C12.lean`), so a given `O0` is simply kept. -/
theorem C12_label_naming_ok (ot st : NT) (S : RTree) (o : OTree) (fname : Nat → String)
    (hso : shapeNT ot = o.shape) (hss : shapeNT st = S) (hgo : GivenNamesOk ot)
    (hgs : GivenNamesOk st) (hf : ∀ a b, fname a = fname b → a = b) :
    (labelledNaming ot st fname).Ok S o := by
  obtain ⟨uo, so, sho⟩ := C12_label_tree_safe "O" (by decide) ot hgo
  obtain ⟨us, ss, shs⟩ := C12_label_tree_safe "S" (by decide) st hgs
  have no := naming_of_tree uo so
  have ns := naming_of_tree us ss
  rw [sho, hso] at no
  rw [shs, hss] at ns
  exact { sInj := ns.1, sSafe := ns.2, oInj := no.1, oSafe := no.2, fInj := hf }

/-- The colours the file carries (the pass does not touch them) are `Ok` when they are words. -/
theorem labelledColouring_ok (ot st : NT) {S : RTree} {o : OTree} (hso : shapeNT ot = o.shape)
    (hss : shapeNT st = S) (ho : ∀ x ∈ ot.pre, ∀ k, x.2.color = some k → NT.safeStr k = true)
    (hs : ∀ x ∈ st.pre, ∀ k, x.2.color = some k → NT.safeStr k = true) :
    (labelledColouring ot st).Ok S o :=
  ⟨hss ▸ colSafe_labelTree "S" hs, hso ▸ colSafe_labelTree "O" ho⟩

/-- The labelled trees are the trees of the coloured embedded input, and the file's colouring is
    `Ok` when its colours are words.  (Mappings and cost table are not compared: they are keyed by
    node and by event.) -/
theorem C12_label_is_embedding (ot st : NT) (S : RTree) (o : OTree) (fname : Nat → String)
    (c : Costs) (hso : shapeNT ot = o.shape) (hss : shapeNT st = S) :
    let nm := labelledNaming ot st fname
    let cl := labelledColouring ot st
    (embInputC nm cl c S o).objectTree = labelTree "O" ot ∧
    (embInputC nm cl c S o).speciesTree = labelTree "S" st ∧
    ((∀ x ∈ ot.pre, ∀ k, x.2.color = some k → NT.safeStr k = true) →
     (∀ x ∈ st.pre, ∀ k, x.2.color = some k → NT.safeStr k = true) → cl.Ok S o) := by
  intro nm cl
  refine ⟨?_, ?_, labelledColouring_ok ot st hso hss⟩
  · rw [embInputC_eq, ← hso]; exact labelTree_self "O" ot
  · rw [embInputC_eq, ← hss]; exact labelTree_self "S" st

/-- What the input FILE must give: shapes, given names, colours, family names. -/
structure FileOk (ot st : NT) (S : RTree) (o : OTree) (fname : Nat → String) : Prop where
  oshape : shapeNT ot = o.shape
  sshape : shapeNT st = S
  onames : GivenNamesOk ot
  snames : GivenNamesOk st
  ocolours : ∀ x ∈ ot.pre, ∀ k, x.2.color = some k → NT.safeStr k = true
  scolours : ∀ x ∈ st.pre, ∀ k, x.2.color = some k → NT.safeStr k = true
  fams : ∀ a b, fname a = fname b → a = b

theorem FileOk.naming {ot st : NT} {S : RTree} {o : OTree} {fname : Nat → String}
    (h : FileOk ot st S o fname) : (labelledNaming ot st fname).Ok S o :=
  C12_label_naming_ok ot st S o fname h.oshape h.sshape h.onames h.snames h.fams

theorem FileOk.colouring {ot st : NT} {S : RTree} {o : OTree} {fname : Nat → String}
    (h : FileOk ot st S o fname) : (labelledColouring ot st).Ok S o :=
  labelledColouring_ok ot st h.oshape h.sshape h.ocolours h.scolours

/-- Label, solve (`thl`), write: the cost line on the text, hypotheses on the file only (plus the
    solver's guards). -/
theorem C12_cli_cost_line_text_thl {ot st : NT} {S : RTree} {o : OTree} {fname : Nat → String}
    (hfile : FileOk ot st S o fname) (c : Costs) (hb : S.isBinary = true)
    (hS : ∀ p ∈ leafSpecies o, S.isNode p = true) (withSyn : Bool) :
    let emb := embPlainC (labelledNaming ot st fname) (labelledColouring ot st) c S o withSyn
    let cost := fun x : RecOutput => evalPlain x.input.base x.objectSpecies
    let toD := fun x : RecOutput => x.toDict Newick.write
    let enc := fun x : RecOutput => renderDict (toD x)
    TextLineOK toD PlainDictBack c .plain o (thl c S o) ((thl c S o).map emb)
      (reconcileRun "thl" (dispatch "thl" (kindOf withSyn) "all") ((thl c S o).map emb) cost enc) ∧
    ∀ (P : Picker Unit), P.Ok → c.spe ≤ c.dup + 2 * c.floss →
      TextLineOK toD PlainDictBack c .plain o (thl c S o) ((thlAny P c S o).map emb)
        (reconcileRun "thl" (dispatch "thl" (kindOf withSyn) "any") ((thlAny P c S o).map emb)
          cost enc) :=
  C12_col_cost_line_text_thl c hfile.naming hfile.colouring hb hS withSyn

/-- Label, solve (`base_uspfs` / `superdtl`), write. -/
theorem C12_cli_cost_line_text_uspfs {ot st : NT} {S : RTree} {o : OTree} {fname : Nat → String}
    (hfile : FileOk ot st S o fname) (arr : List String → List String)
    (harr : ∀ l, (arr l).Perm l) (c : Costs) (hb : S.isBinary = true)
    (hS : ∀ p ∈ leafSpecies o, S.isNode p = true) (base : Bool) :
    let emb := embSuperC (labelledNaming ot st fname) (labelledColouring ot st) arr c S o false
    let cost := fun x : SRecOutput => evalSuper x.input.base x.objectSpecies x.syntenies x.ordered
    let toD := fun x : SRecOutput => x.toDict Newick.write
    let enc := fun x : SRecOutput => renderDict (toD x)
    let all := uspfs c S base o
    TextLineOK toD SuperDictBack c .unordered o all (all.map emb)
      (reconcileRun (uspfsName base) (dispatch (uspfsName base) .super "all") (all.map emb)
        cost enc) ∧
    ∀ (P : Picker Kind), P.Ok → (∀ f ∈ leafSyntenies o, f ≠ []) →
      c.spe + c.sloss ≤ c.dup + 2 * c.floss →
      TextLineOK toD SuperDictBack c .unordered o all ((uspfsAny P c S base o).map emb)
        (reconcileRun (uspfsName base) (dispatch (uspfsName base) .super "any")
          ((uspfsAny P c S base o).map emb) cost enc) :=
  C12_col_cost_line_text_uspfs arr harr c hfile.naming hfile.colouring hb hS base

/-- Names the Newick codec round-trips but these theorems do not cover, and names they do. -/
theorem C12_names_alphabet_gap :
    (Newick.safeName "#0000FF" = true ∧ NT.safeStr "#0000FF" = false) ∧
    (Newick.safeName "a b" = true ∧ NT.safeStr "a b" = false) ∧
    (Newick.safeName "é" = true ∧ NT.safeStr "é" = false) ∧
    (NT.safeStr "x_1" = true ∧ NT.safeStr "O0" = true ∧ NT.safeStr "0000FF" = true) ∧
    (NT.safeStr "E.coli_1" = true ∧ NT.safeStr "sp-1" = true) := by
  decide +kernel

/-- The file `((x_1,x_2)[&&NHX:color=0000FF],y_1);` with both ancestors unnamed, on
    the species tree `(x,y);` with an unnamed root. -/
def exFileO : NT :=
  .node "" none [.node "" (some "0000FF") [.node "x_1" none [], .node "x_2" none []],
                 .node "y_1" none []]
def exFileS : NT := .node "" none [.node "x" none [], .node "y" none []]
def exFileShape : OTree := .node (.node (.leaf [0] [1]) (.leaf [0] [1, 2])) (.leaf [1] [2])
def exFname (n : Nat) : String := String.ofList (List.replicate (n + 1) 'g')

theorem exFile_ok : FileOk exFileO exFileS exS exFileShape exFname where
  oshape := rfl
  sshape := rfl
  onames := ⟨by decide +kernel, by decide +kernel⟩
  snames := ⟨by decide +kernel, by decide +kernel⟩
  ocolours := by decide +kernel
  scolours := by decide +kernel
  fams := exNaming_ok.fInj

/-- What the tool writes for it (`superdtl`): the generated names `O0`, `O1` and the colour are in
    the Newick text of the object tree (what the real code writes for this file). -/
example :
    ((uspfs exCosts exS false exFileShape).map (fun s =>
      ((embSuperC (labelledNaming exFileO exFileS exFname) (labelledColouring exFileO exFileS) id
        exCosts exS exFileShape false s).toDict Newick.write).input.object_tree)).head?
      = some "((x_1,x_2)O1[&&NHX:color=0000FF],y_1)O0;" := by
  decide +kernel

example : ∃ k, ∀ x ∈ (uspfs exCosts exS false exFileShape).map
      (embSuperC (labelledNaming exFileO exFileS exFname) (labelledColouring exFileO exFileS) id
        exCosts exS exFileShape false), SuperDictBack (x.toDict Newick.write) k := by
  obtain ⟨k, _, _, _, _, h⟩ :=
    ((embSuperC_ok id (fun _ => List.Perm.refl _) exCosts exFile_ok.naming exFile_ok.colouring
      (by decide) false).cost_line_uspfs (fun x => renderDict (x.toDict Newick.write))
      (S := exS) (by decide) (by decide) false).1
  exact ⟨k, h⟩

end SR.C12
