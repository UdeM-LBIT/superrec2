/-
  C15 (and the drawing clause of C13) over LAYOUTS instead of over arbitrary call sequences.

  Model: `SRVerif/Model/TikzDraw.lean` — `drawCalls` maps a layout (the `List SubLayout` of the
  model of `layout.compute`, plus the labels, colours and species names the layout model leaves
  out) to the sequence of drawing calls of `_tikz_draw_fork` / `_tikz_draw_branches` in the order
  `render` makes them; `renderText` assembles the text over the GENERATED templates.
-/
import SRVerif.Properties.C15
import SRVerif.Proofs.TikzDrawOK
import SRVerif.Proofs.TikzDrawCount
import SRVerif.Proofs.TikzDrawFacts
import SRVerif.Properties.C14

namespace SR.C15

open SR SR.Layout SR.Tikz SR.TikzDraw

/-- **Every statement instance comes from a generated template.**  Whatever the layout, the
    orientation and the parameters: if the drawing code does not raise, every call it makes is a
    statement template of the source (`Generated.statements`) with one admissible filling per hole
    (printed coordinates, interned colours, balanced labels, brace-free lengths, the template's
    own keywords). -/
theorem C15_draw_admissible (o : Orientation) (dp : DParams) (deco : Deco) (S : RTree)
    (spOf : Path → Option Path) (all : List SubLayout) (calls : List DrawCall)
    (hok : DecoOK dp deco) (h : drawCalls o dp deco S spOf all = .ok calls) :
    ∀ c ∈ calls.map DrawCall.toCall, CallOK c := by
  intro c hc
  obtain ⟨d, hd, rfl⟩ := List.mem_map.1 hc
  exact drawCalls_callOK hok h d hd

/-- The definitions block of `renderText` is admissible when the printed parameters are. -/
theorem C15_draw_defsOK (o : Orientation) (fills : List Str)
    (hv : o = .vertical → fillsOK Generated.tmpl_defs_vertical.holes fills = true)
    (hh : o = .horizontal → fillsOK Generated.tmpl_defs_horizontal.holes fills = true) :
    DefsOK (defsText o fills) := by
  cases o
  · exact ⟨_, fills, Or.inl rfl, hv rfl, rfl⟩
  · exact ⟨_, fills, Or.inr rfl, hh rfl, rfl⟩

/-- **Balanced braces, for every layout.**  The text `tikz.render` produces from a layout (model
    `renderText`: `_tikz_draw_fork`, `_tikz_draw_branches`, the species loop and the assembly of
    `render`) has balanced braces. -/
theorem C15_draw_balanced (o : Orientation) (dp : DParams) (deco : Deco) (defsFills : List Str)
    (S : RTree) (spOf : Path → Option Path) (all : List SubLayout) (text : Str)
    (hok : DecoOK dp deco) (hd : DefsOK (defsText o defsFills))
    (h : renderText o dp deco defsFills S spOf all = .ok text) : isBalanced text = true := by
  unfold renderText at h
  cases hc : drawCalls o dp deco S spOf all with
  | error e => simp [hc] at h
  | ok calls =>
    simp only [hc, Except.ok.injEq] at h
    subst h
    exact C15_balanced _ _ hd (C15_draw_admissible o dp deco S spOf all calls hok hc)

/-- **Structure, for every layout**: the blocks `render` joins are the definitions, one
    `\definecolor` line per interned colour, `\begin{tikzpicture}`, a body of layer comments and
    statements ending in `;`, `\end{tikzpicture}`, `""`; no other block equals a delimiter; every
    colour index used in a statement is defined. -/
theorem C15_draw_structure (o : Orientation) (dp : DParams) (deco : Deco) (defs : Str)
    (S : RTree) (spOf : Path → Option Path) (all : List SubLayout) (calls : List DrawCall)
    (hok : DecoOK dp deco) (hd : DefsOK defs) (h : drawCalls o dp deco S spOf all = .ok calls) :
    let tcalls := calls.map DrawCall.toCall
    let colors := (resolveCalls [] tcalls).1
    let out := (resolveCalls [] tcalls).2
    let body := bodyBlocks Generated.layerNames Generated.colorPrefix out
    let head := [defs] ++ (enumFrom 0 colors).map (colorDefLine Generated.colorPrefix)
    renderBlocks Generated.renderSkeleton Generated.layerNames Generated.colorPrefix defs tcalls
        = head ++ [beginPicture] ++ body ++ [endPicture, []]
    ∧ (∀ b ∈ body, (∃ name ∈ Generated.layerNames, b = commentLine name) ∨ b.getLast? = some ';')
    ∧ (∀ b ∈ head ++ body, b ≠ beginPicture ∧ b ≠ endPicture)
    ∧ (∀ o ∈ out, ∀ i, RFill.color i ∈ o.fills → i < colors.length) :=
  C15_structure defs _ hd (C15_draw_admissible o dp deco S spOf all calls hok h)

/-- For a label width other than 0 the species label exists (`speciesLabel` does not return `none`, the
    `ValueError` of `textwrap`), whatever the name. -/
theorem C15_draw_label_total (w : Option Nat) (hw : w ≠ some 0) (name : Str) :
    (speciesLabel w name).isSome = true :=
  speciesLabel_isSome hw name

/-- Reading of `stmtOf` by template: the event-node statements are `\node[extant gene=` (3),
    `\node[speciation=` (8), `\node[duplication=` (10), `\node[horizontal gene transfer=` (13);
    the loss marker is `\node[loss=` (5); the arrow is `\path[transfer branch=` (12). -/
theorem C15_draw_stmtOf (c : DrawCall) (k : Key) :
    (stmtOf c = some (.event k .leaf) ↔ c.owner = some k ∧ c.stmt = 3) ∧
    (stmtOf c = some (.event k .spec) ↔ c.owner = some k ∧ c.stmt = 8) ∧
    (stmtOf c = some (.event k .dup) ↔ c.owner = some k ∧ c.stmt = 10) ∧
    (stmtOf c = some (.event k .hgt) ↔ c.owner = some k ∧ c.stmt = 13) ∧
    (stmtOf c = some (.lossMarker k) ↔ c.owner = some k ∧ c.stmt = 5) ∧
    (∀ t, stmtOf c = some (.transfer k t) ↔ c.owner = some k ∧ c.stmt = 12 ∧ c.target = some t) := by
  obtain ⟨stmt, sp, owner, fills, target⟩ := c
  cases owner with
  | none => simp [stmtOf]
  | some k' =>
    by_cases h3 : stmt = 3
    · simp [stmtOf, h3]
    by_cases h8 : stmt = 8
    · simp [stmtOf, h8]
    by_cases h10 : stmt = 10
    · simp [stmtOf, h10]
    by_cases h13 : stmt = 13
    · simp [stmtOf, h13]
    by_cases h5 : stmt = 5
    · simp [stmtOf, h5]
    by_cases h12 : stmt = 12
    · simpa [stmtOf, h12] using fun _ => and_comm
    simp [stmtOf, h3, h8, h10, h13, h5, h12]

/-- **The marks of every branch, and nothing else.**  If the drawing code does not raise on the layout,
    then — `kinds calls` being the statement kinds of the calls in the order they are made, `marks`
    dropping the plain `\path[branch=…]` statements — what remains is, species by species in
    pre-order and branch by branch in the layout's order, exactly: the event node of each branch
    that is not a loss (of its own kind), the loss marker of each `FULL_LOSS` branch, and for each
    transfer branch the arrow to its `right` child followed by its event node.  In particular the
    numbers of event nodes, loss markers and arrows are the numbers of such branches. -/
theorem C15_draw_counts (o : Orientation) (dp : DParams) (deco : Deco) (S : RTree)
    (spOf : Path → Option Path) (all : List SubLayout) (calls : List DrawCall)
    (h : drawCalls o dp deco S spOf all = .ok calls) :
    marks (kinds calls) = S.preorder.flatMap (fun s => (branchesAt all s).flatMap expected) ∧
    (kinds calls).countP isEvent = nEvents (S.preorder.flatMap (branchesAt all)) ∧
    (kinds calls).countP isLossMarker = nLosses (S.preorder.flatMap (branchesAt all)) ∧
    (kinds calls).countP isTransfer = nTransfers (S.preorder.flatMap (branchesAt all)) :=
  drawSpeciesList_census h

/-- The same for a layout computed by `layout.compute` (model `Layout.compute`): the branches
    walked are all the branches of the layout, in its own order. -/
theorem C15_draw_counts_compute (o : Orientation) (P : Params) (sizes : Key → Size) (dp : DParams)
    (deco : Deco) (S : RTree) (sol : Sol) (all : List SubLayout) (calls : List DrawCall)
    (hc : compute o P sizes S sol = .ok all)
    (h : drawCalls o dp deco S (spOfSol sol) all = .ok calls) :
    marks (kinds calls) = all.flatMap (fun lay => lay.branches.flatMap expected) ∧
    (kinds calls).countP isEvent = nEvents (all.flatMap (·.branches)) ∧
    (kinds calls).countP isLossMarker = nLosses (all.flatMap (·.branches)) ∧
    (kinds calls).countP isTransfer = nTransfers (all.flatMap (·.branches)) := by
  have hsp := SR.C14.C14_species o P sizes S sol all hc
  obtain ⟨h1, h2, h3, h4⟩ := C15_draw_counts o dp deco S (spOfSol sol) all calls h
  rw [flatMap_branchesAt hsp] at h2 h3 h4
  refine ⟨?_, h2, h3, h4⟩
  rw [h1, ← List.flatMap_assoc, flatMap_branchesAt hsp, List.flatMap_assoc]

/-- **Every call is either the fork statement of a species or belongs to a branch of the layout**,
    and in the latter case (`BranchCall`) it is drawn in that branch's colour, is one of the
    statements of the branch's kind, shows that branch's label if it is the event node
    (`\phantom{-}` for an unlabelled transfer), and — for a transfer arrow — ends at the anchor of the transferred child `right`,
    looked up in the layout of the species that child is mapped to. -/
theorem C15_draw_faithful (o : Orientation) (dp : DParams) (deco : Deco) (S : RTree)
    (spOf : Path → Option Path) (all : List SubLayout) (calls : List DrawCall)
    (h : drawCalls o dp deco S spOf all = .ok calls) :
    ∀ c ∈ calls,
      (c.owner = none ∧ (c.stmt = 0 ∨ c.stmt = 1) ∧ c.sp ∈ S.preorder) ∨
      (∃ lay b, slLookup all c.sp = some lay ∧ c.sp ∈ S.preorder ∧ b ∈ lay.branches ∧
        BranchCall deco all spOf lay b c) := by
  intro c hc
  cases origin_of_mem h c hc with
  | leafFork lay hs hl hf =>
    obtain ⟨h1, h2, h3⟩ := forkLeaf_owner hf
    exact Or.inl ⟨h1, Or.inr h2, by rw [h3]; exact hs⟩
  | innerFork lay l r hs hl h0 h1 hc' =>
    subst hc'
    exact Or.inl ⟨rfl, Or.inl rfl, hs⟩
  | branch lay ll rl b cs hs hl hb hd hc' =>
    have bc := drawBranch_branchCall hd c hc'
    exact Or.inr ⟨lay, b, by rw [bc.sp]; exact hl, by rw [bc.sp]; exact hs, hb, bc⟩

/-- **Bridge to C13.**  For a binary species tree and a label width other than 0, the statement
    kinds of the drawing calls on the layout computed by `layout.compute` are exactly what the
    statement-kind model `Layout.render` (the model `C13_tikz_statement` speaks about) emits:
    same statements, same order, and the same exception when a dictionary look-up fails. -/
theorem C15_draw_kinds (o : Orientation) (P : Params) (sizes : Key → Size) (dp : DParams)
    (deco : Deco) (S : RTree) (sol : Sol) (hb : S.isBinary = true)
    (hw : dp.labelWidth ≠ some 0) :
    Layout.render o P sizes S sol =
      match compute o P sizes S sol with
      | .error e => .error e
      | .ok all => mapE kinds (drawCalls o dp deco S (spOfSol sol) all) := by
  unfold Layout.render
  cases hc : compute o P sizes S sol with
  | error e => rfl
  | ok all =>
    simp only
    exact (drawCalls_stmts o dp deco S sol all hb (SR.C14.C14_species o P sizes S sol all hc)
      (fun s => speciesLabel_isSome hw _)).symm

/-- When the statement-kind model succeeds, so do `layout.compute` and the drawing code, and its
    statements are the kinds of the drawing calls. -/
theorem C15_draw_of_render (o : Orientation) (P : Params) (sizes : Key → Size) (dp : DParams)
    (deco : Deco) (S : RTree) (sol : Sol) (hb : S.isBinary = true) (hw : dp.labelWidth ≠ some 0)
    {ss : List Stmt} (hr : Layout.render o P sizes S sol = .ok ss) :
    ∃ all calls, compute o P sizes S sol = .ok all ∧
      drawCalls o dp deco S (spOfSol sol) all = .ok calls ∧ ss = kinds calls := by
  rw [C15_draw_kinds o P sizes dp deco S sol hb hw] at hr
  cases hc : compute o P sizes S sol with
  | error e => simp [hc] at hr
  | ok all =>
    simp only [hc] at hr
    cases hd : drawCalls o dp deco S (spOfSol sol) all with
    | error e => simp [hd] at hr
    | ok calls =>
      simp only [hd, mapE_ok, Except.ok.injEq] at hr
      exact ⟨all, calls, rfl, hd, hr.symm⟩

/-! ## Non-vacuity: a species tree `((A,B),C)` drawn with a speciation, a loss, a transfer -/

namespace Example

def S : RTree := .node [.node [.node [], .node []], .node []]

/-- object tree `((a_A, c_C), d_C)`: the root is a speciation of the root species, its left child
    a transfer from `A` (species `00`) into `C` (species `1`), leaving a loss in species `0`. -/
def sol : Sol := .node [] [] (.node [0, 0] [] (.leaf [0, 0] []) (.leaf [1] [])) (.leaf [1] [])

def P : Params := { pad := 4, gsp := 5, overhead := 10, minsp := 12, level := 4 }
def dp : DParams := { leafSpacing := 1, geneDiameter := 3, rounding := "4pt".toList,
                      labelWidth := some 21 }
def deco : Deco :=
  { name := fun _ k => match k with | .gene [0, 0] => "a\\_A".toList | _ => [],
    color := fun _ k => match k with | .gene (0 :: _) => "ff0000".toList | _ => "000000".toList,
    spName := fun s => match s with | [0, 0] => "Homo sapiens".toList | _ => "x_1".toList }

def all : List SubLayout :=
  match compute .vertical P (fun _ => ⟨8, 8⟩) S sol with
  | .ok l => l
  | .error _ => []

def calls : List DrawCall :=
  match drawCalls .vertical dp deco S (spOfSol sol) all with
  | .ok l => l
  | .error _ => []

end Example

open Example in
/-- the layout has 5 species; drawing it makes 5 fork calls and 16 branch calls, among them
    5 event nodes (3 extant genes, the speciation, the transfer), 1 loss marker and 1 arrow -/
example :
    all.length = 5 ∧
    drawCalls .vertical dp deco S (spOfSol sol) all = .ok calls ∧
    calls.length = 21 ∧
    (kinds calls).countP isEvent = 5 ∧ (kinds calls).countP isLossMarker = 1 ∧
    (kinds calls).countP isTransfer = 1 := by decide +kernel

def exDefsFills : List Str :=
  ["1pt".toList, "1pt".toList, "1pt".toList, "10".toList, "0.5pt".toList, "0.5pt".toList,
   "3".toList, "3".toList, "3".toList, "0.5pt".toList, "8".toList, "8".toList, "8".toList,
   "8".toList, "8".toList, "8".toList, "8".toList]

theorem exDefs_ok : DefsOK (defsText .vertical exDefsFills) :=
  C15_draw_defsOK .vertical exDefsFills (fun _ => by decide +kernel) (fun h => by cases h)

theorem Example.decoOK : DecoOK Example.dp Example.deco :=
  ⟨by intro s k; simp only [Example.deco]; split <;> decide +kernel,
   by intro s k; simp only [Example.deco]; split <;> decide +kernel,
   by intro s; simp only [Example.deco]; split <;> decide +kernel,
   by decide +kernel⟩

/-- The text of the example is produced and is more than 2000 characters long (the one evaluation
    of the whole text). -/
theorem Example.text_long :
    (match renderText .vertical Example.dp Example.deco exDefsFills Example.S
        (spOfSol Example.sol) Example.all with
      | .ok text => decide (2000 < text.length)
      | .error _ => false) = true := by decide +kernel

/-- the hypotheses of `C15_draw_kinds` and of `C15_draw_balanced` hold on the example, the text is
    produced, and it has balanced braces -/
example : Example.S.isBinary = true ∧ Example.dp.labelWidth ≠ some 0 ∧
    (match renderText .vertical Example.dp Example.deco
        ["1pt".toList, "1pt".toList, "1pt".toList, "10".toList, "0.5pt".toList, "0.5pt".toList,
         "3".toList, "3".toList, "3".toList, "0.5pt".toList, "8".toList, "8".toList, "8".toList,
         "8".toList, "8".toList, "8".toList, "8".toList]
        Example.S (spOfSol Example.sol) Example.all with
      | .ok text => isBalanced text && decide (2000 < text.length)
      | .error _ => false) = true := by
  refine ⟨by decide, by decide, ?_⟩
  have hl := Example.text_long
  unfold exDefsFills at hl
  split
  · rename_i text hr
    rw [hr] at hl
    exact Bool.and_eq_true_iff.2
      ⟨C15_draw_balanced _ _ _ _ _ _ _ _ Example.decoOK exDefs_ok hr, hl⟩
  · rename_i e hr
    rw [hr] at hl
    exact hl

/-- the example is a valid reconciliation (hypotheses of `C15_draw_valid_all`), and the look-ups do
    succeed on it -/
example :
    Spec.validRec (.node (.node (.leaf [0, 0] []) (.leaf [1] [])) (.leaf [1] [])) Example.sol = true ∧
    SR.C13.inTree Example.S Example.sol = true ∧
    (match Layout.render .vertical Example.P (fun _ => ⟨8, 8⟩) Example.S Example.sol with
      | .ok ss => ss.length | .error _ => 0) = 16 := by decide +kernel

example : DecoOK Example.dp Example.deco := Example.decoOK

example : fmtCoord (-(3 : Rat) / 32) = "-0.0938".toList ∧ fmtCoord (1 / 32) = "0.0312".toList ∧
    fmtCoord 12 = "12.0".toList ∧ fmtCoord (-1 / 65536) = "0.0".toList := by decide +kernel

end SR.C15
