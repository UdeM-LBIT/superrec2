/-
  C10, clause "the general DTL optimum never exceeds the LCA reconciliation cost,
  with equality when transfers are forbidden" — corollaries of C01 (`thl` returns
  exactly the optimal valid reconciliations) and C07 (the LCA reconciliation is
  valid, and optimal / unique when `hgt = ∞`).

  Guards (those of C01): `S` binary, leaf species are nodes of `S`, and
  `spe ≤ dup + 2·floss` (implied by the coherent region
  `spe + 2·sloss ≤ dup + 2·floss` of the property; `C10_thl_le_lca_coherent`).
  The unguarded `C10_statement` of `C10.lean` is FALSE (`C10_statement_false`:
  the ternary star of `C01_thl_wf_needed`); `C10All.lean` has the guarded statement.
-/
import SRVerif.Properties.C01Thl
import SRVerif.Properties.C07
import SRVerif.Properties.C10

namespace SR.C10

open SR Cost

variable (c : Costs) (S : RTree) (o : OTree)

/-- On a well-formed input, for `spe ≤ dup + 2·floss`, every solution
    returned by `reconcile_thl` costs (under the evaluator) at most the LCA
    reconciliation. -/
theorem C10_thl_le_lca (hb : S.isBinary = true) (hS : ∀ p ∈ leafSpecies o, S.isNode p = true)
    (hcoh : c.spe ≤ c.dup + 2 * c.floss) :
    ∀ a ∈ thl c S o, Cost.le (totalCost c .plain o a) (recCost c o (lcaSol o)) = true := by
  intro a ha
  have h := (C01.C01_thl c S o hb hS hcoh a ha).2 (lcaSol o) (lcaSol_validRec o)
    (lcaSol_mem_allMappings S o hS)
  rwa [totalCost_plain c o (lcaSol o)] at h

/-- The same inside the property's coherent region `spe + 2·sloss ≤ dup + 2·floss`
    (the fourth conjunct of `C10_statement`, with the well-formedness guards). -/
theorem C10_thl_le_lca_coherent (hb : S.isBinary = true)
    (hS : ∀ p ∈ leafSpecies o, S.isNode p = true)
    (hcoh : c.spe + 2 * c.sloss ≤ c.dup + 2 * c.floss) :
    ∀ a ∈ thl c S o, Cost.le (totalCost c .plain o a) (recCost c o (lcaSol o)) = true :=
  C10_thl_le_lca c S o hb hS (by omega)

/-- Equality when transfers are forbidden: with `hgt = ∞` every solution returned
    by `thl` costs exactly the LCA reconciliation cost (and `thl` returns something:
    `C01_thl_total`). -/
theorem C10_thl_eq_lca_inf (hb : S.isBinary = true) (hS : ∀ p ∈ leafSpecies o, S.isNode p = true)
    (hcoh : c.spe ≤ c.dup + 2 * c.floss) (hh : c.hgt = .inf) :
    thl c S o ≠ [] ∧
    ∀ a ∈ thl c S o, totalCost c .plain o a = recCost c o (lcaSol o) := by
  refine ⟨C01.C01_thl_total c S o hb hS, fun a ha => ?_⟩
  apply Cost.le_antisymm (C10_thl_le_lca c S o hb hS hcoh a ha)
  rw [totalCost_plain]
  exact C07.C07_opt c hh hcoh o a (C01.C01_thl c S o hb hS hcoh a ha).1

/-- With `hgt = ∞` and a positive loss cost, `thl` returns exactly the LCA
    reconciliation (C07 uniqueness + C01 completeness). -/
theorem C10_thl_eq_lca_inf_unique (hb : S.isBinary = true)
    (hS : ∀ p ∈ leafSpecies o, S.isNode p = true)
    (hcoh : c.spe ≤ c.dup + 2 * c.floss) (hh : c.hgt = .inf) (hf : 0 < c.floss) :
    thl c S o = [lcaSol o] := by
  obtain ⟨hne, heq⟩ := C10_thl_eq_lca_inf c S o hb hS hcoh hh
  refine List.eq_singleton_of_nodup hne (C01.C01_thl_all c S o hb hS hcoh).2 (fun a ha => ?_)
  obtain ⟨_, hm, _⟩ := C01.C01_thl_finite c S o a ha
  have hv := (C01.C01_thl c S o hb hS hcoh a ha).1
  have he := heq a ha
  rw [totalCost_plain] at he
  exact C07.C07_unique_plain c hh hcoh hf o a hv (famsMatch_of_mem_allMappings S o a hm) he

/-- `C10_statement` as written in `C10.lean` (no well-formedness guard) is false:
    over the ternary star (not a binary species tree) `thl` returns cost 3 while the
    LCA reconciliation costs 2, inside the coherent region. -/
theorem C10_statement_false : ¬ C10_statement := by
  intro h
  have h4 := (h { spe := 0, dup := 0, hgt := .fin 3, floss := 2, sloss := 1 }
    (.node [.node [], .node [], .node []])
    (.node (.node (.leaf [0] []) (.leaf [2] [])) (.leaf [1] [])) (by decide)).2.2.2
  revert h4
  decide +kernel

/-- Finite transfer cost: `thl` is strictly cheaper than LCA on a well-formed coherent input. -/
example :
    let c : Costs := { spe := 0, dup := 5, hgt := .fin 1, floss := 5, sloss := 1 }
    let S : RTree := .node [.node [.node [], .node []], .node []]
    let o : OTree := .node (.node (.leaf [0, 0] []) (.leaf [1] [])) (.leaf [0, 1] [])
    S.isBinary = true ∧ (∀ p ∈ leafSpecies o, S.isNode p = true) ∧
    c.spe + 2 * c.sloss ≤ c.dup + 2 * c.floss ∧
    (thl c S o).map (totalCost c .plain o) = [.fin 1] ∧
    recCost c o (lcaSol o) = .fin 20 := by
  decide +kernel

/-- Infinite transfer cost, positive loss cost: `thl` returns exactly the LCA reconciliation. -/
example :
    let c : Costs := { spe := 0, dup := 2, hgt := .inf, floss := 3, sloss := 1 }
    let S : RTree := .node [.node [.node [], .node []], .node []]
    let o : OTree := .node (.node (.leaf [0, 0] []) (.leaf [1] [])) (.leaf [0, 1] [])
    S.isBinary = true ∧ (∀ p ∈ leafSpecies o, S.isNode p = true) ∧
    c.spe ≤ c.dup + 2 * c.floss ∧ c.hgt = .inf ∧ 0 < c.floss ∧
    thl c S o = [lcaSol o] ∧ recCost c o (lcaSol o) = .fin 11 := by
  decide +kernel

end SR.C10
