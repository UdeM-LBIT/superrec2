/-
  C18 — Subsequence masks and segment distances are exact.

  Model: `SRVerif/Model/Subseq.lean` (`maskFromSubseq`, `subseqFromMask`,
  `subseqComplete`, `subseqSegmentDist` = the four functions of
  `superrec2/utils/subsequences.py`, masks as `Nat`, `IndexError` as `none`).
  Specification: `SRVerif/Spec/Subseq.lean` (`Contained` by `Nat.testBit`,
  `keptPattern` = the child's bits at the positions of the parent's set bits,
  `lostRuns edges` = number of maximal runs of lost positions, the runs
  touching either end being dropped when `edges = false`).

  All statements are for arbitrary masks / sequences (no size bound).
-/
import SRVerif.Proofs.SubseqSeq
import SRVerif.Proofs.SubseqRuns

namespace SR.C18

open SR.SubseqSpec SR.SubseqProofs

variable {α : Type} [DecidableEq α]

/-- Subsequence → mask → subsequence is the identity.  (Holds for every
    subsequence of every parent; distinctness of the parent's elements is not
    even needed in this direction because the matching is greedy.) -/
theorem C18_roundtrip_seq (child parent : List α) (h : child.Sublist parent) :
    subseqFromMask (maskFromSubseq child parent) parent = some child :=
  roundtrip_seq parent child h

example : subseqFromMask (maskFromSubseq [2, 3, 6] [1, 2, 3, 4, 5, 6]) [1, 2, 3, 4, 5, 6]
    = some [2, 3, 6] := C18_roundtrip_seq _ _ (by decide)

/-- Mask → subsequence → mask is the identity: every mask that fits the
    parent (elements distinct) decodes, without error, to a subsequence of the
    parent whose mask is the original one. -/
theorem C18_roundtrip_mask (mask : Nat) (parent : List α) (hnd : parent.Nodup)
    (h : mask < 2 ^ parent.length) :
    ∃ child, subseqFromMask mask parent = some child ∧ child.Sublist parent ∧
      maskFromSubseq child parent = mask :=
  roundtrip_mask parent hnd mask h

example : ∃ child, subseqFromMask 0b100110 [1, 2, 3, 4, 5, 6] = some child ∧
    child.Sublist [1, 2, 3, 4, 5, 6] ∧ maskFromSubseq child [1, 2, 3, 4, 5, 6] = 0b100110 :=
  C18_roundtrip_mask _ _ (by decide) (by decide)

/-- Distinctness is necessary for `C18_roundtrip_mask`: with a repeated element the greedy matching
    gives `[7]` the mask `0b01` also when the second `7` (mask `0b10`) was meant. -/
example : maskFromSubseq [7] [7, 7] = 1 := by decide +kernel

omit [DecidableEq α] in
/-- `subseq_from_mask` fails (Python: `IndexError`) exactly on the masks that
    have a set bit beyond the parent. -/
theorem C18_from_mask_defined (mask : Nat) (parent : List α) :
    (subseqFromMask mask parent).isSome = true ↔ mask < 2 ^ parent.length := by
  induction parent generalizing mask with
  | nil =>
    rw [subseqFromMask_nil]
    by_cases h : mask = 0 <;> simp [h]
  | cons p ps ih =>
    rw [subseqFromMask_cons, Option.isSome_map, ih, List.length_cons, Nat.pow_succ]
    omega

example : (subseqFromMask 4 [1, 2]).isSome = false := by
  have := C18_from_mask_defined 4 [1, 2]
  cases h : (subseqFromMask 4 [1, 2]).isSome
  · rfl
  · exact absurd (this.1 h) (by decide)

/-- Masks fit the parent: they are below `2 ^ |parent|`, i.e. at most the
    complete mask. -/
theorem C18_mask_lt (child parent : List α) :
    maskFromSubseq child parent < 2 ^ parent.length ∧
    maskFromSubseq child parent ≤ subseqComplete parent := by
  have := mask_lt parent child
  refine ⟨this, ?_⟩
  unfold subseqComplete
  omega

example : maskFromSubseq [2, 3] [1, 2, 3] = 6 ∧ subseqComplete [1, 2, 3] = 7 := by decide +kernel

/-- `subseq_complete` is the mask of the whole sequence. -/
theorem C18_complete (parent : List α) :
    maskFromSubseq parent parent = subseqComplete parent :=
  mask_self parent

example : maskFromSubseq [1, 2, 3] [1, 2, 3] = 7 ∧ subseqComplete [1, 2, 3] = 7 := by decide +kernel

/-- The bits of a mask (parent elements distinct): bit `i` is set exactly when
    the `i`-th parent element belongs to the subsequence. -/
theorem C18_mask_bits (child parent : List α) (hnd : parent.Nodup) (h : child.Sublist parent)
    (i : Nat) :
    (maskFromSubseq child parent).testBit i = true ↔ ∃ x, parent[i]? = some x ∧ x ∈ child :=
  mask_testBit parent hnd child h i

example : (maskFromSubseq [2, 3] [1, 2, 3]).testBit 1 = true :=
  (C18_mask_bits [2, 3] [1, 2, 3] (by decide) (by decide) 1).2 ⟨2, by decide, by decide⟩

/-- The specification's containment is the usual bit formula. -/
theorem C18_contained_iff_land (child parent : Nat) :
    Contained child parent ↔ child &&& parent = child := by
  constructor
  · intro h
    apply Nat.eq_of_testBit_eq
    intro i
    rw [Nat.testBit_and]
    cases hc : child.testBit i
    · rfl
    · simp [h i hc]
  · intro h i hi
    rw [← h, Nat.testBit_and] at hi
    simp only [Bool.and_eq_true] at hi
    exact hi.2

example : Contained 0b0100_0010 0b1100_0010 := (C18_contained_iff_land _ _).2 (by decide)
example : ¬ Contained 0b111 0b110 := fun h => absurd ((C18_contained_iff_land _ _).1 h) (by decide)

/-- For a non-empty child mask the distance is `-1` exactly when the child is
    not contained in the parent. -/
theorem C18_dist_neg (child parent : Nat) (edges : Bool) (hc : child ≠ 0) :
    subseqSegmentDist child parent edges = -1 ↔ ¬ Contained child parent := by
  rw [subseqSegmentDist_total]
  by_cases h : Contained child parent <;> simp [h, hc]

example : subseqSegmentDist 0b111 0b110 true = -1 :=
  (C18_dist_neg _ _ _ (by decide)).2
    (fun h => absurd ((C18_contained_iff_land _ _).1 h) (by decide))

/-- For a non-empty child mask contained in the parent the distance is the
    number of maximal runs of parent positions missing from the child; runs
    touching either end are ignored when `edges = false`. -/
theorem C18_dist_runs (child parent : Nat) (edges : Bool) (hc : child ≠ 0)
    (h : Contained child parent) :
    subseqSegmentDist child parent edges = (lostRuns edges (keptPattern child parent) : Nat) := by
  rw [subseqSegmentDist_total, if_pos ⟨h, .inl hc⟩]

example : subseqSegmentDist 0b1100_0010 0b1110_0011 true
    = (lostRuns true (keptPattern 0b1100_0010 0b1110_0011) : Nat) :=
  C18_dist_runs _ _ _ (by decide) ((C18_contained_iff_land _ _).2 (by decide))

/-- A pattern with an inner and an outer lost run: 2 runs with the ends,
    1 without (the specification itself is not trivial). -/
example : lostRuns true [false, true, false, true] = 2
    ∧ lostRuns false [false, true, false, true] = 1
    ∧ lostRuns false [false, true, false] = 0
    ∧ lostRuns true [false, false, true, false, false, true, true, false] = 3 := by decide +kernel

/-- The specification's run count is the literal one: the number of maximal
    constant groups of lost positions (`List.splitBy`), taken after stripping
    the lost positions at both ends when the ends are excluded. -/
theorem C18_runs_groups (edges : Bool) (l : List Bool) :
    lostRuns edges l = lostGroups (if edges then l else trimLost l) := by
  cases edges
  · rw [lostRuns_false_eq_trim, lostRuns_eq_cnt, lostGroups_eq]; rfl
  · rw [lostRuns_eq_cnt, lostGroups_eq]; rfl

example : trimLost [false, false, true, false, true, false] = [true, false, true]
    ∧ lostGroups [false, false, true, false, true, false] = 3
    ∧ lostGroups (trimLost [false, false, true, false, true, false]) = 1 := by decide +kernel

/-- Both clauses at once, against the executable specification. -/
theorem C18_dist (child parent : Nat) (edges : Bool) (hc : child ≠ 0) :
    subseqSegmentDist child parent edges = SubseqSpec.segmentDist child parent edges := by
  rw [subseqSegmentDist_total, SubseqSpec.segmentDist]
  by_cases h : Contained child parent
  · rw [if_pos ⟨h, .inl hc⟩, if_pos ((containedB_iff _ _).2 h)]
  · rw [if_neg (fun h' => h h'.1), if_neg (fun hb => h ((containedB_iff _ _).1 hb))]

/-- The specification evaluates to the values of the upstream unit tests
    (`tests/utils/test_subsequences.py`), hence so does the model. -/
example : subseqSegmentDist 0b1100_0010 0b1110_0011 true = 2
    ∧ subseqSegmentDist 0b1100_0010 0b1110_0011 false = 1
    ∧ subseqSegmentDist 0b0100_0010 0b1100_0010 false = 0
    ∧ subseqSegmentDist 0b1010_1010 0b0101_0101 true = -1 := by
  refine ⟨?_, ?_, ?_, ?_⟩ <;> rw [C18_dist _ _ _ (by decide)] <;> decide

example : keptPattern 0b1100_0010 0b1110_0011 = [false, true, false, true, true] := by decide +kernel

/-- The empty child mask (outside the property's scope): with the ends excluded the code answers
    `-1` for every parent — although the empty mask is contained in every parent —, with the ends
    included it answers the number of runs (`0` for the empty parent, else `1`). -/
theorem C18_dist_zero (parent : Nat) :
    subseqSegmentDist 0 parent false = -1 ∧
    subseqSegmentDist 0 parent true = (if parent = 0 then 0 else 1) ∧
    Contained 0 parent := by
  have hc : Contained 0 parent := by intro i hi; simp at hi
  refine ⟨by simp [subseqSegmentDist_total], ?_, hc⟩
  rw [subseqSegmentDist_eq, if_pos hc]
  have h0 := keptPattern_zero_eq_nil_iff parent
  by_cases hp : parent = 0
  · subst hp
    simp [walkResult, h0.2 rfl]
  · simp [walkResult, walk_all_lost _ (not_mem_keptPattern_zero parent), mt h0.1 hp, hp]

example : subseqSegmentDist 0 0b1011 false = -1 ∧ subseqSegmentDist 0 0b1011 true = 1
    ∧ subseqSegmentDist 0 0 true = 0 :=
  ⟨(C18_dist_zero _).1, (C18_dist_zero _).2.1, (C18_dist_zero _).2.1⟩

/-- For `child <+ parent <+ root` with a duplicate-free root order and a
    non-empty child, the segment distance between the masks taken with respect
    to `root` is the number of maximal runs of consecutive parent elements
    absent from the child (end runs dropped when `edges = false`). -/
theorem C18_bridge (child parent root : List α) (edges : Bool) (hnd : root.Nodup)
    (hcp : child.Sublist parent) (hpr : parent.Sublist root) (hne : child ≠ []) :
    subseqSegmentDist (maskFromSubseq child root) (maskFromSubseq parent root) edges
      = (lostRunsSeq edges child parent : Nat) :=
  subseqSegmentDist_masks edges hnd hcp hpr (.inl hne)

example : subseqSegmentDist (maskFromSubseq [2, 6] [1, 2, 3, 4, 5, 6, 7])
      (maskFromSubseq [2, 3, 5, 6, 7] [1, 2, 3, 4, 5, 6, 7]) false
    = (lostRunsSeq false [2, 6] [2, 3, 5, 6, 7] : Nat) :=
  C18_bridge _ _ _ _ (by decide +kernel) (by decide +kernel) (by decide +kernel) (by decide +kernel)

example : lostRunsSeq false [2, 6] [2, 3, 5, 6, 7] = 1
    ∧ lostRunsSeq true [2, 6] [2, 3, 5, 6, 7] = 2 := by decide +kernel

end SR.C18
