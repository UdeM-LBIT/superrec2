/-
  C10 — The algorithms agree with each other where their models coincide.
  `C10_statement` is the property as written, without guards; it is false
  (`C10_statement_false`, `C10Thm.lean`), and `C10All.lean` states the guarded form.
  `C10_rank_mono`, `C10_rank_le_candidate`: what `rankByCost` gives for comparing optima.
-/
import SRVerif.Proofs.Cost

namespace SR.C10

open SR

/-- The four inequalities of the property, on the same input and without guards: extended ≤ base
    (ordered, unordered), unordered ≤ ordered, thl ≤ lca.  The equality clauses (transfers
    forbidden, single family) are stated where they are proved (`C10Thm.lean`, `C10Single.lean`,
    `C10SingleUn.lean`). -/
def C10_statement : Prop :=
  ∀ (c : Costs) (S : RTree) (o : OTree), c.spe + 2 * c.sloss ≤ c.dup + 2 * c.floss →
    (∀ a ∈ spfs c S false o none, ∀ b ∈ spfs c S true o none,
        Cost.le (totalCost c .ordered o a) (totalCost c .ordered o b) = true) ∧
    (∀ a ∈ uspfs c S false o, ∀ b ∈ uspfs c S true o,
        Cost.le (totalCost c .unordered o a) (totalCost c .unordered o b) = true) ∧
    (∀ a ∈ uspfs c S false o, ∀ b ∈ spfs c S false o none,
        Cost.le (totalCost c .unordered o a) (totalCost c .ordered o b) = true) ∧
    (∀ a ∈ thl c S o, Cost.le (totalCost c .plain o a) (recCost c o (lcaSol o)) = true)

/-- Enlarging the candidate set of a result entry can only lower the cost of what it keeps.
    (This is NOT how "extended ≤ base" is proved: what the base table decodes to is not a subset
    of what the extended table decodes to, see `C10Ext.lean`.) -/
theorem C10_rank_mono (c : Costs) (mode : LabelMode) (o : OTree) (small big : List Sol)
    (hsub : ∀ s ∈ small, s ∈ big) (a b : Sol)
    (ha : a ∈ rankByCost c mode o big) (hb : b ∈ rankByCost c mode o small) :
    Cost.le (totalCost c mode o a) (totalCost c mode o b) = true := by
  rw [mem_rankByCost] at ha hb
  exact ha.2 b (hsub b hb.1)

/-- Whatever is valid and offered to the result entry bounds the result from
    above — e.g. the LCA reconciliation bounds `thl` once it is among the
    decoded candidates. -/
theorem C10_rank_le_candidate (c : Costs) (mode : LabelMode) (o : OTree) (cands : List Sol)
    (a x : Sol) (ha : a ∈ rankByCost c mode o cands) (hx : x ∈ cands) :
    Cost.le (totalCost c mode o a) (totalCost c mode o x) = true :=
  ((mem_rankByCost c mode o cands a).mp ha).2 x hx

example : rankByCost { spe := 0, dup := 1, hgt := .fin 1, floss := 1, sloss := 1 } .plain
    (.leaf [] []) [.leaf [] []] = [.leaf [] []] := by decide

end SR.C10
