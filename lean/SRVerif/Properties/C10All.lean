/-
  C10 — summary.  `C10_statement` of `C10.lean` has no well-formedness guard and is false
  (`C10_statement_false`, `C10Thm.lean`).  `C10_guarded_statement` is the same statement
  with the guards under which the solvers are specified (binary species tree containing
  the leaf species, non-empty leaf syntenies, coherent costs).
  `C10_partial` has the three conjuncts that follow from the solvers' own optimality; the
  remaining one, unordered ≤ ordered (the third of the four), needs the SuperDTL theorem (the
  set labelling induced by an ordered optimum is in general not canonical) and is proved in
  `C10UnOrd.lean`, which gives `C10_guarded` there.  On single-family inputs it holds with equality
  (`C10_unordered_eq_ordered_single`).
  The remaining clauses of the property are `C10_thl_eq_lca_inf`,
  `C10_thl_eq_lca_inf_unique` (`C10Thm.lean`) and `C10_single_family` (`C10SingleUn.lean`).
  The example at the end shows a guarded input on which all four inequalities
  are strict; that the compared solution sets are non-empty is in `C10Total.lean`.
-/
import SRVerif.Properties.C10Thm
import SRVerif.Properties.C10Ext
import SRVerif.Properties.C10SingleUn

namespace SR.C10

open SR Cost

/-- `C10_statement` with the guards it needs. -/
def C10_guarded_statement : Prop :=
  ∀ (c : Costs) (S : RTree) (o : OTree), S.isBinary = true →
    (∀ p ∈ leafSpecies o, S.isNode p = true) → (∀ f ∈ leafSyntenies o, f ≠ []) →
    c.spe + 2 * c.sloss ≤ c.dup + 2 * c.floss →
    (∀ a ∈ spfs c S false o none, ∀ b ∈ spfs c S true o none,
        Cost.le (totalCost c .ordered o a) (totalCost c .ordered o b) = true) ∧
    (∀ a ∈ uspfs c S false o, ∀ b ∈ uspfs c S true o,
        Cost.le (totalCost c .unordered o a) (totalCost c .unordered o b) = true) ∧
    (∀ a ∈ uspfs c S false o, ∀ b ∈ spfs c S false o none,
        Cost.le (totalCost c .unordered o a) (totalCost c .ordered o b) = true) ∧
    (∀ a ∈ thl c S o, Cost.le (totalCost c .plain o a) (recCost c o (lcaSol o)) = true)

/-- The third conjunct of `C10_guarded_statement` (proved in `C10UnOrd.lean`). -/
def C10_unordered_le_ordered_statement : Prop :=
  ∀ (c : Costs) (S : RTree) (o : OTree), S.isBinary = true →
    (∀ p ∈ leafSpecies o, S.isNode p = true) → (∀ f ∈ leafSyntenies o, f ≠ []) →
    c.spe + 2 * c.sloss ≤ c.dup + 2 * c.floss →
    ∀ a ∈ uspfs c S false o, ∀ b ∈ spfs c S false o none,
      Cost.le (totalCost c .unordered o a) (totalCost c .ordered o b) = true

/-- The conjuncts of `C10_guarded_statement` except unordered ≤ ordered. -/
theorem C10_partial (c : Costs) (S : RTree) (o : OTree) (hb : S.isBinary = true)
    (hS : ∀ p ∈ leafSpecies o, S.isNode p = true) (hne : ∀ f ∈ leafSyntenies o, f ≠ [])
    (hcoh : c.spe + 2 * c.sloss ≤ c.dup + 2 * c.floss) :
    (∀ a ∈ spfs c S false o none, ∀ b ∈ spfs c S true o none,
        Cost.le (totalCost c .ordered o a) (totalCost c .ordered o b) = true) ∧
    (∀ a ∈ uspfs c S false o, ∀ b ∈ uspfs c S true o,
        Cost.le (totalCost c .unordered o a) (totalCost c .unordered o b) = true) ∧
    (∀ a ∈ thl c S o, Cost.le (totalCost c .plain o a) (recCost c o (lcaSol o)) = true) :=
  ⟨C10_ext_le_base_ordered_none c S o hne hb hS hcoh,
   C10_ext_le_base_unordered_coherent c S o hb hS hcoh,
   C10_thl_le_lca_coherent c S o hb hS hcoh⟩

theorem C10_guarded_of_unordered_le_ordered (h : C10_unordered_le_ordered_statement) :
    C10_guarded_statement := by
  intro c S o hb hS hne hcoh
  obtain ⟨h1, h2, h4⟩ := C10_partial c S o hb hS hne hcoh
  exact ⟨h1, h2, h c S o hb hS hne hcoh, h4⟩

/-- On single-family inputs the third conjunct (unordered ≤ ordered) holds with equality. -/
theorem C10_unordered_eq_ordered_single (c : Costs) (S : RTree) (o : OTree) (f : Nat)
    (hsf : ∀ g ∈ leafSyntenies o, g = [f])
    (hb : S.isBinary = true) (hS : ∀ p ∈ leafSpecies o, S.isNode p = true)
    (hcoh : c.spe + 2 * c.sloss ≤ c.dup + 2 * c.floss) :
    ∀ a ∈ uspfs c S false o, ∀ b ∈ spfs c S false o none,
      totalCost c .unordered o a = totalCost c .ordered o b := by
  intro a ha b hb'
  obtain ⟨⟨hne, _⟩, h, _⟩ := C10_single_family c S o f hsf hb hS hcoh
  obtain ⟨t, ht⟩ := List.exists_mem_of_ne_nil _ hne
  rw [((h t ht).2 a ha).2, ((h t ht).1 b hb').2]

/-! On this guarded input all four inequalities hold strictly. -/
example :
    let c : Costs := { spe := 0, dup := 5, hgt := .fin 1, floss := 5, sloss := 1 }
    let S : RTree := .node [.node [.node [], .node []], .node []]
    let o : OTree := .node (.node (.leaf [0, 0] [1, 2]) (.leaf [1] [2])) (.leaf [0, 1] [1])
    S.isBinary = true ∧ (∀ p ∈ leafSpecies o, S.isNode p = true) ∧
    (∀ f ∈ leafSyntenies o, f ≠ []) ∧ c.spe + 2 * c.sloss ≤ c.dup + 2 * c.floss ∧
    (spfs c S false o none).map (totalCost c .ordered o) = [.fin 2, .fin 2] ∧
    (spfs c S true o none).map (totalCost c .ordered o) = [.fin 21] ∧
    (uspfs c S false o).map (totalCost c .unordered o) = [.fin 1] ∧
    (uspfs c S true o).map (totalCost c .unordered o) = [.fin 21] ∧
    (thl c S o).map (totalCost c .plain o) = [.fin 1] ∧
    recCost c o (lcaSol o) = .fin 20 := by
  dsimp only
  rw [ex_solvers.1, ex_solvers.2.1, ex_solvers.2.2.1, ex_solvers.2.2.2]
  decide +kernel

end SR.C10
