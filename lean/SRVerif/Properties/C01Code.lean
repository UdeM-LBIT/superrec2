/-
  C01 for the CODE-STRUCTURED model of `reconcile_thl` (`Model/ThlCode.lean`, whose head says
  what is transliterated), on top of the C16 model of `Entry` / `EntryProxy`.

  REFINEMENT (policy ALL, every cost vector, every species tree — binary or not — provided
  the leaf species are species of `S`; `C01_thlCode_guard_needed`: the guard cannot be
  dropped): table values, tags, decoder and result agree with the label-DP model `thl`, so
  the C01 / C04 / C05 / C10 theorems proved for `thl` (`Properties/C01Thl.lean`) hold for
  `thlCode`.
-/
import SRVerif.Proofs.ThlCodeDecode
import SRVerif.Properties.C01Thl

namespace SR.C01

open SR Cost ThlCode

variable (c : Costs) (S : RTree) (o : OTree)

/-- **Cell values.**  For every object node `w` (with subtree `t`) the row `w` of
    `_compute_thl_table` has an instantiated entry exactly at the species of the
    label-DP cells of `t`, holding the cell's cost; every other species reads as an
    `EntryProxy` over `None` (value `inf`). -/
theorem C01_thlCode_table (hS : ∀ p ∈ leafSpecies o, S.isNode p = true) :
    ∀ p ∈ postorderNodes o [],
      (∀ d ∈ thlCells c S true p.2, ∃ e, (computeTable .all c S o).get (p.1, d.sp) = some e ∧
        e.value = d.cost.toExt) ∧
      (∀ s, (∀ d ∈ thlCells c S true p.2, d.sp ≠ s) →
        (computeTable .all c S o).get (p.1, s) = none ∧
        (computeTable .all c S o).value (p.1, s) = .posInf) := by
  intro p hp
  have h := computeTable_ok c S o hS p hp
  refine ⟨fun d hd => (h.get d.sp).2 d (findCell_dpTable thlAlg c S true _ hd), fun s hs => ?_⟩
  have : (computeTable .all c S o).get (p.1, s) = none := by
    apply (h.get s).1
    cases hf : findCell (thlCells c S true p.2) (s, ()) with
    | none => rfl
    | some d => exact absurd (cellTag_eq.mp (findCell_some hf).2).1 (hs d (findCell_some hf).1)
  exact ⟨this, by rw [Table.value, this]; rfl⟩

/-- The same, as a function: the value read at (object node, species) is the cost of
    the label-DP cell of that species (`inf` when there is none). -/
theorem C01_thlCode_value (hS : ∀ p ∈ leafSpecies o, S.isNode p = true) :
    ∀ p ∈ postorderNodes o [], ∀ s,
      (computeTable .all c S o).value (p.1, s) = (cellCost (thlCells c S true p.2) s).toExt :=
  fun p hp s => (computeTable_ok c S o hS p hp).value s

/-- **Tags.**  At an internal object node the retained child assignments
    `MappingInfo(left, right)` of the entry of species `s` are exactly the tag pairs
    of the label DP's candidates attaining the cell value. -/
theorem C01_thlCode_tags (hS : ∀ p ∈ leafSpecies o, S.isNode p = true) :
    ∀ w l r, (w, OTree.node l r) ∈ postorderNodes o [] →
      ∀ d ∈ thlCells c S true (.node l r), ∀ x y,
        (⟨x, y⟩ : MappingInfo) ∈ (computeTable .all c S o).infos (w, d.sp) ↔
          (d.cost, ((x, ()), (y, ()))) ∈
            SR.cands thlAlg c S (allSpecies S) d.sp () (allSpecies S) (allSpecies S)
              (thlCells c S true l) (thlCells c S true r) := by
  intro w l r hp d hd x y
  have he : findCell (thlCells c S true (.node l r)) (d.sp, ()) = some d :=
    findCell_dpTable thlAlg c S true _ hd
  rw [findCell_thlCells_node] at he
  split at he
  · rename_i hs
    obtain ⟨e, hce, _, ht⟩ := ((computeTable_ok c S o hS _ hp d.sp).1 hs).present d he
    rw [Table.infos, show (computeTable .all c S o).get (w, d.sp) = some e from hce]
    exact ht ⟨x, y⟩
  · cases he

/-- **Decoding.**  For every object node `w` (subtree `t`) and species `s`,
    `_decode_thl_table(w, s)` generates exactly the solutions stored in the label-DP
    cell of species `s` (nothing when there is no such cell — an unreachable
    species yields no output). -/
theorem C01_thlCode_decode (hS : ∀ p ∈ leafSpecies o, S.isNode p = true) :
    ∀ p ∈ postorderNodes o [], ∀ s sol,
      sol ∈ decode (computeTable .all c S o) p.2 p.1 s ↔
        ∃ d ∈ thlCells c S true p.2, d.sp = s ∧ ∃ ls ∈ d.sols, plainSol p.2 ls = sol := by
  intro p hp s sol
  rw [decode_ok c S _ p.2 p.1
    (fun q hq => computeTable_ok c S o hS q (postorderNodes_sub o [] p hp q hq)) s sol]
  exact (exists_findCell_dpTable thlAlg c S true _).trans
    ⟨fun ⟨d, hd, h1, _, ls, hls, h⟩ => ⟨d, hd, h1, ls, hls, h.symm⟩,
      fun ⟨d, hd, h1, ls, hls, h⟩ => ⟨d, hd, h1, rfl, ls, hls, h.symm⟩⟩

/-- **Refinement.**  On every input whose leaf species are species of `S`, the
    code-structured model and the label-DP model of `reconcile_thl` return the same
    set of solutions, each once; the value of the result entry is the evaluated
    cost of every returned solution. -/
theorem C01_thlCode_refines (hS : ∀ p ∈ leafSpecies o, S.isNode p = true) :
    (∀ sol, sol ∈ thlCode c S o ↔ sol ∈ thl c S o) ∧
    (thlCode c S o).Nodup ∧
    (∀ sol ∈ thlCode c S o,
      (reconcile .all c S o).value = (totalCost c .plain o sol).toExt) := by
  refine ⟨thlCode_eq_thl c S o hS, (result_spec c S o).2.2, ?_⟩
  intro sol hsol
  rw [totalCost_plain]
  exact (result_spec c S o).2.1 sol hsol

/-- The leaf-species guard cannot be dropped: with an object leaf in a species that
    is not in `S`, the code never visits that species (its loops run over the
    species of `S`) while the label DP's role aggregates see the leaf's cell. -/
theorem C01_thlCode_guard_needed :
    let c : Costs := { spe := 0, dup := 1, hgt := .fin 1, floss := 1, sloss := 1 }
    let S : RTree := .node [.node [], .node []]
    let o : OTree := .node (.leaf [0] []) (.leaf [2] [])
    ¬ (∀ p ∈ leafSpecies o, S.isNode p = true) ∧ thlCode c S o = [] ∧ thl c S o ≠ [] := by
  decide +kernel

/-- **C01 for `thlCode`**: inside the coherent region every returned solution is a
    valid reconciliation and no valid reconciliation is cheaper. -/
theorem C01_thlCode_optimal (hb : S.isBinary = true) (hS : ∀ p ∈ leafSpecies o, S.isNode p = true)
    (hcoh : c.spe ≤ c.dup + 2 * c.floss) : ∀ sol ∈ thlCode c S o,
    Spec.validRec o sol = true ∧
    ∀ sol', Spec.validRec o sol' = true → sol' ∈ Spec.allMappings S o →
      Cost.le (totalCost c .plain o sol) (totalCost c .plain o sol') = true :=
  fun sol hsol => C01_thl c S o hb hS hcoh sol ((thlCode_eq_thl c S o hS sol).mp hsol)

/-- **Totality**: `thlCode` returns at least one solution on every well-formed input. -/
theorem C01_thlCode_total (hb : S.isBinary = true) (hS : ∀ p ∈ leafSpecies o, S.isNode p = true) :
    thlCode c S o ≠ [] := by
  obtain ⟨m, hm⟩ := List.exists_mem_of_ne_nil _ (C01_thl_total c S o hb hS)
  intro e
  have := (thlCode_eq_thl c S o hS m).mpr hm
  rw [e] at this; cases this

/-- **C04 for `thlCode`** (for every cost vector): every returned solution is a valid,
    complete reconciliation of finite cost. -/
theorem C01_thlCode_finite (hS : ∀ p ∈ leafSpecies o, S.isNode p = true) : ∀ sol ∈ thlCode c S o,
    Spec.validSol .plain o sol = true ∧ sol ∈ Spec.allMappings S o ∧
      totalCost c .plain o sol ≠ .inf :=
  fun sol hsol => C01_thl_finite c S o sol ((thlCode_eq_thl c S o hS sol).mp hsol)

/-- **C05 for `thlCode`**: inside the coherent region the result is exactly the set
    of all valid reconciliations of minimum cost, each once. -/
theorem C01_thlCode_all (hb : S.isBinary = true) (hS : ∀ p ∈ leafSpecies o, S.isNode p = true)
    (hcoh : c.spe ≤ c.dup + 2 * c.floss) :
    (∀ sol, sol ∈ thlCode c S o ↔
      (Spec.validRec o sol = true ∧ sol ∈ Spec.allMappings S o) ∧
      ∀ sol', (Spec.validRec o sol' = true ∧ sol' ∈ Spec.allMappings S o) →
        Cost.le (totalCost c .plain o sol) (totalCost c .plain o sol') = true) ∧
    (thlCode c S o).Nodup := by
  refine ⟨fun sol => ?_, (result_spec c S o).2.2⟩
  rw [thlCode_eq_thl c S o hS sol]
  exact (C01_thl_all c S o hb hS hcoh).1 sol

/-- C10 for `thlCode`: inside the coherent region `thlCode` and `reconcile_exhaustive` return
    the same set. -/
theorem C01_thlCode_eq_exhaustive (hb : S.isBinary = true)
    (hS : ∀ p ∈ leafSpecies o, S.isNode p = true) (hcoh : c.spe ≤ c.dup + 2 * c.floss) :
    ∀ sol, sol ∈ thlCode c S o ↔ sol ∈ exhaustive c o := fun sol => by
  rw [thlCode_eq_thl c S o hS sol]; exact C01_thl_eq_exhaustive c S o hb hS hcoh sol

/-- The value of the result entry is the minimum of the evaluated cost over all
    valid reconciliations (the specification `Spec.allValid`). -/
theorem C01_thlCode_value_opt (hb : S.isBinary = true) (hS : ∀ p ∈ leafSpecies o, S.isNode p = true)
    (hcoh : c.spe ≤ c.dup + 2 * c.floss) :
    (reconcile .all c S o).value =
      (Cost.minList ((Spec.allValid S o).map (totalCost c .plain o))).toExt := by
  obtain ⟨m, hm⟩ := List.exists_mem_of_ne_nil _ (C01_thlCode_total c S o hb hS)
  rw [(C01_thlCode_refines c S o hS).2.2 m hm, ← C01_thl_table_opt c S o hb hS hcoh,
    C01_thl_table_min c S o hb hS hcoh m ((thlCode_eq_thl c S o hS m).mp hm)]

/-- A well-formed coherent input with five co-optimal reconciliations: all the
    hypotheses hold and the code-structured model returns all five, of cost 2. -/
example :
    let c : Costs := { spe := 1, dup := 1, hgt := .fin 1, floss := 1, sloss := 1 }
    let S : RTree := .node [.node [.node [], .node []], .node []]
    let o : OTree := .node (.node (.leaf [0, 0] []) (.leaf [1] [])) (.leaf [0, 1] [])
    S.isBinary = true ∧ (∀ p ∈ leafSpecies o, S.isNode p = true) ∧
    c.spe ≤ c.dup + 2 * c.floss ∧
    (thlCode c S o).map (totalCost c .plain o) = [.fin 2, .fin 2, .fin 2, .fin 2, .fin 2] ∧
    (reconcile .all c S o).value = .fin 2 := by
  decide +kernel

/-- A small table: instantiated entries (object node, species), values and tags, as
    `_compute_thl_table` builds them — the leaf rows first, then the root row in
    post-order of the species. -/
example :
    let c : Costs := { spe := 0, dup := 1, hgt := .fin 1, floss := 1, sloss := 1 }
    let S : RTree := .node [.node [], .node []]
    let o : OTree := .node (.leaf [0] []) (.leaf [1] [])
    (computeTable .all c S o).cells.map (fun ke => (ke.1, ke.2.value, ke.2.infos)) =
      [(([0], [0]), .fin 0, []), (([1], [1]), .fin 0, []),
       (([], [0]), .fin 1, [⟨[0], [1]⟩]), (([], [1]), .fin 1, [⟨[0], [1]⟩]),
       (([], []), .fin 0, [⟨[0], [1]⟩])] := by
  decide +kernel

/-- Unreachable root species (transfers forbidden): only the root species hosts the
    root, the other species decode to nothing, and the policy ANY keeps one solution. -/
example :
    let c : Costs := { spe := 0, dup := 1, hgt := .inf, floss := 1, sloss := 1 }
    let S : RTree := .node [.node [], .node []]
    let o : OTree := .node (.leaf [0] []) (.leaf [1] [])
    (computeTable .all c S o).get ([], [0]) = none ∧
    decode (computeTable .all c S o) o [] [0] = [] ∧
    thlCode c S o = [.node [] [] (.leaf [0] []) (.leaf [1] [])] ∧
    thlCodeAny c S o = [.node [] [] (.leaf [0] []) (.leaf [1] [])] := by
  decide +kernel

end SR.C01
