/-
  C10, clause "the optimum of an extended solver never exceeds that of its base
  variant" (`sreconcile_extended_spfs` vs `sreconcile_base_spfs`, `superdtl` vs
  `usreconcile_base_uspfs`).

  The base variants run the same table code with the species of every internal node
  restricted to its LCA image.  The decoded candidate set of the base table is NOT a
  subset of the extended table's (each cell keeps only its arg-minima), so the
  inequality goes through optimality: both solvers are exact over their admissible
  labellings (`spfs_exact`, `C03.uspfs_exact`), and a labelling admissible for the base variant
  is admissible for the extended one at the same generic cost (`sim_annOrd_ext`,
  `sim_annUn_ext`); `Exact.le` concludes.

  Guards: `S` binary, leaf species nodes of `S`, coherent region; ordered: every root
  order tried is duplicate-free and has every leaf synteny as a non-empty subsequence
  (`C02.OrdersOk`, automatic for non-empty leaf syntenies without a prescribed order).
-/
import SRVerif.Proofs.C10Base
import SRVerif.Proofs.DPSolverOrd
import SRVerif.Properties.C03Kinds

namespace SR.C10

open SR Cost

variable (c : Costs) (S : RTree) (o : OTree)

/-- Ordered solvers, any prescribed root order: every solution returned by the extended solver
    costs (under the evaluator) at most every solution returned by the base solver, and the
    extended solver returns something whenever the base solver does. -/
theorem C10_ext_le_base_ordered (pre : Option (List Nat)) (hord : C02.OrdersOk o pre)
    (hb : S.isBinary = true) (hS : ∀ p ∈ leafSpecies o, S.isNode p = true)
    (hcoh : c.spe + 2 * c.sloss ≤ c.dup + 2 * c.floss) :
    (∀ a ∈ spfs c S false o pre, ∀ b ∈ spfs c S true o pre,
      Cost.le (totalCost c .ordered o a) (totalCost c .ordered o b) = true) ∧
    (spfs c S true o pre ≠ [] → spfs c S false o pre ≠ []) :=
  ((spfs_exact c S false o pre hord hb hS).le (spfs_exact c S true o pre hord hb hS) id
    fun k ⟨ho, adm, hroot, hfin⟩ =>
      have ⟨adm', e⟩ := (sim_annOrd_ext c S k.1 o hS true).transfer_id c k.2 adm
      ⟨⟨ho, adm', hroot, e.symm ▸ hfin⟩, le_of_eq e⟩).imp_left (· hcoh)

/-- The instance of the first conjunct of `C10_statement` (no prescribed order), with
    the guards it needs. -/
theorem C10_ext_le_base_ordered_none (hne : ∀ f ∈ leafSyntenies o, f ≠ [])
    (hb : S.isBinary = true) (hS : ∀ p ∈ leafSpecies o, S.isNode p = true)
    (hcoh : c.spe + 2 * c.sloss ≤ c.dup + 2 * c.floss) :
    ∀ a ∈ spfs c S false o none, ∀ b ∈ spfs c S true o none,
      Cost.le (totalCost c .ordered o a) (totalCost c .ordered o b) = true :=
  (C10_ext_le_base_ordered c S o none (C02.C02_orders_ok o hne) hb hS hcoh).1

theorem uspfs_cand_ext (hS : ∀ p ∈ leafSpecies o, S.isNode p = true) {k : Unit × LSol Kind}
    (hk : (uspfsD c S true o).Cand c k) :
    (uspfsD c S false o).Cand c k ∧ (uspfsD c S false o).lc c k ≼ (uspfsD c S true o).lc c k :=
  have ⟨adm', e⟩ := (sim_annUn_ext c S o o hS []).transfer_id c k.2 hk.2.1
  ⟨⟨hk.1, adm', hk.2.2.1, e.symm ▸ hk.2.2.2⟩, le_of_eq e⟩

/-- `superdtl` against `usreconcile_base_uspfs`, evaluated costs: the second conjunct of
    `C10_statement` with the guards it needs, and non-emptiness. -/
theorem C10_ext_le_base_unordered (hb : S.isBinary = true)
    (hS : ∀ p ∈ leafSpecies o, S.isNode p = true)
    (hcoh : c.spe + c.sloss ≤ c.dup + 2 * c.floss) :
    (∀ a ∈ uspfs c S false o, ∀ b ∈ uspfs c S true o,
      Cost.le (totalCost c .unordered o a) (totalCost c .unordered o b) = true) ∧
    (uspfs c S true o ≠ [] → uspfs c S false o ≠ []) :=
  ((C03.uspfs_exact c S false o hb hS).le (C03.uspfs_exact c S true o hb hS) id
    fun _ => uspfs_cand_ext c S o hS).imp_left (· hcoh)

theorem C10_ext_le_base_unordered_coherent (hb : S.isBinary = true)
    (hS : ∀ p ∈ leafSpecies o, S.isNode p = true)
    (hcoh : c.spe + 2 * c.sloss ≤ c.dup + 2 * c.floss) :
    ∀ a ∈ uspfs c S false o, ∀ b ∈ uspfs c S true o,
      Cost.le (totalCost c .unordered o a) (totalCost c .unordered o b) = true :=
  (C10_ext_le_base_unordered c S o hb hS (by omega)).1

/-- The same with `C03_kinds_faithful_statement` (`C03Dp.lean`) and non-empty leaf syntenies as
    hypotheses; the proof uses neither. -/
theorem C10_ext_le_base_unordered_of_faithful (hF : C03.C03_kinds_faithful_statement)
    (hne : ∀ f ∈ leafSyntenies o, f ≠ [])
    (hb : S.isBinary = true) (hS : ∀ p ∈ leafSpecies o, S.isNode p = true)
    (hcoh : c.spe + 2 * c.sloss ≤ c.dup + 2 * c.floss) :
    ∀ a ∈ uspfs c S false o, ∀ b ∈ uspfs c S true o,
      Cost.le (totalCost c .unordered o a) (totalCost c .unordered o b) = true :=
  C10_ext_le_base_unordered_coherent c S o hb hS hcoh

/-- What the four label solvers return on the input that the non-vacuity examples of C10 share:
    the extended variants place the root lower than the base (LCA) variants.  The examples
    start from these values. -/
theorem ex_solvers :
    let c : Costs := { spe := 0, dup := 5, hgt := .fin 1, floss := 5, sloss := 1 }
    let S : RTree := .node [.node [.node [], .node []], .node []]
    let o : OTree := .node (.node (.leaf [0, 0] [1, 2]) (.leaf [1] [2])) (.leaf [0, 1] [1])
    let below : Sol := .node [0, 0] [1, 2] (.leaf [0, 0] [1, 2]) (.leaf [1] [2])
    let belowLca : Sol := .node [] [1, 2] (.leaf [0, 0] [1, 2]) (.leaf [1] [2])
    spfs c S false o none =
      [.node [0, 0] [1, 2] below (.leaf [0, 1] [1]), .node [0] [1, 2] below (.leaf [0, 1] [1])] ∧
    spfs c S true o none = [.node [] [1, 2] belowLca (.leaf [0, 1] [1])] ∧
    uspfs c S false o = [.node [0] [1] below (.leaf [0, 1] [1])] ∧
    uspfs c S true o = [.node [] [1] belowLca (.leaf [0, 1] [1])] := by
  decide +kernel

/-- Ordered: a well-formed coherent input on which the extended solver is strictly
    cheaper than the base solver. -/
example :
    let c : Costs := { spe := 0, dup := 5, hgt := .fin 1, floss := 5, sloss := 1 }
    let S : RTree := .node [.node [.node [], .node []], .node []]
    let o : OTree := .node (.node (.leaf [0, 0] [1, 2]) (.leaf [1] [2])) (.leaf [0, 1] [1])
    S.isBinary = true ∧ (∀ p ∈ leafSpecies o, S.isNode p = true) ∧
    (∀ f ∈ leafSyntenies o, f ≠ []) ∧ c.spe + 2 * c.sloss ≤ c.dup + 2 * c.floss ∧
    (spfs c S false o none).map (totalCost c .ordered o) = [.fin 2, .fin 2] ∧
    (spfs c S true o none).map (totalCost c .ordered o) = [.fin 21] := by
  dsimp only
  rw [ex_solvers.1, ex_solvers.2.1]
  decide +kernel

/-- Unordered: the same input; table minima and evaluated costs. -/
example :
    let c : Costs := { spe := 0, dup := 5, hgt := .fin 1, floss := 5, sloss := 1 }
    let S : RTree := .node [.node [.node [], .node []], .node []]
    let o : OTree := .node (.node (.leaf [0, 0] [1, 2]) (.leaf [1] [2])) (.leaf [0, 1] [1])
    S.isBinary = true ∧ (∀ p ∈ leafSpecies o, S.isNode p = true) ∧
    c.spe + c.sloss ≤ c.dup + 2 * c.floss ∧
    uspfsTableMin c S false o = .fin 1 ∧ uspfsTableMin c S true o = .fin 21 ∧
    (uspfs c S false o).map (totalCost c .unordered o) = [.fin 1] ∧
    (uspfs c S true o).map (totalCost c .unordered o) = [.fin 21] := by
  dsimp only
  rw [ex_solvers.2.2.1, ex_solvers.2.2.2]
  decide +kernel

end SR.C10
