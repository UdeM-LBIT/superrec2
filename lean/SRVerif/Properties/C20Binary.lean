/-
  C20 — `DisjointSet.binary()` is exact for ANY iteration order of the set of
  representatives.

  `binary()` calls `_binary(self, list(set(self.find(i) for i in range(n))), None, None)`.
  The model `SR.DS.binary` (and theorem `C20_binary`) fixes the increasing
  order for `list(set(...))`, which is what CPython produces only while the
  representatives are smaller than the set's table size (n ≤ 8).  In
  `C20_binary_any_order` and `C20_binary_order_free` the list handed to `_binary` is an arbitrary
  duplicate-free listing `gs` of the set of representatives, and the
  exactly-once enumeration of the two-block coarsenings holds for every such
  listing.  (Lemmas: `SRVerif/Proofs/DisjointSetBinaryPerm.lean`; the reason is
  that `_binary`'s symmetry breaking `groups[0] < second` / `groups[0] > first`
  keeps, whatever the order, the colouring in which the first element coloured
  `first` is smaller than the first element coloured `second`.)
-/
import SRVerif.Properties.C20
import SRVerif.Proofs.DisjointSetBinaryPerm

namespace SR.C20

open SR SR.DS

/-- `find x == find y` on a structure; it unfolds to `rep b x = rep b y`, the words of
    `SR.DS.TwoBlocks` (and `SR.DS.same_iff_rep` ties it to `SR.DS.Same`). -/
def sameClass (b : DS) (x y : Nat) : Prop := (b.find x).2 = (b.find y).2

/-- `gs` is a possible value of `list(set(d.find(i) for i in range(n)))`: a
    duplicate-free list whose members are exactly the representatives.  On a structure reached
    by a history this is `SR.DS.Listing d gs` (`C20_binary_listing`). -/
def RepListing (n : Nat) (d : DS) (gs : List Nat) : Prop :=
  gs.Nodup ∧ ∀ r, r ∈ gs ↔ ∃ i, i < n ∧ (d.find i).2 = r

/-- `binary()` when the set of representatives is iterated in the order `gs`:
    `_binary(partition, gs, None, None)` on the structure left by the finds
    (`SR.DS.binGo` is the model of `_binary`, `allReps` of the finds).  The proofs call the same
    list `SR.DS.binaryOrd d gs`. -/
def binaryIn (d : DS) (gs : List Nat) : List DS := binGo gs d.allReps.1 none none

theorem C20_binary_listing {n : Nat} {d : DS} {ps : List (Nat × Nat)} (hI : Inv n d ps)
    {gs : List Nat} (h : RepListing n d gs) : Listing d gs :=
  ⟨h.1, fun r => (h.2 r).trans (mem_roots_iff hI.ok).symm⟩

/-- **`binary()`, any iteration order.**  After any history (with `ps` the
    united pairs) and for ANY duplicate-free listing `gs` of the set of
    representatives, the members of `binary()` are partitions of the same `n`
    elements that
    * coarsen the current partition and have exactly two blocks;
    * are pairwise different as partitions (no block-swapped duplicate);
    * include every two-block coarsening (every equivalence relation on
      `{0..n-1}` containing the closure of `ps` with exactly two classes);
    * number `2^(k-1) - 1` where `k = groups`.
    `C20_binary` is the instance `gs` = increasing order
    (`C20_binary_model_instance`). -/
theorem C20_binary_any_order (n : Nat) (ops : List Op) (hr : ∀ op, op ∈ ops → op.inRange n)
    (gs : List Nat) (hgs : RepListing n (run n ops) gs) :
    let d := run n ops
    let ps := pairsOf ops
    let res := binaryIn d gs
    (∀ b, b ∈ res → b.size = n ∧ (∀ x y, Conn ps x y → sameClass b x y) ∧
      ∃ u v, u < n ∧ v < n ∧ ¬ sameClass b u v ∧ ∀ x, x < n → sameClass b x u ∨ sameClass b x v) ∧
    res.Pairwise (fun b b' => ∃ x y, x < n ∧ y < n ∧ ¬ (sameClass b x y ↔ sameClass b' x y)) ∧
    (∀ R : Nat → Nat → Prop, (∀ x, x < n → R x x) → (∀ x y, x < n → y < n → R x y → R y x) →
      (∀ x y z, x < n → y < n → z < n → R x y → R y z → R x z) →
      (∀ x y, x < n → y < n → Conn ps x y → R x y) →
      (∃ u v, u < n ∧ v < n ∧ ¬ R u v ∧ ∀ x, x < n → R x u ∨ R x v) →
      ∃ b, b ∈ res ∧ ∀ x y, x < n → y < n → (sameClass b x y ↔ R x y)) ∧
    res.length = 2 ^ (d.groups - 1) - 1 := by
  exact (binaryOrd_twoBlocks (inv_run n ops hr) (C20_binary_listing (inv_run n ops hr) hgs)).2

/-- Non-vacuity: classes `{0,3} {1} {2} {4}`, representatives iterated in the
    non-monotone order `4, 2, 0, 1`: the seven two-block coarsenings, each once. -/
example : RepListing 5 (run 5 [.unite 0 3]) [4, 2, 0, 1] := by
  refine ⟨by decide +kernel, ?_⟩
  have h : ∀ r, r ∈ [4, 2, 0, 1] ↔ r ∈ (List.range 5).map (fun i => ((run 5 [.unite 0 3]).find i).2) := by
    have : (List.range 5).map (fun i => ((run 5 [.unite 0 3]).find i).2) = [0, 1, 2, 0, 4] := by decide +kernel
    intro r; rw [this]; simp only [List.mem_cons, List.not_mem_nil, or_false]; omega
  intro r
  rw [h, List.mem_map]
  simp only [List.mem_range]

example : (binaryIn (run 5 [.unite 0 3]) [4, 2, 0, 1]).map (fun b => b.toList.2) =
    [[[0, 1, 2, 3], [4]], [[0, 2, 3], [1, 4]], [[0, 3, 4], [1, 2]], [[0, 1, 3, 4], [2]],
     [[0, 1, 3], [2, 4]], [[0, 3], [1, 2, 4]], [[1], [0, 2, 3, 4]]] := by decide +kernel

/-- The model's `binary` (increasing order) is the instance
    `gs = sortedReps`, so `C20_binary` is a special case of
    `C20_binary_any_order`. -/
theorem C20_binary_model_instance (n : Nat) (ops : List Op) (hr : ∀ op, op ∈ ops → op.inRange n) :
    let d := run n ops
    d.binary = binaryIn d d.sortedReps.2 ∧ RepListing n d d.sortedReps.2 := by
  intro d
  have hI : Inv n d (pairsOf ops) := inv_run n ops hr
  refine ⟨rfl, ?_⟩
  unfold RepListing
  rw [(sortedReps_eq hI.wf).2.2]
  exact ⟨roots_nodup d, fun r => mem_roots_iff hI.ok⟩

/-- **`binary()`.**  After any history, with `ps` the united pairs, the
    members of `binary()` are partitions of the same `n` elements that
    * coarsen the current partition (every block is a union of classes) and
      have exactly two blocks;
    * are pairwise different as partitions (in particular no block-swapped
      duplicate);
    * include every two-block coarsening: every equivalence relation on
      `{0..n-1}` containing the closure of `ps` and having exactly two
      classes is the relation of some member;
    * number `2^(k-1) - 1` where `k = groups` is the number of classes. -/
theorem C20_binary (n : Nat) (ops : List Op) (hr : ∀ op, op ∈ ops → op.inRange n) :
    let d := run n ops
    let ps := pairsOf ops
    (∀ b, b ∈ d.binary → b.size = n ∧ (∀ x y, Conn ps x y → sameClass b x y) ∧
      ∃ u v, u < n ∧ v < n ∧ ¬ sameClass b u v ∧ ∀ x, x < n → sameClass b x u ∨ sameClass b x v) ∧
    d.binary.Pairwise (fun b b' => ∃ x y, x < n ∧ y < n ∧ ¬ (sameClass b x y ↔ sameClass b' x y)) ∧
    (∀ R : Nat → Nat → Prop, (∀ x, x < n → R x x) → (∀ x y, x < n → y < n → R x y → R y x) →
      (∀ x y z, x < n → y < n → z < n → R x y → R y z → R x z) →
      (∀ x y, x < n → y < n → Conn ps x y → R x y) →
      (∃ u v, u < n ∧ v < n ∧ ¬ R u v ∧ ∀ x, x < n → R x u ∨ R x v) →
      ∃ b, b ∈ d.binary ∧ ∀ x y, x < n → y < n → (sameClass b x y ↔ R x y)) ∧
    d.binary.length = 2 ^ (d.groups - 1) - 1 := by
  intro d ps
  exact C20_binary_any_order n ops hr _ (C20_binary_model_instance n ops hr).2

/-- **The result of `binary()` does not depend on the iteration order**, as a
    set of partitions: for two listings of the representatives, every
    partition obtained with one is obtained (exactly once, by
    `C20_binary_any_order`) with the other. -/
theorem C20_binary_order_free (n : Nat) (ops : List Op) (hr : ∀ op, op ∈ ops → op.inRange n)
    (gs gs' : List Nat) (hgs : RepListing n (run n ops) gs) (hgs' : RepListing n (run n ops) gs') :
    ∀ b, b ∈ binaryIn (run n ops) gs → ∃ b', b' ∈ binaryIn (run n ops) gs' ∧
      ∀ x y, x < n → y < n → (sameClass b' x y ↔ sameClass b x y) := by
  intro b hb
  obtain ⟨_, hco, htwo⟩ := (C20_binary_any_order n ops hr gs hgs).1 b hb
  exact (C20_binary_any_order n ops hr gs' hgs').2.2.1 (sameClass b) (fun _ _ => rfl)
    (fun _ _ _ _ => Eq.symm) (fun _ _ _ _ _ _ => Eq.trans) (fun x y _ _ => hco x y) htwo

example : ((binaryIn (run 5 [.unite 0 3]) [1, 0, 4, 2]).map (fun b => b.toList.2)).length = 7 := by decide +kernel

end SR.C20
