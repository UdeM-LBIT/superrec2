/-
  C20 — Triple decomposition and supertree construction are exact; the
  disjoint-set structure reports the partition generated by its unions.

  Models: `SRVerif/Model/DisjointSet.lean`, `SRVerif/Model/Triples.lean`;
  specification vocabulary: `SRVerif/Spec/Triples.lean` (clades, displays)
  and `SR.DS.Conn` (equivalence closure of the united pairs).
-/
import SRVerif.Proofs.TriplesInducedSuper

namespace SR.C20

open SR SR.DS SR.Tri SR.Tri.Spec SR.Tri.LTree

/-- **Disjoint sets.**  After any history of `unite` / `find` operations on
    `n` elements (all arguments in range), with `ps` the united pairs:
    * `find a == find b` iff `a` and `b` are related by the equivalence
      closure of `ps`;
    * `groups` (`len`) is the number of classes: there is a duplicate-free
      system of representatives, one per class, of that length;
    * `to_list()` lists every class exactly once with all its members
      (groups non-empty, ascending, pairwise disjoint, covering, each group
      closed under the closure), and has `groups` entries;
    * a further `unite a b` returns `True` iff `a`, `b` were in different
      classes. -/
theorem C20_ds (n : Nat) (ops : List Op) (hr : ∀ op, op ∈ ops → op.inRange n) :
    let d := run n ops
    let ps := pairsOf ops
    (∀ a b, a < n → b < n → ((d.find a).2 = (d.find b).2 ↔ Conn ps a b)) ∧
    (∃ reps : List Nat, reps.Nodup ∧ (∀ r, r ∈ reps → r < n) ∧
      (∀ a, a < n → ∃ r, r ∈ reps ∧ Conn ps a r ∧ ∀ r', r' ∈ reps → Conn ps a r' → r' = r) ∧
      d.groups = reps.length) ∧
    ((∀ g, g ∈ d.toList.2 → g ≠ [] ∧ g.Pairwise (· < ·) ∧
        ∀ x, x ∈ g → ∀ y, y ∈ g ↔ y < n ∧ Conn ps x y) ∧
      (∀ x, x < n → ∃ g, g ∈ d.toList.2 ∧ x ∈ g) ∧
      d.toList.2.Pairwise (fun g h => ∀ x, x ∈ g → x ∉ h) ∧
      d.toList.2.length = d.groups) ∧
    (∀ a b, a < n → b < n → ((d.unite a b).2 = true ↔ ¬ Conn ps a b)) := by
  intro d ps
  have hI : Inv n d ps := inv_run n ops hr
  have hW := hI.wf
  have hn := hI.size
  refine ⟨?_, ?_, ?_, ?_⟩
  · intro a b ha hb
    rw [← hI.same]
    exact (same_iff_rep hW a b).symm
  · refine ⟨roots d, roots_nodup d, fun r hr' => hn ▸ (mem_roots.mp hr').1, fun a ha => ?_,
      by rw [hW.grp, roots_length]⟩
    refine ⟨rep d a, rep_mem_roots hW (hn ▸ ha), (hI.same _ _).mp (same_rep hW a), fun r' hr' hc => ?_⟩
    rw [← hI.same, same_iff_rep hW, rep_of_mem_roots hW hr'] at hc
    exact hc.symm
  · have hC := toList_isClassList hW
    refine ⟨?_, ?_, hC.disjoint, ?_⟩
    · intro g hg
      refine ⟨hC.ne hg, hC.sorted g hg, fun x hx y => ?_⟩
      obtain ⟨r, _, _, hmem⟩ := hC.isClass g hg
      constructor
      · intro hy
        have hys := ((hmem y).mp hy).1
        exact ⟨hn ▸ hys, (hI.same x y).mp ((hC.same_iff hg hx hys).mp hy)⟩
      · rintro ⟨hy, hc⟩
        exact (hC.same_iff hg hx (hn ▸ hy)).mpr ((hI.same x y).mpr hc)
    · intro x hx; exact hC.cover x (hn ▸ hx)
    · rw [hC.length, hW.grp]
  · intro a b ha hb
    obtain ⟨_, _, _, hret, _⟩ := unite_spec hW (hn ▸ ha : a < d.size) (hn ▸ hb : b < d.size)
    rw [hret, hI.same]

/-- Non-vacuity: a history with merging, redundant and reflexive unions. -/
example : (run 4 [.unite 0 3, .unite 1 0, .find 3, .unite 3 1, .unite 2 2]).toList.2 = [[0, 1, 3], [2]] := by
  decide +kernel

/-- Non-vacuity: three classes `{0,3} {1} {2}` give the three two-block coarsenings. -/
example : ((run 4 [.unite 0 3]).binary.map (fun b => b.toList.2)) =
    [[[0, 1, 3], [2]], [[0, 2, 3], [1]], [[0, 3], [1, 2]]] := by decide +kernel

/-- Hypotheses under which the Python routines are specified: distinct leaf
    names, triples made of three different leaves, and no triple naming an
    unknown leaf in first or second position (`KeyError` otherwise; a third
    leaf outside the leaf set is legal). -/
structure Scope (leaves : List Nat) (triples : List Triple) : Prop where
  nodup : leaves.Nodup
  known : ∀ tr, tr ∈ triples → tr.1 ∈ leaves ∧ tr.2.1 ∈ leaves
  proper : ∀ tr, tr ∈ triples → proper tr = true

/-- **BUILD is sound.**  If `tree_from_triples(leaves, triples)` returns a
    tree, it has exactly the given leaves (each once) and displays every
    triple whose three leaves are in the leaf set. -/
theorem C20_sound_one (leaves : List Nat) (triples : List Triple) (t : LTree)
    (hs : Scope leaves triples) (h : treeFromTriples leaves triples = some t) :
    t.leaves.Perm leaves ∧
    ∀ tr, tr ∈ triples → inside leaves tr = true → displays t tr = true := by
  have hg := treeFromTriples_good hs.nodup hs.known hs.proper h
  exact ⟨(List.perm_ext_iff_of_nodup hg.nodup hs.nodup).mpr hg.mem, hg.disp⟩

example : (treeFromTriples [0, 1, 2, 3, 4] [(0, 1, 2), (2, 3, 1), (1, 3, 4)]).map
    (sameClades (.node [.node [.node [.leaf 0, .leaf 1], .node [.leaf 2, .leaf 3]], .leaf 4]))
    = some true := by decide +kernel

example : Scope [0, 1, 2, 3, 4] [(0, 1, 2), (2, 3, 1), (1, 3, 4)] :=
  ⟨by decide +kernel, by decide +kernel, by decide +kernel⟩

/-- **AllTrees is sound and repetition-free.**  Every member of
    `all_trees_from_triples(leaves, triples)` is binary, has exactly the given
    leaves and displays every triple inside the leaf set; and two members at
    different positions differ up to child order (different clade sets). -/
theorem C20_sound_all (leaves : List Nat) (triples : List Triple) (hs : Scope leaves triples) :
    (∀ t, t ∈ allTreesFromTriples leaves triples →
      binary t = true ∧ t.leaves.Perm leaves ∧
      ∀ tr, tr ∈ triples → inside leaves tr = true → displays t tr = true) ∧
    (allTreesFromTriples leaves triples).Pairwise (fun t u => sameClades t u = false) := by
  refine ⟨?_, allTreesFromTriples_distinct hs.nodup hs.known hs.proper⟩
  intro t h
  obtain ⟨hg, hb⟩ := allTreesFromTriples_good hs.nodup hs.known hs.proper h
  exact ⟨hb, (List.perm_ext_iff_of_nodup hg.nodup hs.nodup).mpr hg.mem, hg.disp⟩

example : (allTreesFromTriples [0, 1, 2, 3] [(0, 1, 2)]).length = 5 := by decide +kernel

/-- **Round trip.**  For a binary tree with distinct leaf names,
    `tree_to_triples` succeeds, returns the leaves of the tree, and
    `tree_from_triples` applied to its output returns a tree with the same
    clade set (the same tree up to child order). -/
theorem C20_roundtrip (t : LTree) (hb : binary t = true) (hn : t.leaves.Nodup) :
    ∃ trs u, treeToTriples t = some (t.leaves, trs) ∧
      treeFromTriples t.leaves trs = some u ∧ sameClades t u = true := by
  have hb' : t.isBinary = true := hb
  obtain ⟨u, hu, hs⟩ := breakUp_roundtrip hb' hn (innerTr_breakUp t hb')
  exact ⟨innerTr t, u, treeToTriples_eq t hb', hu, hs⟩

example : (treeToTriples (.node [.node [.node [.leaf 0, .leaf 1], .node [.leaf 2, .leaf 3]], .leaf 4])).map (·.2)
    = some [(0, 1, 2), (2, 3, 1), (1, 3, 4)] := by decide +kernel

/-- **BreakUp is sound.**  On a binary tree with distinct leaf names every
    triple returned by `tree_to_triples` consists of three different leaves
    and is displayed by the tree. -/
theorem C20_triples_displayed (t : LTree) (hb : binary t = true) (hn : t.leaves.Nodup)
    (ls : List Nat) (trs : List Triple) (h : treeToTriples t = some (ls, trs)) :
    ls = t.leaves ∧ ∀ tr, tr ∈ trs → proper tr = true ∧ displays t tr = true := by
  obtain ⟨rfl, hbu⟩ := treeToTriples_breakUp h
  exact ⟨rfl, breakUp_displays hb hn hbu⟩

/-- Supertree clause: a supertree displays every input tree, i.e. every
    triple displayed by an input tree; proved as `C20_supertree`
    (Properties/C20Super.lean). -/
def C20_supertree_statement : Prop :=
  ∀ (ts : List LTree) (S : LTree), (∀ t, t ∈ ts → binary t = true ∧ t.leaves.Nodup) →
    supertree ts = some (some S) →
    ∀ t, t ∈ ts → ∀ tr : Triple, proper tr = true → displays t tr = true → displays S tr = true

/-- **Supertree displays the emitted triples.**  If `supertree` returns a tree for binary input
    trees with distinct leaf names, that tree has exactly the union of their
    leaves and displays all the BreakUp triples (`tree_to_triples`) of every
    input tree — the triples from which each input tree is rebuilt
    (`C20_roundtrip`).  Every induced triple: `C20_supertree_full`
    (Properties/C20Super.lean). -/
theorem C20_supertree_partial (ts : List LTree) (S : LTree)
    (hts : ∀ t, t ∈ ts → binary t = true ∧ t.leaves.Nodup)
    (h : supertree ts = some (some S)) :
    S.leaves.Nodup ∧ (∀ x, x ∈ S.leaves ↔ ∃ t, t ∈ ts ∧ x ∈ t.leaves) ∧
    ∀ t, t ∈ ts → ∀ ls trs, treeToTriples t = some (ls, trs) →
      ∀ tr, tr ∈ trs → displays S tr = true := by
  obtain ⟨h1, h2, h3⟩ := supertree_displays hts h
  refine ⟨h1, h2, ?_⟩
  intro t ht ls trs htt tr htr
  rw [treeToTriples_eq t (hts t ht).1] at htt
  simp only [Option.some.injEq, Prod.mk.injEq] at htt
  obtain ⟨_, rfl⟩ := htt
  exact h3 t ht tr htr

example : ((supertree [.node [.node [.leaf 0, .leaf 1], .leaf 2], .node [.node [.leaf 1, .leaf 3], .leaf 2]]).map
    (·.map (sameClades (.node [.node [.leaf 0, .leaf 1, .leaf 3], .leaf 2])))) = some (some true) := by
  decide +kernel

/-- BUILD completeness (Aho–Sagiv–Szymanski–Ullman); proved as `C20_complete_one`. -/
def C20_complete_one_statement : Prop :=
  ∀ (leaves : List Nat) (triples : List Triple), Scope leaves triples → leaves ≠ [] →
    (∀ tr, tr ∈ triples → tr.2.2 ∈ leaves) →
    (∃ t : LTree, t.leaves.Perm leaves ∧ ∀ tr, tr ∈ triples → displays t tr = true) →
    (treeFromTriples leaves triples).isSome = true

/-- **BUILD is complete.**  If some tree on the leaf set displays every
    triple, `tree_from_triples` returns a tree. -/
theorem C20_complete_one : C20_complete_one_statement := by
  intro leaves triples hs hne h3 ⟨t, hperm, hd⟩
  apply treeFromTriples_complete hs.nodup hne (hperm.nodup_iff.mpr hs.nodup)
    (fun x hx => hperm.mem_iff.mpr hx)
  intro tr htr
  exact ⟨(inside_iff leaves tr).mpr ⟨(hs.known tr htr).1, (hs.known tr htr).2, h3 tr htr⟩, hd tr htr⟩

/-- **BUILD decides compatibility**: it returns a tree iff some tree on the
    leaf set displays every triple. -/
theorem C20_one_iff (leaves : List Nat) (triples : List Triple) (hs : Scope leaves triples)
    (hne : leaves ≠ []) (h3 : ∀ tr, tr ∈ triples → tr.2.2 ∈ leaves) :
    (treeFromTriples leaves triples).isSome = true ↔
      ∃ t : LTree, t.leaves.Perm leaves ∧ ∀ tr, tr ∈ triples → displays t tr = true := by
  constructor
  · intro h
    obtain ⟨t, ht⟩ := Option.isSome_iff_exists.mp h
    obtain ⟨h1, h2⟩ := C20_sound_one leaves triples t hs ht
    exact ⟨t, h1, fun tr htr => h2 tr htr
      ((inside_iff leaves tr).mpr ⟨(hs.known tr htr).1, (hs.known tr htr).2, h3 tr htr⟩)⟩
  · exact C20_complete_one leaves triples hs hne h3

example : (treeFromTriples [0, 1, 2] [(0, 1, 2), (0, 2, 1)]).isSome = false := by decide +kernel

/-- AllTrees completeness (Ng–Wormald); proved as `C20_complete_all`. -/
def C20_complete_all_statement : Prop :=
  ∀ (leaves : List Nat) (triples : List Triple), Scope leaves triples →
    (∀ tr, tr ∈ triples → tr.2.2 ∈ leaves) →
    ∀ t : LTree, binary t = true → t.leaves.Perm leaves →
      (∀ tr, tr ∈ triples → displays t tr = true) →
      ∃ u, u ∈ allTreesFromTriples leaves triples ∧ sameClades t u = true

/-- **AllTrees is complete.**  Every binary tree on the leaf set displaying
    every triple is, up to child order, a member of
    `all_trees_from_triples`.  Together with `C20_sound_all` the routine
    returns exactly the displaying binary trees, each once. -/
theorem C20_complete_all : C20_complete_all_statement := by
  intro leaves triples hs h3 t hb hperm hd
  have hb' : t.isBinary = true := hb
  have htn : t.leaves.Nodup := hperm.nodup_iff.mpr hs.nodup
  have hne : leaves ≠ [] := by
    intro h
    rw [h] at hperm
    exact binary_leaves_ne t hb' (List.Perm.eq_nil hperm)
  have hin : ∀ tr, tr ∈ triples → inside leaves tr = true ∧ displays t tr = true := fun tr htr =>
    ⟨(inside_iff leaves tr).mpr ⟨(hs.known tr htr).1, (hs.known tr htr).2, h3 tr htr⟩, hd tr htr⟩
  have hsome := C20_complete_one leaves triples hs hne h3 ⟨t, hperm, hd⟩
  obtain ⟨u, hu, hsame⟩ := (allTrees_enum leaves.length leaves triples hs.nodup hs.known hs.proper
    (Nat.le_refl _)).2.2 t hb' htn (fun x => hperm.mem_iff.symm) hin
  refine ⟨u, ?_, hsame⟩
  unfold allTreesFromTriples
  have : (treeFromTriples leaves triples).isNone = false := by
    cases h : treeFromTriples leaves triples with
    | none => rw [h] at hsome; cases hsome
    | some _ => rfl
  simp only [this]
  exact hu

/-- The three clauses stated in this file as `…_statement`, together: the first two are proved
    here (`C20_complete_one`, `C20_complete_all`), the third in Properties/C20Super.lean
    (`C20_supertree`), where `C20_full` proves the conjunction.  The other clauses are
    `C20_ds`, `C20_binary` (Properties/C20Binary.lean), `C20_sound_one`,
    `C20_one_iff`, `C20_sound_all`, `C20_roundtrip`, `C20_triples_displayed`,
    `C20_supertree_partial`. -/
def C20_statement : Prop :=
  C20_complete_one_statement ∧ C20_complete_all_statement ∧ C20_supertree_statement

end SR.C20
