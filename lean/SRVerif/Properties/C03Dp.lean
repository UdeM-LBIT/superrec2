/-
  C03 for the unordered solvers (`uspfs`: base and extended), as far as the label
  DP theory reaches: the table is exact with respect to the GENERIC evaluator
  `labCost (unAlg c)` (per-kind edge charges of `_compute_uspfs_entry`), inside
  `spe + sloss ≤ dup + 2·floss` (implied by the coherent region
  `spe + 2·sloss ≤ dup + 2·floss`).

  The bridge to the REAL evaluator (`C03_kinds_faithful_statement`: for decoded kind labellings
  the per-kind edge charges coincide with the evaluator's subset tests on the materialised
  contents) is proved in `C03Kinds.lean`; optimality among canonical labellings is in
  `C03Canon.lean`, the exchange argument of the SuperDTL paper and `= Spec.optimum` in
  `C03Full.lean`, oracle adequacy in `C03Spec.lean`.
-/
import SRVerif.Proofs.LcaMapOpt
import SRVerif.Proofs.LabelDPUn
import SRVerif.Proofs.DPSolverUn
import SRVerif.Proofs.Enum

namespace SR.C03

open SR Cost

theorem spOk_annUn (c : Costs) (S : RTree) (base : Bool) (whole o : OTree)
    (hS : ∀ p ∈ leafSpecies o, S.isNode p = true) :
    ∀ p, SpOk (unAlg c) S (annUn S base whole p o) := by
  induction o with
  | leaf sp f => intro _; exact hS sp (by simp [leafSpecies])
  | node l r ihl ihr =>
    intro p
    exact ⟨isNode_of_mem_allowed S base (.node l r) hS,
      ihl (fun q hq => hS q (by simp [leafSpecies, hq])) _,
      ihr (fun q hq => hS q (by simp [leafSpecies, hq])) _⟩

theorem uspfsD_spOk (c : Costs) (S : RTree) (base : Bool) (o : OTree)
    (hS : ∀ p ∈ leafSpecies o, S.isNode p = true) :
    ∀ i ∈ (uspfsD c S base o).idx, SpOk (uspfsD c S base o).A S ((uspfsD c S base o).tree i) :=
  fun _ _ => spOk_annUn c S base o o hS []

/-- The unordered table is exact for the generic evaluator. -/
theorem C03_table_exact (c : Costs) (S : RTree) (base : Bool) (o : OTree)
    (hb : S.isBinary = true) (hS : ∀ p ∈ leafSpecies o, S.isNode p = true)
    (hcoh : c.spe + c.sloss ≤ c.dup + 2 * c.floss) :
    let t := annUn S base o [] o
    ∀ d ∈ dpTable (unAlg c) c S true t,
      (∃ ls, ls ∈ d.sols) ∧
      (∀ ls, ls ∈ d.sols ↔
        Adm (unAlg c) t ls ∧ ls.sp = d.sp ∧ ls.lab = d.lab ∧ labCost (unAlg c) c t ls = d.cost) ∧
      (∀ ls, Adm (unAlg c) t ls → ls.sp = d.sp → ls.lab = d.lab →
        Cost.le d.cost (labCost (unAlg c) c t ls) = true) :=
  table_exact (unAlg c) c S (un_slack c) hcoh hb _ (spOk_annUn c S base o o hS [])

/-- Every returned solution is a valid reconciliation of the input (all costs). -/
theorem C03_rec_valid (c : Costs) (S : RTree) (base : Bool) (o : OTree) :
    ∀ sol ∈ uspfs c S base o, Spec.validRec o sol = true := by
  intro sol h
  obtain ⟨k, ⟨_, adm, _, hfin⟩, rfl⟩ :=
    (uspfsD c S base o).cand_of_mem_rank c S (un_slack c) (uspfs_eq c S base o ▸ h)
  exact validRec_unSol c S base o o [] _ k.2 adm (valid_of_labCost_fin (unAlg c) c _ k.2 hfin)

/-- The bridge to the real evaluator (`C03Kinds.C03_kinds_faithful`). -/
def C03_kinds_faithful_statement : Prop :=
  ∀ (c : Costs) (S : RTree) (base : Bool) (o : OTree),
    S.isBinary = true → (∀ p ∈ leafSpecies o, S.isNode p = true) →
    (∀ f ∈ leafSyntenies o, f ≠ []) →
    let t := annUn S base o [] o
    ∀ d ∈ uspfsCells c S base true o, ∀ ls ∈ d.sols,
      totalCost c .unordered o (unSol t t.data.lcaSet ls) = labCost (unAlg c) c t ls

example :
    let c : Costs := { spe := 1, dup := 1, hgt := .fin 1, floss := 1, sloss := 1 }
    let S : RTree := .node [.node [], .node []]
    let o : OTree := .node (.leaf [0] [1, 2]) (.leaf [1] [2])
    S.isBinary = true ∧ (∀ p ∈ leafSpecies o, S.isNode p = true) ∧
    c.spe + c.sloss ≤ c.dup + 2 * c.floss ∧
    (dpTable (unAlg c) c S true (annUn S false o [] o)).length = 6 := by
  decide +kernel

end SR.C03
