/-
  C11 — Serialised results read back to the same reconciliation.

  Model: `SRVerif/Model/Serialize.lean`.  A node is its path from the root;
  `tree & name` is the first node in level order with the name; Python dicts
  are association lists with in-place replacement.  In this file the Newick
  writer and reader are parameters `write`/`read`, and their round-trip law on
  uniquely and safely named trees (`NewickLaw`) is a hypothesis of
  `C11_roundtrip_*`.  `C11Newick.lean` proves the law for the modelled codec
  (`C11_newick_law`, `Model/Newick.lean`) and states the round trips without
  it (`C11_roundtrip_newick_*`).

  What reads back (`norm`): the object itself, except that
  * a synteny stored as a Python `set` comes back as the list sorted by
    `sort_synteny` (`normSyn`; the identity when all syntenies are lists), and
  * the `input` of an output comes back as a plain `ReconciliationInput`
    (`ReconciliationOutput._from_dict` calls `ReconciliationInput.from_dict`),
    so that the key `input.leaf_syntenies` — not one of the fields the property
    lists — is absent from the second dictionary (`dropLeafSyntenies`).

  The domain of the round trips (`RecInput.WF`, …, `SRecOutput.WF`, `CostsWF`), `norm`,
  `NewickLaw` and `dropLeafSyntenies` are defined in `Proofs/SerializeClasses.lean`; `KeysIn`,
  `TreeMappingWF` and `normSyn` in `Proofs/SerializeMap.lean`.
-/
import SRVerif.Proofs.SerializeClasses

namespace SR.C11

open SR.Ser

/-- `tree & name` on a uniquely named tree: the node found is the one carrying
    the name (whatever the traversal order), and a name carried by no node is not found. -/
theorem C11_lookup {t : NT} (hu : t.UniqueNames) (nm : String) (p : Path) :
    t.findPath nm = some p ↔ ∃ s, t.sub p = some s ∧ s.name = nm := by
  constructor
  · exact NT.findPath_some_sub
  · rintro ⟨s, hs, rfl⟩
    exact NT.findPath_name hu hs

/-- Tree mappings: parsing the serialised form gives the mapping back (same
    pairs, same order), and serialising what was parsed reproduces the serialised form. -/
theorem C11_mapping {ft tt : NT} (hf : ft.UniqueNames) (ht : tt.UniqueNames) {m : TreeMapping}
    (hm : TreeMappingWF ft tt m) :
    parseTreeMapping ft tt (serializeTreeMapping ft tt m) = .ok m
    ∧ ∀ m', parseTreeMapping ft tt (serializeTreeMapping ft tt m) = .ok m' →
        serializeTreeMapping ft tt m' = serializeTreeMapping ft tt m := by
  have h := parse_serialize_treeMapping hf ht hm
  refine ⟨h, fun m' hm' => ?_⟩
  rw [h] at hm'
  rw [← Except.ok.inj hm']

/-- The serialised form of a well-formed mapping is, entry by entry, the pair of names. -/
theorem C11_mapping_form {ft tt : NT} (hf : ft.UniqueNames) {m : TreeMapping}
    (hm : TreeMappingWF ft tt m) :
    serializeTreeMapping ft tt m = m.map (fun x => (ft.nameAt x.1, tt.nameAt x.2)) :=
  serializeTreeMapping_eq hf hm.1

/-- Synteny mappings: ordered lists come back verbatim, sets come back as the
    sorted list that was written; serialising again reproduces the serialised form. -/
theorem C11_synteny {t : NT} (hu : t.UniqueNames) {m : SynMapping} (hk : KeysIn t m) :
    parseSynMapping t (serializeSynMapping t m) = .ok (normSyn m)
    ∧ serializeSynMapping t (normSyn m) = serializeSynMapping t m
    ∧ ((∀ x ∈ m, ∃ l, x.2 = Syn.lst l) → normSyn m = m) :=
  ⟨parse_serialize_synMapping hu hk, serialize_normSyn _ _, normSyn_of_lists⟩

/-- `normSyn` keeps the nodes and their order; each synteny keeps its families:
    a list verbatim, a set up to the order (it is sorted). -/
theorem C11_synteny_content (m : SynMapping) :
    (normSyn m).map (·.1) = m.map (·.1)
    ∧ ∀ i (h : i < m.length),
        ((normSyn m)[i]'(by simpa [normSyn] using h)).2.items.Perm m[i].2.items
        ∧ ∀ l, m[i].2 = Syn.lst l → ((normSyn m)[i]'(by simpa [normSyn] using h)).2 = Syn.lst l := by
  refine ⟨by simp [normSyn, List.map_map, Function.comp_def], fun i h => ?_⟩
  simp only [normSyn, List.getElem_map]
  constructor
  · cases m[i].2 with
    | lst l => exact List.Perm.refl _
    | set l => exact sortSynteny_perm l
  · intro l hl
    rw [hl]; rfl

/-- The cost-name table (generated from `NodeEvent`/`EdgeEvent`): every member is
    found again from its name, in its own enumeration. -/
theorem C11_costs : ∀ e : Event, e.valid = true → eventOfName e.name = .ok e :=
  fun _ h => eventOfName_name h

/-- … which, on the generated table, is the finite statement decided here. -/
theorem C11_costs_table :
    (∀ n ∈ Gen.nodeEventNames, eventOfName n = .ok (.node n))
    ∧ (∀ n ∈ Gen.edgeEventNames, eventOfName n = .ok (.edge n))
    ∧ (∀ x ∈ defaultCost, x.1.valid = true) ∧ (defaultCost.map (·.1)).Nodup := by
  decide +kernel

theorem C11_cost_values {c : CostValues} (h : CostsWF c) :
    parseCosts (serializeCosts c) = .ok c := parse_serialize_costs h

section
variable {write : NT → String} {read : String → Option NT}

/-- `ReconciliationInput`: the dictionary form reads back to the same object. -/
theorem C11_roundtrip_input (hN : NewickLaw write read) {x : RecInput} (h : x.WF) :
    RecInput.fromDict read (x.toDict write) = .ok x :=
  RecInput.fromDict_toDict hN h

/-- `SuperReconciliationInput`: same, leaf syntenies up to `normSyn`; the second
    dictionary is the first. -/
theorem C11_roundtrip_super_input (hN : NewickLaw write read) {x : SRecInput} (h : x.WF) :
    SRecInput.fromDict read (x.toDict write) = .ok x.norm
    ∧ x.norm.toDict write = x.toDict write :=
  ⟨SRecInput.fromDict_toDict hN h, SRecInput.toDict_norm x⟩

/-- `ReconciliationOutput`: trees, leaf assignment, costs and species mapping read
    back unchanged; the second dictionary is the first one minus `input.leaf_syntenies`
    (present only when the output was built on a super-reconciliation input). -/
theorem C11_roundtrip_output (hN : NewickLaw write read) {x : RecOutput} (h : x.WF) :
    RecOutput.fromDict read (x.toDict write) = .ok x.norm
    ∧ x.norm.toDict write = (x.toDict write).dropLeafSyntenies :=
  ⟨RecOutput.fromDict_toDict hN h, RecOutput.toDict_norm x⟩

/-- `SuperReconciliationOutput`: moreover the synteny labelling (up to `normSyn`)
    and the ordered flag. -/
theorem C11_roundtrip_super_output (hN : NewickLaw write read) {x : SRecOutput} (h : x.WF) :
    SRecOutput.fromDict read (x.toDict write) = .ok x.norm
    ∧ x.norm.toDict write = (x.toDict write).dropLeafSyntenies :=
  ⟨SRecOutput.fromDict_toDict hN h, SRecOutput.toDict_norm x⟩

/-- `SRecOutput.norm` unfolded, field by field (every conjunct is `rfl`).  The fields the
    evaluator reads (`node_event`, `cost`) are those of the original: both trees, leaf
    assignment, costs, species mapping, ordered flag are equal, and the labelling is `normSyn`
    of the original (`C11_synteny_content`: same nodes, same families; the unordered evaluator
    only forms `set(…)` of them). -/
theorem C11_same_fields (x : SRecOutput) :
    x.norm.input.base = x.input.base
    ∧ x.norm.objectSpecies = x.objectSpecies
    ∧ x.norm.ordered = x.ordered
    ∧ x.norm.syntenies = normSyn x.syntenies :=
  ⟨rfl, rfl, rfl, rfl⟩

/-- Hence any evaluation that depends on these fields only — and on set-valued
    syntenies only through `normSyn` — gives the same events and cost on the
    object read back. -/
theorem C11_same_evaluation {α : Type} (eval : RecInput → TreeMapping → SynMapping → Bool → α)
    (hset : ∀ i m s o, eval i m (normSyn s) o = eval i m s o)
    (hN : NewickLaw write read) {x : SRecOutput} (h : x.WF) :
    ∃ y, SRecOutput.fromDict read (x.toDict write) = .ok y
      ∧ eval y.input.base y.objectSpecies y.syntenies y.ordered
        = eval x.input.base x.objectSpecies x.syntenies x.ordered :=
  ⟨x.norm, SRecOutput.fromDict_toDict hN h, hset _ _ _ _⟩

/-- `ordered` defaults to `True` when the key is absent. -/
theorem C11_ordered_default (d : OutputDict) (h : d.ordered = none) {y : SRecOutput}
    (hy : SRecOutput.fromDict read d = .ok y) : y.ordered = true := by
  unfold SRecOutput.fromDict at hy
  cases h1 : RecOutput.fromDict read d with
  | error e => simp [h1, bind, Except.bind] at hy
  | ok parent =>
    simp only [h1, bind, Except.bind] at hy
    cases h2 : d.syntenies with
    | none => simp [h2] at hy
    | some l =>
      simp only [h2] at hy
      cases h3 : parseSynMapping parent.input.base.objectTree l with
      | error e => simp [h3] at hy
      | ok syn =>
        simp only [h3, pure, Except.pure, Except.ok.injEq] at hy
        rw [← hy, h]; rfl

end

/-! ### Non-vacuity: the README solution (with the documented colour and an
    unordered labelling stored as sets) is well formed, and the hypotheses of the
    mapping theorems are needed. -/

def exObj : NT :=
  .node "O0" none [.node "O1" (some "0000FF") [.node "x_1" none [], .node "x_2" none []],
                   .node "y_1" none []]
def exSpe : NT := .node "S0" none [.node "X" none [], .node "Y" none []]

def exInput : SRecInput :=
  { base := { objectTree := exObj, speciesTree := exSpe,
              leafObjectSpecies := [([0, 0], [0]), ([0, 1], [0]), ([1], [1])],
              costs := (Event.node "HORIZONTAL_TRANSFER", Cost.inf) :: defaultCost.filter (·.1 != .node "HORIZONTAL_TRANSFER") },
    leafSyntenies := [([0, 0], .lst ["g1", "g2", "g3"]), ([0, 1], .lst ["g1", "g3", "g4"]),
                      ([1], .lst ["g1", "g2", "g3", "g4"])] }

def exOutput : SRecOutput :=
  { input := .super exInput
    objectSpecies := [([], []), ([0], [0]), ([0, 0], [0]), ([0, 1], [0]), ([1], [1])]
    syntenies := [([], .set ["g4", "g10", "g2", "g1"]), ([0], .set ["g1", "g2", "g10", "g4"]),
                  ([0, 0], .lst ["g1", "g2", "g3"]), ([0, 1], .lst ["g1", "g3", "g4"]),
                  ([1], .lst ["g1", "g2", "g3", "g4"])]
    ordered := false }

theorem exOutput_wf : exOutput.WF :=
  ⟨⟨⟨by decide +kernel, by decide +kernel, by decide +kernel, by decide +kernel, by decide +kernel,
    by decide +kernel⟩, by decide +kernel⟩, by decide +kernel, by decide +kernel⟩

example : exOutput.WF := exOutput_wf

example : (normSyn exOutput.syntenies).head? = some ([], .lst ["g1", "g2", "g4", "g10"]) := by decide +kernel

/-- Without unique names the round trip fails: two nodes named `a`, the mapping
    of the second one comes back on the first (level order). -/
example :
    let t : NT := .node "r" none [.node "a" none [], .node "a" none []]
    parseTreeMapping t t (serializeTreeMapping t t [([1], [])]) = .ok [([0], [])] := by decide +kernel

/-- Level order, not pre-order: the shallow `x` wins. -/
example : (NT.node "r" none [.node "b" none [.node "x" none []], .node "x" none []]).findPath "x"
    = some [1] := by decide +kernel

end SR.C11
