/-
  C09 — the cost clauses: "multiplying every unit cost by k multiplies the
  minimum by k and keeps the optimal set, and raising one unit cost never
  lowers the minimum".

  Stated of the specification's optimum `Spec.optimum` (every mode, every variant of the
  oracle, every input, NO coherence hypothesis; cell level too), of the evaluator `totalCost`
  (homogeneous and monotone for EVERY solution, valid or not) and hence of any arg-min of the
  evaluated cost over a candidate set that does not depend on the costs (`rankByCost`,
  `reconcile_exhaustive`).  The DP solvers: `C09Transfer.lean`, `C09Dp.lean`.
-/
import SRVerif.Properties.C09
import SRVerif.Proofs.OptCostChange

namespace SR.C09

open SR SR.EventLog

/-- `Costs.scale` of `C09.lean` is `scaleCosts` of the evaluator's specification. -/
theorem C09_scale_eq (k : Nat) (c : Costs) : Costs.scale k c = scaleCosts k c := rfl

/-- Each coherent region `spe + n·sloss ≤ dup + 2·floss` (`n` = 0, 2, 1 for the plain, ordered
    and unordered models) is closed under scaling. -/
theorem C09_coherent_scale_gen (k n : Nat) (c : Costs)
    (h : c.spe + n * c.sloss ≤ c.dup + 2 * c.floss) :
    (Costs.scale k c).spe + n * (Costs.scale k c).sloss
      ≤ (Costs.scale k c).dup + 2 * (Costs.scale k c).floss := by
  show k * c.spe + n * (k * c.sloss) ≤ k * c.dup + 2 * (k * c.floss)
  have := Nat.mul_le_mul_left k h
  rw [Nat.mul_add, Nat.mul_add, Nat.mul_left_comm k n, Nat.mul_left_comm k 2] at this
  exact this

/-- `leCosts` unfolds to the pointwise order spelled out in `C09_mono_statement` (by `rfl`). -/
theorem C09_leCosts_iff (c c' : Costs) :
    leCosts c c' ↔ (c.spe ≤ c'.spe ∧ c.dup ≤ c'.dup ∧ Cost.le c.hgt c'.hgt = true ∧
      c.floss ≤ c'.floss ∧ c.sloss ≤ c'.sloss) := Iff.rfl

def exC : Costs := { spe := 1, dup := 2, hgt := .fin 3, floss := 1, sloss := 1 }
/-- Dearer: duplication, transfer (made impossible, `hgt = ∞`) and segmental loss raised. -/
def exC' : Costs := { spe := 1, dup := 4, hgt := .inf, floss := 1, sloss := 2 }
def exS : RTree := .node [.node [.node [], .node []], .node []]
def exO : OTree := .node (.node (.leaf [0, 0] [1, 2]) (.leaf [1] [2])) (.leaf [0, 1] [1])

/-- **Scaling, cell level.**  With every unit cost multiplied by `k > 0`, the
    table of the oracle has the same cells (species, label, optimal solutions)
    and every value is multiplied by `k`. -/
theorem C09_scale_table (c : Costs) (S : RTree) (md : Spec.ModeData) (base keep : Bool)
    (whole : OTree) (p : Path) (o : OTree) (k : Nat) (hk : 0 < k) :
    Spec.optTable (Costs.scale k c) S md base keep whole p o
      = (Spec.optTable c S md base keep whole p o).map
          (fun d => { d with cost := Cost.scale k d.cost }) :=
  Spec.optTable_scale hk c S md base keep whole p o

/-- **Scaling, all variants of the oracle**: the optimum is multiplied by `k` and
    the optimal set is unchanged (as a list). -/
theorem C09_scale_opt (c : Costs) (S : RTree) (mode : LabelMode) (base keep : Bool) (o : OTree)
    (pre : Option (List Nat)) (k : Nat) (hk : 0 < k) :
    (Spec.optimum (Costs.scale k c) S mode base keep o pre).1
        = Cost.scale k (Spec.optimum c S mode base keep o pre).1 ∧
    (Spec.optimum (Costs.scale k c) S mode base keep o pre).2
        = (Spec.optimum c S mode base keep o pre).2 := by
  rw [C09_scale_eq, Spec.optimum_scale hk]
  exact ⟨rfl, rfl⟩

/-- **C09, scaling clause** (`C09_scale_statement` of `C09.lean`, verbatim). -/
theorem C09_scale : C09_scale_statement := by
  intro c S mode o k hk
  obtain ⟨h1, h2⟩ := C09_scale_opt c S mode false true o none k hk
  exact ⟨h1, fun s => by rw [h2]⟩

-- non-vacuity: a non-trivial optimum (one speciation, one transfer: 1 + 3) is
-- multiplied by 3, and the optimal set is non-empty and the same
example : (Spec.optimum exC exS .plain false true exO none).1 = .fin 4 ∧
    (Spec.optimum (Costs.scale 3 exC) exS .plain false true exO none).1 = .fin 12 ∧
    (Spec.optimum exC exS .plain false true exO none).2.length = 1 ∧
    (Spec.optimum (Costs.scale 3 exC) exS .plain false true exO none).2
      = (Spec.optimum exC exS .plain false true exO none).2 := by
  decide +kernel

example : (Spec.optimum exC exS .ordered false true exO none).1 = .fin 5 ∧
    (Spec.optimum (Costs.scale 2 exC) exS .ordered false true exO none).1 = .fin 10 ∧
    (Spec.optimum exC exS .unordered false true exO none).1 = .fin 4 ∧
    (Spec.optimum (Costs.scale 2 exC) exS .unordered false true exO none).1 = .fin 8 := by
  decide +kernel

/-- `k > 0` is necessary: on this input the optimal set under `k = 0` (where every valid
    solution costs 0) and the one under the original costs differ in size. -/
theorem C09_scale_zero_witness :
    (Spec.optimum (Costs.scale 0 exC) exS .plain false true exO none).2.length
      ≠ (Spec.optimum exC exS .plain false true exO none).2.length := by
  decide +kernel

/-- **Monotonicity, cell level**: every cell present under the dearer costs is
    present under the cheaper ones with a value that is no larger.  (The converse
    presence fails: a cell can become infinite — be dropped — when the transfer
    cost is raised to `inf`.) -/
theorem C09_mono_table (c c' : Costs) (hcc : leCosts c c') (S : RTree) (md : Spec.ModeData)
    (base keep keep' : Bool) (whole : OTree) (p : Path) (o : OTree) :
    ∀ d' ∈ Spec.optTable c' S md base keep' whole p o,
      ∃ d ∈ Spec.optTable c S md base keep whole p o,
        d.sp = d'.sp ∧ d.fam = d'.fam ∧ Cost.le d.cost d'.cost = true :=
  Spec.optTable_mono hcc S md base keep keep' whole p o

theorem C09_mono_opt (c c' : Costs) (hcc : leCosts c c') (S : RTree) (mode : LabelMode)
    (base keep keep' : Bool) (o : OTree) (pre : Option (List Nat)) :
    Cost.le (Spec.optimum c S mode base keep o pre).1 (Spec.optimum c' S mode base keep' o pre).1
      = true :=
  Spec.optimum_mono hcc S mode base keep keep' o pre

/-- **C09, monotonicity clause** (`C09_mono_statement` of `C09.lean`, verbatim). -/
theorem C09_mono : C09_mono_statement := by
  intro c c' S mode o h1 h2 h3 h4 h5
  exact C09_mono_opt c c' ⟨h1, h2, h3, h4, h5⟩ S mode false false false o none

-- non-vacuity: a strictly dearer vector with a strictly larger optimum
-- (`hgt = ∞` rules the transfer out), and cells that disappear
example : leCosts exC exC' ∧
    (Spec.optimum exC exS .plain false false exO none).1 = .fin 4 ∧
    (Spec.optimum exC' exS .plain false false exO none).1 = .fin 8 ∧
    (Spec.optimum exC exS .unordered false false exO none).1 = .fin 4 ∧
    (Spec.optimum exC' exS .unordered false false exO none).1 = .fin 10 ∧
    (Spec.optTable exC' exS .plain false false exO [] exO).length
      < (Spec.optTable exC exS .plain false false exO [] exO).length := by
  refine ⟨⟨?_, ?_, ?_, ?_, ?_⟩, ?_⟩ <;> decide +kernel

/-- **The evaluated cost of ANY solution is homogeneous in the cost vector** (no
    validity hypothesis, every `k`). -/
theorem C09_eval_scale (k : Nat) (c : Costs) (mode : LabelMode) (o : OTree) (sol : Sol) :
    totalCost (Costs.scale k c) mode o sol = Cost.scale k (totalCost c mode o sol) :=
  totalCost_scale k c mode o sol

/-- **The evaluated cost of ANY solution is monotone in every unit cost.** -/
theorem C09_eval_mono (c c' : Costs) (hcc : leCosts c c') (mode : LabelMode) (o : OTree)
    (sol : Sol) : Cost.le (totalCost c mode o sol) (totalCost c' mode o sol) = true :=
  totalCost_mono hcc mode o sol

example : totalCost exC .plain exO
      (.node [] [] (.node [0, 0] [] (.leaf [0, 0] []) (.leaf [1] [])) (.leaf [0, 1] [])) = .fin 9 ∧
    totalCost (Costs.scale 7 exC) .plain exO
      (.node [] [] (.node [0, 0] [] (.leaf [0, 0] []) (.leaf [1] [])) (.leaf [0, 1] [])) = .fin 63 ∧
    totalCost exC' .plain exO
      (.node [] [] (.node [0, 0] [] (.leaf [0, 0] []) (.leaf [1] [])) (.leaf [0, 1] [])) = .inf := by
  decide +kernel

theorem C09_eval_scale_le (k : Nat) (hk : 0 < k) (c : Costs) (mode : LabelMode) (o : OTree)
    (s s' : Sol) :
    Cost.le (totalCost (Costs.scale k c) mode o s) (totalCost (Costs.scale k c) mode o s')
      = Cost.le (totalCost c mode o s) (totalCost c mode o s') := by
  rw [C09_eval_scale, C09_eval_scale, Cost.scale_le hk]

theorem C09_eval_scale_fin (k : Nat) (c : Costs) (mode : LabelMode) (o : OTree) (s : Sol) :
    totalCost (Costs.scale k c) mode o s ≠ .inf ↔ totalCost c mode o s ≠ .inf := by
  rw [C09_eval_scale]
  cases totalCost c mode o s <;> simp [Cost.scale]

/-- **Scaling for arg-min solvers**: over a fixed candidate list, the result entry
    after scaling has the same members, and the minimum evaluated cost is scaled. -/
theorem C09_rank_scale (k : Nat) (hk : 0 < k) (c : Costs) (mode : LabelMode) (o : OTree)
    (cands : List Sol) :
    (∀ s, s ∈ rankByCost (Costs.scale k c) mode o cands ↔ s ∈ rankByCost c mode o cands) ∧
    Cost.minList (cands.map (totalCost (Costs.scale k c) mode o))
      = Cost.scale k (Cost.minList (cands.map (totalCost c mode o))) := by
  constructor
  · intro s
    simp only [mem_rankByCost, C09_eval_scale_le k hk]
  · rw [← Cost.scale_minList hk, List.map_map]
    exact congrArg Cost.minList (List.map_congr_left (fun s _ => C09_eval_scale k c mode o s))

/-- **Monotonicity for arg-min solvers**: over a fixed candidate list, the minimum
    evaluated cost is monotone in the cost vector; so is the cost of the returned
    solutions. -/
theorem C09_rank_mono (c c' : Costs) (hcc : leCosts c c') (mode : LabelMode) (o : OTree)
    (cands : List Sol) :
    Cost.le (Cost.minList (cands.map (totalCost c mode o)))
        (Cost.minList (cands.map (totalCost c' mode o))) = true ∧
    ∀ s ∈ rankByCost c mode o cands, ∀ s' ∈ rankByCost c' mode o cands,
      Cost.le (totalCost c mode o s) (totalCost c' mode o s') = true := by
  constructor
  · rcases Cost.minList_mem_or_inf (cands.map (totalCost c' mode o)) with h | h
    · rw [h]; exact Cost.le_inf _
    · obtain ⟨s, hs, e⟩ := List.mem_map.mp h
      rw [← e]
      exact Cost.le_trans (Cost.minList_le (List.mem_map.mpr ⟨s, hs, rfl⟩))
        (C09_eval_mono c c' hcc mode o s)
  · intro s hs s' hs'
    rw [mem_rankByCost] at hs hs'
    exact Cost.le_trans (hs.2 s' hs'.1) (C09_eval_mono c c' hcc mode o s')

/-- **C09 scaling for `reconcile_exhaustive`** (all unit costs, no coherence): the
    returned set is unchanged and the cost of each returned solution is scaled. -/
theorem C09_scale_exh (k : Nat) (hk : 0 < k) (c : Costs) (o : OTree) :
    (∀ s, s ∈ exhaustive (Costs.scale k c) o ↔ s ∈ exhaustive c o) ∧
    ∀ s ∈ exhaustive c o,
      totalCost (Costs.scale k c) .plain o s = Cost.scale k (totalCost c .plain o s) :=
  ⟨(C09_rank_scale k hk c .plain o (generateAll o)).1,
    fun s _ => C09_eval_scale k c .plain o s⟩

/-- **C09 monotonicity for `reconcile_exhaustive`**: no solution returned under the
    dearer costs is cheaper than a solution returned under the cheaper costs. -/
theorem C09_mono_exh (c c' : Costs) (hcc : leCosts c c') (o : OTree) :
    ∀ s ∈ exhaustive c o, ∀ s' ∈ exhaustive c' o,
      Cost.le (totalCost c .plain o s) (totalCost c' .plain o s') = true :=
  (C09_rank_mono c c' hcc .plain o (generateAll o)).2

example : (exhaustive exC exO).map (totalCost exC .plain exO) = [.fin 4] ∧
    exhaustive (Costs.scale 5 exC) exO = exhaustive exC exO ∧
    (exhaustive exC' exO).map (totalCost exC' .plain exO) = [.fin 8] := by
  decide +kernel

end SR.C09
