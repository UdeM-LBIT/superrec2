/-
  C17 — Ancestry queries on trees are exact.

  Model: `SRVerif/Model/Lca.lean` (`RangeMinQuery` sparse table with `None`
  padding and Python's `min`, `_euler_tour`, first-occurrence index,
  `LowestCommonAncestor.__call__` and the five derived queries, every Python
  exception as an `Except PyErr` value).  Nodes are paths from the root; the
  specification side is `SRVerif/Model/Paths.lean` (`isAnc` = prefix, `lcp` =
  longest common prefix, `level` = length, `dist`).

  All theorems hold for every tree (any arity, any size), every node of it
  and every array; none of them bounds the input.
-/
import SRVerif.Proofs.Lca
import Mathlib.Data.Int.Order.Basic
import Mathlib.Data.Prod.Lex

namespace SR.C17

open SR.Lca SR.Path

/-- The comparison of a linearly ordered element type (never raises). -/
def ordLt (α : Type) [LinearOrder α] : Lt α := totalLt (fun a b => decide (a < b))

/-- For a comparison that orders the elements by a key into a linear order
    (ties allowed): the answer is a key-minimal element of the range. -/
theorem C17_rmq_key {α κ : Type} [LinearOrder κ] (key : α → κ) (lt : α → α → Bool)
    (hlt : ∀ a b, lt a b = decide (key a < key b)) (data : List α) (start stop : Nat)
    (h1 : start < stop) (h2 : stop ≤ data.length) :
    ∃ m, rmq (totalLt lt) data start stop = .ok (some m) ∧
      m ∈ slice data start stop ∧ ∀ x ∈ slice data start stop, key m ≤ key x := by
  obtain ⟨tbl, hb, hq⟩ := table_ok (cmpOK_key key lt hlt data)
    (List.ne_nil_of_length_pos (Nat.lt_of_le_of_lt (Nat.zero_le _) (Nat.lt_of_lt_of_le h1 h2)))
  simp only [rmq, hb]
  exact hq start stop h1 h2

/-- A query on a non-empty range inside the array returns an element of
    exactly that range which is below every element of it — its minimum;
    neither construction nor query raises. -/
theorem C17_rmq {α : Type} [LinearOrder α] (data : List α) (start stop : Nat)
    (h1 : start < stop) (h2 : stop ≤ data.length) :
    ∃ m, rmq (ordLt α) data start stop = .ok (some m) ∧
      m ∈ slice data start stop ∧ ∀ x ∈ slice data start stop, m ≤ x :=
  C17_rmq_key id _ (fun _ _ => rfl) data start stop h1 h2

/-- The same in terms of `List.min?`. -/
theorem C17_rmq_min {α : Type} [LinearOrder α] (data : List α) (start stop : Nat)
    (h1 : start < stop) (h2 : stop ≤ data.length) :
    rmq (ordLt α) data start stop = .ok ((slice data start stop).min?) := by
  obtain ⟨m, hq, hmem, hle⟩ := C17_rmq data start stop h1 h2
  rw [hq]
  cases hs : slice data start stop with
  | nil => simp [hs] at hmem
  | cons a l =>
    rw [hs] at hmem hle
    obtain ⟨g1, g2⟩ := List.foldl_choice_spec le_refl le_trans
      (fun a b => (le_total a b).imp min_eq_left min_eq_right) min_le_left min_le_right l a
    rw [List.min?_cons']
    congr 2
    exact le_antisymm (hle _ g1) (g2 m hmem)

/-- Instance: tuples `(level, id)` of integers under Python's lexicographic
    tuple comparison (the element type `LowestCommonAncestor` would use if
    nodes were numbers). -/
theorem C17_rmq_pairs (data : List (Int × Int)) (start stop : Nat)
    (h1 : start < stop) (h2 : stop ≤ data.length) :
    ∃ m, rmq pairLt data start stop = .ok (some m) ∧ m ∈ slice data start stop ∧
      ∀ x ∈ slice data start stop, m.1 < x.1 ∨ (m.1 = x.1 ∧ m.2 ≤ x.2) := by
  obtain ⟨m, hq, hmem, hle⟩ := C17_rmq_key (κ := Int ×ₗ Int) (fun p => toLex p)
    (fun a b => decide (a.1 < b.1) || (a.1 == b.1 && decide (a.2 < b.2)))
    (by
      intro a b
      rw [Bool.eq_iff_iff]
      simp [Prod.Lex.toLex_lt_toLex])
    data start stop h1 h2
  refine ⟨m, hq, hmem, ?_⟩
  intro x hx
  have := hle x hx
  rw [Prod.Lex.toLex_le_toLex] at this
  exact this

example : rmq pairLt [(1, 2), (0, 3), (0, 1)] 0 3 = .ok (some (0, 1)) := by decide +kernel

/-- On non-empty data an empty range (`start ≥ stop`) yields `None`, whatever the bounds (on `[]` the
    construction itself raises). -/
theorem C17_rmq_empty {α : Type} [LinearOrder α] (data : List α) (start stop : Nat)
    (hne : data ≠ []) (h : stop ≤ start) :
    rmq (ordLt α) data start stop = .ok none := by
  obtain ⟨tbl, hb, _⟩ := build_ok (cmpOK_total data) hne
  simp [rmq, ordLt, hb, query, h]

example : rmq (ordLt Nat) [3, 1, 5, 3, 4, 7, 6, 1] 2 7 = .ok (some 3) := by decide +kernel
example : slice [3, 1, 5, 3, 4, 7, 6, 1] 2 7 = [5, 3, 4, 7, 6] := rfl
example : rmq (ordLt Nat) [3, 1, 5] 2 1 = .ok none := by decide +kernel

/-- `(level1, node1) < (level2, node2)` raises exactly when the levels are
    equal and the nodes distinct (Python would evaluate `node1 < node2`). -/
theorem C17_entryLt_raises_iff (a b : TourEntry) :
    (∃ e, entryLt a b = .error e) ↔ (a.1 = b.1 ∧ a.2 ≠ b.2) := by
  unfold entryLt
  by_cases h1 : a.1 = b.1 <;> by_cases h2 : a.2 = b.2 <;> simp [h1, h2]

/-- The precise fact that keeps `TreeNode < TreeNode` from ever being
    evaluated: in every contiguous range of the Euler tour all entries of
    minimal level hold the same node (the two operands of every `min` of the
    sparse table are level-minima of two windows whose union is such a
    range).  Consequently the construction of the table and every in-range
    query succeed: the model propagates the `TypeError` of any comparison it
    performs, so `.ok` means that no comparison raised. -/
theorem C17_no_node_cmp (t : RTree) :
    (∀ start stop a b, a ∈ slice (eulerTour t) start stop → b ∈ slice (eulerTour t) start stop →
      (∀ e ∈ slice (eulerTour t) start stop, a.1 ≤ e.1) →
      (∀ e ∈ slice (eulerTour t) start stop, b.1 ≤ e.1) → a = b) ∧
    (∃ tbl, build entryLt (eulerTour t) = .ok tbl ∧
      ∀ start stop, start < stop → stop ≤ (eulerTour t).length →
        ∃ m, query entryLt tbl start stop = .ok (some m) ∧ m ∈ slice (eulerTour t) start stop ∧
          ∀ e ∈ slice (eulerTour t) start stop, m.1 ≤ e.1) := by
  constructor
  · intro start stop a b ha hb hamin hbmin
    have ha' : IsMinAt Prod.fst (eulerTour t) start (stop - start) a :=
      isMinAt_iff_slice.2 ⟨ha, hamin⟩
    have hb' : IsMinAt Prod.fst (eulerTour t) start (stop - start) b :=
      isMinAt_iff_slice.2 ⟨hb, hbmin⟩
    obtain ⟨u, rfl, hu⟩ := isMinAt_entry ha'
    obtain ⟨v, rfl, hv⟩ := isMinAt_entry hb'
    rw [min_paths_eq (tourPaths_inv t) hu hv]
  · exact table_ok (cmpOK_tour t) (eulerTour_ne_nil t)

/-- The level stored with a node in the tour is the length of its path. -/
theorem C17_tour_level (t : RTree) : ∀ e ∈ eulerTour t, e.1 = e.2.length := by
  intro e he
  rw [eulerTour_eq] at he
  obtain ⟨p, _, rfl⟩ := List.mem_map.1 he
  rfl

/-- A tree used in the non-vacuity examples: `((2,(4,5)3)1,(7,8,(10)9)6)0`. -/
def exTree : RTree :=
  .node [.node [.node [], .node [.node [], .node []]],
         .node [.node [], .node [], .node [.node []]]]

/-- For any non-empty list of nodes of the tree, the query returns the
    longest common prefix of all their paths. -/
theorem C17_lca (t : RTree) (p : Path) (ps : List Path)
    (h : ∀ x ∈ p :: ps, t.isNode x = true) :
    lcaQuery t (p :: ps) = .ok (ps.foldl lcp p) := by
  obtain ⟨tbl, h1, h2⟩ := init_ok t
  simp only [lcaQuery, withState, h1]
  exact call_ok t h2 p ps h

/-- Two nodes: the longest common prefix of the two paths. -/
theorem C17_lca_pair (t : RTree) (p q : Path) (hp : t.isNode p = true) (hq : t.isNode q = true) :
    lcaQuery t [p, q] = .ok (lcp p q) := by
  have := C17_lca t p [q] (by simp [hp, hq])
  simpa using this

/-- Independent reading: the result is a node of the tree, an ancestor of
    every argument, and every common ancestor of the arguments is an ancestor
    of it — the deepest common ancestor. -/
theorem C17_lca_deepest (t : RTree) (p : Path) (ps : List Path)
    (h : ∀ x ∈ p :: ps, t.isNode x = true) :
    ∃ r, lcaQuery t (p :: ps) = .ok r ∧ t.isNode r = true ∧
      (∀ x ∈ p :: ps, isAnc r x = true) ∧
      (∀ a, (∀ x ∈ p :: ps, isAnc a x = true) → isAnc a r = true ∧ a.length ≤ r.length) := by
  refine ⟨ps.foldl lcp p, C17_lca t p ps h, ?_, ?_, ?_⟩
  · exact RTree.isNode_of_prefix _ p t (foldl_lcp_prefix ps p p (by simp)) (h p (by simp))
  · intro x hx
    exact (isAnc_iff_prefix _ _).2 (foldl_lcp_prefix ps p x hx)
  · intro a ha
    have := prefix_foldl_lcp ps p a (fun x hx => (isAnc_iff_prefix _ _).1 (ha x hx))
    exact ⟨(isAnc_iff_prefix _ _).2 this, this.length_le⟩

/-- No argument: `TypeError`, as documented. -/
theorem C17_lca_empty (t : RTree) : lcaQuery t [] = .error .typeError := by
  obtain ⟨tbl, h1, _⟩ := init_ok t
  simp [lcaQuery, withState, h1, State.call]

example : exTree.isNode [0, 1, 0] = true ∧ exTree.isNode [0, 0] = true ∧
    exTree.isNode [1, 2, 0] = true := by decide +kernel
example : lcaQuery exTree [[0, 1, 0], [0, 0]] = .ok [0] :=
  C17_lca_pair exTree _ _ (by decide) (by decide)
example : lcaQuery exTree [[0, 1, 0], [1, 2, 0], [0]] = .ok [] :=
  C17_lca exTree _ _ (by decide)
example : lcp [0, 1, 0] [0, 0] = [0] := by decide +kernel

/-- Ancestor, strict ancestor, comparability, level and distance, computed
    through the sparse table, equal their definitions on paths. -/
theorem C17_queries (t : RTree) (p q : Path) (hp : t.isNode p = true) (hq : t.isNode q = true) :
    isAncestorOf t p q = .ok (isAnc p q) ∧
    isStrictAncestorOf t p q = .ok (isStrictAnc p q) ∧
    isComparable t p q = .ok (comparable p q) ∧
    Lca.level t p = .ok (Path.level p) ∧
    distance t p q = .ok (dist p q : Int) := by
  obtain ⟨tbl, h1, h2⟩ := init_ok t
  simp only [isAncestorOf, isStrictAncestorOf, isComparable, Lca.level, distance, withState, h1]
  exact ⟨isAncestorOf_ok t h2 hp hq, isStrictAncestorOf_ok t h2 hp hq,
    isComparable_ok t h2 hp hq, level_ok t hp, distance_ok t h2 hp hq⟩

/-- `n` steps up the parent chain (`node.up`, staying at the root). -/
def upN : Nat → Path → Path
  | 0, q => q
  | n + 1, q => upN n ((Path.up q).getD [])

theorem upN_eq_take (n : Nat) (q : Path) : upN n q = q.take (q.length - n) := by
  induction n generalizing q with
  | zero => rw [upN, Nat.sub_zero, List.take_length]
  | succ n ih =>
    have hup : (Path.up q).getD [] = q.dropLast := by cases q <;> rfl
    rw [upN, hup, ih, List.length_dropLast, List.dropLast_eq_take, List.take_take,
      Nat.min_eq_left (Nat.sub_le _ _), Nat.sub_sub, Nat.add_comm]

/-- `isAnc` is what it should be on parent chains: `isAnc p q` iff `p` is reached from `q` by
    repeatedly taking the parent. -/
theorem C17_isAnc_parent_chain (p q : Path) : isAnc p q = true ↔ ∃ n, upN n q = p := by
  rw [isAnc_iff_prefix]
  constructor
  · intro h
    refine ⟨q.length - p.length, ?_⟩
    rw [upN_eq_take, Nat.sub_sub_self h.length_le]
    exact (List.prefix_iff_eq_take.1 h).symm
  · rintro ⟨n, rfl⟩
    rw [upN_eq_take]
    exact List.take_prefix _ _

example : upN 2 [0, 1, 0] = [0] := by decide +kernel

example : isAncestorOf exTree [0] [0, 1, 0] = .ok true :=
  (C17_queries exTree _ _ (by decide) (by decide)).1
example : isStrictAncestorOf exTree [0] [0] = .ok false :=
  (C17_queries exTree _ _ (by decide) (by decide)).2.1
example : isComparable exTree [0, 1] [1] = .ok false :=
  (C17_queries exTree _ _ (by decide) (by decide)).2.2.1
example : Lca.level exTree [1, 2, 0] = .ok 3 :=
  (C17_queries exTree _ [] (by decide) (by decide)).2.2.2.1
example : distance exTree [0, 1, 0] [1, 2, 0] = .ok 6 :=
  (C17_queries exTree _ _ (by decide) (by decide)).2.2.2.2

end SR.C17
