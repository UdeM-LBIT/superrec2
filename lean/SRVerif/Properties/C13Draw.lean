/-
  C13, drawing clause, at the level of the drawing calls / generated TikZ statements.

  `C13_tikz_statement` (Properties/C13.lean) speaks about the statement-KIND model `Layout.render`.
  `C13_tikz_draw` transports it to the drawing-call model `TikzDraw.drawCalls` (which names the
  generated statement template and the fillings of every statement of the text): whenever the
  statement-kind clause holds for a reconciliation, the drawing code does not raise on its layout
  and the calls it makes contain exactly one event-node statement per object node, as many loss
  markers as the evaluator counts losses, and one arrow per transfer, pointing at the transferred
  child.  (`C15_draw_kinds` is the underlying equality of the two models, errors included.)
  `C13_tikz_draw_valid`: the same without the hypothesis, for every valid reconciliation, along `C13_tikz`.
-/
import SRVerif.Properties.C15Draw
import SRVerif.Properties.C13Tikz

namespace SR.C13

open SR SR.Layout SR.TikzDraw

/-- **C13, drawing clause, for the drawing calls.**  For a binary species tree and a species-label
    width other than 0 (for which `textwrap` raises): if `C13_tikz_statement` holds, then
    `layout.compute` succeeds, `tikz.render` makes its drawing calls without raising, and among the
    statement kinds of those calls (`C15_draw_stmtOf`: `\node[extant gene=…`, `\node[speciation=…`,
    `\node[duplication=…`, `\node[horizontal gene transfer=…` owned by the node's branch) there is
    exactly one event node per object node, exactly `evalLossCount sol` loss markers
    (`\node[loss=…`) and, per transfer node, exactly one arrow (`\path[transfer branch=…`) whose
    target is the transferred child. -/
theorem C13_tikz_draw (o : Orientation) (P : Params) (sizes : Key → Size) (dp : DParams)
    (deco : Deco) (S : RTree) (sol : Sol) (hb : S.isBinary = true) (hw : dp.labelWidth ≠ some 0)
    (h : C13_tikz_statement o P sizes S sol) :
    ∃ all calls, compute o P sizes S sol = .ok all ∧
      drawCalls o dp deco S (spOfSol sol) all = .ok calls ∧
      (∀ p sub, subAt sol p = some sub →
        ((kinds calls).filter fun x => match x with
          | .event k _ => k == Key.gene p | _ => false).length = 1) ∧
      ((kinds calls).filter fun x => match x with | .lossMarker _ => true | _ => false).length
        = evalLossCount sol ∧
      (∀ p sp f l r, subAt sol p = some (.node sp f l r) → internalEvent sp l.sp r.sp = .hgt →
        ((kinds calls).filter fun x => match x with
          | .transfer src tgt => src == Key.gene p &&
              tgt == Key.gene (if Path.isAnc sp l.sp then p ++ [1] else p ++ [0])
          | _ => false).length = 1) := by
  obtain ⟨ss, hr, h1, h2, h3⟩ := h
  obtain ⟨all, calls, hc, hd, rfl⟩ := SR.C15.C15_draw_of_render o P sizes dp deco S sol hb hw hr
  exact ⟨all, calls, hc, hd, h1, h2, h3⟩

/-- Conversely, what the drawing calls show is what the statement-kind model shows: a proof of the
    three clauses for `drawCalls` gives `C13_tikz_statement`. -/
theorem C13_tikz_of_draw (o : Orientation) (P : Params) (sizes : Key → Size) (dp : DParams)
    (deco : Deco) (S : RTree) (sol : Sol) (hb : S.isBinary = true) (hw : dp.labelWidth ≠ some 0)
    (all : List SubLayout) (calls : List DrawCall) (hc : compute o P sizes S sol = .ok all)
    (hd : drawCalls o dp deco S (spOfSol sol) all = .ok calls)
    (h1 : ∀ p sub, subAt sol p = some sub →
        ((kinds calls).filter fun x => match x with
          | .event k _ => k == Key.gene p | _ => false).length = 1)
    (h2 : ((kinds calls).filter fun x => match x with | .lossMarker _ => true | _ => false).length
        = evalLossCount sol)
    (h3 : ∀ p sp f l r, subAt sol p = some (.node sp f l r) → internalEvent sp l.sp r.sp = .hgt →
        ((kinds calls).filter fun x => match x with
          | .transfer src tgt => src == Key.gene p &&
              tgt == Key.gene (if Path.isAnc sp l.sp then p ++ [1] else p ++ [0])
          | _ => false).length = 1) :
    C13_tikz_statement o P sizes S sol := by
  refine ⟨kinds calls, ?_, h1, h2, h3⟩
  rw [SR.C15.C15_draw_kinds o P sizes dp deco S sol hb hw, hc]
  simp only [hd, mapE_ok]

/-- Non-vacuity: on the example of `Properties/C13.lean` the drawing calls exist and carry one
    event node per object node (7), the evaluator's number of loss markers and one arrow. -/
example :
    (match compute .vertical ⟨4, 5, 10, 12, 4⟩ (fun _ => ⟨8, 8⟩) exS exSol with
     | .ok all =>
       match drawCalls .vertical ⟨1, 3, "4pt".toList, some 21⟩
           ⟨fun _ _ => [], fun _ _ => "000000".toList, fun _ => "A_b".toList⟩ exS (spOfSol exSol) all with
       | .ok calls => ((kinds calls).countP isEvent, (kinds calls).countP isLossMarker,
                       (kinds calls).countP isTransfer)
       | .error _ => (0, 0, 0)
     | .error _ => (0, 0, 0)) = (7, evalLossCount exSol, 1) := by decide +kernel

/-- For every valid reconciliation in a binary species tree: the drawing code runs without raising
    and its calls contain exactly one event statement per object node, as many loss markers as the
    evaluator counts full losses, and exactly one arrow per transfer node, ending at the
    transferred child. -/
theorem C13_tikz_draw_valid (o : Orientation) (P : Params) (sizes : Key → Size) (dp : DParams)
    (deco : Deco) (S : RTree) (ot : OTree) (sol : Sol)
    (hv : Spec.validRec ot sol = true) (hin : inTree S sol = true)
    (hb : S.isBinary = true) (hw : dp.labelWidth ≠ some 0) :
    ∃ all calls, compute o P sizes S sol = .ok all ∧
      drawCalls o dp deco S (spOfSol sol) all = .ok calls ∧
      (∀ p sub, subAt sol p = some sub →
        ((kinds calls).filter fun x => match x with
          | .event k _ => k == Key.gene p | _ => false).length = 1) ∧
      ((kinds calls).filter fun x => match x with | .lossMarker _ => true | _ => false).length
        = evalLossCount sol ∧
      (∀ p sp f l r, subAt sol p = some (.node sp f l r) → internalEvent sp l.sp r.sp = .hgt →
        ((kinds calls).filter fun x => match x with
          | .transfer src tgt => src == Key.gene p &&
              tgt == Key.gene (if Path.isAnc sp l.sp then p ++ [1] else p ++ [0])
          | _ => false).length = 1) :=
  C13_tikz_draw o P sizes dp deco S sol hb hw (C13_tikz o P sizes S ot sol hv hin hb)

end SR.C13
