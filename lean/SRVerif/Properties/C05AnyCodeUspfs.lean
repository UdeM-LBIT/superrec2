/-
  C05, the policy ANY of the CODE-STRUCTURED model of the unordered solvers
  (`Model/UspfsCode.lean`: `UspfsCode.uspfsCodePol .any` =
  `usreconcile_{base,extended}_uspfs(…, ANY)`), against THE SAME model under ALL
  (`uspfsCode` = `uspfsCodePol .all`, which `C03_code_refines` ties to the label-DP model
  `uspfs`).  For all inputs:

  * `C05_code_any_table_uspfs`   at every (object node, species, kind) the two threaded
        tables are instantiated together, hold the SAME VALUE, the ANY entry keeps at most
        one tag, which is one of the ALL tags, and keeps one when ALL does;
  * `C05_code_any_decode_uspfs`  the outputs decoded from the ANY table are decoded from the
        ALL table, and an ALL cell that decodes to something has an ANY decoding;
  * `C05_code_any_card_uspfs`, `C05_code_any_empty_iff_uspfs`, `C05_code_any_total_uspfs`
        at most one solution; none iff the ALL result is empty; exactly one otherwise (no
        hypothesis on the costs, the species tree, the leaves);
  * `C05_code_any_mem_uspfs_of_uniform`   membership and equal result values, provided the
        evaluated cost is constant on the decodings of each root cell of the ALL table;
  * `C05_code_any_mem_uspfs`, `C05_code_any_same_cost_uspfs`, `C05_code_any_opt_uspfs`
        inside the coherent region `spe + sloss ≤ dup + 2·floss`, binary species tree, leaf
        species in `S` (the hypotheses of `C05_any_mem_uspfs`; the guard on empty leaf
        syntenies is not needed, `C03_kinds_faithful_all`): the ANY solution is one of the
        ALL solutions of the same code — hence of `uspfs` — with the same cost, which is
        the optimum of the specification.
-/
import SRVerif.Proofs.AnyCodeUspfs
import SRVerif.Properties.C03Code
import SRVerif.Properties.C05AnyUn

namespace SR.C05

open SR Cost AnyCode UspfsCode

variable (c : Costs) (S : RTree) (base : Bool) (o : OTree)

/-- **The two tables**, at every object node `q` of the object tree, species and kind. -/
theorem C05_code_any_table_uspfs (q : Path) (tq : ATree UnAnn)
    (hq : subAt (annCode S base o [] o) q = some tq) (s : Path) (k : Kind) :
    let cA := cellAt (codeTable .any c S base o) q s k
    let cL := cellAt (codeTable .all c S base o) q s k
    (cA = none ↔ cL = none) ∧ Cell.value .min cA = Cell.value .min cL ∧
    (Cell.infos cA).length ≤ 1 ∧ (∀ t ∈ Cell.infos cA, t ∈ Cell.infos cL) ∧
    (Cell.infos cL ≠ [] → Cell.infos cA ≠ []) := by
  intro cA cL
  have hA : cA = rowOf .any c S tq s k := by
    have := codeTable_holds .any c S base o q tq hq s k
    rwa [List.nil_append] at this
  have hL : cL = rowOf .all c S tq s k := by
    have := codeTable_holds .all c S base o q tq hq s k
    rwa [List.nil_append] at this
  have h := rowOf_rel c S tq s k
  rw [← hA, ← hL] at h
  exact h.cellSub.spec

/-- **Decoding**, from the root cell of every root species. -/
theorem C05_code_any_decode_uspfs (s : Path) :
    (∀ sol ∈ decodeRoot .any c S base o s, sol ∈ decodeRoot .all c S base o s) ∧
    (decodeRoot .all c S base o s ≠ [] → decodeRoot .any c S base o s ≠ []) :=
  decodings c S _ _ _ [] (codeTable_holds .any c S base o) (codeTable_holds .all c S base o) s .lca _

theorem C05_code_any_card_uspfs : (uspfsCodePol .any c S base o).length ≤ 1 :=
  (resultEntry_rel c S base o).1

theorem C05_code_any_empty_iff_uspfs : uspfsCodePol .any c S base o = [] ↔ uspfsCode c S base o = [] :=
  (resultEntry_rel c S base o).2.1

theorem C05_code_any_total_uspfs (hne : uspfsCode c S base o ≠ []) :
    (uspfsCodePol .any c S base o).length = 1 := by
  have h1 := List.length_pos_iff.mpr fun h => hne ((C05_code_any_empty_iff_uspfs c S base o).mp h)
  have h2 := C05_code_any_card_uspfs c S base o
  omega

/-- The evaluated cost is constant on the decodings of each root cell of the ALL table. -/
def UniformUspfs (c : Costs) (S : RTree) (base : Bool) (o : OTree) : Prop :=
  ∀ s ∈ levelOrder S, ∀ x ∈ decodeRoot .all c S base o s, ∀ y ∈ decodeRoot .all c S base o s,
    totalCost c .unordered o x = totalCost c .unordered o y

theorem C05_code_any_mem_uspfs_of_uniform (hu : UniformUspfs c S base o) :
    (resultEntry .any c S base o).value = (resultEntry .all c S base o).value ∧
    ∀ sol ∈ uspfsCodePol .any c S base o, sol ∈ uspfsCode c S base o :=
  (resultEntry_rel c S base o).2.2 hu

/-- Inside the coherent region the table value is the evaluated cost of every decoding. -/
theorem uniformUspfs (hb : S.isBinary = true) (hS : ∀ p ∈ leafSpecies o, S.isNode p = true)
    (hcoh : c.spe + c.sloss ≤ c.dup + 2 * c.floss) : UniformUspfs c S base o := by
  intro s _ x hx y hy
  have hok := C03.spOk_annUn c S base o o hS []
  have hsim := annCode_sim S base o o []
  have hdec := fun sol => decode_iff c S _ _ _ hsim hok [] (codeTable_holds .all c S base o) s .lca
    (annCode S base o [] o).data.lcaSet sol
  obtain ⟨d, hd, lx, hlx, rfl⟩ := (hdec x).mp hx
  obtain ⟨d', hd', ly, hly, rfl⟩ := (hdec y).mp hy
  rw [hd] at hd'
  simp only [Option.some.injEq] at hd'
  subst hd'
  obtain ⟨hmem, htag⟩ := findCell_some hd
  have hcell : d ∈ uspfsCells c S base true o := by
    simp only [uspfsCells, List.mem_filter, beq_iff_eq]
    exact ⟨hmem, (cellTag_eq.mp htag).2⟩
  have hg : d.sols.map (unSol (annUn S base o [] o) (annUn S base o [] o).data.lcaSet) ∈
      uspfsGroups c S base o := List.mem_map.mpr ⟨d, hcell, rfl⟩
  rw [hsim.data.1]
  exact uspfs_uniform c S base o (C03.C03_kinds_faithful_all c S base o) hb hS hcoh _ hg
    _ (List.mem_map.mpr ⟨lx, hlx, rfl⟩) _ (List.mem_map.mpr ⟨ly, hly, rfl⟩)

/-- **C05 (`any` ∈ `all`) for the code-structured unordered solvers**, inside the coherent
    region: the solution returned under ANY is one of those returned under ALL by the same
    code — hence by the label-DP model. -/
theorem C05_code_any_mem_uspfs (hb : S.isBinary = true) (hS : ∀ p ∈ leafSpecies o, S.isNode p = true)
    (hcoh : c.spe + c.sloss ≤ c.dup + 2 * c.floss) :
    ∀ sol ∈ uspfsCodePol .any c S base o, sol ∈ uspfsCode c S base o ∧ sol ∈ uspfs c S base o := by
  intro sol hsol
  have h := (C05_code_any_mem_uspfs_of_uniform c S base o (uniformUspfs c S base o hb hS hcoh)).2 sol hsol
  exact ⟨h, (C03.C03_code_refines c S base o hS sol).mp h⟩

theorem C05_code_any_same_cost_uspfs (hb : S.isBinary = true)
    (hS : ∀ p ∈ leafSpecies o, S.isNode p = true) (hcoh : c.spe + c.sloss ≤ c.dup + 2 * c.floss) :
    (resultEntry .any c S base o).value = (resultEntry .all c S base o).value ∧
    ∀ sol ∈ uspfsCodePol .any c S base o, ∀ sol' ∈ uspfsCode c S base o,
      totalCost c .unordered o sol = totalCost c .unordered o sol' := by
  refine ⟨(C05_code_any_mem_uspfs_of_uniform c S base o (uniformUspfs c S base o hb hS hcoh)).1, ?_⟩
  intro sol hsol sol' hsol'
  rw [C03.C03_code_table_min c S base o hb hS hcoh sol
      (C05_code_any_mem_uspfs c S base o hb hS hcoh sol hsol).1,
    C03.C03_code_table_min c S base o hb hS hcoh sol' hsol']

/-- Hence the ANY run returns exactly one solution, whose evaluated cost is the minimum over
    all valid unordered super-reconciliations (`C03_code_full_eq`). -/
theorem C05_code_any_opt_uspfs (hb : S.isBinary = true) (hS : ∀ p ∈ leafSpecies o, S.isNode p = true)
    (hcoh : c.spe + c.sloss ≤ c.dup + 2 * c.floss) :
    (uspfsCodePol .any c S base o).length = 1 ∧
    ∀ sol ∈ uspfsCodePol .any c S base o,
      totalCost c .unordered o sol = (Spec.optimum c S .unordered base false o none).1 :=
  ⟨C05_code_any_total_uspfs c S base o (C03.C03_code_nonempty c S base o hb hS),
    fun sol h => C03.C03_code_full_eq c S base o hb hS hcoh sol
      (C05_code_any_mem_uspfs c S base o hb hS hcoh sol h).1⟩

/-- An input with an INHERIT node in the optimum and a tie (`sloss = 0`): two ALL solutions,
    the ANY run returns one of them; the entry of object node `[0]` at species `[0]`, kind LCA,
    holds two tags under ALL and one under ANY, with the same value. -/
example :
    let c : Costs := { spe := 0, dup := 1, hgt := .fin 1, floss := 1, sloss := 0 }
    let S : RTree := .node [.node [], .node []]
    let o : OTree :=
      .node (.node (.leaf [0] [1, 2]) (.node (.leaf [0] [1]) (.leaf [0] [1]))) (.leaf [1] [1, 2])
    S.isBinary = true ∧ (∀ p ∈ leafSpecies o, S.isNode p = true) ∧
    c.spe + c.sloss ≤ c.dup + 2 * c.floss ∧
    (uspfsCode c S false o).length = 2 ∧ (uspfsCodePol .any c S false o).length = 1 ∧
    (∀ sol ∈ uspfsCodePol .any c S false o, sol ∈ uspfsCode c S false o) ∧
    (Cell.infos (cellAt (codeTable .all c S false o) [0] [0] .lca)).length = 2 ∧
    (Cell.infos (cellAt (codeTable .any c S false o) [0] [0] .lca)).length = 1 ∧
    Cell.value .min (cellAt (codeTable .any c S false o) [0] [0] .lca) =
      Cell.value .min (cellAt (codeTable .all c S false o) [0] [0] .lca) := by
  decide +kernel

/-- A leaf mapped outside the species tree: both results are empty. -/
example :
    let c : Costs := { spe := 0, dup := 1, hgt := .fin 1, floss := 1, sloss := 1 }
    uspfsCode c (.node []) false (.node (.leaf [5] [1]) (.leaf [5] [1])) = [] ∧
    uspfsCodePol .any c (.node []) false (.node (.leaf [5] [1]) (.leaf [5] [1])) = [] := by
  decide +kernel

end SR.C05
