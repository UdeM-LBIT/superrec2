/-
  C02 — the CODE-STRUCTURED model of the ordered solvers refines to the label-DP model.

  `Model/SpfsCode.lean` transliterates `superrec2/compute/super_reconciliation.py` (its head
  says what).  `Model/Solvers.lean` (`spfs`) is the instance at bitmask labels of the
  generic label DP, which stores decoded solutions and takes the root orders by specification;
  every C02 / C04 / C05 / C09 / C10 theorem is about `spfs`.  This file proves, for unbounded
  inputs and EVERY cost vector (no coherence assumption), that the root orderings tried are
  `rootOrders` (C19), that table keys, values and tags, decoder and result agree with `spfs`,
  and restates `C02_full`, `C02_ext_exact`, `C02_base_exact` for `spfsCode`.

  Guards of the refinement: the leaf species are nodes of `S`; every leaf synteny is a non-empty
  subsequence of every root order tried (automatic without a prescribed order when the leaf
  syntenies are non-empty); for a single-leaf input the leaf synteny has distinct families (the
  code takes the leaf synteny itself as root ordering; `C02_code_leaf_dup` shows the guard is
  needed).  The retention policy is ALL.
-/
import SRVerif.Proofs.SpfsCodeTop
import SRVerif.Properties.C02Spec

namespace SR.C02

open SR Cost SpfsCode

/-- With a prescribed root order (or a root synteny given in the input) it is the only one tried. -/
theorem C02_code_orders_prescribed (o : OTree) (r : List Nat) :
    rootOrderings o (some r) = .ok (rootOrders o (some r)) := rfl

/-- Without one, `toposort_all(_make_prec_graph(leaf_syntenies))` (or, for a single leaf, the
    leaf synteny) raises nothing and lists exactly `rootOrders o none`, each order once. -/
theorem C02_code_orders_none (o : OTree) (hne : ∀ f ∈ leafSyntenies o, f ≠ [])
    (hleaf : ∀ sp f, o = .leaf sp f → f.Nodup) :
    ∃ os, rootOrderings o none = .ok os ∧ os.Nodup ∧
      ∀ order, order ∈ os ↔ order ∈ rootOrders o none := by
  cases o with
  | node l r => exact rootOrderings_none l r hne
  | leaf sp f =>
    refine ⟨[f], rfl, by simp, ?_⟩
    intro order
    constructor
    · intro h
      simp only [List.mem_singleton] at h
      subst h
      have hnd := hleaf sp order rfl
      simp only [rootOrders, List.mem_filter, List.all_eq_true, leafSyntenies, List.mem_singleton,
        forall_eq, isSublist_iff_sublist, List.Sublist.refl, and_true]
      apply mem_permutations_of_perm
      simp [families, leafSyntenies, dedup_of_nodup order hnd]
    · intro h
      rw [Spec.rootOrders_leaf h]; simp

section table

variable (c : Costs) (S : RTree) (base : Bool) (order : List Nat) (o : OTree)

/-- The tables of the children of an object node are the children of its table: every object
    node's dict is the root cell list of `computeTable` on its subtree (with `isRoot = false`). -/
theorem C02_code_subtables (ret : Retain) (isRoot : Bool) (l r : OTree) :
    ∃ cells, computeTable c S base ret order isRoot (.node l r) =
      .node cells (computeTable c S base ret order false l) (computeTable c S base ret order false r) :=
  ⟨_, computeTable_node c S base order ret isRoot l r⟩

/-- **Cell-by-cell equality of keys and values** with `dpTable (ordAlg c)`: for every object
    (sub)tree, `table[obj][s][m]` is instantiated with value `v` iff the label DP has the cell
    `(s, m)` with cost `v`. -/
theorem C02_code_cells (hS : ∀ p ∈ leafSpecies o, S.isNode p = true) (hlv : LeavesOk order o)
    (keep isRoot : Bool) (s : Path) (m : Nat) (v : ExtInt) :
    (∃ cc ∈ (computeTable c S base .all order isRoot o).cells,
        cc.sp = s ∧ cc.syn = m ∧ cc.entry.value = v) ↔
    (∃ d ∈ dpTable (ordAlg c) c S keep (annOrd S base order isRoot o),
        d.sp = s ∧ d.lab = m ∧ d.cost.toExt = v) := by
  have h := table_rel c S base order o hS hlv keep isRoot
  constructor
  · rintro ⟨cc, hcc, rfl, rfl, rfl⟩
    obtain ⟨d, hd, h1, h2, h3⟩ := h.fwd cc hcc
    exact ⟨d, hd, h1.symm, h2.symm, h3.symm⟩
  · rintro ⟨d, hd, rfl, rfl, rfl⟩
    obtain ⟨cc, hcc, h1, h2, h3⟩ := h.bwd d hd
    exact ⟨cc, hcc, h1, h2, h3⟩

/-- Every instantiated entry is finite (and non-negative). -/
theorem C02_code_cells_finite (hS : ∀ p ∈ leafSpecies o, S.isNode p = true)
    (hlv : LeavesOk order o) (isRoot : Bool) :
    ∀ cc ∈ (computeTable c S base .all order isRoot o).cells,
      ∃ n : Nat, cc.entry.value = .fin (n : Int) := by
  intro cc hcc
  have h := table_rel c S base order o hS hlv false isRoot
  obtain ⟨d, hd, _, _, h3⟩ := h.fwd cc hcc
  obtain ⟨n, hn⟩ := ne_inf_iff.mp (h.fin d hd)
  exact ⟨n, by rw [h3, hn]; rfl⟩

/-- One entry per key `(species, mask)` in the dict of an object node. -/
theorem C02_code_cells_functional (ret : Retain) (isRoot : Bool) :
    ∀ cc ∈ (computeTable c S base ret order isRoot o).cells,
    ∀ cc' ∈ (computeTable c S base ret order isRoot o).cells,
      cc.sp = cc'.sp → cc.syn = cc'.syn → cc.entry = cc'.entry := by
  intro cc hcc cc' hcc' h1 h2
  cases o with
  | leaf sp f =>
    simp only [computeTable, Tab.cells] at hcc hcc'
    obtain ⟨e, he, rfl⟩ := mem_mkCells.mp hcc
    obtain ⟨e', he', rfl⟩ := mem_mkCells.mp hcc'
    exact Option.some.inj (he.symm.trans he')
  | node l r =>
    obtain ⟨_, _, he⟩ := (mem_cells_node c S base order ret isRoot l r cc).mp hcc
    obtain ⟨_, _, he'⟩ := (mem_cells_node c S base order ret isRoot l r cc').mp hcc'
    have e1 : computeEntry c S ret cc.sp cc.syn (computeTable c S base ret order false l).cells
        (computeTable c S base ret order false r).cells =
        computeEntry c S ret cc'.sp cc'.syn (computeTable c S base ret order false l).cells
        (computeTable c S base ret order false r).cells := by simp only [h1, h2]
    exact Option.some.inj (he.symm.trans (e1.trans he'))

/-- **Tags.**  The tags retained in `table[obj][s][m]` of an internal object node are exactly
    the pairs of child states `((species, mask), (species, mask))` of the label-DP candidates
    attaining the DP value of the cell — the pairs that `entry` dedups and decodes. -/
theorem C02_code_tags (l r : OTree) (hS : ∀ p ∈ leafSpecies (.node l r), S.isNode p = true)
    (hlv : LeavesOk order (.node l r)) (keep isRoot : Bool) :
    ∀ cc ∈ (computeTable c S base .all order isRoot (.node l r)).cells, ∀ t : CAsg,
      t ∈ cc.entry.infos ↔
        (best (ordAlg c) c S (nodeAnn S base order isRoot l r) cc.sp cc.syn
            (annOrd S base order false l).data (annOrd S base order false r).data
            (dpTable (ordAlg c) c S keep (annOrd S base order false l))
            (dpTable (ordAlg c) c S keep (annOrd S base order false r)), t) ∈
          cands (ordAlg c) c S (nodeAnn S base order isRoot l r) cc.sp cc.syn
            (annOrd S base order false l).data (annOrd S base order false r).data
            (dpTable (ordAlg c) c S keep (annOrd S base order false l))
            (dpTable (ordAlg c) c S keep (annOrd S base order false r)) := by
  intro cc hcc t
  obtain ⟨_, _, he⟩ := (mem_cells_node c S base order .all isRoot l r cc).mp hcc
  have hL := table_rel c S base order l (fun p hp => hS p (by simp [leafSpecies, hp])) hlv.1 keep false
  have hR := table_rel c S base order r (fun p hp => hS p (by simp [leafSpecies, hp])) hlv.2 keep false
  have hrel := computeEntry_rel c S keep (nodeAnn S base order isRoot l r)
    (annOrd S base order false l).data (annOrd S base order false r).data cc.sp cc.syn hL hR
  obtain ⟨d, hd, _, ht⟩ := hrel.of_some he
  rw [← (entry_eq_some _ _ _ _ _ _ _ _ _ _ hd).2.2.1]
  exact ht t

/-- **Decoding.**  `_decode_spfs_table` started at `(s, m)` yields exactly the solutions stored
    in the label-DP cell `(s, m)` (sequences resolved by `ordSol`), and nothing where the DP has
    no such cell. -/
theorem C02_code_decode (hS : ∀ p ∈ leafSpecies o, S.isNode p = true) (hlv : LeavesOk order o)
    (isRoot : Bool) (s : Path) (m : Nat) (sol : Sol) :
    sol ∈ decodeTable order (computeTable c S base .all order isRoot o) s m ↔
      ∃ d ∈ dpTable (ordAlg c) c S true (annOrd S base order isRoot o),
        d.sp = s ∧ d.lab = m ∧ ∃ ls ∈ d.sols, ordSol order ls = sol := by
  rw [decode_rel c S base order o hS hlv isRoot s m sol, exists_findCell_dpTable]
  simp only [eq_comm]

end table

section solver

variable (c : Costs) (S : RTree) (base : Bool) (o : OTree)

/-- **Refinement.**  When the root orderings tried are those of `rootOrders` and every leaf
    synteny is a non-empty subsequence of each of them, the code-structured model returns
    exactly the members of `spfs c S base o pre`, each once. -/
theorem C02_code_refines (pre : Option (List Nat))
    (hS : ∀ p ∈ leafSpecies o, S.isNode p = true)
    (hlv : ∀ order ∈ rootOrders o pre, LeavesOk order o)
    (horders : ∃ os, rootOrderings o pre = .ok os ∧ ∀ order, order ∈ os ↔ order ∈ rootOrders o pre) :
    ∃ res, spfsCode c S base o pre = .ok res ∧
      (∀ sol, sol ∈ res ↔ sol ∈ spfs c S base o pre) ∧ res.Nodup := by
  obtain ⟨os, hos, hmem⟩ := horders
  have hlv' : ∀ order ∈ os, LeavesOk order o := fun order h => hlv order ((hmem order).mp h)
  refine ⟨(results c S base .all o os).infos, by simp only [spfsCode, SpfsCode.spfs, hos], ?_, ?_⟩
  · intro sol
    rw [results_all]
    unfold spfs
    refine result_iff c .ordered o _ _ (fun sol' => ?_) sol
    rw [mem_decodedAll c S base o os hS hlv']
    simp only [List.mem_flatMap, hmem]
  · rw [results_all]
    exact (Entry.result_spec (totalCost c .ordered o) _).2.2

/-- Without a prescribed root order: leaf species in `S`, non-empty leaf syntenies (distinct
    families when the input is a single leaf). -/
theorem C02_code_refines_none (hS : ∀ p ∈ leafSpecies o, S.isNode p = true)
    (hne : ∀ f ∈ leafSyntenies o, f ≠ []) (hleaf : ∀ sp f, o = .leaf sp f → f.Nodup) :
    ∃ res, spfsCode c S base o none = .ok res ∧
      (∀ sol, sol ∈ res ↔ sol ∈ spfs c S base o none) ∧ res.Nodup := by
  obtain ⟨os, hos, _, hmem⟩ := C02_code_orders_none o hne hleaf
  exact C02_code_refines c S base o none hS (fun order h => (rootOrders_ok o hne order h).2)
    ⟨os, hos, hmem⟩

/-- With a prescribed root order that is a common supersequence of the non-empty leaf
    syntenies. -/
theorem C02_code_refines_prescribed (r : List Nat) (hS : ∀ p ∈ leafSpecies o, S.isNode p = true)
    (h : ∀ f ∈ leafSyntenies o, f ≠ [] ∧ f.Sublist r) :
    ∃ res, spfsCode c S base o (some r) = .ok res ∧
      (∀ sol, sol ∈ res ↔ sol ∈ spfs c S base o (some r)) ∧ res.Nodup := by
  refine C02_code_refines c S base o (some r) hS ?_ ⟨_, rfl, fun _ => Iff.rfl⟩
  intro order ho
  simp only [rootOrders, List.mem_singleton] at ho
  subst ho
  exact leavesOk_of_all _ o h

/-- **C02 (`C02_full`) for the code-structured model**, both solvers: for a binary species tree
    containing the leaf species, non-empty leaf syntenies and coherent costs, the solver raises
    nothing, and every returned solution is a valid ordered super-reconciliation whose cost is
    at most the optimum over all species mappings, root orders and labellings. -/
theorem C02_code_full (hb : S.isBinary = true) (hS : ∀ p ∈ leafSps o, S.isNode p = true)
    (hne : ∀ f ∈ leafSyns o, f ≠ []) (hleaf : ∀ sp f, o = .leaf sp f → f.Nodup)
    (hcoh : c.spe + 2 * c.sloss ≤ c.dup + 2 * c.floss) :
    ∃ res, spfsCode c S base o none = .ok res ∧
      ∀ sol ∈ res,
        Spec.validSol .ordered o sol = true ∧
        Cost.le (totalCost c .ordered o sol) (Spec.optimum c S .ordered base false o none).1 = true := by
  have hS' : ∀ p ∈ leafSpecies o, S.isNode p = true := by rwa [leafSps_eq] at hS
  have hne' : ∀ f ∈ leafSyntenies o, f ≠ [] := by rwa [leafSyns_eq] at hne
  obtain ⟨res, hres, hmem, _⟩ := C02_code_refines_none c S base o hS' hne' hleaf
  exact ⟨res, hres, fun sol h => C02_full c S o base hb hS hne hcoh sol ((hmem sol).mp h)⟩

/-- **C02 + C05, extended solver, exact form, for the code-structured model**: it returns
    exactly the valid ordered super-reconciliations of minimum (finite) evaluated cost among
    all valid ones, each once. -/
theorem C02_code_ext_exact (hne : ∀ f ∈ leafSyntenies o, f ≠ [])
    (hleaf : ∀ sp f, o = .leaf sp f → f.Nodup)
    (hb : S.isBinary = true) (hS : ∀ p ∈ leafSpecies o, S.isNode p = true)
    (hcoh : c.spe + 2 * c.sloss ≤ c.dup + 2 * c.floss) :
    ∃ res, spfsCode c S false o none = .ok res ∧
      (∀ sol, sol ∈ res ↔
        Spec.validSol .ordered o sol = true ∧ totalCost c .ordered o sol ≠ .inf ∧
        ∀ sol', Spec.validSol .ordered o sol' = true →
          Cost.le (totalCost c .ordered o sol) (totalCost c .ordered o sol') = true) ∧
      res.Nodup := by
  obtain ⟨res, hres, hmem, hnd⟩ := C02_code_refines_none c S false o hS hne hleaf
  exact ⟨res, hres, fun sol => (hmem sol).trans ((C02_ext_exact c S o hne hb hS hcoh).1 sol), hnd⟩

/-- The same for the base solver, among the solutions that use the LCA species mapping. -/
theorem C02_code_base_exact (hne : ∀ f ∈ leafSyntenies o, f ≠ [])
    (hleaf : ∀ sp f, o = .leaf sp f → f.Nodup)
    (hb : S.isBinary = true) (hS : ∀ p ∈ leafSpecies o, S.isNode p = true)
    (hcoh : c.spe + 2 * c.sloss ≤ c.dup + 2 * c.floss) :
    ∃ res, spfsCode c S true o none = .ok res ∧
      (∀ sol, sol ∈ res ↔
        Spec.validSol .ordered o sol = true ∧ Spec.sameMapping sol (lcaSol o) = true ∧
        totalCost c .ordered o sol ≠ .inf ∧
        ∀ sol', Spec.validSol .ordered o sol' = true → Spec.sameMapping sol' (lcaSol o) = true →
          Cost.le (totalCost c .ordered o sol) (totalCost c .ordered o sol') = true) ∧
      res.Nodup := by
  obtain ⟨res, hres, hmem, hnd⟩ := C02_code_refines_none c S true o hS hne hleaf
  exact ⟨res, hres, fun sol => (hmem sol).trans ((C02_base_exact c S o hne hb hS hcoh).1 sol), hnd⟩

/-- When no gene order is compatible with all leaves the code-structured model returns the
    empty set (not an error, not an invalid solution). -/
theorem C02_code_empty (l r : OTree) (hne : ∀ f ∈ leafSyntenies (.node l r), f ≠ [])
    (h : rootOrders (.node l r) none = []) : spfsCode c S base (.node l r) none = .ok [] := by
  obtain ⟨os, hos, _, hmem⟩ := rootOrderings_none l r hne
  have : os = [] := List.eq_nil_iff_forall_not_mem.mpr fun x hx => by
    have := (hmem x).mp hx; rw [h] at this; cases this
  subst this
  simp only [spfsCode, SpfsCode.spfs, hos, results, List.foldl_nil, Entry.init]

end solver

/-- `ab` / `b` under `(A,B)`, unit costs: the guards hold; the code-structured model succeeds
    with the solutions of `spfs` (extended and base; one solution in the extended case); the
    table of the root has three instantiated entries, all at the complete mask. -/
example :
    let c : Costs := { spe := 1, dup := 1, hgt := .fin 1, floss := 1, sloss := 1 }
    let S : RTree := .node [.node [], .node []]
    let o : OTree := .node (.leaf [0] [1, 2]) (.leaf [1] [2])
    (∀ p ∈ leafSpecies o, S.isNode p = true) ∧ (∀ f ∈ leafSyntenies o, f ≠ []) ∧
    spfsCode c S false o none = .ok (spfs c S false o none) ∧
    spfsCode c S true o none = .ok (spfs c S true o none) ∧
    (spfs c S false o none).length = 1 ∧
    ((computeTable c S false .all [1, 2] true o).cells.map (fun d => (d.sp, d.syn))) =
      [([0], 3), ([1], 3), ([], 3)] ∧
    ((computeTable c S false .all [1, 2] true o).cells.map (fun d => d.entry.value)) =
      [.fin 1, .fin 2, .fin 2] ∧
    ((computeTable c S false .all [1, 2] true o).cells.map (fun d => d.entry.infos)) =
      [[(([0], 3), ([1], 2))], [(([0], 3), ([1], 2))], [(([0], 3), ([1], 2))]] := by
  decide +kernel

/-- Two compatible root orders (`a` / `b`): both are tried (C19), four solutions. -/
example :
    let c : Costs := { spe := 1, dup := 1, hgt := .fin 1, floss := 1, sloss := 1 }
    let S : RTree := .node [.node [], .node []]
    let o : OTree := .node (.leaf [0] [1]) (.leaf [1] [2])
    rootOrderings o none = .ok [[1, 2], [2, 1]] ∧
    (∃ res, spfsCode c S false o none = .ok res ∧ res.length = 4 ∧
      (∀ sol ∈ res, sol ∈ spfs c S false o none) ∧ (∀ sol ∈ spfs c S false o none, sol ∈ res)) := by
  refine ⟨by decide +kernel, _, rfl, ?_⟩
  decide +kernel

/-- Inconsistent leaf orders `ab` / `ba`: no root order, empty result, no error. -/
example :
    spfsCode { spe := 1, dup := 1, hgt := .fin 1, floss := 1, sloss := 1 }
      (.node [.node [], .node []]) false (.node (.leaf [0] [0, 1]) (.leaf [1] [1, 0])) none = .ok [] := by
  decide +kernel

/-- The guard on single-leaf inputs is needed: for the leaf synteny `aa` the code takes `aa` itself
    as root ordering and returns the leaf, while no permutation of the families contains `aa`. -/
theorem C02_code_leaf_dup :
    spfsCode { spe := 1, dup := 1, hgt := .fin 1, floss := 1, sloss := 1 } (.node []) false
        (.leaf [] [1, 1]) none = .ok [.leaf [] [1, 1]] ∧
    spfs { spe := 1, dup := 1, hgt := .fin 1, floss := 1, sloss := 1 } (.node []) false
        (.leaf [] [1, 1]) none = [] := by
  decide +kernel

/-- An empty leaf synteny makes `_make_prec_graph` raise (`leaf_synteny[-1]`). -/
example : spfsCode { spe := 1, dup := 1, hgt := .fin 1, floss := 1, sloss := 1 }
    (.node [.node [], .node []]) false (.node (.leaf [0] []) (.leaf [1] [1])) none =
      .error .indexError := by
  decide +kernel

end SR.C02
