/-
  C17 — the distance query read on parent chains.

  `Path.dist p q = |p| + |q| − 2·|lcp p q|` is the formula the code itself evaluates
  (`level(a) + level(b) − 2·level(lca(a, b))`), so `C17_queries … distance t p q = dist p q`
  alone compares the code with a restatement of itself.  Here the number is tied to parent
  chains: the chains of `p` and `q` meet at `lcp p q` after `|p| − |lcp|` and `|q| − |lcp|` steps,
  which add up to `dist p q` (`C17_dist_meet`), and whenever `a` steps up from `p` and `b` steps up
  from `q` reach the same node, `dist p q ≤ a + b` (`C17_dist_min`): the number of edges of the path
  between `p` and `q`.
-/
import SRVerif.Properties.C17

namespace SR.C17

open SR.Path SR.Lca

/-- The two parent chains meet at `lcp p q` after `|p| − |lcp|` and `|q| − |lcp|` steps, and
    `dist p q` is the sum of these two numbers of steps. -/
theorem C17_dist_meet (p q : Path) :
    upN (p.length - (lcp p q).length) p = lcp p q ∧
    upN (q.length - (lcp p q).length) q = lcp p q ∧
    dist p q = (p.length - (lcp p q).length) + (q.length - (lcp p q).length) := by
  have h1 := lcp_prefix_left p q
  have h2 := lcp_prefix_right p q
  have l1 := h1.length_le
  have l2 := h2.length_le
  refine ⟨?_, ?_, ?_⟩
  · rw [upN_eq_take, Nat.sub_sub_self l1]
    exact (List.prefix_iff_eq_take.1 h1).symm
  · rw [upN_eq_take, Nat.sub_sub_self l2]
    exact (List.prefix_iff_eq_take.1 h2).symm
  · unfold dist
    obtain ⟨a, ha⟩ := Nat.exists_eq_add_of_le l1
    obtain ⟨b, hb⟩ := Nat.exists_eq_add_of_le l2
    rw [ha, hb, Nat.add_sub_cancel_left, Nat.add_sub_cancel_left, Nat.two_mul,
      Nat.add_add_add_comm, Nat.add_sub_cancel_left]

/-- Minimality: whenever `a` steps up from `p` and `b` steps up from `q` reach the same node,
    `dist p q ≤ a + b`.  (`ha`, `hb` say that the walks stay below the root; the proof does not
    use them.) -/
theorem C17_dist_min (p q : Path) (a b : Nat) (ha : a ≤ p.length) (hb : b ≤ q.length)
    (h : upN a p = upN b q) : dist p q ≤ a + b := by
  rw [upN_eq_take, upN_eq_take] at h
  -- the meeting node is a common prefix, hence a prefix of `lcp p q`
  have hp : p.take (p.length - a) <+: p := List.take_prefix _ _
  have hq : p.take (p.length - a) <+: q := by rw [h]; exact List.take_prefix _ _
  have hanc : p.take (p.length - a) <+: lcp p q := prefix_lcp hp hq
  have hl := hanc.length_le
  have hp' : p.length ≤ (lcp p q).length + a := by
    rw [← Nat.sub_le_iff_le_add, ← List.length_take_of_le (Nat.sub_le _ _)]; exact hl
  have hq' : q.length ≤ (lcp p q).length + b := by
    rw [← Nat.sub_le_iff_le_add, ← List.length_take_of_le (Nat.sub_le _ _), ← h]; exact hl
  unfold dist
  rw [Nat.sub_le_iff_le_add', Nat.two_mul, Nat.add_add_add_comm]
  exact Nat.add_le_add hp' hq'

example : dist [0, 1, 0] [1, 2, 0] = 6 ∧ upN 3 [0, 1, 0] = [] ∧ upN 3 [1, 2, 0] = [] := by decide +kernel
example : dist [0, 1, 0] [0, 0] = 3 ∧ upN 2 [0, 1, 0] = [0] ∧ upN 1 [0, 0] = [0] := by decide +kernel

end SR.C17
