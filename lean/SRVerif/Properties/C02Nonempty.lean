/-
  C02 / C05 — "When no gene order is compatible with all leaves the result is empty"
  (C02) and "the result is empty ONLY IF the input has no valid solution" (C05), for the
  ordered solvers `spfs` (`sreconcile_extended_spfs`, `sreconcile_base_spfs`).

  `Properties/C02.lean` proves one direction (`C02_empty`: no root order ⇒ empty result).
  This file proves the converse: as soon as ONE root order
  exists the result is non-empty — for every cost vector (no coherence, `sloss = 0` and an
  infinite transfer cost included), both variants.

  Witness: the LCA species mapping with the COMPLETE root order at every internal node
  (`fullLab`).  It is admissible for both variants, every child mask is non-empty and
  contained in the complete mask, and the event at the LCA of the children is a speciation
  or a duplication, so its generic cost is finite (`fullLab_finite`); a candidate makes the
  solver return something (`DPSolver.rank_ne_nil`).

  Guards: binary species tree containing the leaf species, non-empty leaf syntenies.
-/
import SRVerif.Properties.C02Pre
import SRVerif.Proofs.LcaMapOpt

namespace SR.C02

open SR Cost Path SubseqSpec SubseqProofs

/-- LCA species mapping, complete root mask at every internal node, leaf masks at the leaves. -/
def fullLab (order : List Nat) : OTree → LSol Nat
  | .leaf sp f => .leaf sp (maskFromSubseq f order)
  | .node l r =>
    .node (lcaSol (.node l r)).sp (2 ^ order.length - 1) (fullLab order l) (fullLab order r)

theorem fullLab_sp (order : List Nat) (o : OTree) : (fullLab order o).sp = (lcaSol o).sp := by
  cases o <;> rfl

theorem contained_full {m n : Nat} (h : m < 2 ^ n) : Contained m (2 ^ n - 1) := by
  intro i hi
  rw [Nat.testBit_two_pow_sub_one]
  by_cases hlt : i < n
  · simp [hlt]
  · exfalso
    have hle : 2 ^ n ≤ 2 ^ i := Nat.pow_le_pow_right (by omega) (by omega)
    have : m < 2 ^ i := Nat.lt_of_lt_of_le h hle
    rw [Nat.testBit_lt_two_pow this] at hi
    cases hi

theorem fullLab_lab_ok (order : List Nat) (hne : order ≠ []) (o : OTree) (hlv : LeavesOk order o) :
    (fullLab order o).lab ≠ 0 ∧ (fullLab order o).lab < 2 ^ order.length := by
  have hpos : 0 < order.length := List.length_pos_iff.mpr hne
  have h2 : 2 ≤ 2 ^ order.length := by
    calc 2 = 2 ^ 1 := rfl
      _ ≤ 2 ^ order.length := Nat.pow_le_pow_right (by omega) hpos
  cases o with
  | leaf sp f => exact ⟨mask_ne_zero order f hlv.1 hlv.2, mask_lt order f⟩
  | node l r =>
    simp only [fullLab, LSol.lab]
    omega

theorem gl_lcp_fin (c : Costs) (a b : Path) (p q p' q' : Nat) :
    gl c (Path.lcp a b) a (.fin p) (.fin q) b (.fin p') (.fin q') ≠ .inf := by
  unfold gl
  rcases internalEvent_lcp a b with h | h <;> rw [h]
  · simp [fin_add_fin_eq]
  · simp only [fin_add_fin_eq, min_fin]
    simp

theorem genLocal_lcp_fin (c : Costs) (a la ra : OrdAnn) (s x y : Path) (m ml mr : Nat)
    (hs : s = Path.lcp x y) (hl : ml ≠ 0) (hr : mr ≠ 0) (cl : Contained ml m) (cr : Contained mr m) :
    genLocal (ordAlg c) c a s m la x ml ra y mr ≠ .inf := by
  subst hs
  unfold genLocal
  rcases ord_costs (c := c) (a := a) (ca := la) (m := m) hl with ⟨_, e1, e2, _, _⟩ | ⟨hnc, _⟩
  · rcases ord_costs (c := c) (a := a) (ca := ra) (m := m) hr with ⟨_, f1, f2, _, _⟩ | ⟨hnc, _⟩
    · rw [e1, e2, f1, f2]
      exact gl_lcp_fin c x y _ _ _ _
    · exact absurd cr hnc
  · exact absurd cl hnc

variable (c : Costs) (S : RTree) (base : Bool)

theorem fullLab_adm (order : List Nat) (o : OTree)
    (hS : ∀ p ∈ leafSpecies o, S.isNode p = true) :
    ∀ isRoot : Bool, Adm (ordAlg c) (annOrd S base order isRoot o) (fullLab order o) := by
  induction o with
  | leaf sp f => exact fun _ => adm_annOrd_leaf.mpr ⟨rfl, rfl⟩
  | node l r ihl ihr =>
    intro isRoot
    have hSl : ∀ p ∈ leafSpecies l, S.isNode p = true :=
      fun p hp => hS p (by simp [leafSpecies, hp])
    have hSr : ∀ p ∈ leafSpecies r, S.isNode p = true :=
      fun p hp => hS p (by simp [leafSpecies, hp])
    refine adm_annOrd_node.mpr ⟨?_, ?_, ihl hSl false, ihr hSr false⟩
    · cases base with
      | true => exact List.mem_singleton.mpr rfl
      | false => exact lcaSol_sp_mem_allSpecies S (.node l r) hS
    · cases isRoot with
      | true => exact List.mem_singleton.mpr rfl
      | false => exact List.mem_range.mpr (Nat.sub_one_lt (Nat.pos_iff_ne_zero.mp (Nat.two_pow_pos _)))

theorem fullLab_finite (order : List Nat) (hne : order ≠ []) (o : OTree)
    (hlv : LeavesOk order o) :
    ∀ isRoot : Bool,
      labCost (ordAlg c) c (annOrd S base order isRoot o) (fullLab order o) ≠ .inf := by
  induction o with
  | leaf sp f => intro isRoot; simp [fullLab, annOrd, labCost]
  | node l r ihl ihr =>
    intro isRoot
    obtain ⟨hl0, hllt⟩ := fullLab_lab_ok order hne l hlv.1
    obtain ⟨hr0, hrlt⟩ := fullLab_lab_ok order hne r hlv.2
    simp only [fullLab, annOrd, labCost]
    refine add_ne_inf_of ?_ (add_ne_inf_of (ihl hlv.1 false) (ihr hlv.2 false))
    exact genLocal_lcp_fin c _ _ _ _ _ _ _ _ _ (by rw [fullLab_sp, fullLab_sp]; rfl) hl0 hr0
      (contained_full hllt) (contained_full hrlt)

variable (o : OTree)

/-- The witness makes the solver return something, for any root order it tries. -/
theorem spfs_ne_nil_of_order (pre : Option (List Nat)) (hb : S.isBinary = true)
    (hS : ∀ p ∈ leafSpecies o, S.isNode p = true) {order : List Nat}
    (ho : order ∈ rootOrders o pre) (hlv : LeavesOk order o) (hne : order ≠ [])
    (hroot : (fullLab order o).lab = 2 ^ order.length - 1) :
    spfs c S base o pre ≠ [] :=
  (spfsD c S base o pre).rank_ne_nil c S hb (spfsD_spOk c S base o pre hS) .ordered o
    (k := (order, fullLab order o)) ⟨ho, fullLab_adm c S base order o hS true,
      beq_iff_eq.mpr hroot, fullLab_finite c S base order hne o hlv true⟩

theorem order_ne_nil_of_leavesOk {order : List Nat} : ∀ o : OTree, LeavesOk order o → order ≠ []
  | .leaf _ f, h => by
    rintro rfl
    exact h.1 (List.sublist_nil.mp h.2)
  | .node l _, h => order_ne_nil_of_leavesOk l h.1

/-- **Converse of `C02_empty`**: as soon as one gene order is compatible with all leaves the
    ordered solvers return something — every cost vector, both variants. -/
theorem C02_nonempty (hne : ∀ f ∈ leafSyntenies o, f ≠ [])
    (hb : S.isBinary = true) (hS : ∀ p ∈ leafSpecies o, S.isNode p = true)
    (h : rootOrders o none ≠ []) : spfs c S base o none ≠ [] := by
  obtain ⟨order, ho⟩ := List.exists_mem_of_ne_nil _ h
  obtain ⟨_, hlv⟩ := C02_orders_ok o hne order ho
  refine spfs_ne_nil_of_order c S base o none hb hS ho hlv (order_ne_nil_of_leavesOk o hlv) ?_
  cases o with
  | node l r => rfl
  | leaf sp f =>
    have := Spec.rootOrders_leaf ho
    subst this
    simp only [fullLab, LSol.lab]
    rw [mask_self]; rfl

/-- **C02, the emptiness clause as an equivalence**: the result is empty exactly when no gene
    order is compatible with all leaves. -/
theorem C02_empty_iff (hne : ∀ f ∈ leafSyntenies o, f ≠ [])
    (hb : S.isBinary = true) (hS : ∀ p ∈ leafSpecies o, S.isNode p = true) :
    spfs c S base o none = [] ↔ rootOrders o none = [] :=
  ⟨fun he => Decidable.byContradiction fun h => C02_nonempty c S base o hne hb hS h he,
    C02_empty c S base o⟩

/-- **C05, "the result is empty only if the input has no valid solution"**, ordered solvers:
    the result is empty exactly when the input has no valid ordered super-reconciliation at all
    (for the base solver too: when a valid solution exists, an LCA-mapped one exists). -/
theorem C02_empty_iff_no_valid (hne : ∀ f ∈ leafSyntenies o, f ≠ [])
    (hb : S.isBinary = true) (hS : ∀ p ∈ leafSpecies o, S.isNode p = true) :
    spfs c S base o none = [] ↔ ∀ sol, Spec.validSol .ordered o sol = false := by
  rw [C02_empty_iff c S base o hne hb hS]
  constructor
  · intro h sol
    cases hv : Spec.validSol .ordered o sol with
    | false => rfl
    | true =>
      have := ((C02_valid_iff_rootOrder o sol).mp hv).2.2
      rw [h] at this; cases this
  · intro h
    refine Decidable.byContradiction fun he => ?_
    obtain ⟨m, hm⟩ := List.exists_mem_of_ne_nil _ (C02_nonempty c S base o hne hb hS he)
    have hv := (C02_spfs_valid c S base o none (C02_orders_ok o hne) (rootOrders_perm o) m hm).1
    rw [h m] at hv
    cases hv

/-- With a prescribed root order (any duplicate-free common supersequence of the non-empty leaf
    syntenies) the result is never empty on an input that is not a single leaf. -/
theorem C02_nonempty_prescribed (r : List Nat) (hr : PreOk o r)
    (hb : S.isBinary = true) (hS : ∀ p ∈ leafSpecies o, S.isNode p = true)
    (hnl : ∀ sp f, o ≠ .leaf sp f) : spfs c S base o (some r) ≠ [] := by
  have ho : r ∈ rootOrders o (some r) := by simp [rootOrders]
  obtain ⟨_, hlv⟩ := hr.ordersOk r ho
  refine spfs_ne_nil_of_order c S base o (some r) hb hS ho hlv (order_ne_nil_of_leavesOk o hlv) ?_
  cases o with
  | node l r' => rfl
  | leaf sp f => exact absurd rfl (hnl sp f)

/-- Leaves `ab`, `b` admit the root order `ab`; with an INFINITE transfer cost and `sloss = 0`
    (no coherence assumed: `spe + 2·sloss > dup + 2·floss` here) both variants return something. -/
example :
    let c : Costs := { spe := 5, dup := 0, hgt := .inf, floss := 1, sloss := 0 }
    let S : RTree := .node [.node [], .node []]
    let o : OTree := .node (.leaf [0] [1, 2]) (.leaf [1] [2])
    S.isBinary = true ∧ (∀ p ∈ leafSpecies o, S.isNode p = true) ∧
    (∀ f ∈ leafSyntenies o, f ≠ []) ∧ rootOrders o none ≠ [] ∧
    ¬ (c.spe + 2 * c.sloss ≤ c.dup + 2 * c.floss) ∧
    spfs c S false o none ≠ [] ∧ spfs c S true o none ≠ [] := by
  decide +kernel

/-- Inconsistent leaf orders: no root order, no valid solution, empty result. -/
example :
    let c : Costs := { spe := 0, dup := 1, hgt := .fin 1, floss := 1, sloss := 1 }
    let S : RTree := .node [.node [], .node []]
    let o : OTree := .node (.leaf [0] [0, 1]) (.leaf [1] [1, 0])
    rootOrders o none = [] ∧ spfs c S false o none = [] := by
  decide +kernel

end SR.C02
