/-
  C08, unordered extended solver (`usreconcile_extended_uspfs`, SuperDTL) on an input with
  polytomies: the optimum over ALL pairs of binary refinements.  Vocabulary and the
  ordered solver: `Properties/C08Opt.lean`.

  Guards: `InputOk` (well-formed trees with distinct leaves, leaf species are species
  leaves) and `spe + sloss ≤ dup + 2·floss`.  Leaf syntenies may be empty or contain
  repetitions.
-/
import SRVerif.Properties.C08Opt

namespace SR.C08

open SR SR.Bin

/-- Adequacy of the unordered oracle: for a species tree containing the leaf species,
    `Spec.optimum c S .unordered false` is the minimum of `totalCost` over all valid
    unordered solutions. -/
theorem C08_unord_oracle_adequate (c : Costs) (S : RTree) (o : OTree) (keep : Bool)
    (hS : ∀ p ∈ leafSpecies o, S.isNode p = true) :
    C09.IsMinCost c .unordered o (Spec.optimum c S .unordered false keep o none).1 :=
  C09.optimum_isMinCost c S .unordered o keep hS

/-- Every solution returned by the unordered extended solver on a binary input is an
    optimal valid solution, of finite cost. -/
theorem C08_unord_binary_opt (c : Costs) (S : RTree) (o : OTree)
    (hb : S.isBinary = true) (hS : ∀ p ∈ leafSpecies o, S.isNode p = true)
    (hcoh : c.spe + c.sloss ≤ c.dup + 2 * c.floss) :
    ∀ sol ∈ uspfs c S false o,
      C09.IsOptimal c .unordered o sol ∧ totalCost c .unordered o sol ≠ .inf := fun sol hsol =>
  have h := (C09.mem_uspfs_iff ⟨hb, hS, hcoh⟩ false sol).mp hsol
  ⟨C09.isOptimal_of_vsol h.1, h.2.1⟩

/-- C08, unordered extended solver, optimum over ALL binary refinements: every output of
    `usreconcile_extended_uspfs` on an input with polytomies refers to a pair of
    `binarize tO × binarize tS` (binary refinements keeping clades, names, colours) with the
    original leaf data; its solution is a valid optimal solution of that binary input, of finite
    cost; its cost is THE optimum over all pairs of binary refinements (specification sense, any
    child order) of both trees. -/
theorem C08_opt_refinements_uspfs (c : Costs) (tO tS : NTree) (data : LeafData)
    (hok : InputOk tO tS data) (hcoh : c.spe + c.sloss ≤ c.dup + 2 * c.floss) :
    ∀ x ∈ uspfsMulti c false tO tS data,
      Refers tO tS data x ∧
      C09.IsOptimal c .unordered (toOTree data x.sTree x.oTree) x.sol ∧
      x.cost c .unordered data ≠ .inf ∧
      IsRefinementOptimum c .unordered tO tS data (x.cost c .unordered data) := by
  refine C08_opt_refinements_of_cands (fun S o => uspfsCands c S false o) hok ?_ ?_
  · intro bO hbO bS hbS s hs
    exact C08_unord_binary_opt c (shape bS.toN) (toOTree data bS bO) (isBinary_shape bS)
      (C08_leafSpecies_isNode hok hbO hbS) hcoh s hs
  · intro bO hbO bS hbS s' _ _
    exact C03.C03_uspfs_total c (shape bS.toN) false (toOTree data bS bO) (isBinary_shape bS)
      (C08_leafSpecies_isNode hok hbO hbS)

/-- The result of the unordered extended solver on a well-formed input is never empty. -/
theorem C08_opt_refinements_uspfs_nonempty (c : Costs) (tO tS : NTree) (data : LeafData)
    (hok : InputOk tO tS data) : uspfsMulti c false tO tS data ≠ [] := by
  -- some pair of refinements exists (the tree itself is refined by a member of `binarize`)
  obtain ⟨bO, hbO⟩ := List.exists_mem_of_ne_nil _ (binarize_ne_nil tO hok.wfO)
  obtain ⟨bS, hbS⟩ := List.exists_mem_of_ne_nil _ (binarize_ne_nil tS hok.wfS)
  obtain ⟨s, hs⟩ := List.exists_mem_of_ne_nil _ (C03.C03_uspfs_total c _ false _ (isBinary_shape bS)
    (C08_leafSpecies_isNode hok hbO hbS))
  rw [uspfs_eq_rank, mem_rankByCost] at hs
  have hcand : ({ sTree := bS, oTree := bO, sol := s } : Out) ∈
      multiCands tO tS data (fun S o => uspfsCands c S false o) :=
    mem_multiCands.mpr ⟨hbO, hbS, hs.1⟩
  exact rankOuts_ne_nil c .unordered data _ (List.ne_nil_of_mem hcand)

/-- The solver on the example, evaluated once. -/
theorem C08_example_uspfs :
    (uspfsMulti exC false exO exS exData).map (fun x => exIdx (x.oTree, x.sTree)) =
      [3, 3, 4, 4, 5, 5, 5, 6, 6, 7, 7, 7, 8, 8] ∧
    (uspfsMulti exC false exO exS exData).length = 14 ∧
    (∀ x ∈ uspfsMulti exC false exO exS exData, x.cost exC .unordered exData = .fin 2) ∧
    (refinementPairs exO exS).map (fun p =>
      ((uspfs exC (shape p.2.toN) false (toOTree exData p.2 p.1)).map
        (totalCost exC .unordered (toOTree exData p.2 p.1))).head?) =
      [some (.fin 3), some (.fin 3), some (.fin 3), some (.fin 2), some (.fin 2), some (.fin 2),
       some (.fin 2), some (.fin 2), some (.fin 2)] := by
  decide +kernel

example : exC.spe + exC.sloss ≤ exC.dup + 2 * exC.floss ∧
    (uspfsMulti exC false exO exS exData).length = 14 ∧
    (∀ x ∈ uspfsMulti exC false exO exS exData, x.cost exC .unordered exData = .fin 2) ∧
    (refinementPairs exO exS).map (fun p =>
      ((uspfs exC (shape p.2.toN) false (toOTree exData p.2 p.1)).map
        (totalCost exC .unordered (toOTree exData p.2 p.1))).head?) =
      [some (.fin 3), some (.fin 3), some (.fin 3), some (.fin 2), some (.fin 2), some (.fin 2),
       some (.fin 2), some (.fin 2), some (.fin 2)] :=
  ⟨by decide, C08_example_uspfs.2⟩

example : IsRefinementOptimum exC .unordered exO exS exData (.fin 2) := by
  obtain ⟨x, hx⟩ := List.exists_mem_of_ne_nil _
    (C08_opt_refinements_uspfs_nonempty exC exO exS exData C08_example_ok)
  have h := (C08_opt_refinements_uspfs exC exO exS exData C08_example_ok (by decide) x hx).2.2.2
  rwa [C08_example_uspfs.2.2.1 x hx] at h

end SR.C08
