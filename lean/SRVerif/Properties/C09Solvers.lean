/-
  C09 (presentation) for the label solvers `spfs` (`sreconcile_extended_spfs`,
  `sreconcile_base_spfs`; ordered syntenies) and `uspfs` (`usreconcile_extended_uspfs` = SuperDTL,
  `usreconcile_base_uspfs`; unordered) — "the minimum cost and the set of optimal solutions are
  unchanged by reordering the children of any node of either tree [and] by adding an outgroup
  species that carries no object".

  Corollaries of the solvers' exactness (`mem_spfs_iff`, `mem_uspfs_iff` in
  `Proofs/SolverExact.lean`: the result is exactly the set of valid solutions — LCA-mapped for
  `base`, canonical for `uspfs` — of minimum finite evaluated cost among all valid solutions)
  lifted along the presentations (`Proofs/Present.lean`, `Proofs/PresentLift.lean`).  For each
  transformation and each solver (both variants, `base : Bool`):
    1. `sol` is returned for the old input  ⟺  its image is returned for the new input;
    2. every solution returned for the new input has the same evaluated cost as every
       solution returned for the old one;
    3. swaps, mirror: the new result is a permutation of the image of the old result;
       outgroup: a new result that avoids the new root is the embedding of an old result;
       for `floss > 0` (extended) and always (base) the new result set is exactly the
       embedded old one.
  Also here: the oracle's optimum `Spec.optimum` is invariant in every mode
  (`C09_*_optimum_all`, through `optimum_isMinCost`; `C09Opt.lean` has the plain mode with a
  prescribed order).

  Guards: those of the exactness theorems, for the OLD input only (they are inherited by
  the new one): `S` binary, leaf species nodes of `S`, coherent costs
  (`spe + 2·sloss ≤ dup + 2·floss`; for `uspfs` `spe + sloss ≤ dup + 2·floss` suffices),
  non-empty leaf syntenies for `spfs`; `i, j` children of the species node `p` for the
  species swap.
-/
import SRVerif.Properties.C09Outgroup

namespace SR.C09

open SR Spec

/-- **C09, object-child swap, ordered solvers** (both variants): the result for the
    swapped input is the swapped result; the returned cost is the same. -/
theorem C09_swap_obj_spfs (c : Costs) (S : RTree) (base : Bool) (p : Path) (o : OTree)
    (G : GuardOrd c S o) :
    (∀ sol, sol ∈ spfs c S base o none ↔ sol.swapAt p ∈ spfs c S base (o.swapAt p) none) ∧
    (∀ s ∈ spfs c S base o none, ∀ s' ∈ spfs c S base (o.swapAt p) none,
      totalCost c .ordered (o.swapAt p) s' = totalCost c .ordered o s) ∧
    (spfs c S base (o.swapAt p) none).Perm ((spfs c S base o none).map (Sol.swapAt p)) :=
  have P := present_swapAt S p o
  have h := P.spfs G base _ (P.retrSol (Sol.swapAt_swapAt p) c .ordered base)
  ⟨h.1, h.2.1, perm_of_back (nodup_spfs ..) (nodup_spfs ..) (Sol.swapAt_swapAt p) (Sol.swapAt_swapAt p) h.1⟩

theorem C09_mirror_obj_spfs (c : Costs) (S : RTree) (base : Bool) (o : OTree)
    (G : GuardOrd c S o) :
    (∀ sol, sol ∈ spfs c S base o none ↔ sol.mirror ∈ spfs c S base o.mirror none) ∧
    (∀ s ∈ spfs c S base o none, ∀ s' ∈ spfs c S base o.mirror none,
      totalCost c .ordered o.mirror s' = totalCost c .ordered o s) ∧
    (spfs c S base o.mirror none).Perm ((spfs c S base o none).map Sol.mirror) :=
  have P := present_mirror S o
  have h := P.spfs G base _ (P.retrSol Sol.mirror_mirror c .ordered base)
  ⟨h.1, h.2.1, perm_of_back (nodup_spfs ..) (nodup_spfs ..) Sol.mirror_mirror Sol.mirror_mirror h.1⟩

/-- **C09, object-child swap, unordered solvers** (both variants): the full returned sets
    correspond (a canonical labelling stays canonical: required content and gains move
    with the swapped positions). -/
theorem C09_swap_obj_uspfs (c : Costs) (S : RTree) (base : Bool) (p : Path) (o : OTree)
    (G : GuardUn c S o) :
    (∀ sol, sol ∈ uspfs c S base o ↔ sol.swapAt p ∈ uspfs c S base (o.swapAt p)) ∧
    (∀ s ∈ uspfs c S base o, ∀ s' ∈ uspfs c S base (o.swapAt p),
      totalCost c .unordered (o.swapAt p) s' = totalCost c .unordered o s) ∧
    (uspfs c S base (o.swapAt p)).Perm ((uspfs c S base o).map (Sol.swapAt p)) :=
  have P := present_swapAt S p o
  have h := P.uspfs G base _ (P.retrSol (Sol.swapAt_swapAt p) c .unordered base)
  ⟨h.1, h.2.1, perm_of_back (nodup_uspfs ..) (nodup_uspfs ..) (Sol.swapAt_swapAt p) (Sol.swapAt_swapAt p) h.1⟩

theorem C09_mirror_obj_uspfs (c : Costs) (S : RTree) (base : Bool) (o : OTree)
    (G : GuardUn c S o) :
    (∀ sol, sol ∈ uspfs c S base o ↔ sol.mirror ∈ uspfs c S base o.mirror) ∧
    (∀ s ∈ uspfs c S base o, ∀ s' ∈ uspfs c S base o.mirror,
      totalCost c .unordered o.mirror s' = totalCost c .unordered o s) ∧
    (uspfs c S base o.mirror).Perm ((uspfs c S base o).map Sol.mirror) :=
  have P := present_mirror S o
  have h := P.uspfs G base _ (P.retrSol Sol.mirror_mirror c .unordered base)
  ⟨h.1, h.2.1, perm_of_back (nodup_uspfs ..) (nodup_uspfs ..) Sol.mirror_mirror Sol.mirror_mirror h.1⟩

/-- **C09, species-child swap, ordered solvers**: over the species tree with the children
    `i`, `j` of `p` exchanged the solvers return exactly the relabelled solutions. -/
theorem C09_swap_sp_spfs (c : Costs) (S : RTree) (base : Bool) (p : Path) (i j : Nat) (o : OTree)
    (hi : i < S.arityAt p) (hj : j < S.arityAt p) (G : GuardOrd c S o) :
    let φ := Path.swapAt p i j
    (∀ sol, sol ∈ spfs c S base o none ↔
      sol.mapSp φ ∈ spfs c (S.swapAt p i j) base (o.mapSp φ) none) ∧
    (∀ s ∈ spfs c S base o none, ∀ s' ∈ spfs c (S.swapAt p i j) base (o.mapSp φ) none,
      totalCost c .ordered (o.mapSp φ) s' = totalCost c .ordered o s) ∧
    (spfs c (S.swapAt p i j) base (o.mapSp φ) none).Perm
      ((spfs c S base o none).map (Sol.mapSp φ)) := by
  intro φ
  have P := present_swapSp S p i j hi hj o
  have h := P.spfs G base _ (P.retrSol (Sol.swapSp_invol p i j) c .ordered base)
  exact ⟨h.1, h.2.1, perm_of_back (nodup_spfs ..) (nodup_spfs ..) (Sol.swapSp_invol p i j)
    (Sol.swapSp_invol p i j) h.1⟩

/-- **C09, species-child swap, unordered solvers** (full returned sets). -/
theorem C09_swap_sp_uspfs (c : Costs) (S : RTree) (base : Bool) (p : Path) (i j : Nat) (o : OTree)
    (hi : i < S.arityAt p) (hj : j < S.arityAt p) (G : GuardUn c S o) :
    let φ := Path.swapAt p i j
    (∀ sol, sol ∈ uspfs c S base o ↔ sol.mapSp φ ∈ uspfs c (S.swapAt p i j) base (o.mapSp φ)) ∧
    (∀ s ∈ uspfs c S base o, ∀ s' ∈ uspfs c (S.swapAt p i j) base (o.mapSp φ),
      totalCost c .unordered (o.mapSp φ) s' = totalCost c .unordered o s) ∧
    (uspfs c (S.swapAt p i j) base (o.mapSp φ)).Perm ((uspfs c S base o).map (Sol.mapSp φ)) := by
  intro φ
  have P := present_swapSp S p i j hi hj o
  have h := P.uspfs G base _ (P.retrSol (Sol.swapSp_invol p i j) c .unordered base)
  exact ⟨h.1, h.2.1, perm_of_back (nodup_uspfs ..) (nodup_uspfs ..) (Sol.swapSp_invol p i j)
    (Sol.swapSp_invol p i j) h.1⟩

/-- The retraction of the valid solutions of the input with an outgroup (extended
    variants: projection `unog`, which does not increase the cost inside the coherent
    region). -/
theorem vsol_unog_ext (c : Costs) (mode : LabelMode)
    (hc : c.spe + ogSlack mode * c.sloss ≤ c.dup + 4 * c.floss) (o : OTree) (s : Sol)
    (hs : VSol mode false (o.mapSp Path.og) s) :
    VSol mode false o (s.mapSp Path.unog) ∧
      Cost.le (totalCost c mode o (s.mapSp Path.unog)) (totalCost c mode (o.mapSp Path.og) s)
        = true := by
  obtain ⟨h1, h2⟩ := C09_outgroup_project c mode hc o s hs.1
  exact ⟨⟨h1, fun e => by cases e⟩, h2⟩

/-- Base variants: an LCA-mapped solution of the new input is an embedded solution. -/
theorem og_unog_of_vsol_base (mode : LabelMode) (o : OTree) (s : Sol)
    (hs : VSol mode true (o.mapSp Path.og) s) : (s.mapSp Path.unog).mapSp Path.og = s := by
  have := hs.2 rfl
  rw [lcaSol_mapSp Path.og_emb] at this
  exact og_unog_of_sameMapping s _ this

theorem vsol_unog_base (c : Costs) (mode : LabelMode) (o : OTree) (s : Sol)
    (hs : VSol mode true (o.mapSp Path.og) s) :
    VSol mode true o (s.mapSp Path.unog) ∧
      Cost.le (totalCost c mode o (s.mapSp Path.unog)) (totalCost c mode (o.mapSp Path.og) s)
        = true := by
  have e := og_unog_of_vsol_base mode o s hs
  constructor
  · rw [← (transfer_og o).vSol, e]; exact hs
  · rw [← (transfer_og o).cost c mode (s.mapSp Path.unog), e]; exact Cost.le_refl _

/-- The outgroup clauses for any result list characterised as the finite optima among the valid
    solutions that satisfy a side condition `P` kept by the embedding (extended variants):
    (1) a solution is returned for the old input iff its embedding is returned for the new
    one; (2) the returned cost is unchanged; (3) a returned solution of the new input that
    avoids the new root is the embedding of a returned solution of the old input; (4) for
    `floss > 0` the new result is exactly the embedded old result. -/
theorem outgroup_ext_transfer {c : Costs} {mode : LabelMode} {o : OTree} {L L' : List Sol}
    {P P' : Sol → Prop}
    (hL : ∀ s, s ∈ L ↔ IsOptimalFor (VSol mode false o) (totalCost c mode o) s ∧
      totalCost c mode o s ≠ .inf ∧ P s)
    (hL' : ∀ s, s ∈ L' ↔ IsOptimalFor (VSol mode false (o.mapSp Path.og))
      (totalCost c mode (o.mapSp Path.og)) s ∧ totalCost c mode (o.mapSp Path.og) s ≠ .inf ∧ P' s)
    (hP : ∀ s, P' (s.mapSp Path.og) ↔ P s)
    (hcoh : c.spe + ogSlack mode * c.sloss ≤ c.dup + 2 * c.floss) :
    (∀ sol, sol ∈ L ↔ sol.mapSp Path.og ∈ L') ∧
    (∀ s ∈ L, ∀ s' ∈ L', totalCost c mode (o.mapSp Path.og) s' = totalCost c mode o s) ∧
    (∀ s' ∈ L', s'.allSp Path.avoid = true →
      s'.mapSp Path.unog ∈ L ∧ (s'.mapSp Path.unog).mapSp Path.og = s') ∧
    (0 < c.floss → ∀ s', s' ∈ L' ↔ ∃ s ∈ L, s.mapSp Path.og = s') := by
  obtain ⟨hiff, hcost, hback⟩ := emb_transfer (Sol.mapSp Path.og) (Sol.mapSp Path.unog) hL hL'
    ((transfer_og o).vSol mode _) ((transfer_og o).cost c mode) hP
    (vsol_unog_ext c mode (by omega) o)
  refine ⟨hiff, hcost, ?_, ?_⟩
  · intro s' hs' havoid
    have e := Sol.og_unog_of_avoid s' havoid
    exact ⟨hback s' hs' e, e⟩
  · intro hfl
    refine image_of_retract _ (Sol.mapSp Path.unog) hiff ?_
    intro s' hs'
    obtain ⟨⟨hv, hmin⟩, hfin, _⟩ := (hL' s').mp hs'
    exact (C09_outgroup_strict c mode hcoh hfl o s'
      ⟨hv.1, fun t ht => hmin t ⟨ht, fun e => by cases e⟩⟩ hfin).2.2

/-- Base variants: the LCA mapping never uses the new root, so the new result is exactly the
    embedded old result (any `floss`). -/
theorem outgroup_base_transfer {c : Costs} {mode : LabelMode} {o : OTree} {L L' : List Sol}
    {P P' : Sol → Prop}
    (hL : ∀ s, s ∈ L ↔ IsOptimalFor (VSol mode true o) (totalCost c mode o) s ∧
      totalCost c mode o s ≠ .inf ∧ P s)
    (hL' : ∀ s, s ∈ L' ↔ IsOptimalFor (VSol mode true (o.mapSp Path.og))
      (totalCost c mode (o.mapSp Path.og)) s ∧ totalCost c mode (o.mapSp Path.og) s ≠ .inf ∧ P' s)
    (hP : ∀ s, P' (s.mapSp Path.og) ↔ P s) :
    (∀ sol, sol ∈ L ↔ sol.mapSp Path.og ∈ L') ∧
    (∀ s ∈ L, ∀ s' ∈ L', totalCost c mode (o.mapSp Path.og) s' = totalCost c mode o s) ∧
    (∀ s', s' ∈ L' ↔ ∃ s ∈ L, s.mapSp Path.og = s') := by
  obtain ⟨hiff, hcost, _⟩ := emb_transfer (Sol.mapSp Path.og) (Sol.mapSp Path.unog) hL hL'
    ((transfer_og o).vSol mode _) ((transfer_og o).cost c mode) hP
    (vsol_unog_base c mode o)
  refine ⟨hiff, hcost, image_of_retract _ (Sol.mapSp Path.unog) hiff ?_⟩
  intro s' hs'
  exact og_unog_of_vsol_base mode o s' ((hL' s').mp hs').1.1

/-- **C09, outgroup, extended ordered solver.** -/
theorem C09_outgroup_spfs (c : Costs) (S : RTree) (o : OTree) (G : GuardOrd c S o) :
    (∀ sol, sol ∈ spfs c S false o none ↔
      sol.mapSp Path.og ∈ spfs c S.withOutgroup false (o.mapSp Path.og) none) ∧
    (∀ s ∈ spfs c S false o none, ∀ s' ∈ spfs c S.withOutgroup false (o.mapSp Path.og) none,
      totalCost c .ordered (o.mapSp Path.og) s' = totalCost c .ordered o s) ∧
    (∀ s' ∈ spfs c S.withOutgroup false (o.mapSp Path.og) none, s'.allSp Path.avoid = true →
      s'.mapSp Path.unog ∈ spfs c S false o none ∧ (s'.mapSp Path.unog).mapSp Path.og = s') ∧
    (0 < c.floss → ∀ s', s' ∈ spfs c S.withOutgroup false (o.mapSp Path.og) none ↔
      ∃ s ∈ spfs c S false o none, s.mapSp Path.og = s') :=
  outgroup_ext_transfer (mem_spfs_iff G false) (mem_spfs_iff ((present_og S o).guardOrd G) false) (fun _ => Iff.rfl)
    (by have := G.coh; simp only [ogSlack]; omega)

/-- **C09, outgroup, base ordered solver.** -/
theorem C09_outgroup_spfs_base (c : Costs) (S : RTree) (o : OTree) (G : GuardOrd c S o) :
    (∀ sol, sol ∈ spfs c S true o none ↔
      sol.mapSp Path.og ∈ spfs c S.withOutgroup true (o.mapSp Path.og) none) ∧
    (∀ s ∈ spfs c S true o none, ∀ s' ∈ spfs c S.withOutgroup true (o.mapSp Path.og) none,
      totalCost c .ordered (o.mapSp Path.og) s' = totalCost c .ordered o s) ∧
    (∀ s', s' ∈ spfs c S.withOutgroup true (o.mapSp Path.og) none ↔
      ∃ s ∈ spfs c S true o none, s.mapSp Path.og = s') :=
  outgroup_base_transfer (mem_spfs_iff G true) (mem_spfs_iff ((present_og S o).guardOrd G) true) (fun _ => Iff.rfl)

/-- **C09, outgroup, SuperDTL** (extended unordered solver): the full returned sets (embedding
    and projection keep canonicity). -/
theorem C09_outgroup_uspfs (c : Costs) (S : RTree) (o : OTree) (G : GuardUn c S o) :
    (∀ sol, sol ∈ uspfs c S false o ↔
      sol.mapSp Path.og ∈ uspfs c S.withOutgroup false (o.mapSp Path.og)) ∧
    (∀ s ∈ uspfs c S false o, ∀ s' ∈ uspfs c S.withOutgroup false (o.mapSp Path.og),
      totalCost c .unordered (o.mapSp Path.og) s' = totalCost c .unordered o s) ∧
    (∀ s' ∈ uspfs c S.withOutgroup false (o.mapSp Path.og), s'.allSp Path.avoid = true →
      s'.mapSp Path.unog ∈ uspfs c S false o ∧ (s'.mapSp Path.unog).mapSp Path.og = s') ∧
    (0 < c.floss → ∀ s', s' ∈ uspfs c S.withOutgroup false (o.mapSp Path.og) ↔
      ∃ s ∈ uspfs c S false o, s.mapSp Path.og = s') :=
  outgroup_ext_transfer (mem_uspfs_iff G false) (mem_uspfs_iff ((present_og S o).guardUn G) false)
    (fun s => by rw [(transfer_og o).canon]) (by have := G.coh; simp only [ogSlack]; omega)

/-- **C09, outgroup, base unordered solver.** -/
theorem C09_outgroup_uspfs_base (c : Costs) (S : RTree) (o : OTree) (G : GuardUn c S o) :
    (∀ sol, sol ∈ uspfs c S true o ↔
      sol.mapSp Path.og ∈ uspfs c S.withOutgroup true (o.mapSp Path.og)) ∧
    (∀ s ∈ uspfs c S true o, ∀ s' ∈ uspfs c S.withOutgroup true (o.mapSp Path.og),
      totalCost c .unordered (o.mapSp Path.og) s' = totalCost c .unordered o s) ∧
    (∀ s', s' ∈ uspfs c S.withOutgroup true (o.mapSp Path.og) ↔
      ∃ s ∈ uspfs c S true o, s.mapSp Path.og = s') :=
  outgroup_base_transfer (mem_uspfs_iff G true) (mem_uspfs_iff ((present_og S o).guardUn G) true)
    (fun s => by rw [(transfer_og o).canon])

/-- Object-child swap: the oracle's optimum is unchanged, every mode. -/
theorem C09_swap_obj_optimum_all (c : Costs) (S : RTree) (mode : LabelMode) (p : Path) (o : OTree)
    (keep : Bool) (hS : ∀ q ∈ leafSpecies o, S.isNode q = true) :
    (Spec.optimum c S mode false keep (o.swapAt p) none).1 =
      (Spec.optimum c S mode false keep o none).1 :=
  (present_swapAt S p o).optimum c mode keep hS _
    ((present_swapAt S p o).retrValid (Sol.swapAt_swapAt p) c mode)

theorem C09_mirror_obj_optimum_all (c : Costs) (S : RTree) (mode : LabelMode) (o : OTree)
    (keep : Bool) (hS : ∀ q ∈ leafSpecies o, S.isNode q = true) :
    (Spec.optimum c S mode false keep o.mirror none).1 =
      (Spec.optimum c S mode false keep o none).1 :=
  (present_mirror S o).optimum c mode keep hS _
    ((present_mirror S o).retrValid Sol.mirror_mirror c mode)

/-- Species-child swap: the oracle's optimum is unchanged, every mode. -/
theorem C09_swap_sp_optimum_all (c : Costs) (S : RTree) (mode : LabelMode) (p : Path) (i j : Nat)
    (o : OTree) (keep : Bool) (hi : i < S.arityAt p) (hj : j < S.arityAt p)
    (hS : ∀ q ∈ leafSpecies o, S.isNode q = true) :
    (Spec.optimum c (S.swapAt p i j) mode false keep (o.mapSp (Path.swapAt p i j)) none).1 =
      (Spec.optimum c S mode false keep o none).1 :=
  (present_swapSp S p i j hi hj o).optimum c mode keep hS _
    ((present_swapSp S p i j hi hj o).retrValid (Sol.swapSp_invol p i j) c mode)

/-- Outgroup: the oracle's optimum over the enlarged species tree is unchanged, every mode
    (`spe + k·sloss ≤ dup + 4·floss`, `k = ogSlack mode`). -/
theorem C09_outgroup_optimum_all (c : Costs) (mode : LabelMode)
    (hc : c.spe + ogSlack mode * c.sloss ≤ c.dup + 4 * c.floss) (S : RTree) (o : OTree)
    (keep : Bool) (hS : ∀ q ∈ leafSpecies o, S.isNode q = true) :
    (Spec.optimum c S.withOutgroup mode false keep (o.mapSp Path.og) none).1 =
      (Spec.optimum c S mode false keep o none).1 :=
  (present_og S o).optimum c mode keep hS _ (C09_outgroup_project c mode hc o)

def svS : RTree := .node [.node [.node [], .node []], .node []]
def svO : OTree := .node (.node (.leaf [0, 0] [1, 2]) (.leaf [1] [2])) (.leaf [0, 1] [1])
def svC : Costs := { spe := 1, dup := 1, hgt := .fin 1, floss := 1, sloss := 1 }

theorem svGuardOrd : GuardOrd svC svS svO := ⟨by decide, by decide, by decide, by decide⟩
theorem svGuardUn : GuardUn svC svS svO := ⟨by decide, by decide, by decide⟩

/-- What the two extended solvers return on `svO`: one ordered solution; three unordered
    ones, which differ in the species of the root.  The examples below start from these. -/
theorem sv_spfs : spfs svC svS false svO none =
    [.node [0, 0] [1, 2] (.node [0, 0] [1, 2] (.leaf [0, 0] [1, 2]) (.leaf [1] [2]))
      (.leaf [0, 1] [1])] := by
  decide +kernel

theorem sv_uspfs : uspfs svC svS false svO =
    [[0, 1], [0, 0], [0]].map fun s =>
      .node s [1] (.node [0, 0] [1, 2] (.leaf [0, 0] [1, 2]) (.leaf [1] [2])) (.leaf [0, 1] [1]) := by
  decide +kernel

-- The guards hold on a non-trivial input; the object swap really changes the input, the
-- ordered results are non-empty and correspond.
example :
    svO.swapAt [0] ≠ svO ∧ (spfs svC svS false svO none).length = 1 ∧
    (spfs svC svS true svO none).length = 1 ∧
    spfs svC svS false (svO.swapAt [0]) none = (spfs svC svS false svO none).map (Sol.swapAt [0]) ∧
    spfs svC svS true svO.mirror none = (spfs svC svS true svO none).map Sol.mirror := by
  rw [sv_spfs]
  decide +kernel

-- Unordered solvers: species swap at `[0]`, and the mirror image of the object tree; the results move.
example :
    0 < svS.arityAt [0] ∧ 1 < svS.arityAt [0] ∧ (uspfs svC svS false svO).length = 3 ∧
    svO.mapSp (Path.swapAt [0] 0 1) ≠ svO ∧
    (uspfs svC (svS.swapAt [0] 0 1) false (svO.mapSp (Path.swapAt [0] 0 1))).length = 3 ∧
    (∀ s ∈ uspfs svC svS false svO, s.mapSp (Path.swapAt [0] 0 1) ∈
      uspfs svC (svS.swapAt [0] 0 1) false (svO.mapSp (Path.swapAt [0] 0 1))) ∧
    uspfs svC (svS.swapAt [0] 0 1) false (svO.mapSp (Path.swapAt [0] 0 1)) ≠
      (uspfs svC svS false svO).map (Sol.mapSp (Path.swapAt [0] 0 1)) ∧
    (uspfs svC svS false svO.mirror).length = 3 := by
  rw [sv_uspfs]
  decide +kernel

-- Outgroup: `floss > 0`, the new results are exactly the embedded old ones.
example :
    0 < svC.floss ∧
    spfs svC svS.withOutgroup false (svO.mapSp Path.og) none =
      (spfs svC svS false svO none).map (Sol.mapSp Path.og) ∧
    uspfs svC svS.withOutgroup false (svO.mapSp Path.og) =
      (uspfs svC svS false svO).map (Sol.mapSp Path.og) ∧
    uspfs svC svS.withOutgroup true (svO.mapSp Path.og) =
      (uspfs svC svS true svO).map (Sol.mapSp Path.og) := by
  rw [sv_spfs, sv_uspfs]
  decide +kernel

-- Outgroup with `floss = 0`: the extended solvers return additional co-optimal solutions
-- that use the new root (so clause (4) needs `floss > 0`), with the same cost.
example :
    let c : Costs := { spe := 1, dup := 1, hgt := .fin 1, floss := 0, sloss := 0 }
    let S : RTree := .node [.node [], .node []]
    let o : OTree := .node (.leaf [0] [1]) (.leaf [1] [1])
    GuardUn c S o ∧
    (uspfs c S false o).length < (uspfs c S.withOutgroup false (o.mapSp Path.og)).length ∧
    (uspfs c S false o).map (totalCost c .unordered o) = [.fin 1, .fin 1, .fin 1] ∧
    (∀ s' ∈ uspfs c S.withOutgroup false (o.mapSp Path.og),
      totalCost c .unordered (o.mapSp Path.og) s' = .fin 1) := by
  refine ⟨⟨by decide, by decide, by decide⟩, ?_⟩
  decide +kernel

-- The oracle in the ordered and unordered modes on the four presentations; a dearer cost
-- vector (transfers forbidden) with a strictly larger returned cost.
example :
    (Spec.optimum svC svS .ordered false false svO none).1 = .fin 2 ∧
    (Spec.optimum svC svS .ordered false false (svO.swapAt [0]) none).1 = .fin 2 ∧
    (Spec.optimum svC svS.withOutgroup .ordered false false (svO.mapSp Path.og) none).1 = .fin 2 ∧
    (Spec.optimum svC svS .unordered false false svO none).1 = .fin 2 ∧
    (Spec.optimum svC svS .unordered false false svO.mirror none).1 = .fin 2 ∧
    (Spec.optimum svC (svS.swapAt [0] 0 1) .unordered false false
      (svO.mapSp (Path.swapAt [0] 0 1)) none).1 = .fin 2 ∧
    (∀ mode, svC.spe + ogSlack mode * svC.sloss ≤ svC.dup + 4 * svC.floss) ∧
    EventLog.leCosts svC { svC with hgt := .inf } ∧
    (uspfs svC svS false svO).map (totalCost svC .unordered svO) = [.fin 2, .fin 2, .fin 2] ∧
    (uspfs { svC with hgt := .inf } svS false svO).map
      (totalCost { svC with hgt := .inf } .unordered svO) = [.fin 6] := by
  rw [sv_uspfs]
  refine ⟨?_, ?_, ?_, ?_, ?_, ?_, fun mode => by cases mode <;> decide,
    ⟨by decide, by decide, by decide, by decide, by decide⟩, ?_, ?_⟩ <;>
    decide +kernel

end SR.C09
