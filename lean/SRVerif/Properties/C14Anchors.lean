/-
  C14 — anchors: every dictionary look-up that `_layout_branches` and `_tikz_draw_branches`
  perform succeeds, for every valid reconciliation on a binary species tree, in both orientations,
  for any node sizes and drawing parameters.  The models do not totalise the look-ups: a missing
  key is `.error .key` (`rectOf`, `anchorIn`, `branchIn`; `drawBranch` makes it of a `none` from
  `slLookup` / `spOfSol`), a failed `assert left_layout is not None` is `.error .value`; so
  `render … = .ok ss` (`C14_anchors`) says that every look-up found its key.  `C14_anchor_keys`
  says it key by key on the output list.
-/
import SRVerif.Properties.C14
import SRVerif.Proofs.BranchesDraw

namespace SR.C14

open SR SR.Layout

/-- **C14, anchors**: `tikz.render(rec, layout.compute(rec, params), params)`
    performs no failing look-up. -/
theorem C14_anchors (o : Orientation) (P : Params) (sizes : Key → Size) (S : RTree) (ot : OTree)
    (sol : Sol) : C14_anchors_statement o P sizes S ot sol := by
  intro hv hin hbin
  obtain ⟨_, _, ss, _, _, _, h⟩ := render_ctx o P sizes (SR.C13.good_of_valid hv hin) hbin
  exact ⟨ss, h⟩

/-- `layout.compute` alone never fails either. -/
theorem C14_compute_ok (o : Orientation) (P : Params) (sizes : Key → Size) (S : RTree) (ot : OTree)
    (sol : Sol) (hv : Spec.validRec ot sol = true) (hin : SR.C13.inTree S sol = true)
    (hbin : S.isBinary = true) : ∃ all, compute o P sizes S sol = .ok all := by
  obtain ⟨_, all, _, _, h, _⟩ := render_ctx o P sizes (SR.C13.good_of_valid hv hin) hbin
  exact ⟨all, h⟩

def anchorKeys (l : SubLayout) : List Key := l.anchors.map (·.1)

def branchKeys (l : List FBranch) : List Key := l.map (·.key)

/-- **C14, anchors, key by key.**  On the output `all` of `layout.compute`,
    for every species layout `lay` and every branch `fb` of it:
    * duplication: `left`, `right` are keys of branches of the same species
      (`layout.branches[left]`, `layout.branches[right]`);
    * transfer: `left` is a branch of the same species, `right` is an object
      node `gf`, `mapping[gf] = sf` exists, `sf` has a layout `fl` and
      `gf` is one of its anchors (`foreign_layout.anchors[right_gene]`);
    * speciation: both child species have a layout and `left` / `right` are
      anchors of the left / right child layout;
    * loss: the kept child is on side `i ∈ {0, 1}`, stored in `left` (`i = 0`,
      and then `right` is `None`) or `right` (`i = 1`), the child species
      `lay.sp ++ [i]` has a layout and the kept key is one of its anchors. -/
theorem C14_anchor_keys (o : Orientation) (P : Params) (sizes : Key → Size) (S : RTree)
    (ot : OTree) (sol : Sol) (hv : Spec.validRec ot sol = true)
    (hin : SR.C13.inTree S sol = true) (hbin : S.isBinary = true) :
    ∃ all, compute o P sizes S sol = .ok all ∧
      ∀ lay ∈ all, ∀ fb ∈ lay.branches,
        (fb.kind = .dup → ∃ k1 k2, fb.left = some k1 ∧ fb.right = some k2 ∧
          k1 ∈ branchKeys lay.branches ∧ k2 ∈ branchKeys lay.branches) ∧
        (fb.kind = .hgt → ∃ k1 gf sf fl, fb.left = some k1 ∧ k1 ∈ branchKeys lay.branches ∧
          fb.right = some (.gene gf) ∧ spOfSol sol gf = some sf ∧ slLookup all sf = some fl ∧
          Key.gene gf ∈ anchorKeys fl) ∧
        (fb.kind = .spec → ∃ k1 k2 l r, fb.left = some k1 ∧ fb.right = some k2 ∧
          slLookup all (lay.sp ++ [0]) = some l ∧ k1 ∈ anchorKeys l ∧
          slLookup all (lay.sp ++ [1]) = some r ∧ k2 ∈ anchorKeys r) ∧
        (fb.kind = .loss → ∃ i k c, (i = 0 ∨ i = 1) ∧
          fb.left = (if i = 0 then some k else none) ∧
          fb.right = (if i = 1 then some k else none) ∧
          slLookup all (lay.sp ++ [i]) = some c ∧ k ∈ anchorKeys c) := by
  obtain ⟨st, all, _, _, hall, c, _⟩ := render_ctx o P sizes (SR.C13.good_of_valid hv hin) hbin
  refine ⟨all, hall, ?_⟩
  intro lay hlay fb hfb
  have hb := c.mem_brs hlay hfb
  have hn := (c.ord lay.sp).needs_mem hb
  rw [c.keys hlay] at hn
  refine ⟨?_, ?_, ?_, ?_⟩
  · intro hk
    simp only [BNeeds, show fb.asBranch.kind = .dup from hk] at hn
    exact hn
  · intro hk
    simp only [BNeeds, show fb.asBranch.kind = .hgt from hk] at hn
    obtain ⟨k1, hleft, h1⟩ := hn
    obtain ⟨gf, sub, hright, hsub, a1, a2⟩ := c.wire.hgt _ _ hb hk
    obtain ⟨fl, e, hfl⟩ := c.anchor_lookup (c.good _ _ hsub).1 a1 a2
    exact ⟨k1, gf, sub.sp, fl, hleft, h1, hright, by rw [spOfSol_eq_subAt, hsub]; rfl, e, hfl⟩
  · intro hk
    obtain ⟨k1, k2, hleft, hright, hn0, hn1, a1, a2, b1, b2⟩ := c.wire.spec _ _ hb hk
    obtain ⟨l, e1, hl⟩ := c.anchor_lookup hn0 a1 a2
    obtain ⟨r, e2, hr⟩ := c.anchor_lookup hn1 b1 b2
    exact ⟨k1, k2, l, r, hleft, hright, e1, hl, e2, hr⟩
  · intro hk
    obtain ⟨i, k, hi, hnode, hleft, hright, h1, h2⟩ := c.wire.loss _ _ hb hk
    obtain ⟨sl, e, hc⟩ := c.anchor_lookup hnode h1 h2
    exact ⟨i, k, sl, hi, hleft, hright, e, hc⟩

/-- **C14, anchors, order** (`_layout_branches`): in the branch list of every
    species, a duplication / transfer branch comes AFTER the branches whose
    `rect` it reads (`layout["branches"][branch["left"]]["rect"]` has been
    assigned in an earlier iteration of the same loop). -/
theorem C14_anchors_order (o : Orientation) (P : Params) (sizes : Key → Size) (S : RTree)
    (ot : OTree) (sol : Sol) (hv : Spec.validRec ot sol = true)
    (hin : SR.C13.inTree S sol = true) (hbin : S.isBinary = true) :
    ∃ all, compute o P sizes S sol = .ok all ∧
      ∀ lay ∈ all, ∀ pre fb post, lay.branches = pre ++ fb :: post →
        (fb.kind = .dup → ∃ k1 k2, fb.left = some k1 ∧ fb.right = some k2 ∧
          k1 ∈ branchKeys pre ∧ k2 ∈ branchKeys pre) ∧
        (fb.kind = .hgt → ∃ k1, fb.left = some k1 ∧ k1 ∈ branchKeys pre) := by
  obtain ⟨st, all, _, _, hall, c, _⟩ := render_ctx o P sizes (SR.C13.good_of_valid hv hin) hbin
  refine ⟨all, hall, ?_⟩
  intro lay hlay pre fb post hsplit
  have hord := c.ord lay.sp
  rw [← (c.skel lay hlay).branches, hsplit, List.map_append, List.map_cons] at hord
  have hn := hord _ _ _ rfl
  have hpre : keysOf (pre.map FBranch.asBranch) = branchKeys pre := by
    simp only [keysOf, branchKeys, List.map_map]; rfl
  rw [hpre] at hn
  refine ⟨?_, ?_⟩
  · intro hk
    simp only [BNeeds, show fb.asBranch.kind = .dup from hk] at hn
    exact hn
  · intro hk
    simp only [BNeeds, show fb.asBranch.kind = .hgt from hk] at hn
    exact hn

/-- The hypotheses are met by the example of `Properties/C13.lean`
    (a speciation, a duplication with one loss and a transfer), whose species
    tree `((,),)` is binary. -/
example : Spec.validRec SR.C13.exO SR.C13.exSol = true ∧
    SR.C13.inTree SR.C13.exS SR.C13.exSol = true ∧ SR.C13.exS.isBinary = true := by decide +kernel

/-- On that example the drawing consists of 19 statements (both orientations). -/
example : (render .vertical exP exSizes SR.C13.exS SR.C13.exSol).toOption.map List.length
    = some 19 := by decide +kernel

example : (render .horizontal exP exSizes SR.C13.exS SR.C13.exSol).toOption.map List.length
    = some 19 := by decide +kernel

/-- `render` is not always `.ok`: with a leaf mapped outside the species tree
    (`inTree` fails; every event is still valid) the loss branch inserted in
    the leaf species `[0,0]` finds no child layout (`assert … is not None`). -/
def badSol : Sol := .node [] [] (.leaf [0, 0, 0] []) (.leaf [1] [])

example : Spec.validRec (.node (.leaf [0, 0, 0] []) (.leaf [1] [])) badSol = true ∧
    SR.C13.inTree SR.C13.exS badSol = false ∧
    render .vertical exP exSizes SR.C13.exS badSol = .error .value := by decide +kernel

/-- `SR.C13.C13_lookups_statement` is the same clause without the hypotheses `validRec` and
    `inTree`; it fails on `badSol` (on the binary tree `exS`), and with them it is `C14_anchors`. -/
example : ¬ SR.C13.C13_lookups_statement .vertical exP exSizes SR.C13.exS badSol := by
  intro h
  obtain ⟨ss, hss⟩ := h (by decide)
  have : render .vertical exP exSizes SR.C13.exS badSol = .error .value := by decide +kernel
  rw [this] at hss
  cases hss

/-- On a non-binary species tree `layout.compute` fails
    (`left_species, right_species = children`). -/
example : SR.C13.inTree (.node [.node [], .node [], .node []])
      (.node [] [] (.leaf [0] []) (.leaf [2] [])) = true ∧
    render .vertical exP exSizes (.node [.node [], .node [], .node []])
      (.node [] [] (.leaf [0] []) (.leaf [2] [])) = .error .value := by decide +kernel

end SR.C14
