/-
  C16, table API — the rest of the public behaviour of
  `superrec2.utils.dynamic_programming` (model: `SRVerif/Model/Table.lean`).

  A HISTORY is any list of operations `Op` on one table (assignments of a
  candidate, `update` with a batch, the read-only entry methods, `keys`,
  iteration, `in`, `==`, `combine`, bare indexing), through any chain of keys
  (complete, partial, too long, valid or not): `Table.run`.  All statements are
  for every table shape `ds : List Dim` (any number of `ListDimension` /
  `DictDimension` axes), both merge policies, the three retention policies, any
  tag type, and histories of any length.

  Vocabulary (`Model/Table.lean`, `Proofs/Table*.lean`):
  `addr ds ks`        the normalised address of the raw chain of keys `ks` (negative list indices
                      wrapped) or the exception of the first invalid key;
  `writesTo ds a op`  the batch `op` offers to the cell `a` — only `t[ks…] = c` and
                      `t[ks…].update(*b)` through a complete valid chain denoting `a` offer anything;
  `offered ds a ops`  the batches a history offers to `a`, in order;
  `readAll T ks`      what `value() infos() info() is_infinite() len() list(iter())` return through `ks`;
  `C16.writes b`      the batch `b` contains a finite candidate (`Proofs/Entry.lean`);  `C16.after m r bs`
                      the entry `Entry(m, r)` after the batches `bs` (`Properties/C16.lean`).
-/
import SRVerif.Proofs.TableRead
import SRVerif.Properties.C16

-- `[DecidableEq τ]` is a section variable of this file: three statements (`C16_iter`,
-- `C16_combine_opt`, `C16_info`) carry it although their proofs do not use it
set_option linter.unusedSectionVars false

namespace SR.C16

open SR.DP SR.DP.Table
open SR.Entry (sentinel better)

variable {τ : Type} [DecidableEq τ]

/-- **Reading a cell after any history.**  Through a complete valid chain of keys `ks` denoting
    the cell `a`, every read-only method returns what it returns on the entry `Entry(m, r)` offered
    exactly the batches that the history wrote to THAT cell and that contained a finite candidate
    (`C16_value`, `C16_all`, `C16_any`, `C16_none` then say what that entry holds); if there is no
    such batch the cell reads infinitely bad with no tag.  Writes to other cells, reads, erroring
    operations, proxies: nothing else in the history matters. -/
theorem C16_table_read [Min τ] (ds : List Dim) (m : Merge) (r : Retain) (ops : List (Op τ))
    (ks a : List Key) (hne : ks ≠ []) (hlen : ks.length = ds.length) (ha : addr ds ks = .ok a) :
    let T := ((Table.new ds m r : Table τ).run ops).1
    let bs := (offered ds a ops).filter writes
    readAll T ks = if bs = [] then missingOuts m else entryOuts (after m r bs) := by
  intro T bs
  rw [show readAll T ks = _ from run_readAll (Table.new ds m r) ops ks a hne hlen ha]
  show cellOuts m ((offered ds a ops).foldl (Cell.update m r) none) = _
  rw [cell_fold m r none (offered ds a ops)]
  split
  · rfl
  · simp only [cellOuts, Option.getD_none, after, Entry.foldl_update]
    rfl

/-- **Frame property.**  Two histories that offer the same batches to the cell `a` give the same
    reads of `a`, whatever else they do (to other cells, through other chains of keys, failing or
    not). -/
theorem C16_table_frame [Min τ] (ds : List Dim) (m : Merge) (r : Retain) (ops ops' : List (Op τ))
    (ks a : List Key) (hne : ks ≠ []) (hlen : ks.length = ds.length) (ha : addr ds ks = .ok a)
    (h : offered ds a ops = offered ds a ops') :
    readAll ((Table.new ds m r : Table τ).run ops).1 ks
      = readAll ((Table.new ds m r : Table τ).run ops').1 ks := by
  have h1 := C16_table_read ds m r ops ks a hne hlen ha
  have h2 := C16_table_read ds m r ops' ks a hne hlen ha
  simp only at h1 h2
  rw [h1, h2, h]

/-- One more operation that offers nothing to `a` does not change the reads of `a`: in
    particular any operation on another cell, any read, any `keys`/`in`/iteration, any failing
    operation. -/
theorem C16_table_frame_step [Min τ] (T : Table τ) (op : Op τ) (ks a : List Key)
    (hne : ks ≠ []) (hlen : ks.length = T.dims.length) (ha : addr T.dims ks = .ok a)
    (h : writesTo T.dims a op = none) :
    readAll (T.step op).1 ks = readAll T ks := by
  rw [show (T.step op).1 = (T.run [op]).1 from rfl, run_readAll T [op] ks a hne hlen ha,
    readAll_valid T ks a hne hlen ha]
  simp [offered, h]

/-- **A never-written cell** (no assignment / `update` through a valid chain denoting it ever
    contained a finite candidate) reads `+∞` (MIN) / `-∞` (MAX), no tags, `info()` is `None`,
    `is_infinite()`, length 0, iterates over nothing. -/
theorem C16_table_unwritten [Min τ] (ds : List Dim) (m : Merge) (r : Retain) (ops : List (Op τ))
    (ks a : List Key) (hne : ks ≠ []) (hlen : ks.length = ds.length) (ha : addr ds ks = .ok a)
    (h : ∀ op ∈ ops, ∀ b, writesTo ds a op = some b → writes b = false) :
    readAll ((Table.new ds m r : Table τ).run ops).1 ks = missingOuts m := by
  have h1 := C16_table_read ds m r ops ks a hne hlen ha
  simp only at h1
  rw [h1, if_pos]
  rw [List.filter_eq_nil_iff]
  intro b hb
  simp only [offered, List.mem_filterMap] at hb
  obtain ⟨op, ho, hw⟩ := hb
  simp [h op ho b hw]

/-- **Errors do not modify the table's cells.**  An operation that raises offers nothing to any
    cell (an operation that offers a batch to a cell returns normally), so after it every cell reads
    as before.  (Dictionary keys it may have created on the way are the subject of
    `C16_table_keys_sound`.) -/
theorem C16_table_error_frame [Min τ] (T : Table τ) (op : Op τ) (e : PyErr)
    (herr : (T.step op).2 = .err e) :
    (∀ a, getCell (T.step op).1.cells a = getCell T.cells a)
    ∧ (T.step op).1.dims = T.dims ∧ (T.step op).1.merge = T.merge ∧ (T.step op).1.retain = T.retain
    ∧ ∀ ks a, ks ≠ [] → ks.length = T.dims.length → addr T.dims ks = .ok a →
        readAll (T.step op).1 ks = readAll T ks := by
  have hw : ∀ a, writesTo T.dims a op = none := by
    intro a
    cases h : writesTo T.dims a op with
    | none => rfl
    | some b => rw [step_write_ok T op a b h] at herr; cases herr
  have hs := step_ext T op
  refine ⟨?_, hs.dims, hs.merge, hs.retain, ?_⟩
  · intro a; rw [hs.cells]; simp [opCell, hw a]
  · intro ks a hne hlen ha
    exact C16_table_frame_step T op ks a hne hlen ha (hw a)

/-- An invalid complete chain of keys makes every read raise the exception of its first invalid
    key (`IndexError` for an out-of-range list index, `TypeError` for a non-integer one). -/
theorem C16_table_read_invalid [Min τ] (T : Table τ) (ks : List Key) (e : PyErr)
    (hne : ks ≠ []) (hlen : ks.length = T.dims.length) (ha : addr T.dims ks = .error e) :
    readAll T ks = List.replicate 6 (.err e) := by
  unfold readAll
  have hv := withCell_invalid T ks hne hlen e ha
  have h6 : (T.step (.iter ks)).2 = .err e := by
    simp only [step]
    rcases index_complete T ks hne hlen with ⟨a', _, hi⟩ | ⟨e'', he, hi⟩
    · simp only [hi, getReal_eq, walk_dims, ha, Except.map]
    · rw [hi]
      rw [ha] at he
      cases he
      rfl
  rw [h6]
  simp only [step, hv]
  rfl

/-- **Policy-freeness of the value**: `ALL`, `ANY` and `NONE` entries fed the same history have
    the same value. -/
theorem C16_value_policy_free (m : Merge) (r r' : Retain) (bs : List (List (Cand τ))) :
    (after m r bs).value = (after m r' bs).value := by
  unfold after
  rw [Entry.foldl_update, Entry.foldl_update, value_update, value_update]
  rfl

/-- The single tag kept under `ANY` is one of the tags kept under `ALL` by the same history. -/
theorem C16_any_subset_all (m : Merge) (bs : List (List (Cand τ))) :
    ∀ t ∈ (after m .any bs).infos, t ∈ (after m .all bs).infos := by
  intro t ht
  obtain ⟨_, hsound, _⟩ := C16_any m bs
  obtain ⟨c, hc, h1, h2⟩ := hsound t ht
  rw [C16_value_policy_free m .any .all bs] at h2
  exact ((C16_all m bs).1 t).mpr ⟨c, hc, h1, h2⟩

/-- Tables with different retention policies that went through the same history return the same
    `value()` and `is_infinite()` for every cell. -/
theorem C16_table_value_policy_free [Min τ] (ds : List Dim) (m : Merge) (r r' : Retain) (ops : List (Op τ))
    (ks a : List Key) (hne : ks ≠ []) (hlen : ks.length = ds.length) (ha : addr ds ks = .ok a) :
    let T := ((Table.new ds m r : Table τ).run ops).1
    let T' := ((Table.new ds m r' : Table τ).run ops).1
    (T.step (.value ks)).2 = (T'.step (.value ks)).2 ∧ (T.step (.isInf ks)).2 = (T'.step (.isInf ks)).2 := by
  intro T T'
  have h1 := C16_table_read ds m r ops ks a hne hlen ha
  have h2 := C16_table_read ds m r' ops ks a hne hlen ha
  simp only at h1 h2
  have hv := C16_value_policy_free m r r' ((offered ds a ops).filter writes)
  unfold readAll at h1 h2
  by_cases hb : (offered ds a ops).filter writes = []
  · rw [if_pos hb] at h1 h2
    simp only [missingOuts, List.cons.injEq] at h1 h2
    exact ⟨h1.1.trans h2.1.symm, h1.2.2.2.1.trans h2.2.2.2.1.symm⟩
  · rw [if_neg hb] at h1 h2
    simp only [entryOuts, List.cons.injEq] at h1 h2
    refine ⟨h1.1.trans (Eq.trans ?_ h2.1.symm), h1.2.2.2.1.trans (Eq.trans ?_ h2.2.2.2.1.symm)⟩
    · rw [hv]
    · simp only [isInfinite, hv]

/-- **`iter(entry)`** yields exactly one candidate per retained tag, each carrying the entry's
    value and that tag. -/
theorem C16_iter (e : Entry τ) :
    (iter e).length = e.infos.length
    ∧ (∀ c ∈ iter e, c.value = e.value ∧ ∃ t ∈ e.infos, c.info = some t)
    ∧ (∀ t, t ∈ e.infos ↔ ({ value := e.value, info := some t } : Cand τ) ∈ iter e)
    ∧ (iter e).map (·.info) = e.infos.map some := by
  refine ⟨by simp [iter], ?_, ?_, by simp [iter, List.map_map, Function.comp_def]⟩
  · intro c hc
    obtain ⟨t, ht, rfl⟩ := (mem_iter e c).mp hc
    exact ⟨rfl, t, ht, rfl⟩
  · intro t
    rw [mem_iter]
    constructor
    · intro ht; exact ⟨t, ht, rfl⟩
    · rintro ⟨u, hu, h⟩
      injection h with _ h2
      injection h2 with h2
      rw [h2]; exact hu

theorem better_sentinel {m : Merge} {v : ExtInt} (h : better m (sentinel m) v = false) : v = sentinel m := by
  cases m <;> cases v <;> simp_all [better, sentinel, ExtInt.lt]

/-- **Forwarding `*entry`** (what `Entry.combine` callers and the decoders do: `dst.update(*src)`):
    a fresh `ALL` entry offered `iter(e)` holds `e`'s value and exactly `e`'s tags — provided `e`
    retains at least one tag; an entry without tags forwards NOTHING (its value is lost). -/
theorem C16_iter_forward (m : Merge) (e : Entry τ) :
    let d := after m .all [iter e]
    (e.infos ≠ [] → d.value = e.value ∧ ∀ t, t ∈ d.infos ↔ t ∈ e.infos)
    ∧ (e.infos = [] → d.value = sentinel m ∧ d.infos = []) := by
  intro d
  obtain ⟨hatt, hopt, _⟩ := C16_value m .all [iter e]
  obtain ⟨hall, _⟩ := C16_all m [iter e]
  simp only [List.flatten_cons, List.flatten_nil, List.append_nil] at hatt hopt hall
  constructor
  · intro hne
    have hv : d.value = e.value := by
      rcases hatt with h | ⟨c, hc, h⟩
      · obtain ⟨t, ht⟩ := List.exists_mem_of_ne_nil _ hne
        have := hopt ⟨e.value, some t⟩ ((mem_iter e _).mpr ⟨t, ht, rfl⟩)
        simp only at this
        rw [show (after m .all [iter e]).value = sentinel m from h] at this
        rw [show d.value = sentinel m from h]
        exact (better_sentinel this).symm
      · obtain ⟨t, _, rfl⟩ := (mem_iter e c).mp hc
        exact h.symm
    refine ⟨hv, ?_⟩
    intro t
    rw [hall t]
    constructor
    · rintro ⟨c, hc, h1, _⟩
      obtain ⟨u, hu, rfl⟩ := (mem_iter e c).mp hc
      simp only at h1
      injection h1 with h1
      rw [← h1]; exact hu
    · intro ht
      exact ⟨⟨e.value, some t⟩, (mem_iter e _).mpr ⟨t, ht, rfl⟩, rfl, hv.symm⟩
  · intro hnil
    have : iter e = [] := by simp [iter, hnil]
    show (after m .all [iter e]).value = sentinel m ∧ (after m .all [iter e]).infos = []
    rw [this]
    simp [after, Entry.update, Entry.init, sentinel]

/-- **A combinator that returns `None`** on some pair of retained tags makes `combine` raise
    (`AttributeError`); one that returns a candidate on every pair gives `Entry.combine`, to which
    `C16_combine` applies (optimum over the pairs of retained tags). -/
theorem C16_combine_opt {σ : Type} [DecidableEq σ] (a b : Entry τ)
    (f : ExtInt → τ → ExtInt → τ → Option (Cand σ)) :
    (combineOpt a b f = .error .attributeError ↔
      ∃ x ∈ a.infos, ∃ y ∈ b.infos, f a.value x b.value y = none)
    ∧ (∀ g : ExtInt → τ → ExtInt → τ → Cand σ,
        (∀ x ∈ a.infos, ∀ y ∈ b.infos, f a.value x b.value y = some (g a.value x b.value y)) →
        combineOpt a b f = .ok (Entry.combine a b g)) := by
  have hall : (a.infos.flatMap (fun x => b.infos.map (fun y => (x, y)))).all
        (fun p => (f a.value p.1 b.value p.2).isSome) = true ↔
      ∀ x ∈ a.infos, ∀ y ∈ b.infos, (f a.value x b.value y).isSome = true := by
    rw [List.all_eq_true]
    exact ⟨fun h x hx y hy => h (x, y) ((List.mem_pairs _ _ _).mpr ⟨hx, hy⟩),
      fun h p hp => h p.1 ((List.mem_pairs _ _ p).mp hp).1 p.2 ((List.mem_pairs _ _ p).mp hp).2⟩
  unfold combineOpt
  constructor
  · by_cases hs : ∀ x ∈ a.infos, ∀ y ∈ b.infos, (f a.value x b.value y).isSome = true
    · rw [if_pos (hall.2 hs)]
      refine ⟨nofun, fun ⟨x, hx, y, hy, hn⟩ => ?_⟩
      have := hs x hx y hy
      rw [hn] at this
      cases this
    · rw [if_neg (mt hall.1 hs)]
      refine ⟨fun _ => Classical.byContradiction fun hne => hs fun x hx y hy => ?_, fun _ => rfl⟩
      cases hf : f a.value x b.value y with
      | none => exact absurd ⟨x, hx, y, hy, hf⟩ hne
      | some c => rfl
  · intro g h
    rw [if_pos (hall.2 fun x hx y hy => by rw [h x hx y hy]; rfl)]
    unfold Entry.combine
    congr 2
    exact List.filterMap_eq_map_of_forall fun p hp =>
      h p.1 ((List.mem_pairs _ _ p).mp hp).1 p.2 ((List.mem_pairs _ _ p).mp hp).2

/-- **A combinator that rejects pairs by an infinitely bad value** (what the solvers' combinators do
    when an event has infinite cost): the combined value is the optimum over the ACCEPTED pairs of
    retained tags (the sentinel if there is none), and when it is not the sentinel the tags under
    `ALL` are exactly the tags of the optimal accepted pairs. -/
theorem C16_combine_reject {σ : Type} [DecidableEq σ] (a b : Entry τ)
    (acc : τ → τ → Bool) (h : ExtInt → τ → ExtInt → τ → Cand σ) (tag : τ → τ → Option σ) :
    let g : ExtInt → τ → ExtInt → τ → Cand σ := fun va x vb y =>
      if acc x y then h va x vb y else { value := sentinel a.merge, info := tag x y }
    let e := Entry.combine a b g
    (e.value = sentinel a.merge ∨
        ∃ x ∈ a.infos, ∃ y ∈ b.infos, acc x y = true ∧ (h a.value x b.value y).value = e.value)
    ∧ (∀ x ∈ a.infos, ∀ y ∈ b.infos, acc x y = true →
        better a.merge e.value (h a.value x b.value y).value = false)
    ∧ (a.retain = .all → e.value ≠ sentinel a.merge → ∀ t, t ∈ e.infos ↔
        ∃ x ∈ a.infos, ∃ y ∈ b.infos, acc x y = true ∧
          (h a.value x b.value y).info = some t ∧ (h a.value x b.value y).value = e.value) := by
  intro g e
  obtain ⟨h1, h2, h3, _⟩ := C16_combine a b g
  refine ⟨?_, ?_, ?_⟩
  · rcases h1 with h1 | ⟨x, hx, y, hy, hv⟩
    · exact Or.inl h1
    · by_cases hacc : acc x y = true
      · right; exact ⟨x, hx, y, hy, hacc, by simpa [g, hacc] using hv⟩
      · left
        have : (g a.value x b.value y).value = sentinel a.merge := by simp [g, hacc]
        rw [← hv, this]
  · intro x hx y hy hacc
    have := h2 x hx y hy
    simpa [g, hacc] using this
  · intro hall hne t
    rw [h3 hall t]
    constructor
    · rintro ⟨x, hx, y, hy, hi, hv⟩
      by_cases hacc : acc x y = true
      · exact ⟨x, hx, y, hy, hacc, by simpa [g, hacc] using hi, by simpa [g, hacc] using hv⟩
      · exfalso
        apply hne
        have : (g a.value x b.value y).value = sentinel a.merge := by simp [g, hacc]
        rw [← hv, this]
    · rintro ⟨x, hx, y, hy, hacc, hi, hv⟩
      exact ⟨x, hx, y, hy, by simpa [g, hacc] using hi, by simpa [g, hacc] using hv⟩

omit [DecidableEq τ] in
/-- When one of the entries has no tag (as every entry built under `NONE`: `C16_none`) `combine` sees
    no pair at all: the result is a fresh entry, whatever the two values. -/
theorem C16_combine_untagged {σ : Type} [DecidableEq σ] (a b : Entry τ)
    (f : ExtInt → τ → ExtInt → τ → Cand σ) (h : a.infos = [] ∨ b.infos = []) :
    Entry.combine a b f = Entry.init a.merge a.retain := by
  unfold Entry.combine
  rcases h with h | h
  · simp [h, Entry.update]
  · have : a.infos.flatMap (fun x => b.infos.map (fun y => (x, y))) = [] := by
      rw [h]; induction a.infos <;> simp_all
    simp [this, Entry.update]

/-- `info()` is `None` exactly when there is no tag, and otherwise the least retained tag. -/
theorem C16_info [Min τ] [LE τ] [Std.IsLinearOrder τ] [Std.LawfulOrderMin τ] (e : Entry τ) :
    (info e = none ↔ e.infos = []) ∧ ∀ t, info e = some t ↔ t ∈ e.infos ∧ ∀ u ∈ e.infos, t ≤ u :=
  ⟨by simp [info, List.min?_eq_none_iff], fun t => by simp [info, List.min?_eq_some_iff]⟩

/-- `entry == other` compares the value and the SET of tags, nothing else (not the policies). -/
theorem C16_eq (a : Entry τ) (v : ExtInt) (infos : List τ) :
    eqv a v infos = true ↔ a.value = v ∧ ∀ t, t ∈ a.infos ↔ t ∈ infos := by
  simp only [eqv, Bool.and_eq_true, decide_eq_true_eq, List.all_eq_true]
  constructor
  · rintro ⟨⟨h1, h2⟩, h3⟩; exact ⟨h1, fun t => ⟨h2 t, h3 t⟩⟩
  · rintro ⟨h1, h2⟩; exact ⟨⟨h1, fun t ht => (h2 t).mp ht⟩, fun t ht => (h2 t).mpr ht⟩

/-- **Only addressed keys are reported.**  Below a chain `pre` leading to a `DictDimension`,
    `keys()`, iteration and `in` agree, and every key `k` they report was ADDRESSED by some operation
    of the history: an operation mentions a chain of keys one of whose valid prefixes denotes
    `pre…[k]`.  In particular a cell whose keys no operation ever mentioned is not reported.  (A
    single assignment of an infinite candidate creates no key either:
    `C16_table_keys_infinite_write`.)  NOTE the converse of "never written": merely READING
    `t[…][k].value()` creates the key (`C16_table_keys_read_creates`), because the axes are
    `defaultdict`s. -/
theorem C16_table_keys_sound [Min τ] (ds : List Dim) (m : Merge) (r : Retain) (ops : List (Op τ))
    (pre a : List Key) (hs : pre.length < ds.length) (ha : addr ds pre = .ok a)
    (hd : ds[pre.length]? = some .dict) :
    let T := ((Table.new ds m r : Table τ).run ops).1
    ∃ l, (T.step (.keys pre)).2 = .keys l ∧ (T.step (.iter pre)).2 = .keys l
      ∧ (∀ k, (T.step (.contains pre k)).2 = .bool (decide (k ∈ l)))
      ∧ ∀ k ∈ l, ∃ op ∈ ops, ∃ path ∈ opPaths op, ∃ n, n < path.length ∧
          addr ds (path.take (n + 1)) = .ok (a ++ [k]) := by
  intro T
  have h := run_ext (Table.new ds m r : Table τ) ops
  obtain ⟨l, h1, h2, h3, h4⟩ := keys_dict T pre a (h.dims ▸ hs) (h.dims ▸ ha) (h.dims ▸ hd)
  refine ⟨l, h1, h2, h3, fun k hk => ?_⟩
  -- the table started without keys, so the key was created by the history, on a mentioned path
  obtain ⟨l', ht, hl'⟩ := h.touched
  have hk' : a ++ [k] ∈ [] ++ l' := ht ▸ (h4 k).mp hk
  obtain ⟨op, hop, hv⟩ := List.mem_flatMap.mp (hl' _ hk')
  obtain ⟨path, hpath, hp⟩ := List.mem_flatMap.mp hv
  obtain ⟨n, hn, _, han⟩ := (mem_visited _ path _).1 hp
  exact ⟨op, hop, path, hpath, n, hn, han⟩

/-- An assignment `t[pre…][k] = c` of an infinite candidate through as many keys as axes does not
    even create the keys: it changes nothing at all (`EntryProxy.update` returns before looking at
    the table), also when its keys are out of range.  (Not so `t[ks…].update(*b)`: indexing the
    complete chain walks its prefix before `update` is called.) -/
theorem C16_table_keys_infinite_write [Min τ] (T : Table τ) (pre : List Key) (k : Key) (c : Cand τ)
    (hl : pre.length + 1 = T.dims.length) (hc : c.value.isInfinite = true) :
    T.step (.set pre k c) = (T, .unit) := by
  have hs : pre.length < T.dims.length := by omega
  simp [step, index_short T pre hs, setitem, hl, updateAt, hc]

/-- Below a chain leading to a `ListDimension(n)` the keys are `0 … n-1`, always. -/
theorem C16_table_keys_list [Min τ] (T : Table τ) (pre a : List Key) (n : Nat) (hs : pre.length < T.dims.length)
    (ha : addr T.dims pre = .ok a) (hd : T.dims[pre.length]? = some (.list n)) :
    (T.step (.keys pre)).2 = .keys ((List.range n).map (fun i => Key.int (i : Nat)))
    ∧ (T.step (.iter pre)).2 = .keys ((List.range n).map (fun i => Key.int (i : Nat)))
    ∧ ∀ k, (T.step (.contains pre k)).2 = .bool (decide (∃ i, i < n ∧ k = Key.int (i : Nat))) := by
  obtain ⟨h1, h2, h3⟩ := step_keys_at T pre _ hs (keysAt_list T pre a n ha hd)
  refine ⟨h1, h2, fun k => ?_⟩
  rw [h3]
  simp only [Out.bool.injEq, decide_eq_decide, List.mem_map, List.mem_range]
  exact ⟨fun ⟨i, hi, h⟩ => ⟨i, hi, h.symm⟩, fun ⟨i, hi, h⟩ => ⟨i, hi, h.symm⟩⟩

/-- **Written cells are reported.**  Once a batch with a finite candidate has been written to the
    cell `a`, then after any further history, on every `DictDimension` axis `n` the key `a[n]` is
    reported by `keys()` and `in` below any chain `pre` denoting `a[:n]`. -/
theorem C16_table_keys_written [Min τ] (ds : List Dim) (m : Merge) (r : Retain)
    (ops1 ops2 : List (Op τ)) (op : Op τ) (a : List Key) (b : List (Cand τ))
    (hw : writesTo ds a op = some b) (hfin : writes b = true)
    (n : Nat) (hd : ds[n]? = some .dict) (pre : List Key) (hpl : pre.length = n)
    (hpre : addr ds pre = .ok (a.take n)) :
    let T := ((Table.new ds m r : Table τ).run (ops1 ++ op :: ops2)).1
    ∃ l k, (T.step (.keys pre)).2 = .keys l ∧ a[n]? = some k ∧ k ∈ l
      ∧ (T.step (.contains pre k)).2 = .bool true := by
  intro T
  have hd1 : ((Table.new ds m r : Table τ).run ops1).1.dims = ds := (run_ext _ ops1).dims
  have h2 := run_ext (((Table.new ds m r : Table τ).run ops1).1.step op).1 ops2
  have hT : T = ((((Table.new ds m r : Table τ).run ops1).1.step op).1.run ops2).1 := by
    show ((Table.new ds m r : Table τ).run (ops1 ++ op :: ops2)).1 = _
    rw [run_append, run_cons]
  have hdT : T.dims = ds := (run_ext (Table.new ds m r : Table τ) (ops1 ++ op :: ops2)).dims
  obtain ⟨ks, _, hak, hkl, htouch⟩ := step_write_touched _ op a b (hd1 ▸ hw) hfin
  rw [hd1] at hak hkl htouch
  -- the write creates the keys on its path, and keys stay for ever
  obtain ⟨l, hl, -⟩ := h2.touched
  exact keys_dict_reports T ks a pre n (hdT ▸ hkl) (hdT ▸ hak)
    (fun p hp => by rw [hT, hl]; exact List.mem_append_left _ (htouch p (hdT ▸ hp)))
    (hdT ▸ hd) hpl (hdT ▸ hpre)

/-- **`keys()` is append-only.**  Whatever happens next, the keys listed below a dictionary prefix
    stay listed, in the same order, new ones being appended (creation order of the `defaultdict`). -/
theorem C16_table_keys_monotone [Min τ] (T : Table τ) (ops : List (Op τ)) (pre a : List Key)
    (hs : pre.length < T.dims.length) (ha : addr T.dims pre = .ok a) (hd : T.dims[pre.length]? = some .dict) :
    ∃ l l', (T.step (.keys pre)).2 = .keys l ∧ ((T.run ops).1.step (.keys pre)).2 = .keys (l ++ l') := by
  have h := run_ext T ops
  obtain ⟨lx, hlx, -⟩ := h.touched
  refine ⟨T.touched.filterMap (keySel a), lx.filterMap (keySel a),
    (step_keys_at T pre _ hs (keysAt_dict_eq T pre a ha hd)).1, ?_⟩
  rw [← List.filterMap_append, ← hlx]
  exact (step_keys_at _ pre _ (h.dims ▸ hs) (keysAt_dict_eq _ pre a (h.dims ▸ ha) (h.dims ▸ hd))).1

/-- **Reading creates keys.**  After `t[ks…].value()` through a valid complete chain — on a cell
    that may never have been written — every dictionary key on the way exists: `keys()` then reports
    the cell although it still reads infinitely bad (`C16_table_frame_step`).  (The solvers iterate
    over `table[…]` and only then read, so this cannot add work for them, but "a never-written cell
    is not reported by keys()" is NOT a property of this module; "a never-addressed cell is not
    reported" is, `C16_table_keys_sound`.) -/
theorem C16_table_keys_read_creates [Min τ] (T : Table τ) (ks a : List Key) (hne : ks ≠ [])
    (hlen : ks.length = T.dims.length) (ha : addr T.dims ks = .ok a)
    (n : Nat) (hd : T.dims[n]? = some .dict) :
    let T' := (T.step (.value ks)).1
    ∃ l k, (T'.step (.keys (ks.take n))).2 = .keys l ∧ a[n]? = some k ∧ k ∈ l := by
  intro T'
  have hdT' : T'.dims = T.dims := (step_ext T (.value ks)).dims
  have hn : n < ks.length := hlen ▸ (List.getElem?_eq_some_iff.1 hd).1
  obtain ⟨l, k, h1, hk, hmem, -⟩ := keys_dict_reports T' ks a (ks.take n) n (hdT' ▸ hlen) (hdT' ▸ ha)
    (hdT' ▸ step_value_touched T ks a hne hlen ha) (hdT' ▸ hd)
    (by rw [List.length_take, Nat.min_eq_left (Nat.le_of_lt hn)])
    (hdT' ▸ addr_take _ ks a n ha (Nat.le_of_lt hn))
  exact ⟨l, k, h1, hk, hmem⟩

section examples

/-- A 2-axis table `[DictDimension(), ListDimension(2)]`, MIN / ALL, Nat tags. -/
def exT : Table Nat := Table.new [.dict, .list 2] .min .all

/-- writes to two cells (one through a negative index), an all-infinite assignment to a third, a
    failing assignment, a partial-index assignment, reads in between -/
def exOps : List (Op Nat) :=
  [ .set [.sym 0] (.int 1) ⟨.fin 2, some 1⟩,
    .value [.sym 1, .int 0],
    .set [.sym 0] (.int (-1)) ⟨.fin 1, some 2⟩,
    .update [.sym 1, .int 0] [⟨.fin 1, some 3⟩, ⟨.fin 1, none⟩, ⟨.fin 1, some 4⟩],
    .set [.sym 2] (.int 0) ⟨.posInf, some 5⟩,
    .set [.sym 3] (.int 7) ⟨.fin 0, some 6⟩,
    .set [] (.sym 0) ⟨.fin 0, some 7⟩,
    .update [.sym 0, .int 1] [⟨.fin 1, some 8⟩] ]

theorem exRun : (exT.run exOps).1 =
    { dims := [.dict, .list 2], merge := .min, retain := .all,
      touched := [[.sym 0], [.sym 1], [.sym 3]],
      cells := [([.sym 0, .int 1], ⟨.fin 1, [2, 8], .min, .all⟩),
                ([.sym 1, .int 0], ⟨.fin 1, [3, 4], .min, .all⟩)] } := by rfl

example : addr exT.dims [.sym 0, .int (-1)] = .ok [.sym 0, .int 1] := by rfl
example : (offered exT.dims [.sym 0, .int 1] exOps).filter writes
    = [[⟨.fin 2, some 1⟩], [⟨.fin 1, some 2⟩], [⟨.fin 1, some 8⟩]] := by rfl
example : readAll (exT.run exOps).1 [.sym 0, .int 1]
    = [.value (.fin 1), .infos [2, 8], .info (some 2), .bool false, .nat 2,
       .cands [⟨.fin 1, some 2⟩, ⟨.fin 1, some 8⟩]] := by rw [exRun]; rfl
example : readAll (exT.run exOps).1 [.sym 2, .int 0] = missingOuts .min := by rw [exRun]; rfl
example : (exT.run exOps).2.map (fun o => match o with | .err e => some e | _ => none)
    = [none, none, none, none, none, some .indexError, some .typeError, none] := by rfl
example : readAll (exT.run exOps).1 [.sym 0, .int 2] = List.replicate 6 (.err .indexError) := by rw [exRun]; rfl
-- keys: `s0`, `s1` written (and `s1` read before), `s3` created by the failing assignment, `s2`
-- (only offered an infinite candidate) absent; then reading `s2` creates it
example : ((exT.run exOps).1.step (.keys [])).2 = .keys [.sym 0, .sym 1, .sym 3] := by rw [exRun]; rfl
example : ((exT.run exOps).1.step (.contains [] (.sym 2))).2 = .bool false := by rw [exRun]; rfl
example : ((exT.run (exOps ++ [.value [.sym 2, .int 0]])).1.step (.keys [])).2
    = .keys [.sym 0, .sym 1, .sym 3, .sym 2] := by rfl
example : ((exT.run exOps).1.step (.keys [.sym 0])).2 = .keys [.int 0, .int 1] := by rw [exRun]; rfl
example : (after .min .any [[⟨.fin 1, some 3⟩, ⟨.fin 1, some 4⟩]] : Entry Nat).infos = [3]
    ∧ (after .min .all [[⟨.fin 1, some 3⟩, ⟨.fin 1, some 4⟩]] : Entry Nat).infos = [3, 4] := by decide +kernel
example : combineOpt (after .min .all [[⟨.fin 1, some 1⟩, ⟨.fin 1, some 2⟩]] : Entry Nat)
      (after .min .all [[⟨.fin 2, some 1⟩]])
      (fun va x vb y => if x = y then none else some ⟨va + vb, some (x * 10 + y)⟩)
    = .error .attributeError := by rfl
example : (Entry.combine (after .min .all [[⟨.fin 1, some 1⟩, ⟨.fin 1, some 2⟩]] : Entry Nat)
      (after .min .all [[⟨.fin 2, some 1⟩]])
      (fun va x vb y => if x != y then ⟨va + vb, some (x * 10 + y)⟩ else ⟨.posInf, some 0⟩)).infos = [21] := by
  decide +kernel

end examples

end SR.C16
