/-
  C08 — "the extended solvers on an input with polytomies return the optimum over ALL
  binary refinements of both trees, and every returned solution refers to binary trees
  with the original leaf data."

  `C08_opt_spfs` (`Properties/C08.lean`) says that the multi-solver result is the arg-min
  of the evaluated cost over the union of the per-pair CANDIDATES, pairs ranging over the
  members of `binarize tO × binarize tS`.  Here this is connected to the specification:

  * the optimum of a binary input `(bO, bS)` is `C09.IsMinCost c mode (toOTree data bS bO)`
    — the minimum of the evaluator `totalCost` over ALL valid solutions `Spec.validSol`
    (every species mapping, root order and labelling); nothing of the solver is mentioned;
  * "ALL binary refinements" are all binary trees `rO`, `rS : BinT` with
    `Spec.IsRefinement rO.toN tO`, `Spec.IsRefinement rS.toN tS` — in ANY child order, not
    only the members of `binarize`;
  * `IsRefinementOptimum c mode tO tS data m`: `m` is the minimum over all such pairs of the
    optimum of the binary input (no valid solution of any pair is cheaper than `m`, and `m`
    is the optimum of some pair).

  The unordered extended solver is `Properties/C08OptUn.lean`.

  Guards, those of C08 and C02.  `InputOk`: both trees well-formed (every internal node has
  ≥ 2 children) with distinct leaves; the species of every object leaf is a leaf of the
  species tree.  As separate hypotheses of the solver theorems: non-empty leaf syntenies;
  coherent costs `spe + 2·sloss ≤ dup + 2·floss` (outside this region the binary solvers can
  miss the optimum: the known finding F-COHERENCE, witness `C01.C01_incoherent_witness`).
-/
import SRVerif.Properties.C08
import SRVerif.Proofs.SolverExact
import SRVerif.Proofs.BinarizeOptAllMulti

namespace SR.C08

open SR SR.Bin

/-- `BinT.Equiv` amounts to child swaps (object side): the binary input built from an object
    tree equal to `a` up to child order is the input built from `a` with the children exchanged
    at a set `F` of positions. -/
theorem C08_equiv_is_flip (data : LeafData) (bS a b : BinT) (he : BinT.Equiv a b) :
    ∃ F : Path → Bool, toOTree data bS b = (toOTree data bS a).flip F :=
  toOTree_equiv_obj data bS he

/-- … (species side): for distinct species leaves, the path of every leaf in `b` is its
    path in `a` moved by `Path.flipPos F` — an injective, depth- and LCA-preserving
    relabelling of the species — and the binary inputs differ by that relabelling. -/
theorem C08_equiv_is_relabelling (data : LeafData) (a b : BinT) (he : BinT.Equiv a b)
    (hnd : a.leaves.Nodup) :
    ∃ F : Path → Bool, PathEmb (Path.flipPos F) ∧
      (∀ id, b.pathOf id = (a.pathOf id).map (Path.flipPos F)) ∧
      ∀ bO : BinT, toOTree data b bO = (toOTree data a bO).mapSp (Path.flipPos F) := by
  obtain ⟨F, hF⟩ := pathOf_equiv he hnd
  exact ⟨F, Path.flipPos_emb F, hF, toOTree_mapSp data a b _ rfl hF⟩

/-- What two-way transfer of solutions gives, in the vocabulary of C09. -/
theorem C08_opt_of_transfers {o o' : OTree} (h : Transfers o o') (h' : Transfers o' o)
    (c : Costs) (mode : LabelMode) :
    (∀ m, C09.IsMinCost c mode o m ↔ C09.IsMinCost c mode o' m) ∧
    (∀ sol, C09.IsOptimal c mode o sol →
      ∃ sol', C09.IsOptimal c mode o' sol' ∧ totalCost c mode o' sol' = totalCost c mode o sol) := by
  obtain ⟨f, hf⟩ := h
  obtain ⟨g, hg⟩ := h'
  have ht := transport_embed (V := fun s => Spec.validSol mode o s = true)
    (V' := fun s => Spec.validSol mode o' s = true) (cost := totalCost c mode o)
    (cost' := totalCost c mode o') f g (fun s => by rw [(hf mode s).1]) (fun s => (hf mode s).2 c)
    fun s hs => ⟨by rw [(hg mode s).1]; exact hs, Cost.le_of_eq ((hg mode s).2 c)⟩
  exact ⟨ht.2, fun sol hsol => ⟨f sol, (ht.1 sol).mp hsol, (hf mode sol).2 c⟩⟩

/-- The optimum of the binary input does not depend on the child order of the OBJECT
    refinement (all modes, all costs). -/
theorem C08_equiv_obj_opt (c : Costs) (mode : LabelMode) (data : LeafData) (bS a b : BinT)
    (he : BinT.Equiv a b) :
    (∀ m, C09.IsMinCost c mode (toOTree data bS a) m ↔ C09.IsMinCost c mode (toOTree data bS b) m) ∧
    (∀ sol, C09.IsOptimal c mode (toOTree data bS a) sol →
      ∃ sol', C09.IsOptimal c mode (toOTree data bS b) sol' ∧
        totalCost c mode (toOTree data bS b) sol' = totalCost c mode (toOTree data bS a) sol) :=
  C08_opt_of_transfers (transfers_equiv_obj data bS he) (transfers_equiv_obj data bS he.symm) c mode

/-- … nor on the child order of the SPECIES refinement (distinct species leaves). -/
theorem C08_equiv_sp_opt (c : Costs) (mode : LabelMode) (data : LeafData) (a b bO : BinT)
    (he : BinT.Equiv a b) (hnd : a.leaves.Nodup) :
    (∀ m, C09.IsMinCost c mode (toOTree data a bO) m ↔ C09.IsMinCost c mode (toOTree data b bO) m) ∧
    (∀ sol, C09.IsOptimal c mode (toOTree data a bO) sol →
      ∃ sol', C09.IsOptimal c mode (toOTree data b bO) sol' ∧
        totalCost c mode (toOTree data b bO) sol' = totalCost c mode (toOTree data a bO) sol) :=
  C08_opt_of_transfers (transfers_equiv_sp data he hnd bO)
    (transfers_equiv_sp data he.symm (he.leaves_perm.nodup_iff.mp hnd) bO) c mode

theorem C08_equiv_opt (c : Costs) (mode : LabelMode) (data : LeafData) (aO bO aS bS : BinT)
    (heO : BinT.Equiv aO bO) (heS : BinT.Equiv aS bS) (hnd : aS.leaves.Nodup) :
    (∀ m, C09.IsMinCost c mode (toOTree data aS aO) m ↔ C09.IsMinCost c mode (toOTree data bS bO) m) ∧
    (∀ sol, C09.IsOptimal c mode (toOTree data aS aO) sol →
      ∃ sol', C09.IsOptimal c mode (toOTree data bS bO) sol' ∧
        totalCost c mode (toOTree data bS bO) sol' = totalCost c mode (toOTree data aS aO) sol) :=
  C08_opt_of_transfers (transfers_equiv data heO heS hnd)
    (transfers_equiv data heO.symm heS.symm (heS.leaves_perm.nodup_iff.mp hnd)) c mode

/-- A swap at the root of the object tree and one inside the species tree: inputs and
    optimal solutions move, optimum stays (an instance of `C08_equiv_opt`). -/
example :
    let data : LeafData := fun i => if i = 0 then (10, [1, 2]) else if i = 1 then (11, [2]) else (12, [1])
    let aO : BinT := .node none (.node none (.leaf 0) (.leaf 1)) (.leaf 2)
    let bO : BinT := .node none (.leaf 2) (.node none (.leaf 1) (.leaf 0))
    let aS : BinT := .node none (.node none (.leaf 10) (.leaf 11)) (.leaf 12)
    let bS : BinT := .node none (.leaf 12) (.node none (.leaf 10) (.leaf 11))
    BinT.Equiv aO bO ∧ BinT.Equiv aS bS ∧ aS.leaves.Nodup ∧
    toOTree data aS aO = .node (.node (.leaf [0, 0] [1, 2]) (.leaf [0, 1] [2])) (.leaf [1] [1]) ∧
    toOTree data bS bO = .node (.leaf [0] [1]) (.node (.leaf [1, 1] [2]) (.leaf [1, 0] [1, 2])) := by
  refine ⟨.swap (.swap (.item 0) (.item 1)) (.item 2), .swap (.congr (.item 10) (.item 11)) (.item 12),
    by decide, by decide, by decide⟩

/-- Guards on a (possibly multifurcating) input. -/
structure InputOk (tO tS : NTree) (data : LeafData) : Prop where
  wfO : tO.WF = true
  wfS : tS.WF = true
  ndO : tO.leaves.Nodup
  ndS : tS.leaves.Nodup
  spOk : ∀ i ∈ tO.leaves, (data i).1 ∈ tS.leaves

/-- `m` is the minimum, over ALL pairs `(rO, rS)` of binary refinements (in the sense of
    the specification `Spec.IsRefinement`, any child order) of the object and the species
    tree, of the optimum of the binary input `(rO, rS)` with the original leaf data:
    no valid solution of any pair is cheaper, and `m` is the optimum of some pair.
    (Every pair has an optimum, `C08_pair_optimum_exists`, and `m` is at most each of them,
    `C08_refinementOptimum_le_pair`: `m` is the minimum of the per-pair optima.) -/
def IsRefinementOptimum (c : Costs) (mode : LabelMode) (tO tS : NTree) (data : LeafData)
    (m : Cost) : Prop :=
  (∀ rO rS : BinT, Spec.IsRefinement rO.toN tO → Spec.IsRefinement rS.toN tS →
    ∀ s', Spec.validSol mode (toOTree data rS rO) s' = true →
      Cost.le m (totalCost c mode (toOTree data rS rO) s') = true) ∧
  ∃ rO rS : BinT, Spec.IsRefinement rO.toN tO ∧ Spec.IsRefinement rS.toN tS ∧
    C09.IsMinCost c mode (toOTree data rS rO) m

/-- The optimum over all refinements is at most the optimum of every pair. -/
theorem C08_refinementOptimum_le_pair {c : Costs} {mode : LabelMode} {tO tS : NTree}
    {data : LeafData} {m : Cost} (h : IsRefinementOptimum c mode tO tS data m) (rO rS : BinT)
    (hrO : Spec.IsRefinement rO.toN tO) (hrS : Spec.IsRefinement rS.toN tS) (m' : Cost)
    (hm' : C09.IsMinCost c mode (toOTree data rS rO) m') : Cost.le m m' = true := by
  rcases hm'.2 with e | ⟨s', hs', e⟩
  · rw [e]; exact Cost.le_inf _
  · rw [← e]; exact h.1 rO rS hrO hrS s' hs'

theorem C08_refinementOptimum_unique {c : Costs} {mode : LabelMode} {tO tS : NTree}
    {data : LeafData} {m m' : Cost} (h : IsRefinementOptimum c mode tO tS data m)
    (h' : IsRefinementOptimum c mode tO tS data m') : m = m' := by
  obtain ⟨rO, rS, hO, hS, hm⟩ := h.2
  obtain ⟨rO', rS', hO', hS', hm'⟩ := h'.2
  exact Cost.le_antisymm (C08_refinementOptimum_le_pair h rO' rS' hO' hS' m' hm')
    (C08_refinementOptimum_le_pair h' rO rS hO hS m hm)

/-- Every binary input has an optimum (costs are natural numbers or `inf`): the per-pair
    optimum quantified over in `IsRefinementOptimum` always exists. -/
theorem C08_pair_optimum_exists (c : Costs) (mode : LabelMode) (o : OTree) :
    ∃ m, C09.IsMinCost c mode o m :=
  IsMinCostFor.exists _ _

/-- The output `x` refers to a pair of refinements enumerated by `binarize` — binary trees
    keeping every clade, name and colour of the original trees — and the binary input it
    was solved on carries the original leaf data: the object leaves are those of `tO`, each
    with its given synteny and with the position, in the refined species tree, of its
    given species.  (The clauses on `leafSyntenies`, `leafSpecies` and the binarity of the shape
    hold of every output; they spell out which input the solution is a solution of.) -/
def Refers (tO tS : NTree) (data : LeafData) (x : Out) : Prop :=
  (x.oTree ∈ binarize tO ∧ Spec.IsRefinement x.oTree.toN tO ∧ Spec.KeepsAnn x.oTree.toN tO) ∧
  (x.sTree ∈ binarize tS ∧ Spec.IsRefinement x.sTree.toN tS ∧ Spec.KeepsAnn x.sTree.toN tS) ∧
  x.oTree.leaves.Perm tO.leaves ∧
  leafSyntenies (toOTree data x.sTree x.oTree) = x.oTree.leaves.map (fun i => (data i).2) ∧
  leafSpecies (toOTree data x.sTree x.oTree) =
    x.oTree.leaves.map (fun i => (x.sTree.pathOf (data i).1).getD []) ∧
  (∀ i ∈ x.oTree.leaves, (x.sTree.pathOf (data i).1).isSome = true) ∧
  (shape x.sTree.toN).isBinary = true ∧
  ∀ p ∈ leafSpecies (toOTree data x.sTree x.oTree), (shape x.sTree.toN).isNode p = true

theorem C08_refers_of_mem {tO tS : NTree} {data : LeafData} (hok : InputOk tO tS data) {x : Out}
    (hO : x.oTree ∈ binarize tO) (hS : x.sTree ∈ binarize tS) : Refers tO tS data x := by
  have sO := C08_binarize_sound tO hok.wfO _ hO
  have sS := C08_binarize_sound tS hok.wfS _ hS
  have pO : x.oTree.leaves.Perm tO.leaves := by have := sO.1.2.1; rwa [BinT.leaves_toN] at this
  have pS : x.sTree.leaves.Perm tS.leaves := by have := sS.1.2.1; rwa [BinT.leaves_toN] at this
  have hsp : ∀ i ∈ x.oTree.leaves, (data i).1 ∈ x.sTree.leaves :=
    fun i hi => pS.mem_iff.mpr (hok.spOk i (pO.mem_iff.mp hi))
  exact ⟨⟨hO, sO⟩, ⟨hS, sS⟩, pO, leafSyntenies_toOTree data _ _, leafSpecies_toOTree data _ _,
    fun i hi => (BinT.pathOf_isSome_iff _).mpr (hsp i hi), isBinary_shape _,
    leafSpecies_toOTree_isNode data _ _ hsp⟩

/-- A guard of the binary solver theorems on a pair of `binarize × binarize`: every leaf
    species is a node of the refined species tree.  It is the last clause of `Refers`, which
    does not depend on the solution the output carries. -/
theorem C08_leafSpecies_isNode {tO tS : NTree} {data : LeafData} (hok : InputOk tO tS data)
    {bO bS : BinT} (hbO : bO ∈ binarize tO) (hbS : bS ∈ binarize tS) :
    ∀ p ∈ leafSpecies (toOTree data bS bO), (shape bS.toN).isNode p = true :=
  leafSpecies_toOTree_isNode data bS bO fun i hi =>
    (binarize_sound tS hok.wfS bS hbS).1.mem_iff.mpr
      (hok.spOk i ((binarize_sound tO hok.wfO bO hbO).1.mem_iff.mp hi))

/-- Every pair of refinements is represented: for every pair of binary refinements in
    the sense of the specification there is a pair enumerated by `binarize`, equal to it up
    to child order, whose binary input has the same optimum (all modes). -/
theorem C08_refinement_represented (c : Costs) (mode : LabelMode) (tO tS : NTree) (data : LeafData)
    (hok : InputOk tO tS data) (rO rS : BinT)
    (hrO : Spec.IsRefinement rO.toN tO) (hrS : Spec.IsRefinement rS.toN tS) :
    ∃ bO ∈ binarize tO, ∃ bS ∈ binarize tS, BinT.Equiv bO rO ∧ BinT.Equiv bS rS ∧
      ∀ m, C09.IsMinCost c mode (toOTree data rS rO) m ↔ C09.IsMinCost c mode (toOTree data bS bO) m := by
  obtain ⟨bO, hbO, bS, hbS, heO, heS, h1, h2⟩ :=
    exists_binarize_transfers data tO tS hok.wfO hok.wfS hok.ndO hok.ndS rO rS hrO hrS
  exact ⟨bO, hbO, bS, hbS, heO, heS, (C08_opt_of_transfers h1 h2 c mode).1⟩

/-- The argument common to both extended solvers, for any per-pair candidates `cands`
    (`spfsCands`, `uspfsCands`).  If on every pair of `binarize × binarize` the binary solver
    (`rankByCost` of the candidates) returns only optimal valid solutions of finite cost (A)
    and returns something whenever a valid solution of finite cost exists (B), then every
    output of the multi-solver refers to its pair, is optimal for it, and its cost is the
    optimum over all pairs of spec-level refinements.  (For `uspfs`, which always returns
    something, (B) holds without its premises.) -/
theorem C08_opt_refinements_of_cands {c : Costs} {mode : LabelMode} {tO tS : NTree} {data : LeafData}
    (cands : RTree → OTree → List Sol) (hok : InputOk tO tS data)
    (hA : ∀ bO ∈ binarize tO, ∀ bS ∈ binarize tS,
      ∀ s ∈ rankByCost c mode (toOTree data bS bO) (cands (shape bS.toN) (toOTree data bS bO)),
        C09.IsOptimal c mode (toOTree data bS bO) s ∧ totalCost c mode (toOTree data bS bO) s ≠ .inf)
    (hB : ∀ bO ∈ binarize tO, ∀ bS ∈ binarize tS,
      ∀ s', Spec.validSol mode (toOTree data bS bO) s' = true →
        totalCost c mode (toOTree data bS bO) s' ≠ .inf →
        rankByCost c mode (toOTree data bS bO) (cands (shape bS.toN) (toOTree data bS bO)) ≠ []) :
    ∀ x ∈ rankOuts c mode data (multiCands tO tS data cands),
      Refers tO tS data x ∧
      C09.IsOptimal c mode (toOTree data x.sTree x.oTree) x.sol ∧
      x.cost c mode data ≠ .inf ∧
      IsRefinementOptimum c mode tO tS data (x.cost c mode data) := by
  intro x hx
  obtain ⟨⟨hO, hS, _⟩, hmin⟩ := (mem_rank_multi c mode tO tS data cands x).mp hx
  obtain ⟨hopt, hfin⟩ := hA x.oTree hO x.sTree hS x.sol (sol_mem_rankByCost_of_mem_rank_multi hx)
  have href := C08_refers_of_mem hok hO hS
  refine ⟨href, hopt, hfin, ?_, x.oTree, x.sTree, href.1.2.1, href.2.1.2.1, hopt.isMin⟩
  -- a valid solution of any pair of refinements has a counterpart on a pair of `binarize`
  intro rO rS hrO hrS s' hs'
  obtain ⟨bO, hbO, bS, hbS, _, _, htr, _⟩ :=
    exists_binarize_transfers data tO tS hok.wfO hok.wfS hok.ndO hok.ndS rO rS hrO hrS
  obtain ⟨s'', hv'', hc''⟩ := htr.exists_valid c mode s' hs'
  rw [← hc'']
  by_cases hinf : totalCost c mode (toOTree data bS bO) s'' = .inf
  · rw [hinf]; exact Cost.le_inf _
  · obtain ⟨s, hs⟩ := List.exists_mem_of_ne_nil _ (hB bO hbO bS hbS s'' hv'' hinf)
    exact Cost.le_trans (hmin bO hbO bS hbS s ((mem_rankByCost _ _ _ _ _).mp hs).1)
      ((hA bO hbO bS hbS s hs).1.2 s'' hv'')

section ordered

variable (c : Costs) (tO tS : NTree) (data : LeafData)

/-- The guards of C02 hold on every pair of `binarize × binarize`. -/
theorem C08_guards_of_mem (hok : InputOk tO tS data) (hne : ∀ i ∈ tO.leaves, (data i).2 ≠ [])
    {bO bS : BinT} (hbO : bO ∈ binarize tO) (hbS : bS ∈ binarize tS) :
    (∀ f ∈ leafSyntenies (toOTree data bS bO), f ≠ []) ∧ (shape bS.toN).isBinary = true ∧
    ∀ p ∈ leafSpecies (toOTree data bS bO), (shape bS.toN).isNode p = true := by
  have pO := (C08_binarize_sound tO hok.wfO bO hbO).1.2.1
  rw [BinT.leaves_toN] at pO
  refine ⟨fun f hf => ?_, isBinary_shape bS, C08_leafSpecies_isNode hok hbO hbS⟩
  rw [leafSyntenies_toOTree, List.mem_map] at hf
  obtain ⟨i, hi, rfl⟩ := hf
  exact hne i (pO.mem_iff.mp hi)

/-- C08, ordered extended solver, optimum over ALL binary refinements.
    For a well-formed (possibly multifurcating) input with non-empty leaf syntenies and
    coherent costs, every output `x` of `sreconcile_extended_spfs`:
    * refers to a pair of binary refinements (members of `binarize`, keeping clades, names
      and colours) with the original leaf data;
    * carries a solution that is valid and optimal for that binary input, of finite cost;
    * has a cost equal to THE minimum, over all pairs of binary refinements of both trees
      (specification sense, any child order), of the optimum of the binary input. -/
theorem C08_opt_refinements_spfs (hok : InputOk tO tS data)
    (hne : ∀ i ∈ tO.leaves, (data i).2 ≠ [])
    (hcoh : c.spe + 2 * c.sloss ≤ c.dup + 2 * c.floss) :
    ∀ x ∈ spfsMulti c false tO tS data none,
      Refers tO tS data x ∧
      C09.IsOptimal c .ordered (toOTree data x.sTree x.oTree) x.sol ∧
      x.cost c .ordered data ≠ .inf ∧
      IsRefinementOptimum c .ordered tO tS data (x.cost c .ordered data) := by
  -- on every pair, `spfs` returns exactly the valid solutions of finite minimum cost
  have hex : ∀ bO ∈ binarize tO, ∀ bS ∈ binarize tS, ∀ s,
      s ∈ spfs c (shape bS.toN) false (toOTree data bS bO) none ↔ _ := fun bO hbO bS hbS =>
    have ⟨g1, g2, g3⟩ := C08_guards_of_mem tO tS data hok hne hbO hbS
    C09.mem_spfs_iff ⟨g1, g2, g3, hcoh⟩ false
  refine C08_opt_refinements_of_cands (fun S o => spfsCands c S false o none) hok ?_ ?_
  · intro bO hbO bS hbS s hs
    have h := (hex bO hbO bS hbS s).mp hs
    exact ⟨C09.isOptimal_of_vsol h.1, h.2.1⟩
  · intro bO hbO bS hbS s' hv' hfin'
    exact exact_ne_nil (hex bO hbO bS hbS) (s := s') ⟨hv', fun e => by cases e⟩ hfin'

/-- Members of `spfsCands` are valid solutions (decoded table cells of a root order). -/
theorem C08_spfsCands_valid (S : RTree) (o : OTree) (hne : ∀ f ∈ leafSyntenies o, f ≠ [])
    (hS : ∀ p ∈ leafSpecies o, S.isNode p = true) (s : Sol)
    (hs : s ∈ spfsCands c S false o none) : Spec.validSol .ordered o s = true :=
  ((C02.spfsD_cand_iff c S false o none (C02.C02_orders_ok o hne) (fun _ => hS) s).mp
    ((spfsD c S false o none).cand_of_mem_cands c S (ord_slack c) hs)).1.1

/-- Policy ALL, exact form: the result of the ordered extended solver on a
    multifurcating input is exactly the set of outputs `(bO, bS, sol)` with
    `(bO, bS) ∈ binarize tO × binarize tS` and `sol` a valid solution of the binary input
    `(bO, bS)` of finite cost that no valid solution of ANY pair of binary refinements
    beats — each once. -/
theorem C08_opt_refinements_spfs_exact (hok : InputOk tO tS data)
    (hne : ∀ i ∈ tO.leaves, (data i).2 ≠ [])
    (hcoh : c.spe + 2 * c.sloss ≤ c.dup + 2 * c.floss) :
    (∀ x : Out, x ∈ spfsMulti c false tO tS data none ↔
      x.oTree ∈ binarize tO ∧ x.sTree ∈ binarize tS ∧
      Spec.validSol .ordered (toOTree data x.sTree x.oTree) x.sol = true ∧
      x.cost c .ordered data ≠ .inf ∧
      ∀ rO rS : BinT, Spec.IsRefinement rO.toN tO → Spec.IsRefinement rS.toN tS →
        ∀ s', Spec.validSol .ordered (toOTree data rS rO) s' = true →
          Cost.le (x.cost c .ordered data) (totalCost c .ordered (toOTree data rS rO) s') = true) ∧
    (spfsMulti c false tO tS data none).Nodup := by
  refine ⟨fun x => ⟨fun hx => ?_, ?_⟩, nodup_rankOuts _ _ _ _⟩
  · obtain ⟨href, hopt, hfin, hro⟩ := C08_opt_refinements_spfs c tO tS data hok hne hcoh x hx
    exact ⟨href.1.1, href.2.1.1, hopt.1, hfin, hro.1⟩
  · rintro ⟨hO, hS, hv, hfin, hmin⟩
    have href := C08_refers_of_mem hok hO hS
    obtain ⟨g1, g2, g3⟩ := C08_guards_of_mem tO tS data hok hne hO hS
    have hmem : x.sol ∈ spfs c (shape x.sTree.toN) false (toOTree data x.sTree x.oTree) none :=
      (C09.mem_spfs_iff ⟨g1, g2, g3, hcoh⟩ false x.sol).mpr ⟨⟨⟨hv, fun e => by cases e⟩,
        fun sol' hv' => hmin x.oTree x.sTree href.1.2.1 href.2.1.2.1 sol' hv'.1⟩, hfin, trivial⟩
    rw [spfs_eq_rank, mem_rankByCost] at hmem
    show x ∈ rankOuts c .ordered data
      (multiCands tO tS data (fun S o => spfsCands c S false o none))
    refine (mem_rank_multi c .ordered tO tS data _ x).mpr ⟨⟨hO, hS, hmem.1⟩, ?_⟩
    intro bO hbO bS hbS s hs
    obtain ⟨g1', _, g3'⟩ := C08_guards_of_mem tO tS data hok hne hbO hbS
    have hrb := C08_refers_of_mem hok (x := { sTree := bS, oTree := bO, sol := s }) hbO hbS
    exact hmin bO bS hrb.1.2.1 hrb.2.1.2.1 s (C08_spfsCands_valid c _ _ g1' g3' s hs)

end ordered

/-! ### Non-vacuity

  A trichotomy in both trees: object tree `(0, 1, 2)` with syntenies `ab`, `b`, `a` in the
  species `10`, `11`, `12` of the species tree `(10, 11, 12)`.  Of the 3 × 3 pairs of
  refinements enumerated by `binarize`, three have optimum 3 and six have optimum 2; the
  solver returns six outputs of cost 2, and 2 is the optimum over all pairs of binary
  refinements — including those in a child order that `binarize` does not produce. -/

def exData : LeafData := fun i => if i = 0 then (10, [1, 2]) else if i = 1 then (11, [2]) else (12, [1])
def exO : NTree := .node none [.leaf 0, .leaf 1, .leaf 2]
def exS : NTree := .node (some 3) [.leaf 10, .leaf 11, .leaf 12]
def exC : Costs := { spe := 1, dup := 1, hgt := .fin 1, floss := 1, sloss := 1 }

/-- Position, in `refinementPairs exO exS`, of the pair an output refers to. -/
def exIdx (p : BinT × BinT) : Nat := (refinementPairs exO exS).idxOf p

theorem exIdx_sorted : (refinementPairs exO exS).Pairwise (fun p q => exIdx p ≤ exIdx q) := by
  decide

theorem C08_example_ok : InputOk exO exS exData := ⟨by decide, by decide, by decide, by decide, by decide⟩

/-- The solver on the example, evaluated once (first: the pairs its outputs refer to). -/
theorem C08_example_spfs :
    (spfsMulti exC false exO exS exData none).map (fun x => exIdx (x.oTree, x.sTree)) =
      [3, 4, 5, 6, 7, 8] ∧
    (spfsMulti exC false exO exS exData none).length = 6 ∧
    (∀ x ∈ spfsMulti exC false exO exS exData none, x.cost exC .ordered exData = .fin 2) ∧
    (refinementPairs exO exS).map (fun p =>
      (spfs exC (shape p.2.toN) false (toOTree exData p.2 p.1) none).map
        (totalCost exC .ordered (toOTree exData p.2 p.1))) =
      [[.fin 3, .fin 3, .fin 3, .fin 3], [.fin 3, .fin 3, .fin 3, .fin 3, .fin 3],
       [.fin 3, .fin 3, .fin 3, .fin 3, .fin 3], [.fin 2], [.fin 2], [.fin 2], [.fin 2], [.fin 2],
       [.fin 2]] := by
  decide +kernel

example : (∀ i ∈ exO.leaves, (exData i).2 ≠ []) ∧ exC.spe + 2 * exC.sloss ≤ exC.dup + 2 * exC.floss ∧
    (spfsMulti exC false exO exS exData none).length = 6 ∧
    (∀ x ∈ spfsMulti exC false exO exS exData none, x.cost exC .ordered exData = .fin 2) ∧
    -- the pairs of refinements do not all have the same optimum
    (refinementPairs exO exS).map (fun p =>
      (spfs exC (shape p.2.toN) false (toOTree exData p.2 p.1) none).map
        (totalCost exC .ordered (toOTree exData p.2 p.1))) =
      [[.fin 3, .fin 3, .fin 3, .fin 3], [.fin 3, .fin 3, .fin 3, .fin 3, .fin 3],
       [.fin 3, .fin 3, .fin 3, .fin 3, .fin 3], [.fin 2], [.fin 2], [.fin 2], [.fin 2], [.fin 2],
       [.fin 2]] :=
  ⟨by decide, by decide, C08_example_spfs.2⟩

/-- A pair of refinements in a child order that `binarize` does not enumerate. -/
example :
    let rO : BinT := .node none (.leaf 2) (.node none (.leaf 1) (.leaf 0))
    let rS : BinT := .node none (.node none (.leaf 12) (.leaf 10)) (.leaf 11)
    Spec.IsRefinement rO.toN exO ∧ Spec.IsRefinement rS.toN exS ∧
    rO ∉ binarize exO ∧ rS ∉ binarize exS :=
  ⟨⟨by decide, by decide, by decide⟩, ⟨by decide, by decide, by decide⟩, by decide, by decide⟩

/-- The optimum over all pairs of binary refinements of the example is 2. -/
example : IsRefinementOptimum exC .ordered exO exS exData (.fin 2) := by
  obtain ⟨_, hlen, hall, _⟩ := C08_example_spfs
  obtain ⟨x, hx⟩ := List.exists_mem_of_length_pos (l := spfsMulti exC false exO exS exData none)
    (by rw [hlen]; decide)
  have h := (C08_opt_refinements_spfs exC exO exS exData C08_example_ok (by decide) (by decide) x hx).2.2.2
  rwa [hall x hx] at h

end SR.C08
