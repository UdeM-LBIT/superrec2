/-
  C02 — adequacy of the specification oracle `Spec.optimum … .ordered` with respect to
  every valid SEQUENCE-labelled solution, and the end-to-end optimality of the ordered
  solvers `spfs` (`sreconcile_extended_spfs`, `sreconcile_base_spfs`).

  A valid solution (`Spec.validSol .ordered o sol`): shape of `o`, leaves in their given
  species with their given syntenies, no INVALID event, every child synteny a subsequence
  (`isSublist`) of its parent's, root synteny a duplicate-free arrangement of
  `families o`.  Its cost is the evaluator's `totalCost c .ordered o sol`
  (`_cost_rec` + `sloss · _ordered_labeling_cost`).

  Oracle (`Spec/Opt.lean`): for each root order, the tree recursion "minimum over the
  states (species, synteny) of both children of the evaluator's local cost".

  The oracle side needs no coherence (it shares nothing with the optimiser): `Spec.adequate_ord`
  (`Proofs/OptAdequacyPre.lean`) links its solution space to the valid solutions with allowed
  species, with or without a prescribed root order `pre` (validity `Spec.validSolPre .ordered o pre`,
  which is `Spec.validSol .ordered` for `pre = none`; `C02Pre.lean` has the instances at
  `pre = some r`).  End to end, inside the coherent region: `spfs` returns exactly the valid
  solutions of minimum finite cost (`spfs_exact_sols`, `C02Dp.lean`, in which the oracle has no
  part), hence exactly the oracle's optimal set (`Spec.Adequate.sols_of_exact`).
  Guards of the end-to-end theorems (those of `C02Dp.lean`): binary species tree containing
  the leaf species, non-empty leaf syntenies, `spe + 2·sloss ≤ dup + 2·floss` (F-COHERENCE).
-/
import SRVerif.Properties.C02
import SRVerif.Properties.C02Dp
import SRVerif.Proofs.OptAdequacyPre

namespace SR.C02

open SR Cost Spec

/-- Valid = valid events, valid labels, root synteny one of the root orders
    (`Spec.validSol_iff_rootOrder`). -/
theorem C02_valid_iff_rootOrder (o : OTree) (sol : Sol) :
    Spec.validSol .ordered o sol = true ↔
      Spec.validRec o sol = true ∧ Spec.validOrdLabels o sol = true ∧
        sol.fam ∈ rootOrders o none :=
  validSol_iff_rootOrder o sol

variable (c : Costs) (S : RTree) (o : OTree)

theorem speciesOk_of_validPre (pre : Option (List Nat))
    (hS : ∀ p ∈ leafSpecies o, S.isNode p = true) (sol : Sol)
    (hv : Spec.validSolPre .ordered o pre sol = true) : SpeciesOk S false o sol :=
  speciesOk_of_valid S o sol hS ((validSolPre_iff_rootOrder o pre sol).mp hv).1

theorem speciesOk_base_iff_pre (pre : Option (List Nat)) (sol : Sol)
    (hv : Spec.validSolPre .ordered o pre sol = true) :
    SpeciesOk S true o sol ↔ sameMapping sol (lcaSol o) = true :=
  speciesOk_base_iff S o sol ((validSolPre_iff_rootOrder o pre sol).mp hv).1

/-- General form of `C02_oracle_le`: for either variant and any (prescribed or not) set of root
    orders, the oracle's optimum is at most the evaluated cost of every solution with
    valid events, valid labels, allowed species and a root synteny among the root orders. -/
theorem C02_oracle_le_gen (base keep : Bool) (pre : Option (List Nat)) (sol : Sol)
    (hv : Spec.validRec o sol = true) (hl : Spec.validOrdLabels o sol = true)
    (ho : sol.fam ∈ rootOrders o pre) (hs : SpeciesOk S base o sol) :
    Cost.le (Spec.optimum c S .ordered base keep o pre).1 (totalCost c .ordered o sol) = true := by
  obtain ⟨hmd, hf⟩ := feasible_of_valid_root S base o pre sol hv hl ho hs
  rw [← specCost_ordered_eq_totalCost c o sol hv hl]
  exact optimum_le c S base .ordered keep o pre _ hmd sol hf

/-- What a feasible solution of finite cost of the oracle is, without a prescribed order. -/
theorem valid_of_feasible_root (base : Bool) (order : List Nat) (ho : order ∈ rootOrders o none)
    (sol : Sol) (hf : Feasible S (.ordered order) base o [] o sol)
    (hfin : specCost c (.ordered order) o [] sol ≠ .inf) :
    Spec.validSol .ordered o sol = true ∧ SpeciesOk S base o sol ∧ sol.fam = order :=
  validPre_of_feasible c S base o none ho (rootsOk_none o order ho).1 (rootsOk_none o order ho).2
    sol hf hfin

/-- The oracle's optimum is a lower bound of the cost of EVERY valid
    sequence-labelled solution (any species mapping, any root order, any labelling). -/
theorem C02_oracle_le (keep : Bool) (hS : ∀ p ∈ leafSpecies o, S.isNode p = true) (sol : Sol)
    (hv : Spec.validSol .ordered o sol = true) :
    Cost.le (Spec.optimum c S .ordered false keep o none).1 (totalCost c .ordered o sol) = true :=
  (adequate_ord c S false o none (rootsOk_none o)).le keep
    ⟨hv, speciesOk_of_validPre S o none hS sol hv⟩

theorem C02_oracle_attained (base keep : Bool)
    (h : (Spec.optimum c S .ordered base keep o none).1 ≠ .inf) :
    ∃ sol, Spec.validSol .ordered o sol = true ∧ SpeciesOk S base o sol ∧
      totalCost c .ordered o sol = (Spec.optimum c S .ordered base keep o none).1 := by
  obtain ⟨sol, ⟨hv, hs⟩, _, hc⟩ := (adequate_ord c S base o none (rootsOk_none o)).attained keep h
  exact ⟨sol, hv, hs, hc⟩

theorem C02_oracle_sols_nodup (base keep : Bool) :
    (Spec.optimum c S .ordered base keep o none).2.Nodup := nodup_optimum_sols c S base _ _ _ _

/-- With a prescribed root order `r`: the oracle's optimum is a lower bound of the cost of
    every solution with valid events and labels whose root synteny is `r`. -/
theorem C02_oracle_le_prescribed (keep : Bool) (r : List Nat)
    (hS : ∀ p ∈ leafSpecies o, S.isNode p = true) (sol : Sol)
    (hv : Spec.validRec o sol = true) (hl : Spec.validOrdLabels o sol = true) (hr : sol.fam = r) :
    Cost.le (Spec.optimum c S .ordered false keep o (some r)).1 (totalCost c .ordered o sol) = true :=
  C02_oracle_le_gen c S o false keep (some r) sol hv hl (by simp [rootOrders, hr])
    (speciesOk_of_valid S o sol hS hv)

/-- **C04**, with or without a prescribed root order: every solution returned by `spfs` (either
    variant) is valid and has a finite evaluated cost — all unit costs — and its species are
    allowed ones. -/
theorem C02_spfs_valid_pre (base : Bool) (pre : Option (List Nat)) (hord : OrdersOk o pre)
    (hS : base = false → ∀ p ∈ leafSpecies o, S.isNode p = true) :
    ∀ sol ∈ spfs c S base o pre,
      Spec.validSolPre .ordered o pre sol = true ∧ totalCost c .ordered o sol ≠ .inf ∧
        SpeciesOk S base o sol := by
  intro sol hsol
  obtain ⟨⟨hv, hs⟩, hfin⟩ := (spfsD_cand_iff c S base o pre hord hS sol).mp
    ((spfsD c S base o pre).cand_of_mem_rank c S (ord_slack c) hsol)
  exact ⟨hv, hfin, hs⟩

/-- **C02 + C05, exact form**, both variants, with or without a prescribed root order: `spfs`
    returns exactly the valid solutions with allowed species of minimum (finite) evaluated cost
    among all of them (`spfs_exact_sols`).  `Q` is how the variant at hand speaks of allowed
    species: nothing to say for the extended one (every node of a valid solution sits in the
    species tree), the LCA mapping for `base`. -/
theorem C02_spfs_exact (base : Bool) (pre : Option (List Nat)) (hord : OrdersOk o pre)
    (hb : S.isBinary = true) (hS : ∀ p ∈ leafSpecies o, S.isNode p = true)
    (hcoh : c.spe + 2 * c.sloss ≤ c.dup + 2 * c.floss) (Q : Sol → Prop)
    (hQ : ∀ sol, Spec.validSolPre .ordered o pre sol = true → (SpeciesOk S base o sol ↔ Q sol))
    (sol : Sol) :
    sol ∈ spfs c S base o pre ↔
      Spec.validSolPre .ordered o pre sol = true ∧ Q sol ∧ totalCost c .ordered o sol ≠ .inf ∧
      ∀ sol', Spec.validSolPre .ordered o pre sol' = true → Q sol' →
        Cost.le (totalCost c .ordered o sol) (totalCost c .ordered o sol') = true := by
  have hV : ∀ σ, validSolPre .ordered o pre σ = true ∧ SpeciesOk S base o σ ↔
      validSolPre .ordered o pre σ = true ∧ Q σ := fun σ => and_congr_right (hQ σ)
  simp only [spfs_exact_sols c S base o pre hord hb hS hcoh, IsOptimalFor, hV, and_assoc, and_imp]
  exact ⟨fun ⟨a, b, d, e⟩ => ⟨a, b, e, d⟩, fun ⟨a, b, e, d⟩ => ⟨a, b, d, e⟩⟩

theorem C02_spfs_exact_ext (pre : Option (List Nat)) (hord : OrdersOk o pre)
    (hb : S.isBinary = true) (hS : ∀ p ∈ leafSpecies o, S.isNode p = true)
    (hcoh : c.spe + 2 * c.sloss ≤ c.dup + 2 * c.floss) (sol : Sol) :
    sol ∈ spfs c S false o pre ↔
      Spec.validSolPre .ordered o pre sol = true ∧ totalCost c .ordered o sol ≠ .inf ∧
      ∀ sol', Spec.validSolPre .ordered o pre sol' = true →
        Cost.le (totalCost c .ordered o sol) (totalCost c .ordered o sol') = true := by
  simpa using C02_spfs_exact c S o false pre hord hb hS hcoh (fun _ => True)
    (fun sol hv => iff_true_intro (speciesOk_of_validPre S o pre hS sol hv)) sol

/-- **C02 + C05, extended solver, exact form**: `sreconcile_extended_spfs` (policy ALL)
    returns exactly the valid ordered super-reconciliations of minimum (finite) evaluated
    cost among all valid ones, each once. -/
theorem C02_ext_exact (hne : ∀ f ∈ leafSyntenies o, f ≠ [])
    (hb : S.isBinary = true) (hS : ∀ p ∈ leafSpecies o, S.isNode p = true)
    (hcoh : c.spe + 2 * c.sloss ≤ c.dup + 2 * c.floss) :
    (∀ sol, sol ∈ spfs c S false o none ↔
      Spec.validSol .ordered o sol = true ∧ totalCost c .ordered o sol ≠ .inf ∧
      ∀ sol', Spec.validSol .ordered o sol' = true →
        Cost.le (totalCost c .ordered o sol) (totalCost c .ordered o sol') = true) ∧
    (spfs c S false o none).Nodup :=
  ⟨C02_spfs_exact_ext c S o none (C02_orders_ok o hne) hb hS hcoh,
   by unfold spfs; exact nodup_rankByCost _ _ _ _⟩

/-- **C02 + C05, base solver, exact form**: the same among the solutions that use the LCA
    species mapping. -/
theorem C02_base_exact (hne : ∀ f ∈ leafSyntenies o, f ≠ [])
    (hb : S.isBinary = true) (hS : ∀ p ∈ leafSpecies o, S.isNode p = true)
    (hcoh : c.spe + 2 * c.sloss ≤ c.dup + 2 * c.floss) :
    (∀ sol, sol ∈ spfs c S true o none ↔
      Spec.validSol .ordered o sol = true ∧ sameMapping sol (lcaSol o) = true ∧
      totalCost c .ordered o sol ≠ .inf ∧
      ∀ sol', Spec.validSol .ordered o sol' = true → sameMapping sol' (lcaSol o) = true →
        Cost.le (totalCost c .ordered o sol) (totalCost c .ordered o sol') = true) ∧
    (spfs c S true o none).Nodup :=
  ⟨C02_spfs_exact c S o true none (C02_orders_ok o hne) hb hS hcoh _
      (speciesOk_base_iff_pre S o none),
   by unfold spfs; exact nodup_rankByCost _ _ _ _⟩

/-- **C02, extended solver, end to end.**  For a binary species tree containing the leaf
    species, non-empty leaf syntenies and coherent costs: every solution returned by
    `sreconcile_extended_spfs` is a valid ordered super-reconciliation, and no valid
    solution — whatever its species mapping, root gene order and synteny labelling — has
    a smaller evaluated cost. -/
theorem C02_ext_optimal (hne : ∀ f ∈ leafSyntenies o, f ≠ [])
    (hb : S.isBinary = true) (hS : ∀ p ∈ leafSpecies o, S.isNode p = true)
    (hcoh : c.spe + 2 * c.sloss ≤ c.dup + 2 * c.floss) :
    ∀ sol ∈ spfs c S false o none,
      Spec.validSol .ordered o sol = true ∧
      ∀ sol', Spec.validSol .ordered o sol' = true →
        Cost.le (totalCost c .ordered o sol) (totalCost c .ordered o sol') = true := by
  intro sol h
  obtain ⟨hv, _, hmin⟩ := ((C02_ext_exact c S o hne hb hS hcoh).1 sol).mp h
  exact ⟨hv, hmin⟩

/-- **C02, base solver, end to end.**  Under the same guards every solution returned by
    `sreconcile_base_spfs` is valid, uses the LCA species mapping, and no valid solution
    that uses the LCA mapping (any root order, any labelling) is cheaper. -/
theorem C02_base_optimal (hne : ∀ f ∈ leafSyntenies o, f ≠ [])
    (hb : S.isBinary = true) (hS : ∀ p ∈ leafSpecies o, S.isNode p = true)
    (hcoh : c.spe + 2 * c.sloss ≤ c.dup + 2 * c.floss) :
    ∀ sol ∈ spfs c S true o none,
      Spec.validSol .ordered o sol = true ∧ sameMapping sol (lcaSol o) = true ∧
      ∀ sol', Spec.validSol .ordered o sol' = true → sameMapping sol' (lcaSol o) = true →
        Cost.le (totalCost c .ordered o sol) (totalCost c .ordered o sol') = true := by
  intro sol h
  obtain ⟨hv, hm, _, hmin⟩ := ((C02_base_exact c S o hne hb hS hcoh).1 sol).mp h
  exact ⟨hv, hm, hmin⟩

/-- **C05 for the ordered solvers** (policy ALL), both variants, with or without a prescribed
    root order: the solver returns exactly the specification's optimal set — the two are the finite
    optima over the same solutions (`spfs_exact_sols`, `Spec.adequate_ord`). -/
theorem C02_spfs_eq_optimum_pre (base : Bool) (pre : Option (List Nat)) (hord : OrdersOk o pre)
    (hok : RootsOk o pre)
    (hb : S.isBinary = true) (hS : ∀ p ∈ leafSpecies o, S.isNode p = true)
    (hcoh : c.spe + 2 * c.sloss ≤ c.dup + 2 * c.floss) (sol : Sol) :
    sol ∈ spfs c S base o pre ↔ sol ∈ (Spec.optimum c S .ordered base true o pre).2 :=
  ((adequate_ord c S base o pre hok).sols_of_exact (P := fun _ => True)
    (fun σ => (spfs_exact_sols c S base o pre hord hb hS hcoh σ).trans
      (and_congr_right fun _ => (and_iff_left trivial).symm)) (fun _ _ => trivial) sol).trans
    (and_iff_left trivial)

/-- **C05 (⊆) for the ordered solvers**, with or without a prescribed root order: every returned
    solution is a member of the specification's optimal set, and its cost is the
    specification's optimum.  (`RootsOk` comes with the valid solution at hand:
    `rootsOk_of_valid`.) -/
theorem C02_spfs_subset_optimum_pre (base : Bool) (pre : Option (List Nat)) (hord : OrdersOk o pre)
    (hb : S.isBinary = true) (hS : ∀ p ∈ leafSpecies o, S.isNode p = true)
    (hcoh : c.spe + 2 * c.sloss ≤ c.dup + 2 * c.floss) :
    ∀ sol ∈ spfs c S base o pre,
      sol ∈ (Spec.optimum c S .ordered base true o pre).2 ∧
      totalCost c .ordered o sol = (Spec.optimum c S .ordered base true o pre).1 := by
  intro sol hsol
  obtain ⟨hv, _⟩ := C02_spfs_valid_pre c S o base pre hord (fun _ => hS) sol hsol
  exact ⟨(C02_spfs_eq_optimum_pre c S o base pre hord (rootsOk_of_valid hv) hb hS hcoh sol).mp hsol,
    C02_spfs_cost c S base o pre hord hb hS hcoh true sol hsol⟩

theorem C02_spfs_subset_optimum (base : Bool) (hne : ∀ f ∈ leafSyntenies o, f ≠ [])
    (hb : S.isBinary = true) (hS : ∀ p ∈ leafSpecies o, S.isNode p = true)
    (hcoh : c.spe + 2 * c.sloss ≤ c.dup + 2 * c.floss) :
    ∀ sol ∈ spfs c S base o none,
      sol ∈ (Spec.optimum c S .ordered base true o none).2 ∧
      totalCost c .ordered o sol = (Spec.optimum c S .ordered base true o none).1 :=
  C02_spfs_subset_optimum_pre c S o base none (C02_orders_ok o hne) hb hS hcoh

/-- **C05 for the ordered solvers** (policy ALL), both variants: inside the coherent region
    and for well-formed inputs the solver returns exactly the specification's optimal set. -/
theorem C02_spfs_eq_optimum (base : Bool) (hne : ∀ f ∈ leafSyntenies o, f ≠ [])
    (hb : S.isBinary = true) (hS : ∀ p ∈ leafSpecies o, S.isNode p = true)
    (hcoh : c.spe + 2 * c.sloss ≤ c.dup + 2 * c.floss) (sol : Sol) :
    sol ∈ spfs c S base o none ↔ sol ∈ (Spec.optimum c S .ordered base true o none).2 :=
  C02_spfs_eq_optimum_pre c S o base none (C02_orders_ok o hne) (rootsOk_none o) hb hS hcoh sol

theorem leafSps_eq (o : OTree) : leafSps o = leafSpecies o := by
  induction o with
  | leaf sp f => rfl
  | node l r ihl ihr => simp [leafSps, leafSpecies, ihl, ihr]

theorem leafSyns_eq (o : OTree) : leafSyns o = leafSyntenies o := by
  induction o with
  | leaf sp f => rfl
  | node l r ihl ihr => simp [leafSyns, leafSyntenies, ihl, ihr]

/-- **C02** as stated in `Properties/C02.lean` (both solvers, cost at most the oracle's
    optimum) — where, by `C02_oracle_le` / `C02_oracle_attained`, the oracle's optimum IS the
    minimum over all valid solutions (`C02_ext_optimal`, `C02_base_optimal`). -/
theorem C02_full : C02_statement := by
  intro c S o base hb hS hne hcoh
  rw [leafSps_eq] at hS
  rw [leafSyns_eq] at hne
  exact C02_spfs c S base o none (C02_orders_ok o hne) (rootOrders_perm o) hb hS hcoh

/-- A well-formed coherent input (`ab` / `b` under `(A,B)`): guards hold, the solver
    returns a solution, a valid solution other than the returned one exists (so the
    universally quantified comparison is not vacuous), and the oracle's optimal set is
    non-empty with a finite optimum. -/
example :
    let c : Costs := { spe := 1, dup := 1, hgt := .fin 1, floss := 1, sloss := 1 }
    let S : RTree := .node [.node [], .node []]
    let o : OTree := .node (.leaf [0] [1, 2]) (.leaf [1] [2])
    let other : Sol := .node [] [1, 2] (.leaf [0] [1, 2]) (.leaf [1] [2])
    S.isBinary = true ∧ (∀ p ∈ leafSpecies o, S.isNode p = true) ∧
    (∀ f ∈ leafSyntenies o, f ≠ []) ∧ c.spe + 2 * c.sloss ≤ c.dup + 2 * c.floss ∧
    (spfs c S false o none).length = 1 ∧ (spfs c S true o none).length = 1 ∧
    Spec.validSol .ordered o other = true ∧ other ∉ spfs c S false o none ∧
    sameMapping other (lcaSol o) = true ∧ other ∈ spfs c S true o none ∧
    (Spec.optimum c S .ordered false true o none).1 = .fin 1 ∧
    (Spec.optimum c S .ordered true true o none).1 = .fin 2 ∧
    (Spec.optimum c S .ordered false true o none).2 = spfs c S false o none := by
  decide +kernel

/-- Two compatible root orders (`a` / `b`): the solver returns four optimal solutions
    (two species × two root orders), exactly the oracle's optimal set; the base solver
    the two LCA-mapped ones, of higher cost. -/
example :
    let c : Costs := { spe := 1, dup := 1, hgt := .fin 1, floss := 1, sloss := 1 }
    let S : RTree := .node [.node [], .node []]
    let o : OTree := .node (.leaf [0] [1]) (.leaf [1] [2])
    rootOrders o none = [[1, 2], [2, 1]] ∧
    (spfs c S false o none).length = 4 ∧
    (Spec.optimum c S .ordered false true o none).1 = .fin 2 ∧
    (∀ sol ∈ spfs c S false o none, sol ∈ (Spec.optimum c S .ordered false true o none).2) ∧
    (∀ sol ∈ (Spec.optimum c S .ordered false true o none).2, sol ∈ spfs c S false o none) ∧
    (spfs c S true o none).length = 2 ∧
    (Spec.optimum c S .ordered true true o none).1 = .fin 3 ∧
    (∀ sol ∈ (Spec.optimum c S .ordered true true o none).2, sol ∈ spfs c S true o none) := by
  decide +kernel

end SR.C02
