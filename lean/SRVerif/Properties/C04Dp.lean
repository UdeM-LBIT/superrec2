/-
  C04 for the solvers built on the label DP (`thl`, `spfs` = base / extended
  ordered, `uspfs` = base / extended unordered): validity of everything that is
  decoded from the table, for ALL unit costs (no coherence restriction, `sloss = 0`
  included).  `C04_thl` and the reconciliation part (`C04_rec_spfs`, `C04_rec_uspfs`) need no
  guard on the input; the ordered labelling part needs those of `C04_ord` (non-empty leaf
  syntenies) and `C04_ord_prescribed` (a prescribed order that fits).

  The unordered labelling part (`validUnLabels`) and finiteness of the evaluated cost
  of the unordered solvers, i.e. the full `C04_unord_statement`, are in `C04Un.lean`.
-/
import SRVerif.Properties.C04
import SRVerif.Properties.C01Thl
import SRVerif.Properties.C03Dp
import SRVerif.Properties.C02Dp

namespace SR.C04

open SR

/-- C04 for `reconcile_thl`, every cost vector, every input. -/
theorem C04_thl (c : Costs) (S : RTree) (o : OTree) : C04_statement .plain c o (thl c S o) :=
  fun sol h => ⟨(C01.C01_thl_finite c S o sol h).1, (C01.C01_thl_finite c S o sol h).2.2⟩

/-- … and every species used is a species of `S` (the mapping is one of `Spec.allMappings`). -/
theorem C04_thl_species (c : Costs) (S : RTree) (o : OTree) :
    ∀ sol ∈ thl c S o, sol ∈ Spec.allMappings S o :=
  fun sol h => (C01.C01_thl_finite c S o sol h).2.1

/-- Reconciliation part of C04 for `sreconcile_base_spfs` / `sreconcile_extended_spfs`. -/
theorem C04_rec_spfs (c : Costs) (S : RTree) (base : Bool) (o : OTree) (pre : Option (List Nat)) :
    ∀ sol ∈ spfs c S base o pre, Spec.validRec o sol = true := by
  intro sol h
  obtain ⟨k, ⟨_, adm, _, hfin⟩, rfl⟩ := (spfsD c S base o pre).cand_of_mem_rank c S (ord_slack c) h
  exact validRec_ordSol c S base k.1 o true k.2 adm (valid_of_labCost_fin (ordAlg c) c _ k.2 hfin)

/-- Reconciliation part of C04 for `usreconcile_base_uspfs` / `usreconcile_extended_uspfs`. -/
theorem C04_rec_uspfs (c : Costs) (S : RTree) (base : Bool) (o : OTree) :
    ∀ sol ∈ uspfs c S base o, Spec.validRec o sol = true :=
  C03.C03_rec_valid c S base o

/-- **C04 for the ordered solvers** without a prescribed root order: for every input
    whose leaf syntenies are non-empty, every cost vector (`sloss = 0` included), both
    variants. -/
theorem C04_ord (c : Costs) (S : RTree) (base : Bool) (o : OTree)
    (hne : ∀ f ∈ leafSyntenies o, f ≠ []) : C04_statement .ordered c o (spfs c S base o none) :=
  C02.C02_spfs_valid c S base o none (C02.C02_orders_ok o hne) (rootOrders_perm o)

/-- … and with a prescribed root order that is a duplicate-free arrangement of all
    families having every (non-empty) leaf synteny as a subsequence. -/
theorem C04_ord_prescribed (c : Costs) (S : RTree) (base : Bool) (o : OTree) (r : List Nat)
    (hnd : r.Nodup) (hperm : Spec.isPermOf r (families o) = true)
    (h : ∀ f ∈ leafSyntenies o, f ≠ [] ∧ f.Sublist r) :
    C04_statement .ordered c o (spfs c S base o (some r)) := by
  refine C02.C02_spfs_valid c S base o (some r) (C02.C02_orders_ok_prescribed o r hnd h) ?_
  intro order ho
  simp only [rootOrders, List.mem_singleton] at ho
  subst ho
  exact ⟨hperm, by rw [dedup_of_nodup order hnd]; simp⟩

/-- C04 for the ordered solvers without input guards.  Not proved in this form: `C04_ord`
    and `C04_ord_prescribed` prove the conclusion under the input guards (non-empty leaf
    syntenies; a prescribed order that is a duplicate-free arrangement of all families having
    every leaf synteny as a subsequence).
    `C04_unord_statement` (`C04.lean`) is proved for every input (`C04Un.C04_unord`). -/
def C04_ord_statement : Prop :=
  ∀ (c : Costs) (S : RTree) (base : Bool) (o : OTree) (pre : Option (List Nat)),
    C04_statement .ordered c o (spfs c S base o pre)

example :
    let c : Costs := { spe := 1, dup := 1, hgt := .fin 1, floss := 1, sloss := 0 }
    let S : RTree := .node [.node [], .node []]
    let o : OTree := .node (.leaf [0] [1, 2]) (.leaf [1] [2])
    spfs c S false o none ≠ [] ∧ uspfs c S false o ≠ [] ∧ thl c S o ≠ [] := by
  decide +kernel

end SR.C04
