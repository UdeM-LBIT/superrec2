/-
  C13 — a diagram shows exactly the events the cost model counts: uniqueness of the branches and
  the loss count.

  `C13_keys_nodup` (no validity hypothesis) is the theorem `Model/Layout.lean` refers to:
  pseudo-gene identifiers `(lineage, species)` are as distinct as fresh Python objects.  The loss
  count comes from the stronger `C13_losses_multiset`.  A successful run of `_compute_branches`
  applied exactly the state-free plan `fullPlan` (`computeBranches_plan`); uniqueness and the loss
  multiset are properties of that plan.
-/
import SRVerif.Properties.C13
import SRVerif.Properties.C06
import SRVerif.Proofs.BranchesLoss

namespace SR.C13

open SR SR.Layout SR.EventLog

/-- Whenever `_compute_branches` succeeds (valid input or
    not), the keys of all branches of all species are pairwise distinct: no
    object node and no pseudo-gene `(lineage, species)` gets a second branch. -/
theorem C13_keys_nodup (S : RTree) (sol : Sol) (st : LState)
    (hst : computeBranches S sol = .ok st) :
    (S.postorder.flatMap fun t => keysOf (brs st t)).Nodup :=
  computeBranches_keys_nodup hst

/-- `C13_nodes_statement` holds of a valid reconciliation: `C13_nodes_partial` with the
    uniqueness clause `C13_keys_nodup`. -/
theorem C13_nodes (S : RTree) (o : OTree) (sol : Sol) (st : LState)
    (hv : Spec.validRec o sol = true) (hin : inTree S sol = true)
    (hst : computeBranches S sol = .ok st) : C13_nodes_statement S sol st :=
  ⟨(C13_nodes_partial S o sol st hv hin hst).1, (C13_nodes_partial S o sol st hv hin hst).2,
    C13_keys_nodup S sol st hst⟩

/-- The branch of an object node is unique over ALL species. -/
theorem C13_nodes_unique (S : RTree) (o : OTree) (sol : Sol) (st : LState)
    (hv : Spec.validRec o sol = true) (hin : inTree S sol = true)
    (hst : computeBranches S sol = .ok st) (p : Path) (sub : Sol) (hp : subAt sol p = some sub) :
    (S.postorder.flatMap fun t => (brs st t).filter fun b => b.key = .gene p).length = 1 := by
  obtain ⟨hex, _, hnd⟩ := C13_nodes S o sol st hv hin hst
  obtain ⟨b, hb, hkey, _⟩ := hex p sub hp
  have hsp : sub.sp ∈ S.postorder :=
    RTree.mem_postorder_of_isNode _ S (good_of_valid hv hin p sub hp).1
  have hcount : (S.postorder.flatMap fun t => keysOf (brs st t)).count (.gene p) = 1 := by
    apply List.count_eq_one_of_mem hnd
    simp only [List.mem_flatMap, keysOf, List.mem_map]
    exact ⟨sub.sp, hsp, b, hb, hkey⟩
  rw [← hcount, List.count_eq_countP, List.countP_eq_length_filter]
  simp only [keysOf, ← List.map_flatMap, List.filter_map, List.length_map]
  congr 1
  rw [List.filter_flatMap]
  congr 1

example : (computeBranches exS exSol).toOption.isSome = true := by decide +kernel

/-- The `(lineage, species)` of the `FULL_LOSS` pseudo-genes of a state: for
    every species `t` of the tree, the lineages of the loss branches sitting
    in `t`. -/
def lossMarkers (S : RTree) (st : LState) : List (Path × Path) :=
  S.postorder.flatMap fun t => ((brs st t).filter fun b => b.kind == .loss).map fun b => (b.key.lin, t)

/-- Losses as multisets: the
    `(lineage, species)` pairs of the `FULL_LOSS` pseudo-genes are, up to order,
    the full-loss records of the specification (`lossRecs`: for every internal
    node and each of its two child lineages, the species crossed by the
    vertical branch, `EventLog.vertical`, the node's own species excepted at a
    speciation) — and the species components of these records are exactly,
    in order, the `floss` records of C06's event log. -/
theorem C13_losses_multiset (S : RTree) (o : OTree) (sol : Sol) (st : LState)
    (hv : Spec.validRec o sol = true) (hin : inTree S sol = true)
    (hst : computeBranches S sol = .ok st) :
    (lossMarkers S st).Perm (lossRecs sol []) ∧
      (lossRecs sol []).map (·.2) = lossSpecies (recLog sol) := by
  refine ⟨?_, lossRecs_species sol []⟩
  have hp := computeBranches_lossKeys (good_of_valid hv hin) hst
  have hloc := C13_losses_partial S o sol st hv hin hst
  let un : Key → Path × Path := fun k => match k with
    | .loss g t => (g, t)
    | .gene p => (p, p)
  have h1 := hp.map un
  have e2 : ((lossRecs sol []).map toKey).map un = lossRecs sol [] := by
    rw [List.map_map]
    conv => rhs; rw [← List.map_id (lossRecs sol [])]
    apply List.map_congr_left
    intro x _; rfl
  rw [e2] at h1
  refine List.Perm.trans (List.Perm.of_eq ?_) h1
  unfold lossMarkers
  rw [List.map_flatMap]
  apply List.flatMap_congr
  intro t _
  rw [List.map_map]
  apply List.map_congr_left
  intro b hb
  simp only [List.mem_filter, beq_iff_eq] at hb
  obtain ⟨q, sp, f, l, r, i, a, _, _, hkey, _⟩ := hloc t b hb.1 hb.2
  simp [Function.comp, hkey, un, Key.lin]

/-- The species in which the loss markers sit are, as a multiset, the species
    of the `floss` records of the evaluator's event log. -/
theorem C13_losses_species (S : RTree) (o : OTree) (sol : Sol) (st : LState)
    (hv : Spec.validRec o sol = true) (hin : inTree S sol = true)
    (hst : computeBranches S sol = .ok st) :
    ((lossMarkers S st).map (·.2)).Perm (lossSpecies (recLog sol)) := by
  obtain ⟨h1, h2⟩ := C13_losses_multiset S o sol st hv hin hst
  rw [← h2]
  exact h1.map _

theorem length_lossMarkers (S : RTree) (st : LState) :
    (lossMarkers S st).length =
      (S.postorder.map fun t => ((brs st t).filter fun b => b.kind == .loss).length).sum := by
  simp [lossMarkers, List.length_flatMap]

/-- The number of `FULL_LOSS` pseudo-genes is the
    evaluator's full-loss count, and each of them sits where C13_losses_partial
    says. -/
theorem C13_losses (S : RTree) (o : OTree) (sol : Sol) (st : LState)
    (hv : Spec.validRec o sol = true) (hin : inTree S sol = true)
    (hst : computeBranches S sol = .ok st) : C13_losses_statement S sol st := by
  refine ⟨?_, C13_losses_partial S o sol st hv hin hst⟩
  rw [← length_lossMarkers, (C13_losses_multiset S o sol st hv hin hst).1.length_eq]
  exact length_lossRecs sol [] (allEvents_of_validRec o sol hv)

/-- The evaluator's count `evalLossCount` (distances) is the number of `floss`
    records of C06's event log. -/
theorem evalLossCount_eq_nFloss (o : OTree) (sol : Sol) (hv : Spec.validRec o sol = true) :
    evalLossCount sol = nFloss (recLog sol) := by
  rw [nFloss_eq_length, ← lossRecs_species sol [], List.length_map,
    length_lossRecs sol [] (allEvents_of_validRec o sol hv)]

/-- Losses and the cost: the reconciliation cost of the drawn
    reconciliation is `spe·#S + dup·#D + floss·(number of loss markers) + hgt·#T`. -/
theorem C13_losses_cost (c : Costs) (S : RTree) (o : OTree) (sol : Sol) (st : LState)
    (hv : Spec.validRec o sol = true) (hin : inTree S sol = true)
    (hst : computeBranches S sol = .ok st) :
    recCost c o sol =
      .fin (c.spe * nSpec (recLog sol) + c.dup * nDup (recLog sol)
            + c.floss * (lossMarkers S st).length)
        + times (nHgt (recLog sol)) c.hgt := by
  rw [length_lossMarkers, (C13_losses S o sol st hv hin hst).1, evalLossCount_eq_nFloss o sol hv]
  exact SR.C06.C06_rec_counts c o sol hv

/-- Non-vacuity: in the running example the duplication in species `[0]` sends
    its left copy (lineage `[0,0]`) down to `[0,0]`: one full loss, in `[0]`. -/
example : evalLossCount exSol = 1 ∧ lossRecs exSol [] = [([0, 0], [0])] := by decide +kernel

example : (match computeBranches exS exSol with
    | .ok st => lossMarkers exS st
    | .error _ => []) = [([0, 0], [0])] := by decide +kernel

/-- A duplication at the root whose two copies both end up in `[0,0]`: four
    full losses (each lineage crosses `[]` and `[0]`). -/
def exSol4 : Sol := .node [] [] (.leaf [0, 0] []) (.leaf [0, 0] [])

example : Spec.validRec (.node (.leaf [0, 0] []) (.leaf [0, 0] [])) exSol4 = true ∧
    inTree exS exSol4 = true ∧ evalLossCount exSol4 = 4 ∧
    (match computeBranches exS exSol4 with
      | .ok st => lossMarkers exS st
      | .error _ => []) = [([0], [0]), ([1], [0]), ([0], []), ([1], [])] := by decide +kernel

end SR.C13
