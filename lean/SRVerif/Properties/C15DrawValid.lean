/-
  C15 / C13: the drawing model on the layout of a VALID reconciliation, end to end.  No look-up of
  `layout.compute` or of the drawing code fails on a valid reconciliation (`SR.C14.C14_anchors`,
  Properties/C14Anchors.lean); the census, admissibility and balance theorems of C15Draw apply.
-/
import SRVerif.Properties.C15Draw
import SRVerif.Properties.C14Anchors

namespace SR.C15

open SR SR.Layout SR.Tikz SR.TikzDraw

/-- End to end, for every valid reconciliation in a binary species tree (any size), a label width
    other than 0 and admissible decorations: `layout.compute` returns a layout, the drawing code
    (`render`'s species loop, `_tikz_draw_fork`, `_tikz_draw_branches`) makes its calls without
    raising, the calls contain — besides plain paths — exactly one event node per non-loss branch,
    one loss marker per `FULL_LOSS` branch and one arrow per transfer branch, every call
    instantiates a generated statement template admissibly, and the assembled text has balanced
    braces. -/
theorem C15_draw_valid_all (o : Orientation) (P : Params) (sizes : Key → Size) (dp : DParams)
    (deco : Deco) (defs : Str) (S : RTree) (ot : OTree) (sol : Sol)
    (hv : Spec.validRec ot sol = true) (hin : SR.C13.inTree S sol = true)
    (hb : S.isBinary = true) (hw : dp.labelWidth ≠ some 0) (hok : DecoOK dp deco)
    (hd : DefsOK defs) :
    ∃ all calls, compute o P sizes S sol = .ok all ∧
      drawCalls o dp deco S (spOfSol sol) all = .ok calls ∧
      marks (kinds calls) = all.flatMap (fun lay => lay.branches.flatMap expected) ∧
      (kinds calls).countP isEvent = nEvents (all.flatMap (·.branches)) ∧
      (kinds calls).countP isLossMarker = nLosses (all.flatMap (·.branches)) ∧
      (kinds calls).countP isTransfer = nTransfers (all.flatMap (·.branches)) ∧
      (∀ c ∈ calls.map DrawCall.toCall, CallOK c) ∧
      isBalanced (assemble defs calls) = true := by
  obtain ⟨ss, hr⟩ := SR.C14.C14_anchors o P sizes S ot sol hv hin hb
  obtain ⟨all, calls, hc, hdc, _⟩ := C15_draw_of_render o P sizes dp deco S sol hb hw hr
  obtain ⟨h1, h2, h3, h4⟩ := C15_draw_counts_compute o P sizes dp deco S sol all calls hc hdc
  have hadm := C15_draw_admissible o dp deco S (spOfSol sol) all calls hok hdc
  exact ⟨all, calls, hc, hdc, h1, h2, h3, h4, hadm, C15_balanced _ _ hd hadm⟩

end SR.C15
