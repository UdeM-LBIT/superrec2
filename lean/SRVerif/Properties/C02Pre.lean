/-
  C02 with a PRESCRIBED root order — "…all root gene orders compatible with the leaves (or
  the prescribed root order)…", the prescribed root synteny being any duplicate-free common
  supersequence of the leaf syntenies, possibly a STRICT one holding families that no leaf
  carries.

  Without a prescribed order validity (`Spec.validSol .ordered`) asks the root synteny to be a
  permutation of `families o` (`rootOrders_perm`, `isPermOf`, `validSol_iff_rootOrder`).
  Under a prescribed order `r` validity is `Spec.validSolPre .ordered o (some r)`
  (`Spec/ValidRoot.lean`): valid events, leaf syntenies as given, child ⊑ parent, root synteny
  `= r`, `r` duplicate-free.  The permutation lemmas are replaced by `r ⊇ families o`, `r.Nodup`
  (`C02_prescribed_sup`; `Proofs/OptAdequacyPre.lean`) — nothing here asks `r ⊆ families o`.
  (The mask-level theory of `C02Dp.lean` / `LabelDPOrd*.lean` does not need the permutation
  property: it needs `OrdersOk` = `order.Nodup ∧ LeavesOk order o` only.)

  Guards.  `PreOk o r`: `r` duplicate-free and every leaf synteny a non-empty subsequence of
  `r`.  End to end additionally those of `C02Dp`: binary species tree containing the leaf
  species, `spe + 2·sloss ≤ dup + 2·floss`.

  The oracle part is `Spec.adequate_ord` (`Proofs/OptAdequacyPre.lean`) at `pre = some r`, with
  `RootsOk o (some r)` = `r.Nodup` and the single-leaf guard `hleaf` (for a SINGLE-LEAF input `r`
  must be the leaf's synteny: the oracle's leaf cell ignores the root order,
  `C02_oracle_leaf_strict`; in the code the prescribed order of a single-leaf input IS the leaf
  synteny).  The end-to-end part is that of `C02Spec.lean`, whose theorems hold for any `pre`, and
  needs no single-leaf guard.
-/
import SRVerif.Properties.C02Code

namespace SR.C02

open SR Cost Spec

/-- The prescribed root order qualifies: duplicate-free, every leaf synteny a non-empty
    subsequence of it.  (It may hold families that no leaf carries.) -/
def PreOk (o : OTree) (r : List Nat) : Prop :=
  r.Nodup ∧ ∀ f ∈ leafSyntenies o, f ≠ [] ∧ f.Sublist r

theorem PreOk.ordersOk {o : OTree} {r : List Nat} (h : PreOk o r) : OrdersOk o (some r) :=
  C02_orders_ok_prescribed o r h.1 h.2

/-- What replaces `rootOrders_perm` under a prescribed order: `r ⊇ families o`, `r.Nodup`. -/
theorem C02_prescribed_sup (o : OTree) (r : List Nat) (h : PreOk o r) :
    ∀ order ∈ rootOrders o (some r), order.Nodup ∧ ∀ x ∈ families o, x ∈ order := by
  intro order ho
  simp only [rootOrders, List.mem_singleton] at ho
  subst ho
  exact ⟨h.1, families_subset_of_sup o order (fun f hf => (h.2 f hf).2)⟩

/-- The guards are those of any solution valid under `r`: if one exists (leaf syntenies
    non-empty), `PreOk o r` holds. -/
theorem C02_preOk_of_valid (o : OTree) (r : List Nat) (hne : ∀ f ∈ leafSyntenies o, f ≠ [])
    (sol : Sol) (hv : Spec.validSolPre .ordered o (some r) sol = true) : PreOk o r := by
  obtain ⟨hnd, hsup, _⟩ := validPre_root_sup o r sol hv
  exact ⟨hnd, fun f hf => ⟨hne f hf, hsup f hf⟩⟩

/-- When the prescribed order is a permutation of the families, validity under it is
    `Spec.validSol` with that root synteny. -/
theorem C02_prescribed_perm (o : OTree) (r : List Nat) (hsub : ∀ x ∈ r, x ∈ families o) (sol : Sol) :
    Spec.validSolPre .ordered o (some r) sol = true ↔
      Spec.validSol .ordered o sol = true ∧ sol.fam = r := by
  constructor
  · intro hv
    obtain ⟨hnd, _, hfam'⟩ := validPre_root_sup o r sol hv
    obtain ⟨hvr, hl, hfam, _⟩ := (validSolPre_iff o r sol).mp hv
    refine ⟨?_, hfam⟩
    have hp : r.Perm (families o) :=
      (List.perm_ext_iff_of_nodup hnd (nodup_dedup _)).mpr (fun x => ⟨hsub x, hfam' x⟩)
    simp only [validSol, hvr, hl, hfam, Bool.true_and, Bool.and_eq_true, isPermOf, beq_iff_eq,
      List.all_eq_true, List.contains_iff_mem, length_dedup_iff_nodup]
    exact ⟨⟨⟨hp.length_eq, hsub⟩, hfam'⟩, hnd⟩
  · rintro ⟨hv, hfam⟩
    obtain ⟨hvr, hl, ho⟩ := (validSol_iff_rootOrder o sol).mp hv
    refine (validSolPre_iff o r sol).mpr ⟨hvr, hl, hfam, ?_⟩
    rw [← hfam]
    exact (rootsOk_none o _ ho).1

variable (c : Costs) (S : RTree) (o : OTree) (r : List Nat)

/-- **The oracle's optimum IS the minimum** of the evaluated cost over all solutions valid
    under the prescribed root order `r`: a lower bound of all of them, attained when finite, and
    infinite exactly when no valid solution has finite cost. -/
theorem C02_oracle_min_pre (keep : Bool) (hnd : r.Nodup) (hleaf : ∀ sp f, o = .leaf sp f → r = f)
    (hS : ∀ p ∈ leafSpecies o, S.isNode p = true) :
    (∀ sol, Spec.validSolPre .ordered o (some r) sol = true →
      Cost.le (Spec.optimum c S .ordered false keep o (some r)).1 (totalCost c .ordered o sol) = true) ∧
    ((Spec.optimum c S .ordered false keep o (some r)).1 ≠ .inf →
      ∃ sol, Spec.validSolPre .ordered o (some r) sol = true ∧
        totalCost c .ordered o sol = (Spec.optimum c S .ordered false keep o (some r)).1) ∧
    ((Spec.optimum c S .ordered false keep o (some r)).1 = .inf ↔
      ∀ sol, Spec.validSolPre .ordered o (some r) sol = true → totalCost c .ordered o sol = .inf) := by
  have A := (adequate_ord c S false o (some r) (rootsOk_some hnd hleaf)).congr
    fun σ => and_iff_left_of_imp (speciesOk_of_validPre S o (some r) hS σ)
  refine ⟨fun sol hv => A.le keep hv, fun h => ?_, fun h sol hv => ?_, fun h => ?_⟩
  · obtain ⟨sol, hv, _, hc⟩ := A.attained keep h
    exact ⟨sol, hv, hc⟩
  · exact (inf_le _).mp (h ▸ A.le keep hv)
  · by_contra hfin
    obtain ⟨sol, hv, _, hc⟩ := A.attained keep hfin
    exact hfin (by rw [← hc]; exact h sol hv)

/-- The same for `base`, among the solutions that use the LCA species mapping. -/
theorem C02_oracle_min_pre_base (keep : Bool) (hnd : r.Nodup)
    (hleaf : ∀ sp f, o = .leaf sp f → r = f) :
    (∀ sol, Spec.validSolPre .ordered o (some r) sol = true → sameMapping sol (lcaSol o) = true →
      Cost.le (Spec.optimum c S .ordered true keep o (some r)).1 (totalCost c .ordered o sol) = true) ∧
    ((Spec.optimum c S .ordered true keep o (some r)).1 ≠ .inf →
      ∃ sol, Spec.validSolPre .ordered o (some r) sol = true ∧ sameMapping sol (lcaSol o) = true ∧
        totalCost c .ordered o sol = (Spec.optimum c S .ordered true keep o (some r)).1) := by
  have A := (adequate_ord c S true o (some r) (rootsOk_some hnd hleaf)).congr
    fun σ => and_congr_right (speciesOk_base_iff_pre S o (some r) σ)
  refine ⟨fun sol hv hm => A.le keep ⟨hv, hm⟩, fun h => ?_⟩
  obtain ⟨sol, ⟨hv, hm⟩, _, hc⟩ := A.attained keep h
  exact ⟨sol, hv, hm, hc⟩

theorem C02_oracle_sols_nodup_pre (base keep : Bool) :
    (Spec.optimum c S .ordered base keep o (some r)).2.Nodup := nodup_optimum_sols c S base _ _ _ _

/-- The single-leaf guard of `C02_oracle_min_pre` is needed: for the single leaf `a` and the
    prescribed order `a x` the oracle reports optimum 0 with the leaf as its solution, while no
    solution is valid under `a x` (the root IS the leaf, whose synteny is `a`); the solver
    rightly returns nothing. -/
theorem C02_oracle_leaf_strict :
    let c : Costs := { spe := 1, dup := 1, hgt := .fin 1, floss := 1, sloss := 1 }
    let S : RTree := .node [.node [], .node []]
    let o : OTree := .leaf [0] [1]
    PreOk o [1, 9] ∧
    Spec.optimum c S .ordered false true o (some [1, 9]) = (.fin 0, [.leaf [0] [1]]) ∧
    (∀ sol, Spec.validSolPre .ordered o (some [1, 9]) sol = false) ∧
    spfs c S false o (some [1, 9]) = [] := by
  refine ⟨⟨by decide, by decide⟩, by decide +kernel, ?_, by decide +kernel⟩
  intro sol
  cases h : Spec.validSolPre .ordered (.leaf [0] [1]) (some [1, 9]) sol with
  | false => rfl
  | true => exact absurd (root_eq_of_validPre _ _ sol h [0] [1] rfl) (by decide)

/-- **C02 + C05 with a prescribed root order, extended solver, exact form**:
    `sreconcile_extended_spfs` (policy ALL) run with the prescribed root order `r` — any
    duplicate-free common supersequence of the non-empty leaf syntenies, possibly holding
    families no leaf carries — returns exactly the solutions valid under `r` of minimum
    (finite) evaluated cost among all solutions valid under `r` (any species mapping, any
    sequence labelling), each once. -/
theorem C02_ext_exact_prescribed (hr : PreOk o r)
    (hb : S.isBinary = true) (hS : ∀ p ∈ leafSpecies o, S.isNode p = true)
    (hcoh : c.spe + 2 * c.sloss ≤ c.dup + 2 * c.floss) :
    (∀ sol, sol ∈ spfs c S false o (some r) ↔
      Spec.validSolPre .ordered o (some r) sol = true ∧ totalCost c .ordered o sol ≠ .inf ∧
      ∀ sol', Spec.validSolPre .ordered o (some r) sol' = true →
        Cost.le (totalCost c .ordered o sol) (totalCost c .ordered o sol') = true) ∧
    (spfs c S false o (some r)).Nodup :=
  ⟨C02_spfs_exact_ext c S o (some r) hr.ordersOk hb hS hcoh,
   by unfold spfs; exact nodup_rankByCost _ _ _ _⟩

/-- **C02 + C05 with a prescribed root order, base solver, exact form**: the same among the
    solutions that use the LCA species mapping. -/
theorem C02_base_exact_prescribed (hr : PreOk o r)
    (hb : S.isBinary = true) (hS : ∀ p ∈ leafSpecies o, S.isNode p = true)
    (hcoh : c.spe + 2 * c.sloss ≤ c.dup + 2 * c.floss) :
    (∀ sol, sol ∈ spfs c S true o (some r) ↔
      Spec.validSolPre .ordered o (some r) sol = true ∧ sameMapping sol (lcaSol o) = true ∧
      totalCost c .ordered o sol ≠ .inf ∧
      ∀ sol', Spec.validSolPre .ordered o (some r) sol' = true →
        sameMapping sol' (lcaSol o) = true →
        Cost.le (totalCost c .ordered o sol) (totalCost c .ordered o sol') = true) ∧
    (spfs c S true o (some r)).Nodup :=
  ⟨C02_spfs_exact c S o true (some r) hr.ordersOk hb hS hcoh _
      (speciesOk_base_iff_pre S o (some r)),
   by unfold spfs; exact nodup_rankByCost _ _ _ _⟩

/-- **C02 with a prescribed root order, extended solver** (the form of `C02_ext_optimal`): every
    returned solution is valid under `r` and no solution valid under `r` is cheaper. -/
theorem C02_ext_optimal_prescribed (hr : PreOk o r)
    (hb : S.isBinary = true) (hS : ∀ p ∈ leafSpecies o, S.isNode p = true)
    (hcoh : c.spe + 2 * c.sloss ≤ c.dup + 2 * c.floss) :
    ∀ sol ∈ spfs c S false o (some r),
      Spec.validSolPre .ordered o (some r) sol = true ∧
      ∀ sol', Spec.validSolPre .ordered o (some r) sol' = true →
        Cost.le (totalCost c .ordered o sol) (totalCost c .ordered o sol') = true := by
  intro sol h
  obtain ⟨hv, _, hmin⟩ := ((C02_ext_exact_prescribed c S o r hr hb hS hcoh).1 sol).mp h
  exact ⟨hv, hmin⟩

/-- **C02 with a prescribed root order, base solver** (the form of `C02_base_optimal`). -/
theorem C02_base_optimal_prescribed (hr : PreOk o r)
    (hb : S.isBinary = true) (hS : ∀ p ∈ leafSpecies o, S.isNode p = true)
    (hcoh : c.spe + 2 * c.sloss ≤ c.dup + 2 * c.floss) :
    ∀ sol ∈ spfs c S true o (some r),
      Spec.validSolPre .ordered o (some r) sol = true ∧ sameMapping sol (lcaSol o) = true ∧
      ∀ sol', Spec.validSolPre .ordered o (some r) sol' = true →
        sameMapping sol' (lcaSol o) = true →
        Cost.le (totalCost c .ordered o sol) (totalCost c .ordered o sol') = true := by
  intro sol h
  obtain ⟨hv, hm, _, hmin⟩ := ((C02_base_exact_prescribed c S o r hr hb hS hcoh).1 sol).mp h
  exact ⟨hv, hm, hmin⟩

theorem C02_spfs_cost_pre (base : Bool) (hr : PreOk o r)
    (hb : S.isBinary = true) (hS : ∀ p ∈ leafSpecies o, S.isNode p = true)
    (hcoh : c.spe + 2 * c.sloss ≤ c.dup + 2 * c.floss) :
    ∀ sol ∈ spfs c S base o (some r),
      totalCost c .ordered o sol = (Spec.optimum c S .ordered base true o (some r)).1 :=
  fun sol h => (C02_spfs_subset_optimum_pre c S o base (some r) hr.ordersOk hb hS hcoh sol h).2

open SpfsCode in
/-- **Extended solver, code-structured model, prescribed root order**: `spfsCode` raises
    nothing and returns exactly the solutions valid under `r` of minimum finite cost, each once. -/
theorem C02_code_ext_exact_prescribed (hr : PreOk o r)
    (hb : S.isBinary = true) (hS : ∀ p ∈ leafSpecies o, S.isNode p = true)
    (hcoh : c.spe + 2 * c.sloss ≤ c.dup + 2 * c.floss) :
    ∃ res, spfsCode c S false o (some r) = .ok res ∧
      (∀ sol, sol ∈ res ↔
        Spec.validSolPre .ordered o (some r) sol = true ∧ totalCost c .ordered o sol ≠ .inf ∧
        ∀ sol', Spec.validSolPre .ordered o (some r) sol' = true →
          Cost.le (totalCost c .ordered o sol) (totalCost c .ordered o sol') = true) ∧
      res.Nodup := by
  obtain ⟨res, hres, hmem, hnd⟩ := C02_code_refines_prescribed c S false o r hS hr.2
  exact ⟨res, hres,
    fun sol => (hmem sol).trans ((C02_ext_exact_prescribed c S o r hr hb hS hcoh).1 sol), hnd⟩

open SpfsCode in
theorem C02_code_base_exact_prescribed (hr : PreOk o r)
    (hb : S.isBinary = true) (hS : ∀ p ∈ leafSpecies o, S.isNode p = true)
    (hcoh : c.spe + 2 * c.sloss ≤ c.dup + 2 * c.floss) :
    ∃ res, spfsCode c S true o (some r) = .ok res ∧
      (∀ sol, sol ∈ res ↔
        Spec.validSolPre .ordered o (some r) sol = true ∧ sameMapping sol (lcaSol o) = true ∧
        totalCost c .ordered o sol ≠ .inf ∧
        ∀ sol', Spec.validSolPre .ordered o (some r) sol' = true →
          sameMapping sol' (lcaSol o) = true →
          Cost.le (totalCost c .ordered o sol) (totalCost c .ordered o sol') = true) ∧
      res.Nodup := by
  obtain ⟨res, hres, hmem, hnd⟩ := C02_code_refines_prescribed c S true o r hS hr.2
  exact ⟨res, hres,
    fun sol => (hmem sol).trans ((C02_base_exact_prescribed c S o r hr hb hS hcoh).1 sol), hnd⟩

/-- Leaves `a`, `b`, `ab` (`((a_A, b_B), ab_A)` under `(A,B)`, unit costs), prescribed root
    `a x b` where NO leaf carries `x` (`a = 1, x = 9, b = 2`): a strict supersequence, not a
    permutation of the families.  Every optimal solution (cost 4) keeps `x` at the inner node
    (synteny `a x b` there), where it is lost together with a neighbour as ONE run towards `a`
    and towards `b`; the valid solution `alt` that drops `x` at once (inner node `a b`) costs 5
    and is not returned.  `best` is not valid in the sense of `Spec.validSol` (its root holds
    `x`), so these theorems are not instances of those of `C02Spec.lean`; without a prescribed
    order the optimum is 3. -/
example :
    let c : Costs := { spe := 1, dup := 1, hgt := .fin 1, floss := 1, sloss := 1 }
    let S : RTree := .node [.node [], .node []]
    let o : OTree := .node (.node (.leaf [0] [1]) (.leaf [1] [2])) (.leaf [0] [1, 2])
    let r : List Nat := [1, 9, 2]
    let best : Sol :=
      .node [0] [1, 9, 2] (.node [1] [1, 9, 2] (.leaf [0] [1]) (.leaf [1] [2])) (.leaf [0] [1, 2])
    let alt : Sol :=
      .node [0] [1, 9, 2] (.node [1] [1, 2] (.leaf [0] [1]) (.leaf [1] [2])) (.leaf [0] [1, 2])
    S.isBinary = true ∧ (∀ p ∈ leafSpecies o, S.isNode p = true) ∧
    c.spe + 2 * c.sloss ≤ c.dup + 2 * c.floss ∧
    families o = [1, 2] ∧ 9 ∉ families o ∧
    Spec.validSolPre .ordered o (some r) best = true ∧ Spec.validSol .ordered o best = false ∧
    Spec.validSolPre .ordered o (some r) alt = true ∧
    totalCost c .ordered o best = .fin 4 ∧ totalCost c .ordered o alt = .fin 5 ∧
    best ∈ spfs c S false o (some r) ∧ alt ∉ spfs c S false o (some r) ∧
    (spfs c S false o (some r)).length = 4 ∧
    (spfs c S false o (some r)).map (fun sol => match sol with | .node _ f l _ => (f, l.fam) | _ => ([], [])) =
      [(r, r), (r, r), (r, r), (r, r)] ∧
    (Spec.optimum c S .ordered false true o (some r)).1 = .fin 4 ∧
    (∀ sol ∈ (Spec.optimum c S .ordered false true o (some r)).2, sol ∈ spfs c S false o (some r)) ∧
    (∀ sol ∈ spfs c S false o (some r), sol ∈ (Spec.optimum c S .ordered false true o (some r)).2) ∧
    (∃ res, spfsCode c S false o (some r) = .ok res ∧ res.length = 4 ∧
      ∀ sol ∈ res, sol ∈ spfs c S false o (some r)) ∧
    (spfs c S true o (some r)).map (totalCost c .ordered o) = [.fin 6] ∧
    (Spec.optimum c S .ordered true true o (some r)).1 = .fin 6 ∧
    (Spec.optimum c S .ordered false true o none).1 = .fin 3 := by
  intro c S o r best alt
  have hb : S.isBinary = true := by decide
  have hS : ∀ p ∈ leafSpecies o, S.isNode p = true := by decide
  have hcoh : c.spe + 2 * c.sloss ≤ c.dup + 2 * c.floss := by decide
  have hr : PreOk o r := ⟨by decide, by decide⟩
  have hleaf : ∀ sp f, o = .leaf sp f → r = f := fun _ _ h => nomatch h
  -- The solver's output is evaluated once; what is said of the oracle and of the code-structured
  -- model then follows from `C02_spfs_eq_optimum_pre`, `C02_spfs_cost_pre` and
  -- `C02_code_refines_prescribed`.
  have hspfs : spfs c S false o (some r) =
      [([1], [1]), ([0], [0]), ([0], [1]), ([], [1])].map fun p =>
        .node p.1 r (.node p.2 r (.leaf [0] [1]) (.leaf [1] [2])) (.leaf [0] [1, 2]) := by
    decide +kernel
  have hbest : best ∈ spfs c S false o (some r) := by rw [hspfs]; decide
  have hcost : totalCost c .ordered o best = .fin 4 := by decide +kernel
  have hopt := C02_spfs_eq_optimum_pre c S o false (some r) hr.ordersOk (rootsOk_some hr.1 hleaf)
    hb hS hcoh
  obtain ⟨res, hres, hmem, hnd⟩ := C02_code_refines_prescribed c S false o r hS hr.2
  have hlen : res.length = (spfs c S false o (some r)).length :=
    ((List.perm_ext_iff_of_nodup hnd (C02_ext_exact_prescribed c S o r hr hb hS hcoh).2).mpr
      hmem).length_eq
  refine ⟨hb, hS, hcoh, by decide +kernel, by decide +kernel, by decide +kernel,
    by decide +kernel, by decide +kernel, hcost, by decide +kernel, hbest,
    by rw [hspfs]; decide, by rw [hspfs]; rfl, by rw [hspfs]; rfl,
    by rw [← C02_spfs_cost_pre c S o r false hr hb hS hcoh best hbest]; exact hcost,
    fun sol => (hopt sol).mpr, fun sol => (hopt sol).mp,
    ⟨res, hres, by rw [hlen, hspfs]; rfl, fun sol => (hmem sol).mp⟩,
    by decide +kernel, by decide +kernel, by decide +kernel⟩

/-- The guard `PreOk` of the example (stated apart: `Sublist` is decided by instance search). -/
example : PreOk (.node (.node (.leaf [0] [1]) (.leaf [1] [2])) (.leaf [0] [1, 2])) [1, 9, 2] :=
  ⟨by decide, by decide⟩

/-- A prescribed order that IS a permutation of the families (`ab` / `b`, root `a b`): the
    prescribed theorems give back the solutions of `C02_ext_exact` with that root order. -/
example :
    let c : Costs := { spe := 1, dup := 1, hgt := .fin 1, floss := 1, sloss := 1 }
    let S : RTree := .node [.node [], .node []]
    let o : OTree := .node (.leaf [0] [1, 2]) (.leaf [1] [2])
    (∀ x ∈ [1, 2], x ∈ families o) ∧
    spfs c S false o (some [1, 2]) = spfs c S false o none ∧
    (spfs c S false o none).length = 1 := by
  decide +kernel

end SR.C02
