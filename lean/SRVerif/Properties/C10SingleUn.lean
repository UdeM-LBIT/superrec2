/-
  C10, clause "single family", unordered solvers (`superdtl` = `uspfs … false`,
  `usreconcile_base_uspfs` = `uspfs … true`).

  Input: every leaf synteny is `[f]`, `S` binary, leaf species nodes of `S`, coherent
  costs.  `C10_single_family` at the end is the property's clause in one statement, for the
  five solvers together.
  No hypothesis on the labellings is needed: in the single-family case the labellings `uspfs`
  ranges over are LCA everywhere and decode to solutions without segmental loss
  (`unCand_single`); on those the unordered and the plain algebra simulate each other
  (`sim_annUn_annP`), and `Exact.le` applies in both directions as for the ordered solvers.
-/
import SRVerif.Proofs.C10SingleUn
import SRVerif.Properties.C10Single
import SRVerif.Properties.C03Kinds

namespace SR.C10

open SR Cost

variable (c : Costs) (S : RTree) (o : OTree) (f : Nat)

/-- What the unordered variants range over when there is a single family: LCA everywhere, and
    the decoded solution has no segmental loss. -/
theorem unCand_single (base : Bool) (hsf : SingleFam f o) {k : Unit × LSol Kind}
    (hk : (uspfsD c S base o).Cand c k) :
    k.2.All (· = .lca) ∧ labelingCost c .unordered ((uspfsD c S base o).out k) = some 0 := by
  obtain ⟨_, adm, hroot, hfin⟩ := hk
  obtain ⟨hall, hl⟩ := allLca_of_finite c S base hsf o hsf [] (annUn S base o [] o).data.lcaSet k.2
    adm (eq_of_beq hroot) hfin
  exact ⟨hall, by simp [labelingCost, hl]⟩

/-- `usreconcile_base_uspfs` returns something; every returned solution has labelling cost 0 and
    costs what the LCA reconciliation costs.  No coherence needed. -/
theorem C10_single_family_unordered_base (hsf : ∀ g ∈ leafSyntenies o, g = [f])
    (hb : S.isBinary = true) (hS : ∀ p ∈ leafSpecies o, S.isNode p = true) :
    uspfs c S true o ≠ [] ∧
    ∀ b ∈ uspfs c S true o,
      labelingCost c .unordered b = some 0 ∧
      totalCost c .unordered o b = recCost c o (lcaSol o) := by
  have hB := C03.uspfs_exact c S true o hb hS
  rw [← singleFam_iff] at hsf
  obtain ⟨hcostT, hfinT⟩ := labCost_annP_lca c S o hS
  have hsim := sim_annUn_annP c S true (al := fun o' => [(lcaSol o').sp]) (fun _ _ => Iff.rfl)
    hsf o hsf []
  constructor
  · obtain ⟨adm', e⟩ := hsim.2.transfer c _ ((adm_annP_lca o _).mpr rfl) (LSol.all_true _)
    exact hB.ne ((), _) ⟨by simp, adm', by simp, ne_of_eq_of_ne (e.trans hcostT) hfinT⟩
  · intro b hb'
    obtain ⟨k, hk, rfl⟩ := hB.dec b hb'
    obtain ⟨hall, hl⟩ := unCand_single c S o f true hsf hk
    obtain ⟨adm', e⟩ := hsim.1.transfer c k.2 hk.2.1 hall
    exact ⟨hl, (hB.faithful _ hk).trans
      (e.symm.trans (by rw [(adm_annP_lca o _).mp adm', hcostT]))⟩

/-- `superdtl` returns something; every returned solution has labelling cost 0 and the evaluated
    cost of every solution returned by `reconcile_thl` (the plain DTL optimum). -/
theorem C10_single_family_unordered (hsf : ∀ g ∈ leafSyntenies o, g = [f])
    (hb : S.isBinary = true) (hS : ∀ p ∈ leafSpecies o, S.isNode p = true)
    (hcoh : c.spe + 2 * c.sloss ≤ c.dup + 2 * c.floss) :
    uspfs c S false o ≠ [] ∧
    ∀ a ∈ uspfs c S false o,
      labelingCost c .unordered a = some 0 ∧
      ∀ t ∈ thl c S o, totalCost c .unordered o a = totalCost c .plain o t := by
  have hU := C03.uspfs_exact c S false o hb hS
  have hT := thl_exact c S o hb hS
  rw [← singleFam_iff] at hsf
  have hsim := sim_annUn_annP c S false (al := fun _ => allSpecies S)
    (fun _ _ => List.mem_reverse) hsf o hsf []
  rw [← annPlain_eq] at hsim
  have le1 := hU.le hT (fun k => ((), k.2.map fun _ => .lca)) (by
    rintro k ⟨_, adm, _, hfin⟩
    obtain ⟨adm', e⟩ := hsim.2.transfer c k.2 adm k.2.all_true
    exact ⟨⟨by simp, adm', by simp, e.symm ▸ hfin⟩, le_of_eq e⟩)
  have le2 := hT.le hU (fun k => ((), k.2.map fun _ => ())) (by
    intro k hk
    obtain ⟨adm', e⟩ := hsim.1.transfer c k.2 hk.2.1 (unCand_single c S o f false hsf hk).1
    exact ⟨⟨by simp, adm', rfl, e.symm ▸ hk.2.2.2⟩, le_of_eq e⟩)
  refine ⟨le1.2 (C01.C01_thl_total c S o hb hS), fun a ha => ⟨?_, fun t ht =>
    Cost.le_antisymm (le1.1 (by omega) a ha t ht) (le2.1 (by omega) t ht a ha)⟩⟩
  obtain ⟨k, hk, rfl⟩ := hU.dec a ha
  exact (unCand_single c S o f false hsf hk).2

/-- The single-family clause of C10: when every leaf carries the same single family,
    (1) the plain DTL, extended ordered and extended unordered solvers all return
    something, every labelling cost is 0, and all returned solutions of the three
    solvers have the same evaluated cost (ordered = unordered = plain optimum);
    (2) both base variants return something and every solution they return costs exactly
    the LCA reconciliation cost. -/
theorem C10_single_family (hsf : ∀ g ∈ leafSyntenies o, g = [f])
    (hb : S.isBinary = true) (hS : ∀ p ∈ leafSpecies o, S.isNode p = true)
    (hcoh : c.spe + 2 * c.sloss ≤ c.dup + 2 * c.floss) :
    (thl c S o ≠ [] ∧ spfs c S false o none ≠ [] ∧ uspfs c S false o ≠ [] ∧
      spfs c S true o none ≠ [] ∧ uspfs c S true o ≠ []) ∧
    (∀ t ∈ thl c S o,
      (∀ a ∈ spfs c S false o none, labelingCost c .ordered a = some 0 ∧
        totalCost c .ordered o a = totalCost c .plain o t) ∧
      (∀ u ∈ uspfs c S false o, labelingCost c .unordered u = some 0 ∧
        totalCost c .unordered o u = totalCost c .plain o t)) ∧
    (∀ b ∈ spfs c S true o none, totalCost c .ordered o b = recCost c o (lcaSol o)) ∧
    (∀ b ∈ uspfs c S true o, totalCost c .unordered o b = recCost c o (lcaSol o)) := by
  have ho := C10_single_family_ordered c S o f hsf hb hS hcoh
  have hu := C10_single_family_unordered c S o f hsf hb hS hcoh
  have hob := C10_single_family_ordered_base c S o f hsf hb hS
  have hub := C10_single_family_unordered_base c S o f hsf hb hS
  refine ⟨⟨C01.C01_thl_total c S o hb hS, ho.1, hu.1, hob.1, hub.1⟩, ?_, ?_, ?_⟩
  · intro t ht
    exact ⟨fun a ha => ⟨(ho.2 a ha).1, (ho.2 a ha).2 t ht⟩,
      fun u hu' => ⟨(hu.2 u hu').1, (hu.2 u hu').2 t ht⟩⟩
  · exact fun b hb' => (hob.2 b hb').2
  · exact fun b hb' => (hub.2 b hb').2

example :
    let c : Costs := { spe := 0, dup := 5, hgt := .fin 1, floss := 5, sloss := 1 }
    let S : RTree := .node [.node [.node [], .node []], .node []]
    let o : OTree := .node (.node (.leaf [0, 0] [7]) (.leaf [1] [7])) (.leaf [0, 1] [7])
    S.isBinary = true ∧ (∀ p ∈ leafSpecies o, S.isNode p = true) ∧
    (∀ g ∈ leafSyntenies o, g = [7]) ∧ c.spe + 2 * c.sloss ≤ c.dup + 2 * c.floss ∧
    (uspfs c S false o).map (totalCost c .unordered o) = [.fin 1] ∧
    (thl c S o).map (totalCost c .plain o) = [.fin 1] ∧
    (uspfs c S true o).map (totalCost c .unordered o) = [.fin 20] ∧
    recCost c o (lcaSol o) = .fin 20 := by
  decide +kernel

end SR.C10
