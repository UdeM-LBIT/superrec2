/-
  C05, policy ANY, unordered solvers: `C05_any_mem_uspfs_statement` without hypothesis.

  `Properties/C05Any.lean` proves `any ∈ all` for `uspfs` conditionally on the bridge
  `C03_kinds_faithful_statement` (the DP's per-kind edge charges equal the evaluator's subset
  tests on the materialised contents).  The bridge is `C03.C03_kinds_faithful`
  (`Properties/C03Kinds.lean`), so the statement holds unconditionally.
-/
import SRVerif.Properties.C05Any
import SRVerif.Properties.C03Kinds

namespace SR.C05

open SR

/-- ANY returns a member of the ALL result, unordered solvers (base and extended), for every
    selection rule `P` (every offering order), inside `spe + sloss ≤ dup + 2·floss`. -/
theorem C05_any_mem_uspfs : C05_any_mem_uspfs_statement :=
  C05_any_mem_uspfs_of_bridge C03.C03_kinds_faithful

/-- … and therefore has the cost of every ALL solution. -/
theorem C05_any_same_cost_uspfs (P : Picker Kind) (hP : P.Ok) (c : Costs) (S : RTree) (base : Bool)
    (o : OTree) (hb : S.isBinary = true) (hS : ∀ p ∈ leafSpecies o, S.isNode p = true)
    (hne : ∀ f ∈ leafSyntenies o, f ≠ []) (hcoh : c.spe + c.sloss ≤ c.dup + 2 * c.floss) :
    ∀ s ∈ uspfsAny P c S base o, ∀ s' ∈ uspfs c S base o,
      totalCost c .unordered o s = totalCost c .unordered o s' :=
  fun s h s' h' => C05_same_cost c .unordered o _ s s'
    (C05_any_mem_uspfs P hP c S base o hb hS hne hcoh s h) h'

end SR.C05
