/-
  C08 — Polytomies are resolved by exploring every binary refinement exactly
  once.

  Model: `SRVerif/Model/Binarize.lean` (`graft`, `arrange` = `arrange_leaves`,
  `binarize`, the outer loop `spfsMulti` / `uspfsMulti` of `_spfs` / `_uspfs`
  over `ReconciliationInput.binarize()`).  Specification:
  `SRVerif/Spec/Refine.lean` (`IsRefinement`, `KeepsAnn`, equality up to child
  order `BTree.Equiv` / `BinT.Equiv`, `dfact`, `refCount`).

  All theorems are for trees of any size and arity.  `t.WF` = every internal
  node has at least two children; distinctness of the leaves is assumed where
  "exactly once" is claimed (with repeated leaf ids two different
  arrangements can be the same tree).

  Here: the enumerator at one node (`arrange`), the `ignore` / topology-id mechanism of
  `graft`, the enumerator on a tree (`binarize`: soundness incl. names/colours, count, no
  refinement twice) and the outer loop of the solvers (the arg-min over the candidates of all
  pairs of refinements).  That every refinement is produced (`C08_binarize_complete_statement`)
  is proved in `Properties/C08Complete.lean`; that the solvers' result is the optimum over all
  refinements in the sense of the specification, in `Properties/C08Opt.lean` / `C08OptUn.lean`.
-/
import SRVerif.Proofs.BinarizeUniq
import SRVerif.Proofs.BinarizeOpt

namespace SR.C08

open SR SR.Bin

/-- `graft` yields one tree per node of the arrangement: `2n − 1` for `n` items. -/
theorem C08_graft_count {α : Type} (x : α) (t : BTree α) : (graft x t).length = 2 * t.size - 1 :=
  length_graft x t

example : (graft 9 (BTree.node (.item 1) (.node (.item 2) (.item 3)))).length = 5 := by decide

/-- Every graft contains exactly the old items and the new one. -/
theorem C08_graft_sound {α : Type} (x : α) (t g : BTree α) (h : g ∈ graft x t) :
    g.items.Perm (x :: t.items) :=
  (mem_graft.mp h).items_perm

/-- `arrange_leaves` on `k ≥ 1` items yields `(2k−3)‼` trees (1, 1, 3, 15, 105, …). -/
theorem C08_arrange_count {α : Type} (xs : List α) (hne : xs ≠ []) :
    (arrange xs).length = Spec.dfact (2 * xs.length - 3) :=
  length_arrange xs hne

example : (arrange [1, 2, 3, 4]).length = 15 ∧ Spec.dfact (2 * 4 - 3) = 15 := by decide
example : (arrange ([] : List Nat)) = [] := rfl

/-- Every arrangement is a binary tree (by type) whose items are exactly the given ones. -/
theorem C08_arrange_sound {α : Type} (xs : List α) (s : BTree α) (h : s ∈ arrange xs) :
    s.items.Perm xs :=
  items_arrange h

/-- For distinct items, every binary tree over exactly the items `xs` is equal
    up to child order to exactly one member of `arrange xs`: some member is
    equivalent to it, and no two members (at different positions of the list)
    are equivalent to each other. -/
theorem C08_arrange_complete_nodup {α : Type} (xs : List α) (hnd : xs.Nodup) :
    (∀ u : BTree α, u.items.Perm xs → ∃ s ∈ arrange xs, BTree.Equiv s u) ∧
    (arrange xs).Pairwise (fun s s' => ¬ BTree.Equiv s s') :=
  ⟨fun u hu => arrange_complete xs u hu, pairwise_arrange xs hnd⟩

theorem C08_arrange_exactly_one {α : Type} (xs : List α) (hnd : xs.Nodup) (u : BTree α)
    (hu : u.items.Perm xs) :
    ∃ s ∈ arrange xs, BTree.Equiv s u ∧ ∀ s' ∈ arrange xs, BTree.Equiv s' u → s' = s :=
  (arrange_exactlyOnce xs hnd).unique BTree.Equiv.symm BTree.Equiv.trans hu

example : BTree.Equiv (BTree.node (.node (.item 3) (.item 1)) (.item 2))
    (BTree.node (.item 2) (.node (.item 1) (.item 3))) :=
  .swap (.swap (.item 3) (.item 1)) (.item 2)

/-- The topology-id mechanism: `graft` run on the actual tree with the
    `ignore` set that `arrange_leaves` passes (the leaf sets of the items being
    arranged) produces exactly the item-level grafts — it stops at every item
    and at no node above two items — provided the items have pairwise disjoint
    leaf sets (distinct leaf names). -/
theorem C08_ignore_faithful (x : BinT) (S : BTree BinT)
    (hnd : (S.items.flatMap BinT.leaves).Nodup) :
    graftIgn (S.items.map BinT.leaves) x (subst S) = (graft x S).map subst :=
  graftIgn_subst x S (disjFam_of_nodup hnd) S (fun _ h => h) (disjFam_of_nodup hnd)

example : graftIgn [[1, 2], [3]] (.leaf 9) (.node none (.node (some 5) (.leaf 1) (.leaf 2)) (.leaf 3))
    = (graft (BinT.leaf 9) (BTree.node (.item (.node (some 5) (.leaf 1) (.leaf 2))) (.item (.leaf 3)))).map subst := by
  decide

/-- Every member of `binarize t` is a binary refinement of `t` that keeps the
    names and colours: it is binary, has the leaves of `t`, every internal
    node of `t` is found with the same clade and the same annotation, and no
    other node is annotated. -/
theorem C08_binarize_sound (t : NTree) (hwf : t.WF = true) (b : BinT) (hb : b ∈ binarize t) :
    Spec.IsRefinement b.toN t ∧ Spec.KeepsAnn b.toN t := by
  obtain ⟨h1, h2, h3⟩ := binarize_sound t hwf b hb
  refine ⟨⟨BinT.isBinary_toN b, ?_, ?_⟩, ?_, ?_⟩
  · rw [BinT.leaves_toN]; exact h1
  · intro c hc
    obtain ⟨c', hc', hp, _⟩ := h2 c hc
    exact ⟨c', by rw [BinT.inner_toN]; exact hc', hp⟩
  · intro c hc
    obtain ⟨c', hc', hp⟩ := h2 c hc
    exact ⟨c', by rw [BinT.inner_toN]; exact hc', hp⟩
  · intro c' hc' hne
    rw [BinT.inner_toN] at hc'
    exact h3 c' hc' hne

/-- The executable specification used by the harness (`c08_is_refinement`)
    is the propositional one. -/
theorem C08_spec_executable (b t : NTree) :
    (Spec.isRefinementB b t = true ↔ Spec.IsRefinement b t) ∧
    (Spec.keepsAnnB b t = true ↔ Spec.KeepsAnn b t) :=
  ⟨isRefinementB_iff b t, keepsAnnB_iff b t⟩

/-- The number of members is the product over the internal nodes of `(2k−3)‼`. -/
theorem C08_binarize_count (t : NTree) (hwf : t.WF = true) :
    (binarize t).length = Spec.refCount t :=
  length_binarize t hwf

/-- No refinement is produced twice: no two members of `binarize t` have the
    same topology up to child order. -/
theorem C08_binarize_nodup (t : NTree) (hwf : t.WF = true) (hnd : t.leaves.Nodup) :
    (binarize t).Pairwise (fun b b' => ¬ BinT.Equiv b b') :=
  binarize_pairwise t hwf hnd

/-- The tree of `tests/utils/test_trees.py::test_binarize`, `(((A,B),(C,D,E,F)P,G),H)`:
    15 · 3 = 45 refinements. -/
def exampleTree : NTree :=
  .node none [.node none [.node none [.leaf 0, .leaf 1],
    .node (some 4) [.leaf 2, .leaf 3, .leaf 4, .leaf 5], .leaf 6], .leaf 7]

example : exampleTree.WF = true ∧ exampleTree.leaves.Nodup ∧ (binarize exampleTree).length = 45 ∧
    Spec.refCount exampleTree = 45 := by decide +kernel

/-- The statement "every binary refinement is produced": every binary tree
    that refines `t` is, up to child order, a member of `binarize t`. -/
def C08_binarize_complete_statement : Prop :=
  ∀ (t : NTree), t.WF = true → t.leaves.Nodup →
    ∀ b : BinT, Spec.IsRefinement b.toN t → ∃ u ∈ binarize t, BinT.Equiv u b

/-- The statement for a single polytomy whose children are leaves (a star tree), where it
    is exactly the completeness of `arrange_leaves`.  The general case
    (`C08_binarize_complete`, `Properties/C08Complete.lean`) decomposes an arbitrary
    refinement along the clades of the children of the root. -/
theorem C08_binarize_complete_partial (a : Option Nat) (ids : List Nat)
    (b : BinT) (hb : b.leaves.Perm ids) :
    ∃ u ∈ binarize (.node a (ids.map NTree.leaf)), BinT.Equiv u b := by
  -- `b` as an arrangement of its own leaves
  let σ : BTree BinT := b.skel.map BinT.leaf
  have hσ : σ.items.Perm (ids.map BinT.leaf) := by
    show (b.skel.map BinT.leaf).items.Perm _
    rw [BTree.items_map, BinT.items_skel]; exact hb.map _
  obtain ⟨s, hs, he⟩ := arrange_complete (ids.map BinT.leaf) σ hσ
  refine ⟨(subst s).setAnn a, mem_binarize_node.mpr ⟨_, ?_, s, hs, rfl⟩, ?_⟩
  · rw [binarizeChildren_leaves]; simp
  · unfold BinT.Equiv
    rw [skel_subst_setAnn]
    have h := equiv_join_map BinT.skel he
    have hj : join (σ.map BinT.skel) = b.skel := by
      show join ((b.skel.map BinT.leaf).map BinT.skel) = b.skel
      have : ∀ t : BTree Nat, (t.map BinT.leaf).map BinT.skel = t.map BTree.item := by
        intro t
        induction t with
        | item i => rfl
        | node l r ihl ihr => simp [BTree.map, ihl, ihr]
      rw [this, join_map_item]
    rwa [hj] at h

example : ∃ u ∈ binarize (.node (some 1) [.leaf 0, .leaf 1, .leaf 2]),
    BinT.Equiv u (.node none (.node none (.leaf 2) (.leaf 0)) (.leaf 1)) :=
  C08_binarize_complete_partial (some 1) [0, 1, 2] _ (by decide)

/-- `sreconcile_extended_spfs` (`base = false`) / `sreconcile_base_spfs` on a
    multifurcating input return exactly the arg-minima of the evaluated cost
    over the candidates of all pairs (object refinement, species refinement),
    each once. -/
theorem C08_opt_spfs (c : Costs) (base : Bool) (tO tS : NTree) (data : LeafData)
    (pre : Option (List Nat)) :
    (∀ x : Out, x ∈ spfsMulti c base tO tS data pre ↔
      (x.oTree ∈ binarize tO ∧ x.sTree ∈ binarize tS ∧
        x.sol ∈ spfsCands c (shape x.sTree.toN) base (toOTree data x.sTree x.oTree) pre) ∧
      ∀ bO ∈ binarize tO, ∀ bS ∈ binarize tS,
        ∀ s ∈ spfsCands c (shape bS.toN) base (toOTree data bS bO) pre,
          Cost.le (x.cost c .ordered data) (totalCost c .ordered (toOTree data bS bO) s) = true) ∧
    (spfsMulti c base tO tS data pre).Nodup :=
  ⟨fun x => mem_rank_multi c .ordered tO tS data _ x, nodup_rankOuts _ _ _ _⟩

/-- The same for `usreconcile_extended_uspfs` / `usreconcile_base_uspfs`. -/
theorem C08_opt_uspfs (c : Costs) (base : Bool) (tO tS : NTree) (data : LeafData) :
    (∀ x : Out, x ∈ uspfsMulti c base tO tS data ↔
      (x.oTree ∈ binarize tO ∧ x.sTree ∈ binarize tS ∧
        x.sol ∈ uspfsCands c (shape x.sTree.toN) base (toOTree data x.sTree x.oTree)) ∧
      ∀ bO ∈ binarize tO, ∀ bS ∈ binarize tS,
        ∀ s ∈ uspfsCands c (shape bS.toN) base (toOTree data bS bO),
          Cost.le (x.cost c .unordered data) (totalCost c .unordered (toOTree data bS bO) s) = true) ∧
    (uspfsMulti c base tO tS data).Nodup :=
  ⟨fun x => mem_rank_multi c .unordered tO tS data _ x, nodup_rankOuts _ _ _ _⟩

/-- For any per-pair candidates `cands`, with `rankByCost … cands` as the binary solver. -/
theorem C08_opt_refers_of_cands {c : Costs} {mode : LabelMode} {tO tS : NTree} {data : LeafData}
    (cands : RTree → OTree → List Sol) (hO : tO.WF = true) (hS : tS.WF = true) :
    ∀ x ∈ rankOuts c mode data (multiCands tO tS data cands),
      (Spec.IsRefinement x.oTree.toN tO ∧ Spec.KeepsAnn x.oTree.toN tO) ∧
      (Spec.IsRefinement x.sTree.toN tS ∧ Spec.KeepsAnn x.sTree.toN tS) ∧
      x.sol ∈ rankByCost c mode (toOTree data x.sTree x.oTree)
        (cands (shape x.sTree.toN) (toOTree data x.sTree x.oTree)) ∧
      ∀ bO ∈ binarize tO, ∀ bS ∈ binarize tS,
        ∀ s ∈ rankByCost c mode (toOTree data bS bO) (cands (shape bS.toN) (toOTree data bS bO)),
          Cost.le (x.cost c mode data) (totalCost c mode (toOTree data bS bO) s) = true := by
  intro x hx
  obtain ⟨⟨h1, h2, _⟩, hmin⟩ := (mem_rank_multi c mode tO tS data cands x).mp hx
  refine ⟨C08_binarize_sound tO hO _ h1, C08_binarize_sound tS hS _ h2,
    sol_mem_rankByCost_of_mem_rank_multi hx, fun bO hbO bS hbS s hs => ?_⟩
  exact hmin bO hbO bS hbS s ((mem_rankByCost c mode _ _ s).mp hs).1

/-- Every returned solution refers to a pair of binary refinements that keep
    every clade, name and colour of the original trees, and it is one of the
    solutions the binary solver (`spfs` / `uspfs` of `Model/Solvers.lean`)
    returns for that refined input; its cost is at most the cost of whatever
    the binary solver returns for any other pair of refinements.  (That the
    binary solver's result is the optimum of a binary input is C02 / C03.) -/
theorem C08_opt_refers (c : Costs) (base : Bool) (tO tS : NTree) (data : LeafData)
    (pre : Option (List Nat)) (hO : tO.WF = true) (hS : tS.WF = true) :
    (∀ x ∈ spfsMulti c base tO tS data pre,
      (Spec.IsRefinement x.oTree.toN tO ∧ Spec.KeepsAnn x.oTree.toN tO) ∧
      (Spec.IsRefinement x.sTree.toN tS ∧ Spec.KeepsAnn x.sTree.toN tS) ∧
      x.sol ∈ spfs c (shape x.sTree.toN) base (toOTree data x.sTree x.oTree) pre ∧
      ∀ bO ∈ binarize tO, ∀ bS ∈ binarize tS,
        ∀ s ∈ spfs c (shape bS.toN) base (toOTree data bS bO) pre,
          Cost.le (x.cost c .ordered data) (totalCost c .ordered (toOTree data bS bO) s) = true) ∧
    (∀ x ∈ uspfsMulti c base tO tS data,
      (Spec.IsRefinement x.oTree.toN tO ∧ Spec.KeepsAnn x.oTree.toN tO) ∧
      (Spec.IsRefinement x.sTree.toN tS ∧ Spec.KeepsAnn x.sTree.toN tS) ∧
      x.sol ∈ uspfs c (shape x.sTree.toN) base (toOTree data x.sTree x.oTree) ∧
      ∀ bO ∈ binarize tO, ∀ bS ∈ binarize tS,
        ∀ s ∈ uspfs c (shape bS.toN) base (toOTree data bS bO),
          Cost.le (x.cost c .unordered data) (totalCost c .unordered (toOTree data bS bO) s) = true) :=
  ⟨C08_opt_refers_of_cands (fun S o => spfsCands c S base o pre) hO hS,
    C08_opt_refers_of_cands (fun S o => uspfsCands c S base o) hO hS⟩

end SR.C08
