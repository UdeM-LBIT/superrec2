/-
  C09 — Results do not depend on presentation and respond sanely to the costs.

  Renaming and re-running are identities in a model that has neither names
  nor state; they are decided by the correspondence (the implementation is run
  on renamed / reordered / repeated variants and each canonical result must be
  the single model result).  The statements below concern what the model can
  carry.
-/
import SRVerif.Proofs.Cost
import SRVerif.Spec.Opt

namespace SR.C09

open SR

/-- Scale every unit cost by `k`. -/
def Costs.scale (k : Nat) (c : Costs) : Costs :=
  { spe := k * c.spe, dup := k * c.dup, hgt := Cost.scale k c.hgt, floss := k * c.floss,
    sloss := k * c.sloss }

/-- The scaling clause at the level of the specification's optimum: scaling by `k > 0`
    scales the optimum and keeps the optimal set.  (`C09_mono_statement`: raising unit costs
    never lowers the optimum.) -/
def C09_scale_statement : Prop :=
  ∀ (c : Costs) (S : RTree) (mode : LabelMode) (o : OTree) (k : Nat), 0 < k →
    (Spec.optimum (Costs.scale k c) S mode false true o none).1
        = Cost.scale k (Spec.optimum c S mode false true o none).1 ∧
    ∀ s, s ∈ (Spec.optimum (Costs.scale k c) S mode false true o none).2 ↔
         s ∈ (Spec.optimum c S mode false true o none).2

def C09_mono_statement : Prop :=
  ∀ (c c' : Costs) (S : RTree) (mode : LabelMode) (o : OTree),
    c.spe ≤ c'.spe → c.dup ≤ c'.dup → Cost.le c.hgt c'.hgt = true → c.floss ≤ c'.floss →
    c.sloss ≤ c'.sloss →
    Cost.le (Spec.optimum c S mode false false o none).1 (Spec.optimum c' S mode false false o none).1 = true

/-- The result entry is order-free: it depends only on the SET of candidates,
    not on the order in which traversals produce them. -/
theorem C09_rank_order_free (c : Costs) (mode : LabelMode) (o : OTree) (l l' : List Sol)
    (h : ∀ s, s ∈ l ↔ s ∈ l') (s : Sol) :
    s ∈ rankByCost c mode o l ↔ s ∈ rankByCost c mode o l' := by
  simp only [mem_rankByCost]
  constructor
  · rintro ⟨hs, hmin⟩
    exact ⟨(h s).mp hs, fun s' hs' => hmin s' ((h s').mpr hs')⟩
  · rintro ⟨hs, hmin⟩
    exact ⟨(h s).mpr hs, fun s' hs' => hmin s' ((h s').mp hs')⟩

example : C09_rank_order_free = C09_rank_order_free := rfl

end SR.C09
