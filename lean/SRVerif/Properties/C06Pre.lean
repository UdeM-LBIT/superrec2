/-
  C06 — the ordered clauses without the conjunct "the root is a permutation of the leaf families"
  of `Spec.validSol .ordered`, which excludes what the ordered solvers write for an input with a
  PRESCRIBED root order that strictly contains the leaf families (`Spec.validSolPre`, C02's
  prescribed-root clause), whose cost the command-line tool prints as well.  `C06_ord_anyroot`
  (`Properties/C06.lean`) holds for every solution with a valid species mapping, a duplicate-free root
  synteny of which every node's synteny is a subsequence, and non-empty leaf syntenies; `C06_total_pre`
  is the total-cost clause for the solutions valid under a prescribed root order.
-/
import SRVerif.Properties.C06
import SRVerif.Spec.ValidRoot

namespace SR.C06

open SR SR.EventLog

/-- The instance for a prescribed root order (`Spec.validSolPre`, C02's prescribed-root clause). -/
theorem C06_total_pre (c : Costs) (o : OTree) (r : List Nat) (sol : Sol)
    (h : Spec.validSolPre .ordered o (some r) sol = true) (hne : leafFamsNonempty o = true) :
    totalCost c .ordered o sol = recount c (eventLog .ordered sol) := by
  simp only [Spec.validSolPre, Bool.and_eq_true, beq_iff_eq] at h
  obtain ⟨⟨⟨hrec, hlab⟩, hfam⟩, hlen⟩ := h
  exact total_of_labelingCost c o sol hrec
    (C06_ord_anyroot c o sol hrec hlab (by rw [hfam]; exact (length_dedup_iff_nodup r).mp hlen) hne).1

/-! The root `[0,1,2,3,4]` strictly contains the leaf families `{1,3}`; the
    solution is NOT `Spec.validSol .ordered` (so `C06_total` does not apply) but is valid for
    the prescribed root, and its cost is the recount: one speciation + 2 + 2 lost runs. -/
def preO : OTree := .node (.leaf [0, 0] [1]) (.leaf [0, 1] [3])
def preSol : Sol := .node [0] [0, 1, 2, 3, 4] (.leaf [0, 0] [1]) (.leaf [0, 1] [3])
def preC : Costs := { spe := 1, dup := 2, hgt := .fin 3, floss := 5, sloss := 7 }

example : Spec.validSol .ordered preO preSol = false ∧
    Spec.validSolPre .ordered preO (some [0, 1, 2, 3, 4]) preSol = true ∧
    leafFamsNonempty preO = true := by decide +kernel
example : totalCost preC .ordered preO preSol = .fin (1 + 4 * 7) := by
  rw [C06_total_pre preC preO [0, 1, 2, 3, 4] preSol (by decide +kernel) (by decide +kernel)]
  decide +kernel

end SR.C06
