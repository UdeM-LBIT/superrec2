/-
  C06 — The cost evaluator implements the documented event model.

  Model: `SRVerif/Model/Rec.lean` (`internalEvent`/`nodeEvent` = `node_event`,
  `recCost` = `_cost_rec`, `labelingCost` = `_ordered_labeling_cost` /
  `_unordered_labeling_cost`, `totalCost` = `cost`).
  Specification: `SRVerif/Spec/EventLog.lean` — an explicit event log built by
  *walking* species paths and counting lost runs on synteny *sequences* / sets,
  with no distance, no LCA and no bitmask; `recount` sums the unit costs of the
  records.

  All statements are for arbitrary trees, arbitrary syntenies and arbitrary
  non-negative unit costs (the transfer cost possibly infinite); there is NO
  coherence hypothesis on the costs.  `Valid` is `EventLog.Valid`
  (`Proofs/EventLogLabel.lean`).
-/
import SRVerif.Proofs.EventLogLabel

namespace SR.C06

open SR SR.EventLog

/-! A running example (non-vacuity of the hypotheses).

Species tree `((A,B),C)`: `A = [0,0]`, `B = [0,1]`, `C = [1]`.  The object tree
has a speciation at its root, a duplication in `(A,B)` whose two copies both
end up in `A`, and a transfer from `C` to `B`. -/

def exO : OTree :=
  .node (.node (.leaf [0, 0] [1, 3]) (.leaf [0, 0] [2])) (.node (.leaf [1] [1]) (.leaf [0, 1] [2]))

def exSol : Sol :=
  .node [] [1, 2, 3]
    (.node [0] [1, 2, 3] (.leaf [0, 0] [1, 3]) (.leaf [0, 0] [2]))
    (.node [1] [1, 2] (.leaf [1] [1]) (.leaf [0, 1] [2]))

/-- An unordered labelling of the same reconciliation (family 3 is gained at
    the first leaf). -/
def exSolU : Sol :=
  .node [] [1, 2]
    (.node [0] [1, 2] (.leaf [0, 0] [1, 3]) (.leaf [0, 0] [2]))
    (.node [1] [1, 2] (.leaf [1] [1]) (.leaf [0, 1] [2]))

def exCosts : Costs := { spe := 5, dup := 3, hgt := .fin 7, floss := 2, sloss := 1 }
/-- An incoherent cost vector with an infinite transfer cost. -/
def exCostsInf : Costs := { spe := 9, dup := 0, hgt := .inf, floss := 0, sloss := 4 }

example : Spec.validSol .ordered exO exSol = true := by decide +kernel
example : Spec.validSol .plain exO exSol = true := by decide +kernel
example : leafFamsNonempty exO = true := by decide +kernel
example : kinds exSol = [.spec, .dup, .hgt] := by decide +kernel
example : recLog exSol
    = [.spec [], .dup [0], .floss [0], .floss [0], .hgt [1]] := by decide +kernel
example : nSloss (eventLog .ordered exSol) = 3 ∧ nSloss (eventLog .unordered exSol) = 3 := by
  decide +kernel

/-- `node_event` of an internal node is the first-principles classification of
    the specification, for every triple of species (valid or not): speciation
    iff the two children are reached from the node's species through two
    different child branches, duplication iff both are below-or-at it otherwise,
    transfer iff exactly one is below-or-at it and the other is not strictly
    above it, invalid otherwise. -/
theorem C06_event (s a b : Path) : internalEvent s a b = (classify s a b).toEvent :=
  internalEvent_eq_classify s a b

example : internalEvent [0] [0, 0] [0, 1] = .spec ∧ classify [0] [0, 0] [0, 1] = .spec := by
  decide +kernel
example : internalEvent [0] [0, 0, 1] [0, 0] = .dup ∧ classify [0] [0, 0, 1] [0, 0] = .dup := by
  decide +kernel
example : internalEvent [0] [1] [0] = .hgt ∧ classify [0] [1] [0] = .hgt := by decide +kernel
example : internalEvent [0] [] [0] = .invalid ∧ classify [0] [] [0] = .invalid := by decide +kernel

/-- For a valid reconciliation the reported event of every internal node (in
    pre-order) is the specification's, and none is invalid; the event reported
    at the root against the input tree is the first of them. -/
theorem C06_events (o : OTree) (sol : Sol) (h : Spec.validRec o sol = true) :
    internalEvents sol = (kinds sol).map Kind.toEvent ∧ (∀ k ∈ kinds sol, k ≠ .invalid) ∧
      (∀ ol or s f l r, o = .node ol or → sol = .node s f l r →
        nodeEvent o sol = (classify s l.sp r.sp).toEvent) := by
  refine ⟨internalEvents_eq sol, kinds_valid sol (allEvents_of_validRec o sol h), ?_⟩
  rintro ol or s f l r rfl rfl
  exact internalEvent_eq_classify s l.sp r.sp

example : Spec.validRec exO exSol = true ∧ internalEvents exSol = [.spec, .dup, .hgt] := by
  decide +kernel

/-- The leaf sentinel: a leaf reports `LEAF` exactly when it sits in its given
    species. -/
theorem C06_event_leaf (given s : Path) (f g : List Nat) :
    nodeEvent (.leaf given f) (.leaf s g) = (if s = given then .leaf else .invalid) := by
  simp [nodeEvent]

/-- The reconciliation cost of a valid reconciliation is the recount of the
    reconciliation part of the log: one unit cost per `spec`/`dup`/`hgt`
    record and one full-loss cost per species crossed by a vertical branch. -/
theorem C06_rec (c : Costs) (o : OTree) (sol : Sol) (h : Spec.validRec o sol = true) :
    recCost c o sol = recount c (recLog sol) :=
  recCost_eq_recount c o sol h

theorem segLosses_plain : ∀ t : Sol, segLosses .plain t = 0
  | .leaf _ _ => rfl
  | .node s f l r => by simp [segLosses, nodeLosses, segLosses_plain l, segLosses_plain r]

/-- The counts are read off the log; `hgt·0 = 0` even when the transfer cost is
    infinite. -/
theorem C06_rec_counts (c : Costs) (o : OTree) (sol : Sol) (h : Spec.validRec o sol = true) :
    recCost c o sol =
      .fin (c.spe * nSpec (recLog sol) + c.dup * nDup (recLog sol)
            + c.floss * nFloss (recLog sol))
        + times (nHgt (recLog sol)) c.hgt := by
  have hinv : nInvalid (recLog sol) = 0 :=
    nInvalid_eventLog .plain sol (allEvents_of_validRec o sol h)
  rw [C06_rec c o sol h, recount_eq_linearForm, linearForm_valid c _ hinv]
  rw [show nSloss (recLog sol) = 0 from (nSloss_eventLog .plain sol).trans (segLosses_plain sol)]
  simp

example : recCost exCosts exO exSol = .fin (5 * 1 + 3 * 1 + 2 * 2 + 7 * 1) := by
  rw [C06_rec_counts exCosts exO exSol (by decide +kernel)]; decide +kernel
example : recCost exCostsInf exO exSol = .inf := by
  rw [C06_rec_counts exCostsInf exO exSol (by decide +kernel)]; decide +kernel

/-- Ordered labelling cost = recount of the lost runs, for ANY duplicate-free root synteny
    (it may hold families that no leaf carries). -/
theorem C06_ord_anyroot (c : Costs) (o : OTree) (sol : Sol)
    (hrec : Spec.validRec o sol = true) (hlab : Spec.validOrdLabels o sol = true)
    (hnd : sol.fam.Nodup) (hne : leafFamsNonempty o = true) :
    labelingCost c .ordered sol = some (nSloss (eventLog .ordered sol) * c.sloss) ∧
      nSloss (eventLog .ordered sol) = segLosses .ordered sol := by
  have hwf := (ordWF_of_valid o sol hrec hlab hne).1
  have := ordLosses_eq sol.fam hnd sol hwf (List.Sublist.refl _)
  rw [SubseqProofs.mask_self] at this
  refine ⟨?_, nSloss_eventLog .ordered sol⟩
  simp [labelingCost, this, nSloss_eventLog]

/-- Ordered model: for a valid ordered labelling (every child synteny a
    subsequence of its parent's, duplicate-free root, non-empty leaf
    syntenies) the labelling cost is the segmental-loss cost times the number
    of `sloss` records, which are counted on the *sequences*: maximal runs of
    consecutive parent families absent from the child, runs at the ends not
    charged to the partial copy; the partial copy is the cheaper choice at a
    duplication and the transferred child at a transfer. -/
theorem C06_ord (c : Costs) (o : OTree) (sol : Sol) (h : Spec.validSol .ordered o sol = true)
    (hne : leafFamsNonempty o = true) :
    labelingCost c .ordered sol = some (nSloss (eventLog .ordered sol) * c.sloss) ∧
      nSloss (eventLog .ordered sol) = segLosses .ordered sol := by
  simp only [Spec.validSol, Bool.and_eq_true, beq_iff_eq] at h
  obtain ⟨hrec, ⟨hlab, _⟩, hlen⟩ := h
  exact C06_ord_anyroot c o sol hrec hlab ((length_dedup_iff_nodup sol.fam).mp hlen) hne

example : labelingCost exCosts .ordered exSol = some (3 * 1) := by
  rw [(C06_ord exCosts exO exSol (by decide +kernel) (by decide +kernel)).1]; decide +kernel

/-- Unordered model: the labelling cost is the segmental-loss cost times the
    number of `sloss` records: one per charged branch whose child lacks a family
    of the parent; speciation charges both branches, duplication the cheaper
    one, transfer the conserved child only.  (Only the validity of the species
    mapping is needed.) -/
theorem C06_unord (c : Costs) (o : OTree) (sol : Sol) (h : Spec.validRec o sol = true) :
    labelingCost c .unordered sol = some (nSloss (eventLog .unordered sol) * c.sloss) ∧
      nSloss (eventLog .unordered sol) = segLosses .unordered sol := by
  refine ⟨?_, nSloss_eventLog .unordered sol⟩
  simp [labelingCost, unordLosses_eq sol (allEvents_of_validRec o sol h), nSloss_eventLog]

example : labelingCost exCostsInf .unordered exSol = some (3 * 4) := by
  rw [(C06_unord exCostsInf exO exSol (by decide +kernel)).1]; decide +kernel

theorem total_of_labelingCost (c : Costs) {mode : LabelMode} (o : OTree) (sol : Sol)
    (hrec : Spec.validRec o sol = true)
    (h : labelingCost c mode sol = some (nSloss (eventLog mode sol) * c.sloss)) :
    totalCost c mode o sol = recount c (eventLog mode sol) := by
  rw [recount_eventLog, ← C06_rec c o sol hrec, ← nSloss_eventLog]
  unfold totalCost
  rw [h]

/-- The total cost of a valid solution — unlabelled, ordered or unordered — is
    the recount of its event log. -/
theorem C06_total (c : Costs) (mode : LabelMode) (o : OTree) (sol : Sol) (h : Valid mode o sol) :
    totalCost c mode o sol = recount c (eventLog mode sol) := by
  have hrec := validRec_of_valid h
  refine total_of_labelingCost c o sol hrec ?_
  cases mode with
  | plain => simp [labelingCost, nSloss_eventLog, segLosses_plain]
  | ordered => exact (C06_ord c o sol h.1 (h.2 rfl)).1
  | unordered => exact (C06_unord c o sol hrec).1

theorem C06_total_counts (c : Costs) (mode : LabelMode) (o : OTree) (sol : Sol)
    (h : Valid mode o sol) :
    totalCost c mode o sol =
      .fin (c.spe * nSpec (eventLog mode sol) + c.dup * nDup (eventLog mode sol)
            + c.floss * nFloss (eventLog mode sol) + c.sloss * nSloss (eventLog mode sol))
        + times (nHgt (eventLog mode sol)) c.hgt := by
  rw [C06_total c mode o sol h, recount_eq_linearForm,
    linearForm_valid c _
      (nInvalid_eventLog mode sol (allEvents_of_validRec o sol (validRec_of_valid h)))]

example : Valid .ordered exO exSol := ⟨by decide +kernel, fun _ => by decide +kernel⟩
example : Valid .plain exO exSol := ⟨by decide +kernel, fun h => by cases h⟩
example : Valid .unordered exO exSolU := ⟨by decide +kernel, fun h => by cases h⟩
example : totalCost exCostsInf .unordered exO exSolU = .inf := by
  rw [C06_total_counts exCostsInf .unordered exO exSolU ⟨by decide +kernel, fun h => by cases h⟩]
  decide +kernel
example : totalCost exCosts .unordered exO exSolU
    = .fin (5 * 1 + 3 * 1 + 2 * 2 + 1 * 2 + 7 * 1) := by
  rw [C06_total_counts exCosts .unordered exO exSolU ⟨by decide +kernel, fun h => by cases h⟩]
  decide +kernel

example : totalCost exCosts .ordered exO exSol = .fin (5 * 1 + 3 * 1 + 2 * 2 + 1 * 3 + 7 * 1) := by
  rw [C06_total_counts exCosts .ordered exO exSol ⟨by decide +kernel, fun _ => by decide +kernel⟩]
  decide +kernel

/-- Scaling every unit cost by `k` scales the cost of a fixed solution by `k`.  The hypothesis
    `Valid` is not used: the evaluator is homogeneous on every solution (`totalCost_scale`). -/
theorem C06_linear_scale (k : Nat) (c : Costs) (mode : LabelMode) (o : OTree) (sol : Sol)
    (h : Valid mode o sol) :
    totalCost (scaleCosts k c) mode o sol = Cost.scale k (totalCost c mode o sol) :=
  totalCost_scale k c mode o sol

/-- The cost of a fixed solution is monotone in every unit cost.  The hypothesis `Valid` is not
    used (`totalCost_mono`). -/
theorem C06_linear_mono (c d : Costs) (mode : LabelMode) (o : OTree) (sol : Sol)
    (h : Valid mode o sol) (hcd : leCosts c d) :
    Cost.le (totalCost c mode o sol) (totalCost d mode o sol) = true :=
  totalCost_mono hcd mode o sol

/-- The recount of any log is additive and homogeneous, and equals its linear
    form. -/
theorem C06_recount_linear (c : Costs) (log₁ log₂ : List Ev) (k : Nat) :
    recount c (log₁ ++ log₂) = recount c log₁ + recount c log₂ ∧
      recount (scaleCosts k c) log₁ = Cost.scale k (recount c log₁) ∧
      recount c log₁ = linearForm c log₁ :=
  ⟨recount_append c log₁ log₂, recount_scale k c log₁, recount_eq_linearForm c log₁⟩

example : leCosts exCosts { exCosts with hgt := .inf, floss := 3 } := by
  refine ⟨?_, ?_, ?_, ?_, ?_⟩ <;> decide +kernel

end SR.C06
