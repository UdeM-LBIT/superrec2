/-
  C12 (bridge) — the cost line of `reconcile`, for every solver, on what is written.

  A solution `s : Sol` is written as `embPlain` / `embSuper` of `Model/SolOutput.lean` (names from
  a `Naming`; with the colours of the input trees `embPlainC` / `embSuperC`), and `cost()` of what
  `from_dict` reads back is `evalPlain` / `evalSuper`: `decode` the parsed structure, then
  `totalCost` of `Model/Rec.lean`.  `EmbOk` says what the composition needs of such an embedding:
  on valid reconciliations the evaluated cost of the written object is the `totalCost` of the
  solution, and the object comes back from its dictionary with that cost (C11 round trip with the
  codec of `Model/Newick.lean`; its domain is reached under `Naming.Ok` of `Proofs/SolOutput.lean`
  and `Colouring.Ok` of `Proofs/SolOutputColour.lean`).  `C12_cost_line_core` of `C12Cli.lean` and
  the solver theorems (non-emptiness: C01, for `uspfs` C03; C04 validity; C05 ANY ∈ ALL) are
  composed once per solver for any such embedding (`EmbOk.cost_line_*`).  The statements speak of
  the dictionary handed to `json.dump`, for an arbitrary encoder `render`; `C12_cost_line_json`
  and `Properties/C12Json.lean` add the text.
-/
import SRVerif.Proofs.SolOutputColour
import SRVerif.Properties.C12Cli
import SRVerif.Properties.C11Newick
import SRVerif.Properties.C04Dp
import SRVerif.Properties.C03Canon
import SRVerif.Properties.C05AnyExh

namespace SR.C12

open SR SR.Ser SR.Cli SR.SolOut SR.C11

/-- The plain output built for a valid reconciliation is in the domain of the C11 round
    trip (`withSyn`: the input file had leaf syntenies, which `thl` ignores and keeps). -/
theorem C12_emb_wf_plain {nm : Naming} {S : RTree} {o : OTree} (c : Costs) (hnm : nm.Ok S o)
    (hS : ∀ p ∈ leafSpecies o, S.isNode p = true) (withSyn : Bool) {s : Sol}
    (hv : Spec.validRec o s = true) : (embPlain nm c S o withSyn s).WF :=
  embPlainC_blank nm c S o withSyn s ▸ embPlainC_wf c hnm (Colouring.blank_ok S o) hS withSyn hv

/-- The labelled output built for a valid reconciliation is in the domain of the C11 round
    trip, ordered or not, whatever the iteration order `arr` of the sets. -/
theorem C12_emb_wf_super {nm : Naming} {S : RTree} {o : OTree} (arr : List String → List String)
    (c : Costs) (hnm : nm.Ok S o) (hS : ∀ p ∈ leafSpecies o, S.isNode p = true) (ordered : Bool)
    {s : Sol} (hv : Spec.validRec o s = true) : (embSuper nm arr c S o ordered s).WF :=
  embSuperC_blank nm arr c S o ordered s ▸
    embSuperC_wf arr c hnm (Colouring.blank_ok S o) hS ordered hv

/-- The evaluated cost of the plain output built for a valid reconciliation is its `totalCost`
    (no hypothesis on the names: the evaluator works on paths). -/
theorem C12_emb_cost_plain (nm : Naming) (c : Costs) (S : RTree) {o : OTree} {s : Sol}
    (hv : Spec.validRec o s = true) (withSyn : Bool) :
    evalPlain (embPlain nm c S o withSyn s).input.base (embPlain nm c S o withSyn s).objectSpecies
      = totalCost c .plain o s :=
  evalPlain_emb nm c S hv withSyn

/-- The same for labelled outputs, when distinct families have distinct names. -/
theorem C12_emb_cost_super (nm : Naming) (hf : ∀ a b, nm.fname a = nm.fname b → a = b)
    (arr : List String → List String) (harr : ∀ l, (arr l).Perm l) (c : Costs) (S : RTree)
    {o : OTree} {s : Sol} (hv : Spec.validRec o s = true) (ordered : Bool) :
    evalSuper (embSuper nm arr c S o ordered s).input.base
        (embSuper nm arr c S o ordered s).objectSpecies
        (embSuper nm arr c S o ordered s).syntenies (embSuper nm arr c S o ordered s).ordered
      = totalCost c (if ordered then .ordered else .unordered) o s :=
  evalSuper_emb nm hf arr harr c S hv ordered

/-- The evaluator satisfies the hypothesis of `C11_same_evaluation`. -/
theorem C12_eval_set_invariant (i : RecInput) (m : TreeMapping) (s : SynMapping) (b : Bool) :
    evalSuper i m (normSyn s) b = evalSuper i m s b :=
  evalSuper_normSyn i m s b

/-- The evaluator is the evaluator of `Model/Rec.lean`: on any parsed structure that decodes
    (binary object tree, every node mapped, integer unit costs) it is `totalCost` of what was
    decoded; otherwise `inf`. -/
theorem C12_eval_is_totalCost (mode : LabelMode) (i : RecInput) (m : TreeMapping)
    (famAt : Path → List Nat) :
    (∀ c o t, decodeCosts i.costs = some c →
      decode i.leafObjectSpecies m famAt i.objectTree [] = some (o, t) →
      evalWith mode i m famAt = totalCost c mode o t) ∧
    (decodeCosts i.costs = none → evalWith mode i m famAt = .inf) ∧
    (decode i.leafObjectSpecies m famAt i.objectTree [] = none → evalWith mode i m famAt = .inf) := by
  refine ⟨fun c o t h1 h2 => by simp [evalWith, h1, h2], fun h => by simp [evalWith, h], fun h => ?_⟩
  unfold evalWith
  rw [h]
  cases decodeCosts i.costs <;> rfl

/-- The dictionary `d` is accepted by `ReconciliationOutput.from_dict` (with the Newick reader)
    and `cost()` of the object read is `k`. -/
def PlainDictBack (d : OutputDict) (k : Cost) : Prop :=
  ∃ y, RecOutput.fromDict newickRead d = .ok y ∧ evalPlain y.input.base y.objectSpecies = k

/-- Same for `SuperReconciliationOutput.from_dict`. -/
def SuperDictBack (d : OutputDict) (k : Cost) : Prop :=
  ∃ y, SRecOutput.fromDict newickRead d = .ok y ∧
    evalSuper y.input.base y.objectSpecies y.syntenies y.ordered = k

/-- The written plain object `x` comes back with evaluated cost `k`: the dictionary handed to
    `json.dump` (`to_dict` with the Newick writer) is read back as an object of cost `k`. -/
def PlainBack (x : RecOutput) (k : Cost) : Prop := PlainDictBack (x.toDict Newick.write) k

def SuperBack (x : SRecOutput) (k : Cost) : Prop := SuperDictBack (x.toDict Newick.write) k

/-- An empty result: status 1, nothing written, no cost line. -/
theorem C12_empty_run {ρ : Type} (algo : String) (w : Bool) (p : Option String) (cost : ρ → Cost)
    (enc : ρ → String) :
    (reconcileRun algo (.run w p) ([] : List ρ) cost enc).status = 1 ∧
    (reconcileRun algo (.run w p) ([] : List ρ) cost enc).stdout = "" ∧
    ∀ k, minCostText k ∉ (reconcileRun algo (.run w p) ([] : List ρ) cost enc).stderr := by
  have h := C12_status algo (.run w p) ([] : List ρ) cost enc (by simp)
  refine ⟨by simp [reconcileRun], by simp [reconcileRun], fun k hk => ?_⟩
  obtain ⟨_, hne⟩ := h.2.2.1.mp ⟨k, hk⟩
  exact hne rfl

/-- The kind of input object: `SuperReconciliationInput` iff the file has `leaf_syntenies`. -/
def kindOf (withSyn : Bool) : InputKind := if withSyn then .super else .plain

def spfsName (base : Bool) : String := if base then "base_spfs" else "ext_spfs"

def uspfsName (base : Bool) : String := if base then "base_uspfs" else "superdtl"

theorem dispatch_plain_kindOf {algo : String} {rest : List String}
    (he : (algo, "ReconciliationInput", rest) ∈ Gen.algorithms) {sol : String}
    (hs : sol ∈ Gen.solutionChoices) (withSyn : Bool) :
    dispatch algo (kindOf withSyn) sol
      = .run withSyn (if rest = [] then none else some (upper sol)) := by
  cases withSyn
  · exact (dispatch_plain_algo he hs).2
  · exact (dispatch_plain_algo he hs).1

theorem spfs_registered (base : Bool) :
    (spfsName base, "SuperReconciliationInput", ["RetentionPolicy"]) ∈ Gen.algorithms := by
  cases base
  · exact .tail _ (.tail _ (.tail _ (.tail _ (.head _))))
  · exact .tail _ (.tail _ (.tail _ (.head _)))

theorem uspfs_registered (base : Bool) :
    (uspfsName base, "SuperReconciliationInput", ["RetentionPolicy"]) ∈ Gen.algorithms := by
  cases base
  · exact .tail _ (.tail _ (.tail _ (.tail _ (.tail _ (.tail _ (.head _))))))
  · exact .tail _ (.tail _ (.tail _ (.tail _ (.tail _ (.head _)))))

/-- What the composition needs of the function `emb` that turns a solution into the written
    object, `cost` being the evaluator of written objects: on every valid reconciliation the
    evaluated cost of the object is the `totalCost` of the solution, and the object comes back
    with its own cost.  The four embeddings (`embPlain`, `embSuper`, with or without colours)
    are instances; the theorems of this section do not look inside them. -/
structure EmbOk {ρ : Type} (Back : ρ → Cost → Prop) (c : Costs) (mode : LabelMode) (o : OTree)
    (emb : Sol → ρ) (cost : ρ → Cost) : Prop where
  cost_eq : ∀ {s}, Spec.validRec o s = true → cost (emb s) = totalCost c mode o s
  back : ∀ {s}, Spec.validRec o s = true → Back (emb s) (cost (emb s))

/-- A well-formed plain object comes back with its own cost (C11 round trip). -/
theorem plainBack_of_wf {x : RecOutput} (h : x.WF) :
    PlainBack x (evalPlain x.input.base x.objectSpecies) :=
  ⟨_, (C11_roundtrip_newick_output h).1, rfl⟩

theorem superBack_of_wf {x : SRecOutput} (h : x.WF) :
    SuperBack x (evalSuper x.input.base x.objectSpecies x.syntenies x.ordered) :=
  C11_same_evaluation_newick evalSuper evalSuper_normSyn h

/-- The embeddings are faithful, whatever the colours of the input trees. -/
theorem embPlainC_ok {nm : Naming} {cl : Colouring} {S : RTree} {o : OTree} (c : Costs)
    (hnm : nm.Ok S o) (hcl : cl.Ok S o) (hS : ∀ p ∈ leafSpecies o, S.isNode p = true)
    (withSyn : Bool) :
    EmbOk PlainBack c .plain o (embPlainC nm cl c S o withSyn)
      (fun x => evalPlain x.input.base x.objectSpecies) :=
  ⟨fun hv => evalPlain_embC nm cl c S hv withSyn,
    fun hv => plainBack_of_wf (embPlainC_wf c hnm hcl hS withSyn hv)⟩

theorem embSuperC_ok {nm : Naming} {cl : Colouring} {S : RTree} {o : OTree}
    (arr : List String → List String) (harr : ∀ l, (arr l).Perm l) (c : Costs) (hnm : nm.Ok S o)
    (hcl : cl.Ok S o) (hS : ∀ p ∈ leafSpecies o, S.isNode p = true) (ordered : Bool) :
    EmbOk SuperBack c (if ordered then .ordered else .unordered) o
      (embSuperC nm cl arr c S o ordered)
      (fun x => evalSuper x.input.base x.objectSpecies x.syntenies x.ordered) :=
  ⟨fun hv => evalSuper_embC nm cl hnm.fInj arr harr c S hv ordered,
    fun hv => superBack_of_wf (embSuperC_wf arr c hnm hcl hS ordered hv)⟩

/-- The uncoloured embeddings are the blank colouring. -/
theorem embPlain_ok {nm : Naming} {S : RTree} {o : OTree} (c : Costs) (hnm : nm.Ok S o)
    (hS : ∀ p ∈ leafSpecies o, S.isNode p = true) (withSyn : Bool) :
    EmbOk PlainBack c .plain o (embPlain nm c S o withSyn)
      (fun x => evalPlain x.input.base x.objectSpecies) :=
  funext (embPlainC_blank nm c S o withSyn) ▸
    embPlainC_ok c hnm (Colouring.blank_ok S o) hS withSyn

theorem embSuper_ok {nm : Naming} {S : RTree} {o : OTree} (arr : List String → List String)
    (harr : ∀ l, (arr l).Perm l) (c : Costs) (hnm : nm.Ok S o)
    (hS : ∀ p ∈ leafSpecies o, S.isNode p = true) (ordered : Bool) :
    EmbOk SuperBack c (if ordered then .ordered else .unordered) o (embSuper nm arr c S o ordered)
      (fun x => evalSuper x.input.base x.objectSpecies x.syntenies x.ordered) :=
  funext (embSuperC_blank nm arr c S o ordered) ▸
    embSuperC_ok arr harr c hnm (Colouring.blank_ok S o) hS ordered

/-- The written dictionary determines the cost, for labelled outputs (`SRecOutput`, `SuperBack`):
    two valid reconciliations that a faithful embedding writes as the same dictionary have the
    same `totalCost` (both objects are read back from that dictionary, and the evaluator runs on
    what is read). -/
theorem EmbOk.written_determines_cost {c : Costs} {mode : LabelMode} {o : OTree}
    {emb : Sol → SRecOutput} {cost : SRecOutput → Cost} (hE : EmbOk SuperBack c mode o emb cost)
    {s s' : Sol} (hv : Spec.validRec o s = true) (hv' : Spec.validRec o s' = true)
    (h : (emb s).toDict Newick.write = (emb s').toDict Newick.write) :
    totalCost c mode o s = totalCost c mode o s' := by
  obtain ⟨y, hy, hc⟩ := hE.back hv
  obtain ⟨y', hy', hc'⟩ := hE.back hv'
  rw [h, hy'] at hy
  cases hy
  rw [← hE.cost_eq hv, ← hE.cost_eq hv', ← hc, ← hc']

section solvers

variable {ρ : Type} {Back : ρ → Cost → Prop} {c : Costs} {mode : LabelMode} {o : OTree}
  {emb : Sol → ρ} {cost : ρ → Cost}

theorem EmbOk.cost_line (hE : EmbOk Back c mode o emb cost) (cands results : List Sol)
    (hres : ∀ s ∈ results, s ∈ rankByCost c mode o cands)
    (hval : ∀ s ∈ results, Spec.validRec o s = true) (hne : results ≠ []) (enc : ρ → String)
    (algo : String) (w : Bool) (p : Option String) :
    CostLineOK Back c mode o (rankByCost c mode o cands) enc (results.map emb)
      (reconcileRun algo (.run w p) (results.map emb) cost enc) :=
  C12_cost_line_core Back c mode o cands results hres hne emb cost enc
    (fun s hs => hE.cost_eq (hval s hs)) (fun s hs => hE.back (hval s hs)) algo w p

/-- Both policies at once: the ALL result is an optimal set of valid reconciliations, not
    empty; under ANY the solver returns some non-empty part of it. -/
theorem EmbOk.cost_line_both (hE : EmbOk Back c mode o emb cost) (enc : ρ → String)
    (algo : String) {kind : InputKind} {w : Bool} {pAll pAny : Option String}
    (hall : dispatch algo kind "all" = .run w pAll) (hany : dispatch algo kind "any" = .run w pAny)
    (cands : List Sol) (hvalid : ∀ s ∈ rankByCost c mode o cands, Spec.validRec o s = true)
    (hne : rankByCost c mode o cands ≠ []) :
    CostLineOK Back c mode o (rankByCost c mode o cands) enc
      ((rankByCost c mode o cands).map emb)
      (reconcileRun algo (dispatch algo kind "all") ((rankByCost c mode o cands).map emb)
        cost enc) ∧
    ∀ any : List Sol, (∀ s ∈ any, s ∈ rankByCost c mode o cands) → any ≠ [] →
      CostLineOK Back c mode o (rankByCost c mode o cands) enc (any.map emb)
        (reconcileRun algo (dispatch algo kind "any") (any.map emb) cost enc) := by
  rw [hall, hany]
  exact ⟨hE.cost_line cands _ (fun _ h => h) hvalid hne enc algo w pAll, fun any hmem hne' =>
    hE.cost_line cands any hmem (fun s hs => hvalid s (hmem s hs)) hne' enc algo w pAny⟩

theorem EmbOk.cost_line_thl (hE : EmbOk Back c .plain o emb cost) (enc : ρ → String) {S : RTree}
    (hb : S.isBinary = true) (hS : ∀ p ∈ leafSpecies o, S.isNode p = true) (withSyn : Bool) :
    CostLineOK Back c .plain o (thl c S o) enc ((thl c S o).map emb)
      (reconcileRun "thl" (dispatch "thl" (kindOf withSyn) "all") ((thl c S o).map emb) cost enc) ∧
    ∀ (P : Picker Unit), P.Ok → c.spe ≤ c.dup + 2 * c.floss →
      CostLineOK Back c .plain o (thl c S o) enc ((thlAny P c S o).map emb)
        (reconcileRun "thl" (dispatch "thl" (kindOf withSyn) "any") ((thlAny P c S o).map emb)
          cost enc) := by
  have hvalid : ∀ s ∈ thl c S o, Spec.validRec o s = true := fun s hs => by
    have := (C04.C04_thl c S o s hs).1
    simp only [Spec.validSol, Bool.and_true] at this
    exact this
  obtain ⟨h1, h2⟩ := hE.cost_line_both enc "thl" (dispatch_plain_kindOf thl_registered all_choice withSyn)
    (dispatch_plain_kindOf thl_registered any_choice withSyn) _ hvalid (C01.C01_thl_total c S o hb hS)
  exact ⟨h1, fun P hP hcoh => h2 _ (C05.C05_any_mem_thl P hP c S o hb hS hcoh)
    (thlAny_ne_nil P hP c S o hb hS)⟩

theorem EmbOk.cost_line_exh (hE : EmbOk Back c .plain o emb cost) (enc : ρ → String)
    (withSyn : Bool) :
    CostLineOK Back c .plain o (exhaustive c o) enc ((exhaustive c o).map emb)
      (reconcileRun "exh" (dispatch "exh" (kindOf withSyn) "all") ((exhaustive c o).map emb)
        cost enc) ∧
    ∀ (pick : List Sol → Option Sol), PickOk pick →
      CostLineOK Back c .plain o (exhaustive c o) enc ((exhaustiveAny pick c o).map emb)
        (reconcileRun "exh" (dispatch "exh" (kindOf withSyn) "any")
          ((exhaustiveAny pick c o).map emb) cost enc) := by
  have hvalid : ∀ s ∈ exhaustive c o, Spec.validRec o s = true := fun s hs =>
    ((mem_generateAll o s).mp ((mem_rankByCost c .plain o _ s).mp hs).1).1
  have hne : exhaustive c o ≠ [] := C01.C01_exh_nonempty c o
  obtain ⟨h1, h2⟩ := hE.cost_line_both enc "exh" (dispatch_plain_kindOf exh_registered all_choice withSyn)
    (dispatch_plain_kindOf exh_registered any_choice withSyn) _ hvalid hne
  exact ⟨h1, fun pick hp => h2 _ (C05.C05_any_mem_exh pick c o hp)
    (fun e => hne ((C05.C05_any_empty_iff_exh pick c o hp).mp e))⟩

theorem EmbOk.cost_line_spfs (hE : EmbOk Back c .ordered o emb cost) (enc : ρ → String) {S : RTree}
    (hb : S.isBinary = true) (hS : ∀ p ∈ leafSpecies o, S.isNode p = true) (base : Bool)
    (pre : Option (List Nat)) :
    let all := spfs c S base o pre
    let runAll := reconcileRun (spfsName base) (dispatch (spfsName base) .super "all")
      (all.map emb) cost enc
    (all = [] → runAll.status = 1 ∧ runAll.stdout = "") ∧
    (all ≠ [] → CostLineOK Back c .ordered o all enc (all.map emb) runAll) ∧
    ∀ (P : Picker Nat), P.Ok → C02.OrdersOk o pre → c.spe + 2 * c.sloss ≤ c.dup + 2 * c.floss →
      let any := spfsAny P c S base o pre
      let runAny := reconcileRun (spfsName base) (dispatch (spfsName base) .super "any")
        (any.map emb) cost enc
      (any = [] ↔ all = []) ∧ (all = [] → runAny.status = 1 ∧ runAny.stdout = "") ∧
      (all ≠ [] → CostLineOK Back c .ordered o all enc (any.map emb) runAny) := by
  intro all runAll
  have hall := dispatch_super (spfs_registered base) all_choice
  have hany := dispatch_super (spfs_registered base) any_choice
  have hboth := hE.cost_line_both enc (spfsName base) hall hany _
    (C04.C04_rec_spfs c S base o pre : ∀ s ∈ all, Spec.validRec o s = true)
  have hempty := fun p => C12_empty_run (spfsName base) false p cost enc
  refine ⟨fun h => ?_, fun h => (hboth h).1, fun P hP hord hcoh => ?_⟩
  · simp only [runAll, h, hall, List.map_nil]
    exact ⟨(hempty _).1, (hempty _).2.1⟩
  · intro any runAny
    have hiff := C05.C05_any_empty_iff_spfs P hP c S base o pre
    refine ⟨hiff, fun h => ?_, fun h => (hboth h).2 any
      (C05.C05_any_mem_spfs P hP c S base o pre hord hb hS hcoh) (fun e => h (hiff.mp e))⟩
    simp only [runAny, any, hiff.mpr h, hany, List.map_nil]
    exact ⟨(hempty _).1, (hempty _).2.1⟩

theorem EmbOk.cost_line_uspfs (hE : EmbOk Back c .unordered o emb cost) (enc : ρ → String)
    {S : RTree} (hb : S.isBinary = true) (hS : ∀ p ∈ leafSpecies o, S.isNode p = true)
    (base : Bool) :
    let all := uspfs c S base o
    CostLineOK Back c .unordered o all enc (all.map emb)
      (reconcileRun (uspfsName base) (dispatch (uspfsName base) .super "all") (all.map emb)
        cost enc) ∧
    ∀ (P : Picker Kind), P.Ok → (∀ f ∈ leafSyntenies o, f ≠ []) →
      c.spe + c.sloss ≤ c.dup + 2 * c.floss →
      CostLineOK Back c .unordered o all enc ((uspfsAny P c S base o).map emb)
        (reconcileRun (uspfsName base) (dispatch (uspfsName base) .super "any")
          ((uspfsAny P c S base o).map emb) cost enc) := by
  intro all
  have hne : all ≠ [] := C03.C03_uspfs_total c S base o hb hS
  obtain ⟨h1, h2⟩ := hE.cost_line_both enc (uspfsName base)
    (dispatch_super (uspfs_registered base) all_choice)
    (dispatch_super (uspfs_registered base) any_choice) _
    (C04.C04_rec_uspfs c S base o : ∀ s ∈ all, Spec.validRec o s = true) hne
  exact ⟨h1, fun P hP hnef hcoh => h2 _ (C05.C05_any_mem_uspfs P hP c S base o hb hS hnef hcoh)
    (fun e => hne ((C05.C05_any_empty_iff_uspfs P hP c S base o).mp e))⟩

end solvers

theorem lcaSol_mem_rank (c : Costs) (o : OTree) : ∀ s ∈ [lcaSol o], s ∈ rankByCost c .plain o [lcaSol o] := by
  intro s hs
  rw [List.mem_singleton] at hs
  subst hs
  refine (mem_rankByCost c .plain o _ _).mpr ⟨by simp, fun s' hs' => ?_⟩
  rw [List.mem_singleton] at hs'
  subst hs'
  exact Cost.le_refl _

theorem EmbOk.cost_line_lca {ρ : Type} {Back : ρ → Cost → Prop} {c : Costs} {o : OTree}
    {emb : Sol → ρ} {cost : ρ → Cost} (hE : EmbOk Back c .plain o emb cost) (enc : ρ → String)
    (withSyn : Bool) (sol : String) (hsol : sol = "any" ∨ sol = "all") :
    CostLineOK Back c .plain o (rankByCost c .plain o [lcaSol o]) enc ([lcaSol o].map emb)
      (reconcileRun "lca" (dispatch "lca" (kindOf withSyn) sol) ([lcaSol o].map emb) cost enc) := by
  have hs : sol ∈ Gen.solutionChoices := by
    rcases hsol with rfl | rfl
    · exact any_choice
    · exact all_choice
  rw [dispatch_plain_kindOf lca_registered hs]
  exact hE.cost_line [lcaSol o] [lcaSol o] (lcaSol_mem_rank c o)
    (fun s hs => by rw [List.mem_singleton] at hs; subst hs; exact lcaSol_validRec o)
    (List.cons_ne_nil _ _) enc "lca" withSyn _

section

variable (render : OutputDict → String)

/-- Plain outputs: any results inside an optimal set, all valid reconciliations. -/
theorem C12_cost_line_sols_plain {nm : Naming} {S : RTree} {o : OTree} (c : Costs)
    (hnm : nm.Ok S o) (hS : ∀ p ∈ leafSpecies o, S.isNode p = true) (withSyn : Bool)
    (cands results : List Sol) (hres : ∀ s ∈ results, s ∈ rankByCost c .plain o cands)
    (hval : ∀ s ∈ results, Spec.validRec o s = true) (hne : results ≠ []) (algo : String)
    (w : Bool) (p : Option String) :
    CostLineOK PlainBack c .plain o (rankByCost c .plain o cands)
      (fun x : RecOutput => render (x.toDict Newick.write))
      (results.map (embPlain nm c S o withSyn))
      (reconcileRun algo (.run w p) (results.map (embPlain nm c S o withSyn))
        (fun x => evalPlain x.input.base x.objectSpecies)
        (fun x => render (x.toDict Newick.write))) :=
  (embPlain_ok c hnm hS withSyn).cost_line cands results hres hval hne _ algo w p

/-- `reconcile --algorithm thl`, both policies.  For every unit-cost
    vector, every binary species tree containing the leaf species, every injective safe naming,
    with or without `leaf_syntenies` in the file (`thl` ignores them; a warning is printed):
    under `--solutions all` the cost line is true of every written object; under
    `--solutions any`, for every offering order `P`, inside `spe ≤ dup + 2·floss`, the one
    object written also has the printed cost, which is the cost of every ALL solution. -/
theorem C12_cost_line_thl {nm : Naming} {S : RTree} {o : OTree} (c : Costs) (hnm : nm.Ok S o)
    (hb : S.isBinary = true) (hS : ∀ p ∈ leafSpecies o, S.isNode p = true) (withSyn : Bool) :
    let emb := embPlain nm c S o withSyn
    let cost := fun x : RecOutput => evalPlain x.input.base x.objectSpecies
    let enc := fun x : RecOutput => render (x.toDict Newick.write)
    CostLineOK PlainBack c .plain o (thl c S o) enc ((thl c S o).map emb)
      (reconcileRun "thl" (dispatch "thl" (kindOf withSyn) "all") ((thl c S o).map emb) cost enc) ∧
    ∀ (P : Picker Unit), P.Ok → c.spe ≤ c.dup + 2 * c.floss →
      CostLineOK PlainBack c .plain o (thl c S o) enc ((thlAny P c S o).map emb)
        (reconcileRun "thl" (dispatch "thl" (kindOf withSyn) "any") ((thlAny P c S o).map emb)
          cost enc) :=
  (embPlain_ok c hnm hS withSyn).cost_line_thl _ hb hS withSyn

/-- `reconcile --algorithm exh`, both policies, every unit-cost vector
    (no coherence hypothesis: the exhaustive solver ranks by the evaluated cost), every selection
    rule `pick` under `any`.  The species tree need not be binary. -/
theorem C12_cost_line_exh {nm : Naming} {S : RTree} {o : OTree} (c : Costs) (hnm : nm.Ok S o)
    (hS : ∀ p ∈ leafSpecies o, S.isNode p = true) (withSyn : Bool) :
    let emb := embPlain nm c S o withSyn
    let cost := fun x : RecOutput => evalPlain x.input.base x.objectSpecies
    let enc := fun x : RecOutput => render (x.toDict Newick.write)
    CostLineOK PlainBack c .plain o (exhaustive c o) enc ((exhaustive c o).map emb)
      (reconcileRun "exh" (dispatch "exh" (kindOf withSyn) "all") ((exhaustive c o).map emb)
        cost enc) ∧
    ∀ (pick : List Sol → Option Sol), PickOk pick →
      CostLineOK PlainBack c .plain o (exhaustive c o) enc
        ((exhaustiveAny pick c o).map emb)
        (reconcileRun "exh" (dispatch "exh" (kindOf withSyn) "any")
          ((exhaustiveAny pick c o).map emb) cost enc) :=
  (embPlain_ok c hnm hS withSyn).cost_line_exh _ withSyn

/-- The ordered solvers (`base_spfs`, `ext_spfs`), both policies,
    with or without a prescribed root order.  Under `--solutions all`, for every unit-cost
    vector: if the solver returns nothing (no gene order is compatible with the leaves:
    `C02_empty_iff`) the status is 1 and nothing is written; otherwise the cost line is true of
    every written object.  Under `--solutions any`, for every offering order, inside
    `spe + 2·sloss ≤ dup + 2·floss`, on inputs whose root orders are duplicate-free and contain
    the (non-empty) leaf syntenies (`C02.OrdersOk`; `C02_orders_ok`: always so without a
    prescribed order when the leaf syntenies are not empty): the same, and the printed cost is
    the cost of every ALL solution. -/
theorem C12_cost_line_spfs {nm : Naming} {S : RTree} {o : OTree} (c : Costs) (hnm : nm.Ok S o)
    (hb : S.isBinary = true) (hS : ∀ p ∈ leafSpecies o, S.isNode p = true) (base : Bool)
    (pre : Option (List Nat)) :
    let emb := embSuper nm id c S o true
    let cost := fun x : SRecOutput => evalSuper x.input.base x.objectSpecies x.syntenies x.ordered
    let enc := fun x : SRecOutput => render (x.toDict Newick.write)
    let all := spfs c S base o pre
    let runAll := reconcileRun (spfsName base) (dispatch (spfsName base) .super "all")
      (all.map emb) cost enc
    (all = [] → runAll.status = 1 ∧ runAll.stdout = "") ∧
    (all ≠ [] → CostLineOK SuperBack c .ordered o all enc (all.map emb) runAll) ∧
    ∀ (P : Picker Nat), P.Ok → C02.OrdersOk o pre → c.spe + 2 * c.sloss ≤ c.dup + 2 * c.floss →
      let any := spfsAny P c S base o pre
      let runAny := reconcileRun (spfsName base) (dispatch (spfsName base) .super "any")
        (any.map emb) cost enc
      (any = [] ↔ all = []) ∧ (all = [] → runAny.status = 1 ∧ runAny.stdout = "") ∧
      (all ≠ [] → CostLineOK SuperBack c .ordered o all enc (any.map emb) runAny) :=
  (embSuper_ok id (fun _ => List.Perm.refl _) c hnm hS true).cost_line_spfs _ hb hS base pre

/-- The unordered solvers (`base_uspfs`, `superdtl`), both policies;
    the syntenies are written as SETS, in any iteration order `arr`.  Under `--solutions all`,
    for every unit-cost vector, the cost line is true of every written object (the result is
    never empty).  Under `--solutions any`, for every offering order, inside
    `spe + sloss ≤ dup + 2·floss`, with non-empty leaf syntenies: the same, and the printed
    cost is the cost of every ALL solution. -/
theorem C12_cost_line_uspfs {nm : Naming} {S : RTree} {o : OTree}
    (arr : List String → List String) (harr : ∀ l, (arr l).Perm l) (c : Costs) (hnm : nm.Ok S o)
    (hb : S.isBinary = true) (hS : ∀ p ∈ leafSpecies o, S.isNode p = true) (base : Bool) :
    let emb := embSuper nm arr c S o false
    let cost := fun x : SRecOutput => evalSuper x.input.base x.objectSpecies x.syntenies x.ordered
    let enc := fun x : SRecOutput => render (x.toDict Newick.write)
    let all := uspfs c S base o
    CostLineOK SuperBack c .unordered o all enc (all.map emb)
      (reconcileRun (uspfsName base) (dispatch (uspfsName base) .super "all") (all.map emb)
        cost enc) ∧
    ∀ (P : Picker Kind), P.Ok → (∀ f ∈ leafSyntenies o, f ≠ []) →
      c.spe + c.sloss ≤ c.dup + 2 * c.floss →
      CostLineOK SuperBack c .unordered o all enc ((uspfsAny P c S base o).map emb)
        (reconcileRun (uspfsName base) (dispatch (uspfsName base) .super "any")
          ((uspfsAny P c S base o).map emb) cost enc) :=
  (embSuper_ok arr harr c hnm hS false).cost_line_uspfs _ hb hS base

end

/-- `reconcile --algorithm lca`, either `--solutions` value (the policy is not passed to `lca`):
    status 0, the printed cost is the `totalCost` of the LCA reconciliation, one line, and the
    written object comes back with that cost.  No optimality claim: `lca` prints the cost of ITS
    result. -/
theorem C12_cost_line_lca (render : OutputDict → String) {nm : Naming} {S : RTree} {o : OTree}
    (c : Costs) (hnm : nm.Ok S o) (hS : ∀ p ∈ leafSpecies o, S.isNode p = true) (withSyn : Bool)
    (sol : String) (hsol : sol = "any" ∨ sol = "all") :
    let emb := embPlain nm c S o withSyn
    let cost := fun x : RecOutput => evalPlain x.input.base x.objectSpecies
    let enc := fun x : RecOutput => render (x.toDict Newick.write)
    CostLineOK PlainBack c .plain o (rankByCost c .plain o [lcaSol o]) enc ([lcaSol o].map emb)
      (reconcileRun "lca" (dispatch "lca" (kindOf withSyn) sol) ([lcaSol o].map emb) cost enc) :=
  (embPlain_ok c hnm hS withSyn).cost_line_lca _ withSyn sol hsol

/-- From dictionaries to lines.  If `json.loads (json.dumps d) = d`
    (the only hypothesis about JSON; `toD` is `to_dict`), the conclusion of every cost-line theorem
    above holds of the written LINES: each line parses to a dictionary that `from_dict` reads
    back as an object of evaluated cost `k`. -/
theorem C12_cost_line_json {ρ : Type} (toD : ρ → OutputDict) (render : OutputDict → String)
    (parse : String → Option OutputDict) (hjson : ∀ d, parse (render d) = some d)
    (DictBack : OutputDict → Cost → Prop) (c : Costs) (mode : LabelMode) (o : OTree)
    (opt : List Sol) (outs : List ρ) (run : RunOut)
    (h : CostLineOK (fun x k => DictBack (toD x) k) c mode o opt (fun x => render (toD x)) outs run) :
    ∃ k : Cost, run.status = 0 ∧ run.stderr.getLast? = some (minCostText k) ∧
      (∀ s ∈ opt, totalCost c mode o s = k) ∧
      run.stdout = dumpResults (fun x => render (toD x)) outs ∧
      ∀ ℓ ∈ outs.map (fun x => render (toD x)), ∃ d, parse ℓ = some d ∧ DictBack d k := by
  obtain ⟨k, h1, h2, h3, h4, h5⟩ := h
  refine ⟨k, h1, h2, h3, h4, fun ℓ hℓ => ?_⟩
  obtain ⟨x, hx, rfl⟩ := List.mem_map.mp hℓ
  exact ⟨toD x, hjson _, h5 x hx⟩

/-- The unordered solvers (`base_uspfs`, `superdtl`) under `--solutions all`, the lines only
    (status and stderr are in `C12_cost_line_uspfs`): all returned solutions have one cost `k`, and
    every written line parses to a dictionary that `from_dict` reads back as an object of cost `k`. -/
theorem C12_cost_line_uspfs_json (render : OutputDict → String) (parse : String → Option OutputDict)
    (hjson : ∀ d, parse (render d) = some d) {nm : Naming} {S : RTree} {o : OTree}
    (arr : List String → List String) (harr : ∀ l, (arr l).Perm l) (c : Costs) (hnm : nm.Ok S o)
    (hb : S.isBinary = true) (hS : ∀ p ∈ leafSpecies o, S.isNode p = true) (base : Bool) :
    let enc := fun s => render ((embSuper nm arr c S o false s).toDict Newick.write)
    ∃ k : Cost, (∀ s ∈ uspfs c S base o, totalCost c .unordered o s = k) ∧
      ∀ ℓ ∈ (uspfs c S base o).map enc, ∃ d y, parse ℓ = some d ∧
        SRecOutput.fromDict newickRead d = .ok y ∧
        evalSuper y.input.base y.objectSpecies y.syntenies y.ordered = k := by
  intro enc
  obtain ⟨k, _, _, h3, _, h5⟩ := C12_cost_line_json (fun x : SRecOutput => x.toDict Newick.write)
    render parse hjson SuperDictBack c .unordered o _ _ _
    (C12_cost_line_uspfs render arr harr c hnm hb hS base).1
  refine ⟨k, h3, fun ℓ hℓ => ?_⟩
  obtain ⟨d, hd, y, hy, hc⟩ := h5 ℓ (by simpa [List.map_map, Function.comp_def, enc] using hℓ)
  exact ⟨d, y, hd, hy, hc⟩

/-- `thl`: every line written under `any` is written under `all` — same input file, same
    names, whatever they are, whatever the JSON encoder. -/
theorem C12_all_superset_any_thl (render : OutputDict → String) (nm : Naming) (c : Costs)
    (S : RTree) (o : OTree) (hb : S.isBinary = true) (hS : ∀ p ∈ leafSpecies o, S.isNode p = true)
    (withSyn : Bool) (P : Picker Unit) (hP : P.Ok) (hcoh : c.spe ≤ c.dup + 2 * c.floss) :
    let enc := fun s => render ((embPlain nm c S o withSyn s).toDict Newick.write)
    ∀ ℓ ∈ (thlAny P c S o).map enc, ℓ ∈ (thl c S o).map enc :=
  C12_lines_mono _ _ _ (C05.C05_any_mem_thl P hP c S o hb hS hcoh)

theorem C12_all_superset_any_spfs (render : OutputDict → String) (nm : Naming) (c : Costs)
    (S : RTree) (o : OTree) (hb : S.isBinary = true) (hS : ∀ p ∈ leafSpecies o, S.isNode p = true)
    (base : Bool) (pre : Option (List Nat)) (hord : C02.OrdersOk o pre) (P : Picker Nat)
    (hP : P.Ok) (hcoh : c.spe + 2 * c.sloss ≤ c.dup + 2 * c.floss) :
    let enc := fun s => render ((embSuper nm id c S o true s).toDict Newick.write)
    ∀ ℓ ∈ (spfsAny P c S base o pre).map enc, ℓ ∈ (spfs c S base o pre).map enc :=
  C12_lines_mono _ _ _ (C05.C05_any_mem_spfs P hP c S base o pre hord hb hS hcoh)

theorem C12_all_superset_any_uspfs (render : OutputDict → String) (nm : Naming)
    (arr : List String → List String) (c : Costs) (S : RTree) (o : OTree)
    (hb : S.isBinary = true) (hS : ∀ p ∈ leafSpecies o, S.isNode p = true) (base : Bool)
    (hne : ∀ f ∈ leafSyntenies o, f ≠ []) (P : Picker Kind) (hP : P.Ok)
    (hcoh : c.spe + c.sloss ≤ c.dup + 2 * c.floss) :
    let enc := fun s => render ((embSuper nm arr c S o false s).toDict Newick.write)
    ∀ ℓ ∈ (uspfsAny P c S base o).map enc, ℓ ∈ (uspfs c S base o).map enc :=
  C12_lines_mono _ _ _ (C05.C05_any_mem_uspfs P hP c S base o hb hS hne hcoh)

theorem C12_all_superset_any_exh (render : OutputDict → String) (nm : Naming) (c : Costs)
    (S : RTree) (o : OTree) (withSyn : Bool) (pick : List Sol → Option Sol) (hp : PickOk pick) :
    let enc := fun s => render ((embPlain nm c S o withSyn s).toDict Newick.write)
    ∀ ℓ ∈ (exhaustiveAny pick c o).map enc, ℓ ∈ (exhaustive c o).map enc :=
  C12_lines_mono _ _ _ (C05.C05_any_mem_exh pick c o hp)

/-- `lca` ignores the policy: both runs are the same run. -/
theorem C12_all_superset_any_lca {ρ : Type} (withSyn : Bool) (results : List ρ) (cost : ρ → Cost)
    (enc : ρ → String) :
    reconcileRun "lca" (dispatch "lca" (kindOf withSyn) "any") results cost enc
      = reconcileRun "lca" (dispatch "lca" (kindOf withSyn) "all") results cost enc := by
  rw [dispatch_plain_kindOf lca_registered any_choice, dispatch_plain_kindOf lca_registered all_choice,
    if_pos rfl, if_pos rfl]

theorem natToString_ne_inf (m : Nat) : toString m ≠ "inf" := by
  intro h
  have hi : 'i' ∈ (Nat.repr m).toList := by
    show 'i' ∈ (toString m).toList
    rw [h]; decide
  have hm : 'i' ∈ Nat.toDigits 10 m := by simpa [Nat.repr] using hi
  exact absurd (Nat.isDigit_of_mem_toDigits (b := 10) (by decide) (by decide) hm) (by decide)

/-- The printed line determines the cost: the `k` of `CostLineOK` / `TextLineOK` is the number
    that is printed, not merely some `k` with the same text. -/
theorem C12_minCostText_inj (a b : Cost) (h : minCostText a = minCostText b) : a = b := by
  have h' : showCost a = showCost b := (String.append_right_inj "Minimum cost: ").1 h
  cases a with
  | inf =>
    cases b with
    | inf => rfl
    | fin m => exact absurd h'.symm (natToString_ne_inf m)
  | fin n =>
    cases b with
    | inf => exact absurd h' (natToString_ne_inf n)
    | fin m => exact congrArg Cost.fin (Nat.repr_inj.mp h')

/-- The written dictionary determines the cost: under injective safe names, two solutions
    written as the same dictionary have the same `totalCost` (the species mapping and the
    synteny mapping are read back from the dictionary, and the evaluator runs on what is read). -/
theorem C12_written_determines_cost {nm : Naming} {S : RTree} {o : OTree}
    (arr : List String → List String) (harr : ∀ l, (arr l).Perm l) (c : Costs) (hnm : nm.Ok S o)
    (hS : ∀ p ∈ leafSpecies o, S.isNode p = true) (ordered : Bool) {s s' : Sol}
    (hv : Spec.validRec o s = true) (hv' : Spec.validRec o s' = true)
    (h : (embSuper nm arr c S o ordered s).toDict Newick.write
      = (embSuper nm arr c S o ordered s').toDict Newick.write) :
    totalCost c (if ordered then .ordered else .unordered) o s
      = totalCost c (if ordered then .ordered else .unordered) o s' :=
  (embSuper_ok arr harr c hnm hS ordered).written_determines_cost hv hv' h

/-- Names in the style of `harness/sr.py` (`default_sname`, `default_oname`, `fam_name`) on a
    two-species tree and a four-leaf object tree; families `g`, `gg`, `ggg`, …. -/
def exNaming : Naming :=
  { sname := fun p => if p = [] then "SR" else if p = [0] then "S0" else "S1"
    oname := fun p =>
      if p = [] then "OR" else if p = [0] then "O0" else if p = [0, 0] then "S0_00"
      else if p = [0, 1] then "O01" else if p = [0, 1, 0] then "S0_010"
      else if p = [0, 1, 1] then "S0_011" else "S1_1"
    fname := fun n => String.ofList (List.replicate (n + 1) 'g') }

def exCosts : Costs := { spe := 0, dup := 1, hgt := .fin 1, floss := 1, sloss := 1 }
def exS : RTree := .node [.node [], .node []]
def exO : OTree :=
  .node (.node (.leaf [0] [1, 2]) (.node (.leaf [0] [1]) (.leaf [0] [1]))) (.leaf [1] [1, 2])

theorem exNaming_ok : exNaming.Ok exS exO where
  sInj := by decide +kernel
  sSafe := by decide +kernel
  oInj := by decide +kernel
  oSafe := by decide +kernel
  fInj := by
    intro a b h
    have := congrArg (fun s : String => s.toList.length) h
    simpa [exNaming, String.toList_ofList] using this

/-- The guards of the three theorems hold of this input (binary species tree containing the
    leaf species, non-empty leaf syntenies, coherent costs), and the theorems apply. -/
example : exS.isBinary = true ∧ (∀ p ∈ leafSpecies exO, exS.isNode p = true) ∧
    (∀ f ∈ leafSyntenies exO, f ≠ []) ∧ exCosts.spe + 2 * exCosts.sloss ≤ exCosts.dup + 2 * exCosts.floss := by
  decide

/-- The solvers return something on it, and what the bridge says is computed: the evaluated
    cost of the embedded `thl` solution is its `totalCost` (2). -/
example :
    (thl exCosts exS exO).map (fun s =>
      evalPlain (embPlain exNaming exCosts exS exO true s).input.base
        (embPlain exNaming exCosts exS exO true s).objectSpecies) = [.fin 2] := by
  decide +kernel

example (render : OutputDict → String) :
    ∃ k, ∀ x ∈ (thl exCosts exS exO).map (embPlain exNaming exCosts exS exO true),
      PlainBack x k := by
  obtain ⟨k, _, _, _, _, h⟩ := (C12_cost_line_thl render exCosts exNaming_ok
    (by decide) (by decide) true).1
  exact ⟨k, h⟩

/-- `ext_spfs` with the code's own selection rule under `any`: the guards hold, so either nothing
    is returned under both policies or the single line written has the printed cost. -/
example (render : OutputDict → String) :
    spfs exCosts exS false exO none ≠ [] →
    ∃ k, ∀ x ∈ (spfsAny (Picker.first Nat) exCosts exS false exO none).map
        (embSuper exNaming id exCosts exS exO true), SuperBack x k := by
  intro hne
  obtain ⟨k, _, _, _, _, h⟩ := ((C12_cost_line_spfs render exCosts exNaming_ok
    (by decide) (by decide) false none).2.2 (Picker.first Nat) (Picker.first_ok Nat)
    (C02.C02_orders_ok exO (by decide)) (by decide)).2.2 hne
  exact ⟨k, h⟩

example (render : OutputDict → String) :
    ∃ k, ∀ x ∈ (uspfs exCosts exS false exO).map (embSuper exNaming id exCosts exS exO false),
      SuperBack x k := by
  obtain ⟨k, _, _, _, _, h⟩ := (C12_cost_line_uspfs render id
    (fun _ => List.Perm.refl _) exCosts exNaming_ok (by decide) (by decide) false).1
  exact ⟨k, h⟩

end SR.C12
