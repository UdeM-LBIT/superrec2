/-
  C04 for the unordered solvers (`uspfs`: `usreconcile_base_uspfs` / `usreconcile_extended_uspfs`), for
  all inputs and all cost vectors (`sloss = 0` included): a returned solution is the output of a
  candidate kind labelling, and the outputs of the candidates are the canonical solutions of finite
  cost (`C03.uspfsD_cand_iff`, Properties/C03Canon.lean).
-/
import SRVerif.Properties.C04
import SRVerif.Properties.C03Canon

namespace SR.C04

open SR Cost

theorem cand_of_mem_uspfs {c : Costs} {S : RTree} {base : Bool} {o : OTree} {sol : Sol}
    (h : sol ∈ uspfs c S base o) :
    ∃ k, (uspfsD c S base o).Cand c k ∧ (uspfsD c S base o).out k = sol :=
  (uspfsD c S base o).cand_of_mem_rank c S (un_slack c) (uspfs_eq c S base o ▸ h)

/-- **C04 for the unordered solvers** (`C04_unord_statement`, Properties/C04.lean), both variants:
    every returned solution is a valid reconciliation, satisfies `Spec.validUnLabels` — leaf sets
    are the input's (as sorted sets); every internal node holds only families whose gain node (LCA
    of the leaves carrying the family) is an ancestor-or-self of it (`Spec.allowedContent`); every
    family of a child is a family of its parent or is gained at the child
    (`Spec.edgeOk .unordered`) — and has finite evaluated cost. -/
theorem C04_unord : C04_unord_statement := fun c S base o sol h =>
  have ⟨hc, hf⟩ := (C03.uspfsD_cand_iff c S base o sol).mp (cand_of_mem_uspfs h)
  ⟨hc.1, hf⟩

theorem C04_unord_finite (c : Costs) (S : RTree) (base : Bool) (o : OTree) :
    ∀ sol ∈ uspfs c S base o, totalCost c .unordered o sol ≠ .inf := fun sol h =>
  (C04_unord c S base o sol h).2

/-- Every node of a labelled solution holds its required content. -/
def holdsRequired (whole : OTree) : Path → Sol → Prop
  | p, .leaf _ f => ∀ x ∈ Spec.requiredContent whole p, x ∈ f
  | p, .node _ f l r =>
    (∀ x ∈ Spec.requiredContent whole p, x ∈ f) ∧
      holdsRequired whole (p ++ [0]) l ∧ holdsRequired whole (p ++ [1]) r

theorem holdsRequired_decodeAt (whole : OTree) : ∀ (ls : LSol Kind) (p : Path) (anc : List Nat),
    (∀ x ∈ Spec.requiredContent whole p, x ∈ contentAt whole p anc ls.lab) →
    holdsRequired whole p (decodeAt whole p anc ls)
  | .leaf _ _, _, _, h => h
  | .node _ _ l r, _, _, h =>
    ⟨h, holdsRequired_decodeAt whole l _ _ (required_contentAt_child h 0 _),
      holdsRequired_decodeAt whole r _ _ (required_contentAt_child h 1 _)⟩

/-- Every node of a returned solution holds at least its required content (`Spec.requiredContent`:
    the families carried below it that are not gained strictly below it). -/
theorem C04_unord_required (c : Costs) (S : RTree) (base : Bool) (o : OTree) :
    ∀ sol ∈ uspfs c S base o, holdsRequired o [] sol := by
  intro sol h
  obtain ⟨k, ⟨_, adm, hr, _⟩, rfl⟩ := cand_of_mem_uspfs h
  show holdsRequired o [] (unSol _ _ k.2)
  rw [unSol_eq_decodeAt c S base o o [] _ k.2 (isSub_root o) adm]
  exact holdsRequired_decodeAt o k.2 [] _
    (by rw [eq_of_beq hr]; exact fun x hx => mem_contentAt_lca.mpr hx)

/-! Non-vacuity: an input with `sloss = 0` on which the extended solver returns two solutions, one of them with an
    INHERIT node holding `{1, 2}` above leaves holding `{1}`; the base solver returns
    solutions too. -/
example :
    let c : Costs := { spe := 0, dup := 1, hgt := .fin 1, floss := 1, sloss := 0 }
    let S : RTree := .node [.node [], .node []]
    let o : OTree :=
      .node (.node (.leaf [0] [1, 2]) (.node (.leaf [0] [1]) (.leaf [0] [1]))) (.leaf [1] [1, 2])
    (uspfs c S false o).length = 2 ∧ uspfs c S true o ≠ [] ∧
    (uspfs c S false o).any (fun sol => match sol with
      | .node _ _ (.node _ _ _ (.node _ f _ _)) _ => f == [1, 2] | _ => false) = true := by
  decide +kernel

/-- The specification is not trivially true: a labelling that places family 2 outside
    the subtree of its gain node is rejected. -/
example :
    let o : OTree := .node (.node (.leaf [0] [1, 2]) (.leaf [0] [1, 2])) (.leaf [1] [1])
    Spec.validUnLabels o [] o
      (.node [] [1, 2] (.node [0] [1, 2] (.leaf [0] [1, 2]) (.leaf [0] [1, 2])) (.leaf [1] [1])) = false ∧
    Spec.validUnLabels o [] o
      (.node [] [1] (.node [0] [1, 2] (.leaf [0] [1, 2]) (.leaf [0] [1, 2])) (.leaf [1] [1])) = true := by
  decide +kernel

end SR.C04
