/-
  C02 — Ordered super-reconciliation returns a minimum-cost labelled
  reconciliation.

  Models: `spfs c S base o prescribed` (`sreconcile_extended_spfs` for
  `base = false`, `sreconcile_base_spfs` for `base = true`), evaluator
  `totalCost … .ordered`.  Specification: `Spec.validSol .ordered`,
  `Spec.optimum … .ordered`.
-/
import SRVerif.Proofs.Cost
import SRVerif.Spec.Opt

namespace SR.C02

open SR

def leafSyns : OTree → List (List Nat)
  | .leaf _ f => [f]
  | .node l r => leafSyns l ++ leafSyns r

def leafSps : OTree → List Path
  | .leaf sp _ => [sp]
  | .node l r => leafSps l ++ leafSps r

/-- Full statement (both solvers: `base = false` extended, `base = true` LCA
    mapping), for well-formed inputs (binary species tree containing the leaf
    species, non-empty leaf syntenies) inside the coherent region: every
    returned solution is a valid ordered super-reconciliation and its cost is at
    most the optimum over all species mappings, root orders and labellings as
    computed by the specification oracle.  Proof: `C02_full` in
    `Properties/C02Spec.lean` (from `C02_spfs` of `Properties/C02Dp.lean`); the
    adequacy of the oracle itself (`Spec.optimum` ≤ every valid sequence-labelled
    solution) is in `Properties/C02Spec.lean` too. -/
def C02_statement : Prop :=
  ∀ (c : Costs) (S : RTree) (o : OTree) (base : Bool),
    S.isBinary = true → (∀ p ∈ leafSps o, S.isNode p = true) →
    (∀ f ∈ leafSyns o, f ≠ []) →
    c.spe + 2 * c.sloss ≤ c.dup + 2 * c.floss →
    ∀ sol ∈ spfs c S base o none,
      Spec.validSol .ordered o sol = true ∧
      Cost.le (totalCost c .ordered o sol) (Spec.optimum c S .ordered base false o none).1 = true

/-- The ranking step: the result is exactly the set of decoded table solutions (over
    all root orders) of minimum evaluated cost, each once. -/
theorem C02_rank_partial (c : Costs) (S : RTree) (base : Bool) (o : OTree) (pre : Option (List Nat)) :
    let decoded := (rootOrders o pre).flatMap fun order =>
      (spfsCellsFor c S base true o order).flatMap (fun d => d.sols.map (ordSol order))
    (∀ sol, sol ∈ spfs c S base o pre ↔
      sol ∈ decoded ∧
      ∀ sol' ∈ decoded, Cost.le (totalCost c .ordered o sol) (totalCost c .ordered o sol') = true)
    ∧ (spfs c S base o pre).Nodup :=
  ⟨fun sol => mem_rankByCost c .ordered o _ sol, nodup_rankByCost _ _ _ _⟩

/-- When no gene order is compatible with all leaves, the result is empty. -/
theorem C02_empty (c : Costs) (S : RTree) (base : Bool) (o : OTree)
    (h : rootOrders o none = []) : spfs c S base o none = [] := by
  simp [spfs, h, rankByCost, dedup]

/-! Non-vacuity: inconsistent leaf orders `ab` / `ba` admit no root order. -/
example :
    rootOrders (.node (.leaf [0] [0, 1]) (.leaf [1] [1, 0])) none = [] := by decide

end SR.C02
