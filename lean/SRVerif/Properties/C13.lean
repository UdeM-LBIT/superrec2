/-
  C13 — a diagram shows exactly the events the cost model counts.

  Model: `SRVerif/Model/Layout.lean` (`computeBranches` = `_compute_branches`
  with `_add_losses`; `render` = statement kinds of `_tikz_draw_branches`).
  Hypotheses, where the proof needs them: the reconciliation is valid (`Spec.validRec`) and all
  its species are nodes of the species tree (`inTree`).  Here: `_compute_branches` does not raise,
  every object node has its branch, every loss branch its place, a transfer branch points to the
  transferred child; the clauses on uniqueness, the loss count and the drawing are stated here
  (`C13_*_statement`) and proved in `Properties/C13Full.lean`, `Properties/C13Tikz.lean`.
-/
import SRVerif.Proofs.BranchesWire
import SRVerif.Spec.Opt

namespace SR.C13

open SR SR.Layout

/-- Every species used by the reconciliation is a node of the species tree. -/
def inTree (S : RTree) : Sol → Bool
  | .leaf s _ => S.isNode s
  | .node s _ l r => S.isNode s && inTree S l && inTree S r

/-- The evaluator's event at the root of a sub-solution (`node_event`; a leaf
    of a valid reconciliation is `LEAF`). -/
def solEvent : Sol → Event
  | .leaf _ _ => .leaf
  | .node s _ l r => internalEvent s l.sp r.sp

def kindOfEvent : Event → Option BKind
  | .leaf => some .leaf
  | .spec => some .spec
  | .dup => some .dup
  | .hgt => some .hgt
  | .invalid => none

theorem good_of_valid {S : RTree} : ∀ {o : OTree} {sol : Sol},
    Spec.validRec o sol = true → inTree S sol = true → Good S sol := by
  intro o sol
  induction sol generalizing o with
  | leaf s f =>
    intro _ hin p sub hsub
    cases p with
    | nil =>
      simp only [subAt, Option.some.injEq] at hsub
      subst hsub
      exact ⟨by simpa [inTree, Sol.sp] using hin, by intro sp f l r h; cases h⟩
    | cons i p => simp [subAt] at hsub
  | node s f l r ihl ihr =>
    intro hv hin p sub hsub
    cases o with
    | leaf g fo => simp [Spec.validRec] at hv
    | node ol or_ =>
      simp only [Spec.validRec, Bool.and_eq_true, bne_iff_ne, ne_eq] at hv
      simp only [inTree, Bool.and_eq_true] at hin
      cases p with
      | nil =>
        simp only [subAt, Option.some.injEq] at hsub
        subst hsub
        refine ⟨hin.1.1, ?_⟩
        intro sp f' l' r' h
        cases h
        exact hv.1.1
      | cons i p =>
        simp only [subAt] at hsub
        split at hsub
        · exact ihl hv.1.2 hin.1.2 p sub hsub
        · split at hsub
          · exact ihr hv.2 hin.2 p sub hsub
          · cases hsub

theorem nodeBranch_kind {p : Path} {sub : Sol} {b : Branch} (h : NodeBranch sub.sp p sub b) :
    some b.kind = kindOfEvent (solEvent sub) := by
  cases sub with
  | leaf s f => simp only [NodeBranch] at h; simp [solEvent, kindOfEvent, h]
  | node s f l r =>
    have h' : NodeBranch s p (.node s f l r) b := h
    simp only [NodeBranch] at h'
    simp only [solEvent]
    cases hE : internalEvent s l.sp r.sp with
    | leaf => simp only [hE] at h'
    | invalid => simp only [hE] at h'
    | spec => simp only [hE] at h'; simp [kindOfEvent, h']
    | dup => simp only [hE] at h'; simp [kindOfEvent, h']
    | hgt => simp only [hE] at h'; simp [kindOfEvent, h'.1]

/-- No `KeyError` in `_compute_branches`: on a valid
    reconciliation neither `state["anchor_nodes"].remove(...)` nor the state
    look-ups of `_add_losses` fail, and a state exists for every species. -/
theorem C13_no_keyerror (S : RTree) (o : OTree) (sol : Sol)
    (hv : Spec.validRec o sol = true) (hin : inTree S sol = true) :
    ∃ st, computeBranches S sol = .ok st ∧ skeys st = S.postorder := by
  obtain ⟨st, ok⟩ := computeBranches_succeeds (good_of_valid hv hin)
  exact ⟨st, ok, (computeBranches_plan ok).1⟩

/-- The node clause: exactly one event branch per object
    node (existence, uniqueness over all species), in the species it is mapped
    to, of the evaluator's kind; and nothing else is an event branch. -/
def C13_nodes_statement (S : RTree) (sol : Sol) (st : LState) : Prop :=
  (∀ p sub, subAt sol p = some sub →
    ∃ b, b ∈ brs st sub.sp ∧ b.key = .gene p ∧ some b.kind = kindOfEvent (solEvent sub)) ∧
  (∀ t b, b ∈ brs st t → b.kind ≠ .loss →
    ∃ p sub, subAt sol p = some sub ∧ sub.sp = t ∧ b.key = .gene p ∧
      some b.kind = kindOfEvent (solEvent sub)) ∧
  (S.postorder.flatMap fun t => keysOf (brs st t)).Nodup

/-- The two first conjuncts of `C13_nodes_statement` (`Nodup` of
    the keys over all species, i.e. that an object node has no SECOND branch, is
    `C13_keys_nodup` in `Properties/C13Full.lean`). -/
theorem C13_nodes_partial (S : RTree) (o : OTree) (sol : Sol) (st : LState)
    (hv : Spec.validRec o sol = true) (hin : inTree S sol = true)
    (hst : computeBranches S sol = .ok st) :
    (∀ p sub, subAt sol p = some sub →
      ∃ b, b ∈ brs st sub.sp ∧ b.key = .gene p ∧ some b.kind = kindOfEvent (solEvent sub)) ∧
    (∀ t b, b ∈ brs st t → b.kind ≠ .loss →
      ∃ p sub, subAt sol p = some sub ∧ sub.sp = t ∧ b.key = .gene p ∧
        some b.kind = kindOfEvent (solEvent sub)) := by
  have typ := computeBranches_typed hst
  have done : ∀ q subq, subAt sol q = some subq → .gene q ∈ keysOf (brs st subq.sp) :=
    fun _ _ hq => computeBranches_done (good_of_valid hv hin) hst hq
  have conv : ∀ t b, b ∈ brs st t → b.kind ≠ .loss →
      ∃ p sub, subAt sol p = some sub ∧ sub.sp = t ∧ b.key = .gene p ∧
        some b.kind = kindOfEvent (solEvent sub) := by
    intro t b hb hk
    obtain ⟨p, sub, hsub, h | ⟨_, ht, hkey, hnb⟩⟩ := typ t b hb
    · exact absurd h.1 hk
    · exact ⟨p, sub, hsub, ht.symm, hkey, nodeBranch_kind hnb⟩
  refine ⟨?_, conv⟩
  intro p sub hsub
  have hmem := done p sub hsub
  simp only [keysOf, List.mem_map] at hmem
  obtain ⟨b, hb, hkey⟩ := hmem
  obtain ⟨p', sub', hsub', h | ⟨_, _, hkey', hnb⟩⟩ := typ _ b hb
  · obtain ⟨_, i, a, _, hk, _⟩ := h
    rw [hk] at hkey; cases hkey
  · rw [hkey'] at hkey
    cases hkey
    rw [hsub] at hsub'; cases hsub'
    exact ⟨b, hb, hkey', nodeBranch_kind hnb⟩

def C13_losses_statement (S : RTree) (sol : Sol) (st : LState) : Prop :=
  (S.postorder.map fun t => ((brs st t).filter fun b => b.kind == .loss).length).sum
      = evalLossCount sol ∧
  (∀ t b, b ∈ brs st t → b.kind = .loss →
    ∃ q sp f l r i a, subAt sol q = some (.node sp f l r) ∧ childSp (.node sp f l r) i = some a ∧
      b.key = .loss (q ++ [i]) t ∧ t <+: a ∧ t ≠ a ∧ Path.isAnc sp t = true ∧
      (internalEvent sp l.sp r.sp = .spec → t ≠ sp))

/-- The location clause for losses: every `FULL_LOSS` pseudo-gene belongs to a child lineage
    `q ++ [i]` of an internal node `q` and sits in a species strictly above the child's species
    `a`, at or below the node's species `sp`, strictly below it for a speciation.  It holds of every
    successful run (the hypotheses `hv`, `hin` are not used); the COUNT `= evalLossCount sol` is
    `C13_losses` in `Properties/C13Full.lean`. -/
theorem C13_losses_partial (S : RTree) (o : OTree) (sol : Sol) (st : LState)
    (hv : Spec.validRec o sol = true) (hin : inTree S sol = true)
    (hst : computeBranches S sol = .ok st) :
    ∀ t b, b ∈ brs st t → b.kind = .loss →
      ∃ q sp f l r i a, subAt sol q = some (.node sp f l r) ∧
        childSp (.node sp f l r) i = some a ∧
        b.key = .loss (q ++ [i]) t ∧ t <+: a ∧ t ≠ a ∧ Path.isAnc sp t = true ∧
        (internalEvent sp l.sp r.sp = .spec → t ≠ sp) := by
  have typ := computeBranches_typed hst
  intro t b hb hk
  obtain ⟨p, sub, hsub, ⟨_, i, a, hc, hkey, h1, h2, h3, h4⟩ | ⟨h, _⟩⟩ := typ t b hb
  · cases sub with
    | leaf s f => simp [childSp] at hc
    | node sp f l r =>
      exact ⟨p, sp, f, l, r, i, a, hsub, hc, hkey, h1, h2, h3, fun hE => h4 sp f l r rfl hE⟩
  · exact absurd hk h

/-- A transfer node has a `HORIZONTAL_TRANSFER`
    branch in its species whose `right` is the transferred child (the one not
    below the node's species), and that child is an anchor of the species it
    is mapped to — `foreign_layout.anchors[right_gene]` finds it. -/
theorem C13_transfers (S : RTree) (o : OTree) (sol : Sol) (st : LState)
    (hv : Spec.validRec o sol = true) (hin : inTree S sol = true)
    (hst : computeBranches S sol = .ok st)
    (p : Path) (sp : Path) (f : List Nat) (l r : Sol)
    (hp : subAt sol p = some (.node sp f l r)) (hE : internalEvent sp l.sp r.sp = .hgt) :
    let keep := Path.isAnc sp l.sp
    let gf := if keep then p ++ [1] else p ++ [0]
    let sf := if keep then r.sp else l.sp
    ∃ b, b ∈ brs st sp ∧ b.key = .gene p ∧ b.kind = .hgt ∧ b.right = some (.gene gf) ∧
      Key.gene gf ∈ ancs st sf := by
  intro keep gf sf
  have hgood := good_of_valid hv hin
  obtain ⟨b, hb, hkey⟩ := List.mem_map.1 (computeBranches_done hgood hst hp)
  obtain ⟨p', sub', hsub', h | ⟨_, _, hkey', hnb⟩⟩ := computeBranches_typed hst _ b hb
  · obtain ⟨_, i, a, _, hk, _⟩ := h
    rw [hk] at hkey; cases hkey
  rw [hkey'] at hkey; cases hkey
  rw [hp] at hsub'; cases hsub'
  have h' : NodeBranch sp p (.node sp f l r) b := hnb
  simp only [NodeBranch, hE] at h'
  obtain ⟨hkind, k1, _, hside⟩ := h'
  obtain ⟨g, sub, hright, hsub, _, hanc⟩ := computeBranches_wiring_hgt hgood hst _ b hb hkind
  obtain ⟨hl, hr⟩ := subAt_child hp
  refine ⟨b, hb, hkey', hkind, ?_⟩
  rcases hside with ⟨hk, _, h⟩ | ⟨hk, _, h⟩
  · rw [h] at hright; cases hright
    rw [hr] at hsub; cases hsub
    have : keep = true := hk
    simp only [gf, sf, this, if_true]
    exact ⟨h, hanc⟩
  · rw [h] at hright; cases hright
    rw [hl] at hsub; cases hsub
    have : keep = false := hk
    simp only [gf, sf, this, Bool.false_eq_true, if_false]
    exact ⟨h, hanc⟩

/-- Statement kinds of the drawing (proved as `C13_tikz` in `Properties/C13Tikz.lean`):
    `tikz.render` succeeds and emits one event node per object node, one loss marker per `FULL_LOSS`
    branch and one transfer arrow per transfer, pointing to the transferred
    child. -/
def C13_tikz_statement (o : Orientation) (P : Params) (sizes : Key → Size) (S : RTree) (sol : Sol) :
    Prop :=
  ∃ ss, render o P sizes S sol = .ok ss ∧
    (∀ p sub, subAt sol p = some sub →
      (ss.filter fun x => match x with | .event k _ => k == Key.gene p | _ => false).length = 1) ∧
    (ss.filter fun x => match x with | .lossMarker _ => true | _ => false).length
      = evalLossCount sol ∧
    (∀ p sp f l r, subAt sol p = some (.node sp f l r) → internalEvent sp l.sp r.sp = .hgt →
      (ss.filter fun x => match x with
        | .transfer src tgt => src == Key.gene p &&
            tgt == Key.gene (if Path.isAnc sp l.sp then p ++ [1] else p ++ [0])
        | _ => false).length = 1)

/-- The later dictionary look-ups (`layout["branches"][left]["rect"]`,
    `X_layout.anchors[...]`, `layout.branches[...]`) all succeed.  Without
    validity hypotheses this is false (`Properties/C14Anchors.lean`); with them it
    is `C14_anchors`. -/
def C13_lookups_statement (o : Orientation) (P : Params) (sizes : Key → Size) (S : RTree)
    (sol : Sol) : Prop :=
  S.isBinary = true → ∃ ss, render o P sizes S sol = .ok ss

/-! Non-vacuity: a speciation, a duplication with one loss, a transfer. -/

def exS : RTree := .node [.node [.node [], .node []], .node []]

/-- root (speciation at the root species) of a duplication in species `0`
    (children in `00` and `0`) and a transfer from species `1` into `00`. -/
def exSol : Sol :=
  .node [] [] (.node [0] [] (.leaf [0, 0] []) (.leaf [0] []))
              (.node [1] [] (.leaf [1] []) (.leaf [0, 0] []))

def exO : OTree :=
  .node (.node (.leaf [0, 0] []) (.leaf [0] [])) (.node (.leaf [1] []) (.leaf [0, 0] []))

example : Spec.validRec exO exSol = true ∧ inTree exS exSol = true := by decide +kernel

example : internalEvent [1] [1] [0, 0] = .hgt ∧ internalEvent [0] [0, 0] [0] = .dup ∧
    internalEvent [] [0] [1] = .spec := by decide +kernel

end SR.C13
