/-
  C20 — the disjoint-set structure reports the partition generated by its
  unions: the union-find clauses of `Properties/C20.lean` / `C20Binary.lean`,
  restated for the functions that `harness/translate_py.py` GENERATES from the
  text of `superrec2/utils/disjoint_set.py` on every run
  (`SRVerif/Generated/DsuPy.lean`, namespace `SR.Gen.Dsu`: the structure
  `DisjointSet` with `__init__`, `find`, `unite`, `__len__`, `to_list`,
  `binary` and its nested `_binary`).

  The bridge is `SRVerif/Generated/DsuPyEquiv.lean` (`gen_*_eq_model`, proved in
  `SRVerif/Proofs/DsuPyEquiv.lean`): on every object `toGen d` that holds the
  data of a model structure `d` satisfying the invariant `DS.WF` (parents in
  range, ranks strictly increasing towards the roots, `rank + #roots ≤ n`,
  `groups` = number of roots) and on elements in range, each generated method
  returns exactly the model's result and new object — in particular it does
  not raise, and the generated fuel of the two recursive functions suffices
  (never the marker `Diverged`) — and the invariant is preserved.

  A generated method that changes `self` returns `Except Py.Err (DisjointSet × ρ)`:
  the new object and the result.  A history is run on the generated functions
  by `codeRun` (each operation is applied to the object left by the previous
  one).  `binary` takes the iteration order of the Python set of
  representatives as the parameter `ord`; the theorem holds for EVERY order
  (`Py.SetOrder ord`: the elements, each once).

  This module is built and audited only when the translator tie is available
  (`"translator_tie": "ok (sha256 …)"` in the evidence).

  Recorded scope of the translation: elements and `count` are non-negative ints
  (`Nat`), elements are in range (outside, the generated code raises `IndexError`
  where Python does — or wraps a negative index — and nothing is claimed);
  value semantics (the translator rejects sources in which an object could be
  changed while reachable through two references; which returned objects are
  IDENTICAL to which is not modelled).
-/
import SRVerif.Properties.C20Binary
import SRVerif.Generated.DsuPyEquiv

namespace SR.C20

open SR SR.DS SR.Py SR.Gen.Dsu SR.DsuPyProofs

/-- The generated methods compute exactly what the hand-written model computes
    (result and new object, no exception) on every state satisfying the
    model's invariant, and preserve that invariant. -/
theorem C20_code_tie :
    (∀ n : Nat, DisjointSet.__init__ n = .ok (toGen (DS.init n)) ∧ WF (DS.init n)) ∧
    (∀ d : DS, WF d → ∀ e, e < d.size →
      DisjointSet.find (toGen d) e = .ok (toGen (d.find e).1, (d.find e).2) ∧ WF (d.find e).1) ∧
    (∀ d : DS, WF d → ∀ a b, a < d.size → b < d.size →
      DisjointSet.unite (toGen d) a b = .ok (toGen (d.unite a b).1, (d.unite a b).2) ∧
        WF (d.unite a b).1) ∧
    (∀ d : DS, DisjointSet.__len__ (toGen d) = .ok (d.groups : Int)) ∧
    (∀ d : DS, WF d →
      DisjointSet.to_list (toGen d) = .ok (toGen d.toList.1, d.toList.2) ∧ WF d.toList.1) ∧
    (∀ ord, Py.SetOrder ord → ∀ d : DS, WF d →
      DisjointSet.binary ord (toGen d)
        = .ok (toGen d.allReps.1, (binaryIn d (Py.listOfSet ord d.allReps.2)).map toGen) ∧
        WF d.allReps.1) :=
  ⟨gen_init_eq_model, fun _ hd _ he => gen_find_eq_model hd he,
   fun _ hd _ _ ha hb => gen_unite_eq_model hd ha hb, gen_len_eq_model,
   fun _ hd => gen_to_list_eq_model hd, fun _ hord _ hd => gen_binary_eq_model hord hd⟩

/-- One operation of a history, applied with the GENERATED method (its result is dropped). -/
def codeStep (s : DisjointSet) : Op → Except Py.Err DisjointSet
  | .unite a b =>
    match DisjointSet.unite s a b with
    | .ok (s', _) => .ok s'
    | .error e => .error e
  | .find a =>
    match DisjointSet.find s a with
    | .ok (s', _) => .ok s'
    | .error e => .error e

def codeFold : DisjointSet → List Op → Except Py.Err DisjointSet
  | s, [] => .ok s
  | s, op :: ops =>
    match codeStep s op with
    | .ok s' => codeFold s' ops
    | .error e => .error e

/-- `DisjointSet(n)` followed by the operations of `ops`, all on the generated code. -/
def codeRun (n : Nat) (ops : List Op) : Except Py.Err DisjointSet :=
  match DisjointSet.__init__ n with
  | .ok s => codeFold s ops
  | .error e => .error e

theorem codeFold_eq {n : Nat} : ∀ (ops : List Op) {d : DS} {ps : List (Nat × Nat)}, Inv n d ps →
    (∀ op, op ∈ ops → op.inRange n) → codeFold (toGen d) ops = .ok (toGen (ops.foldl step d)) := by
  intro ops
  induction ops with
  | nil => intro d ps _ _; rfl
  | cons op ops ih =>
    intro d ps h hr
    have hop := hr op (by simp)
    have hstep : codeStep (toGen d) op = .ok (toGen (d.step op)) := by
      cases op with
      | unite a b =>
        obtain ⟨ha, hb⟩ := hop
        simp only [codeStep, (gen_unite_eq_model h.wf (h.size ▸ ha) (h.size ▸ hb)).1, DS.step]
      | find a =>
        simp only [codeStep, (gen_find_eq_model h.wf (h.size ▸ hop : a < d.size)).1, DS.step]
    rw [codeFold, hstep, List.foldl_cons]
    exact ih (inv_step h op hop) (fun o ho => hr o (by simp [ho]))

/-- **A history run on the generated code never raises and ends in the object
    of the model's structure.** -/
theorem C20_code_run (n : Nat) (ops : List Op) (hr : ∀ op, op ∈ ops → op.inRange n) :
    codeRun n ops = .ok (toGen (run n ops)) := by
  unfold codeRun
  rw [(gen_init_eq_model n).1]
  exact codeFold_eq ops (inv_init n) hr

/-- Non-vacuity: a history with merging, redundant and reflexive unions, evaluated on the generated code. -/
example : codeRun 4 [.unite 0 3, .unite 1 0, .find 3, .unite 3 1, .unite 2 2]
    = .ok { parent := [0, 0, 2, 0], rank := [1, 0, 0, 0], groups := 2 } := by rfl

/-- Two consecutive `find`s on a generated object return the model's representatives. -/
theorem code_find_find {n : Nat} {b : DS} (h : DS.Ok n b) {x y : Nat} (hx : x < n) (hy : y < n) :
    ∃ s1 s2, DisjointSet.find (toGen b) x = .ok (s1, rep b x) ∧
      DisjointSet.find s1 y = .ok (s2, rep b y) := by
  obtain ⟨_, hP, _⟩ := find_spec h.1 (h.lt hx)
  have h1 := (h.find hx).1
  refine ⟨_, toGen ((b.find x).1.find y).1, (gen_find_eq_model h.1 (h.lt hx)).1, ?_⟩
  rw [(gen_find_eq_model h1.1 (h1.lt hy)).1, ← rep_pres h.1 h1.1 hP]; rfl

/-- **Disjoint sets, on the generated code.**  After any history of `unite` /
    `find` on `n` elements (arguments in range), run on the generated
    functions, with `ps` the united pairs: the run does not raise, and on the
    object `s` it leaves
    * `s.find(a) == s.find(b)` (the second `find` on the object left by the
      first) iff `a`, `b` are related by the equivalence closure of `ps`;
    * `len(s)` is the number of classes (length of a duplicate-free system of
      representatives of the closure);
    * `s.to_list()` lists every class exactly once with all its members and has
      `len(s)` entries;
    * a further `s.unite(a, b)` returns `True` iff `a`, `b` were in different
      classes, and then `len` decreases by one (else it is unchanged). -/
theorem C20_code_ds (n : Nat) (ops : List Op) (hr : ∀ op, op ∈ ops → op.inRange n) :
    let ps := pairsOf ops
    ∃ s, codeRun n ops = .ok s ∧
    (∀ a b, a < n → b < n → ∃ s1 r1 s2 r2, DisjointSet.find s a = .ok (s1, r1) ∧
      DisjointSet.find s1 b = .ok (s2, r2) ∧ (r1 = r2 ↔ Conn ps a b)) ∧
    (∃ reps : List Nat, reps.Nodup ∧ (∀ r, r ∈ reps → r < n) ∧
      (∀ a, a < n → ∃ r, r ∈ reps ∧ Conn ps a r ∧ ∀ r', r' ∈ reps → Conn ps a r' → r' = r) ∧
      DisjointSet.__len__ s = .ok (reps.length : Int)) ∧
    (∃ s' gs, DisjointSet.to_list s = .ok (s', gs) ∧
      (∀ g, g ∈ gs → g ≠ [] ∧ g.Pairwise (· < ·) ∧ ∀ x, x ∈ g → ∀ y, y ∈ g ↔ y < n ∧ Conn ps x y) ∧
      (∀ x, x < n → ∃ g, g ∈ gs ∧ x ∈ g) ∧
      gs.Pairwise (fun g h => ∀ x, x ∈ g → x ∉ h) ∧
      DisjointSet.__len__ s = .ok (gs.length : Int)) ∧
    (∀ a b, a < n → b < n → ∃ s' r k k', DisjointSet.unite s a b = .ok (s', r) ∧
      (r = true ↔ ¬ Conn ps a b) ∧ DisjointSet.__len__ s = .ok k ∧ DisjointSet.__len__ s' = .ok k' ∧
      k' = if r then k - 1 else k) := by
  intro ps
  have hI : Inv n (run n ops) ps := inv_run n ops hr
  obtain ⟨h1, ⟨reps, hnd, hlt, hrep, hlen⟩, ⟨hg, hcov, hdis, hlen2⟩, h4⟩ := C20_ds n ops hr
  have hW := hI.wf
  refine ⟨toGen (run n ops), C20_code_run n ops hr, ?_, ?_, ?_, ?_⟩
  · intro a b ha hb
    obtain ⟨s1, s2, e1, e2⟩ := code_find_find hI.ok ha hb
    exact ⟨s1, _, s2, _, e1, e2, h1 a b ha hb⟩
  · exact ⟨reps, hnd, hlt, hrep, by rw [gen_len_eq_model, hlen]⟩
  · refine ⟨_, _, (gen_to_list_eq_model hW).1, hg, hcov, hdis, ?_⟩
    rw [gen_len_eq_model, hlen2]
  · intro a b ha hb
    have ha' := hI.ok.lt ha
    have hb' := hI.ok.lt hb
    obtain ⟨_, _, _, _, hgr⟩ := unite_spec hW ha' hb'
    refine ⟨_, _, _, _, (gen_unite_eq_model hW ha' hb').1, h4 a b ha hb, gen_len_eq_model _,
      gen_len_eq_model _, ?_⟩
    have hpos := hI.ok.groups_pos ha
    rw [hgr]
    cases ((run n ops).unite a b).2
    · rfl
    · exact Int.natCast_sub hpos

/-- `s.find(x) == s.find(y)` on a generated object (the second `find` runs on the
    object left by the first): both calls return, with the same representative. -/
def codeSame (s : DisjointSet) (x y : Nat) : Prop :=
  ∃ s1 s2 r, DisjointSet.find s x = .ok (s1, r) ∧ DisjointSet.find s1 y = .ok (s2, r)

theorem codeSame_iff {n : Nat} {b : DS} (h : DS.Ok n b) {x y : Nat} (hx : x < n) (hy : y < n) :
    codeSame (toGen b) x y ↔ rep b x = rep b y := by
  obtain ⟨s1, s2, e1, e2⟩ := code_find_find h hx hy
  constructor
  · rintro ⟨t1, t2, r, h1, h2⟩
    rw [e1] at h1; cases h1
    rw [e2] at h2
    exact (Prod.mk.inj (Except.ok.inj h2)).2.symm
  · intro h
    exact ⟨s1, s2, rep b x, e1, by rw [h]; exact e2⟩

/-- **`binary()` on the generated code, any iteration order of the set.**  After
    any history run on the generated functions (`ps` the united pairs), and for
    EVERY iteration order `ord` of Python sets, `s.binary()` does not raise and
    returns objects on the same `n` elements that
    * coarsen the current partition and have exactly two blocks;
    * are pairwise different as partitions (no block-swapped duplicate);
    * include every two-block coarsening (every equivalence relation on
      `{0..n-1}` containing the closure of `ps` with exactly two classes);
    * number `2^(k-1) - 1` where `k = len(s)`;
    and the object `s'` left behind (the finds compress paths) still represents
    the partition generated by `ps`. -/
theorem C20_code_binary (ord : List Nat → List Nat) (hord : Py.SetOrder ord)
    (n : Nat) (ops : List Op) (hr : ∀ op, op ∈ ops → op.inRange n) :
    let ps := pairsOf ops
    ∃ s s' res, codeRun n ops = .ok s ∧ DisjointSet.binary ord s = .ok (s', res) ∧
    (∀ b, b ∈ res → b.parent.length = n ∧ (∀ x y, x < n → y < n → Conn ps x y → codeSame b x y) ∧
      ∃ u v, u < n ∧ v < n ∧ ¬ codeSame b u v ∧ ∀ x, x < n → codeSame b x u ∨ codeSame b x v) ∧
    res.Pairwise (fun b b' => ∃ x y, x < n ∧ y < n ∧ ¬ (codeSame b x y ↔ codeSame b' x y)) ∧
    (∀ R : Nat → Nat → Prop, (∀ x, x < n → R x x) → (∀ x y, x < n → y < n → R x y → R y x) →
      (∀ x y z, x < n → y < n → z < n → R x y → R y z → R x z) →
      (∀ x y, x < n → y < n → Conn ps x y → R x y) →
      (∃ u v, u < n ∧ v < n ∧ ¬ R u v ∧ ∀ x, x < n → R x u ∨ R x v) →
      ∃ b, b ∈ res ∧ ∀ x y, x < n → y < n → (codeSame b x y ↔ R x y)) ∧
    (∃ k : Nat, DisjointSet.__len__ s = .ok (k : Int) ∧ res.length = 2 ^ (k - 1) - 1) ∧
    (∀ a b, a < n → b < n → (codeSame s' a b ↔ Conn ps a b)) := by
  intro ps
  have hI : Inv n (run n ops) ps := inv_run n ops hr
  have hW := hI.wf
  have hn := hI.size
  have hL := listOfSet_listing hord hW
  obtain ⟨hWb, h1, h2, h3, h4⟩ := binaryOrd_twoBlocks hI hL
  obtain ⟨hP, hWr, _⟩ := allReps_fold hW (run n ops).size (Nat.le_refl _)
  have hcs : ∀ b, b ∈ binaryOrd (run n ops) (Py.listOfSet ord (run n ops).allReps.2) →
      ∀ x y, x < n → y < n → (codeSame (toGen b) x y ↔ rep b x = rep b y) := fun b hb x y =>
    codeSame_iff ⟨hWb b hb, (h1 b hb).1⟩
  refine ⟨_, _, _, C20_code_run n ops hr, (gen_binary_eq_model hord hW).1, ?_, ?_, ?_, ?_, ?_⟩
  · intro b hb
    obtain ⟨b0, hb0, rfl⟩ := List.mem_map.mp hb
    obtain ⟨hs, hco, u, v, hu, hv, huv, hall⟩ := h1 b0 hb0
    refine ⟨hs, fun x y hx hy hc => (hcs b0 hb0 x y hx hy).mpr (hco x y hc), u, v, hu, hv, ?_, ?_⟩
    · rw [hcs b0 hb0 u v hu hv]; exact huv
    · intro x hx
      rw [hcs b0 hb0 x u hx hu, hcs b0 hb0 x v hx hv]; exact hall x hx
  · apply List.pairwise_map.mpr
    refine List.Pairwise.imp_of_mem ?_ h2
    intro b b' hb hb' ⟨x, y, hx, hy, hne⟩
    exact ⟨x, y, hx, hy, by rw [hcs b hb x y hx hy, hcs b' hb' x y hx hy]; exact hne⟩
  · intro R hrefl hsymm htrans hco htwo
    obtain ⟨b, hb, hbR⟩ := h3 R hrefl hsymm htrans hco htwo
    exact ⟨toGen b, List.mem_map_of_mem hb,
      fun x y hx hy => by rw [hcs b hb x y hx hy]; exact hbR x y hx hy⟩
  · exact ⟨(run n ops).groups, gen_len_eq_model _, by rw [List.length_map]; exact h4⟩
  · intro a b ha hb
    exact (codeSame_iff ⟨hWr, hP.size.trans hn⟩ ha hb).trans
      ((same_iff_rep hWr a b).symm.trans ((hP.same a b).trans (hI.same a b)))

/-- Non-vacuity: classes `{0,3} {1} {2}`, the set iterated in DECREASING order. -/
example : (match codeRun 4 [.unite 0 3] with
    | .ok s => (match DisjointSet.binary (fun l => l.reverse) s with
      | .ok (_, res) => res.map (fun b => b.parent)
      | .error _ => [])
    | .error _ => []) = [[0, 0, 2, 0], [0, 1, 0, 0], [0, 2, 2, 0]] := by rfl

example : Py.SetOrder (fun l => l.reverse) := fun l _ => List.reverse_perm l

end SR.C20
