/-
  C15 — Generated TikZ is well-formed and labels are faithful.

  Models: `SRVerif/Model/Tikz.lean`; the templates and the
  assembly order of `render` are the GENERATED values of `SRVerif/Generated/TikzTemplates.lean`, whose
  per-template obligations (`tmpl_*_balanced`, `statements_terminated`, `skeleton_shape`, …) are the
  facts about the source text these theorems rest on.
-/
import SRVerif.Generated.TikzObligations
import SRVerif.Proofs.TikzBraces
import SRVerif.Proofs.TikzEscape
import SRVerif.Proofs.TikzWrap
import SRVerif.Proofs.TikzColor
import SRVerif.Proofs.TikzRender
import SRVerif.Proofs.TikzDoc

namespace SR.C15

open SR.Tikz

/-- Inserting a balanced string anywhere into a balanced string keeps it balanced (any position of
    a balanced string has depth ≥ 0, see `C15_balanced_meaning`). -/
theorem C15_insert_balanced (a t b : Str) (hab : isBalanced (a ++ b) = true)
    (ht : isBalanced t = true) : isBalanced (a ++ t ++ b) = true := by
  rw [isBalanced_iff] at hab ⊢
  rw [balAux_insert a t b ht]; exact hab

theorem C15_balanced_meaning (s : Str) :
    isBalanced s = true ↔ (depth s = 0 ∧ ∀ p, p <+: s → 0 ≤ depth p) :=
  isBalanced_spec s

/-- **Balanced braces.**  For every sequence of drawing calls over the statement templates of the
    source, with hole fillings from the stated spaces (coordinates and numbers, brace-free lengths,
    colour codes, balanced labels, the templates' own keywords), the text `render` returns has
    balanced braces. -/
theorem C15_balanced (defs : Str) (calls : List Call) (hd : DefsOK defs)
    (hc : ∀ c ∈ calls, CallOK c) :
    isBalanced (render Generated.renderSkeleton Generated.layerNames Generated.colorPrefix
      Generated.joiner defs calls) = true := by
  rw [render, Generated.joiner_newline, skeleton_std, renderBlocks_std]
  apply isBalanced_intercalate _ _ (by decide)
  intro b hb
  simp only [List.mem_append, List.mem_cons, List.mem_map, List.not_mem_nil, or_false] at hb
  rcases hb with (((hb | ⟨p, hp, rfl⟩) | hb) | hb) | hb
  · subst hb; exact defs_balanced _ hd
  · rw [colorDefLine_eq]
    apply isBalanced_instantiate _ _ (by decide +kernel) (by decide +kernel)
    simp only [stdDefinecolor, Template.holes, fillsOK, fillOK, Bool.and_true, Bool.and_eq_true]
    exact ⟨List.all_eq_true.2 (natStr_digits p.1), colors_alnum calls hc p hp⟩
  · subst hb; decide
  · rcases mem_bodyBlocks _ _ _ b hb with ⟨name, hn, rfl⟩ | ⟨o, ho, rfl⟩
    · have := List.all_eq_true.1 layerNames_braceFree name hn
      apply isBalanced_of_braceFree
      simpa [commentLine, braceFree, isBrace] using this
    · obtain ⟨hs, hf⟩ := rcall_fillsOK calls hc o ho
      exact isBalanced_instantiate _ _ (List.all_eq_true.1 Generated.statements_balanced _ hs)
        (List.all_eq_true.1 Generated.statements_holes _ hs) hf
  · rcases hb with rfl | rfl <;> decide

/-- **One picture environment, terminated statements, colours defined before the picture.**
    The result list of `render` is: the definitions; one `\definecolor{reccolor<i>}{HTML}{<c_i>}`
    line per interned colour `c_0 … c_{n-1}`; `\begin{tikzpicture}`; a body; `\end{tikzpicture}`;
    `""`.  Every block of the body is a `% layer` comment or a statement ending in `;`; no block
    other than the two delimiters equals a delimiter; every colour reference `reccolor<i>` filled
    into a statement has `i < n`, and (`C15_colour_table`) `c_i` is the colour that was requested.
    This is about blocks; that no delimiter occurs inside the text of another block is
    `C15_delims_once` (`Properties/C15Delim.lean`). -/
theorem C15_structure (defs : Str) (calls : List Call) (hd : DefsOK defs)
    (hc : ∀ c ∈ calls, CallOK c) :
    let colors := (resolveCalls [] calls).1
    let out := (resolveCalls [] calls).2
    let body := bodyBlocks Generated.layerNames Generated.colorPrefix out
    let head := [defs] ++ (enumFrom 0 colors).map (colorDefLine Generated.colorPrefix)
    renderBlocks Generated.renderSkeleton Generated.layerNames Generated.colorPrefix defs calls
        = head ++ [beginPicture] ++ body ++ [endPicture, []]
    ∧ (∀ b ∈ body, (∃ name ∈ Generated.layerNames, b = commentLine name) ∨ b.getLast? = some ';')
    ∧ (∀ b ∈ head ++ body, b ≠ beginPicture ∧ b ≠ endPicture)
    ∧ (∀ o ∈ out, ∀ i, RFill.color i ∈ o.fills → i < colors.length) := by
  intro colors out body head
  have hstmt : ∀ o ∈ out, (o.text Generated.colorPrefix).getLast? = some ';' := by
    intro o ho
    obtain ⟨hs, _⟩ := rcall_fillsOK calls hc o ho
    exact instantiate_getLast _ _ (List.all_eq_true.1 Generated.statements_terminated _ hs)
  have hbody : ∀ b ∈ body,
      (∃ name ∈ Generated.layerNames, b = commentLine name) ∨ b.getLast? = some ';' := by
    intro b hb
    rcases mem_bodyBlocks _ _ _ b hb with h | ⟨o, ho, rfl⟩
    · exact Or.inl h
    · exact Or.inr (hstmt o ho)
  refine ⟨?_, hbody, ?_, resolveCalls_index_lt calls⟩
  · rw [skeleton_std, renderBlocks_std]
  · intro b hb
    -- no delimiter starts with `\c`, `\d` or `%`, and none ends in `;`
    have hpre : ∀ (pre x : Str), isPrefixOf pre beginPicture = false →
        isPrefixOf pre endPicture = false → isPrefixOf pre x = true →
        x ≠ beginPicture ∧ x ≠ endPicture := by
      intro pre x h1 h2 hx
      constructor <;> (rintro rfl; simp [hx] at h1 h2)
    rcases List.mem_append.1 hb with hb | hb
    · rcases List.mem_append.1 hb with hb | hb
      · rw [List.mem_singleton.1 hb]
        obtain ⟨t, fills, ht, _, rfl⟩ := hd
        refine hpre ['\\', 'c'] _ (by decide) (by decide) ?_
        rcases ht with rfl | rfl
        · exact instantiate_startsWith _ _ _ Generated.defs_start.1
        · exact instantiate_startsWith _ _ _ Generated.defs_start.2
      · obtain ⟨p, _, rfl⟩ := List.mem_map.1 hb
        exact hpre ['\\', 'd'] _ (by decide) (by decide)
          (by simp [colorDefLine, definecolorHead, isPrefixOf])
    · rcases hbody b hb with ⟨name, _, rfl⟩ | h
      · exact hpre ['%'] _ (by decide) (by decide) (by simp [commentLine, isPrefixOf])
      · constructor <;> (intro e; subst e; revert h; decide)

/-- The table of interned colours answers every request: the index handed out for a requested
    colour `h` points at `h`. -/
theorem C15_colour_table (calls : List Call) :
    All₂ (CallRes (resolveCalls [] calls).1) calls (resolveCalls [] calls).2 :=
  (resolveCalls_spec [] calls).2

/-- **Colour scoping.**  After the propagation loop every node of the tree carries the colour of
    its nearest coloured ancestor-or-self — the own colour of the longest prefix of its path that
    has one — and none if there is no such ancestor (then `Branch.color`'s default applies). -/
theorem C15_colour (t : CTree) (p : List Bool) (h : (t.sub p).isSome = true) :
    (t.propagate none).colorAt p = CTree.nearestSpec t p ∧
    branchColor t p = (CTree.nearestSpec t p).getD defaultColor := by
  have := CTree.colorAt_propagate t p h
  exact ⟨this, by simp [branchColor, this]⟩

/-- Pseudo-genes (losses) inserted above a gene take the colour of that gene's lineage. -/
theorem C15_colour_loss (t : CTree) (gene : List Bool) (n : Nat)
    (h : (t.sub gene).isSome = true) :
    ∀ c ∈ lossColors t gene n, c = (CTree.nearestSpec t gene).getD defaultColor := by
  intro c hc
  simp only [lossColors, List.mem_replicate] at hc
  rw [hc.2, (C15_colour t gene h).2]

/-- **Escaping.**  `unescape` is a left inverse; the output splits into tokens `\\`, `\_` and
    plain characters with no bare `_` or `\`; in particular every `_` is immediately preceded by
    the backslash opening its token. -/
theorem C15_escape (s : Str) :
    unescape (escape s) = s ∧ wellEscaped (escape s) = true ∧
    ∀ a b, escape s = a ++ '_' :: b → ∃ a', a = a' ++ ['\\'] :=
  ⟨unescape_escape s, wellEscaped_escape s,
    wellEscaped_underscore _ (wellEscaped_escape s)⟩

/-- **Greedy wrapping**: the words come back in order, no line is empty, joining the lines with
    spaces gives the text back, every line fits the width unless it is a single word. -/
theorem C15_wrap_greedy (width : Nat) (ws : List Word) :
    (wrap width ws).flatten = ws ∧
    (∀ l ∈ wrap width ws, l ≠ []) ∧
    List.intercalate [' '] ((wrap width ws).map lineText) = lineText ws ∧
    (∀ l ∈ wrap width ws, (lineText l).length ≤ width ∨ l.length = 1) := by
  refine ⟨wrap_flatten width ws, wrap_ne_nil width ws, ?_, ?_⟩
  · rw [lineText_join _ (wrap_ne_nil width ws), wrap_flatten]
  · intro l hl
    rw [lineText_length]
    exact wrap_width width ws l hl

/-- **Balanced wrapping** keeps every word in order, has exactly as many lines as greedy wrapping
    at the requested width, and no line exceeds the requested width unless it is a single word. -/
theorem C15_wrap (width : Nat) (ws : List Word) (ls : List Line)
    (h : balancedWrap width ws = some ls) :
    ls.flatten = ws ∧
    List.intercalate [' '] (ls.map lineText) = lineText ws ∧
    ls.length = (wrap width ws).length ∧
    (∀ l ∈ ls, (lineText l).length ≤ width ∨ l.length = 1) := by
  obtain ⟨w', _, hle, rfl, hlen⟩ := balancedWrap_spec width ws ls h
  obtain ⟨h1, _, h3, h4⟩ := C15_wrap_greedy w' ws
  refine ⟨h1, h3, hlen, fun l hl => ?_⟩
  rcases h4 l hl with h5 | h5
  · exact Or.inl (Nat.le_trans h5 hle)
  · exact Or.inr h5

/-- For a positive width `balanced_wrap` returns lines (it does not raise). -/
theorem C15_wrap_total (width : Nat) (ws : List Word) (h : 0 < width) :
    ∃ ls, balancedWrap width ws = some ls :=
  Option.isSome_iff_exists.1 (balancedWrap_isSome width ws h)

/-- **Labels.**  (1) Without wrapping, the displayed synteny text is the escaped families joined by
    `", "`, in order.  (2) With a wrap width, the displayed lines (separated by the TeX line break)
    read, once joined by spaces, exactly that same text; there are as many as greedy wrapping
    makes, and none exceeds the width unless it is a single word.  (3) An internal node's label is
    empty exactly when its synteny equals its parent's or the text itself is empty; a leaf always
    shows its synteny text when it is non-empty. -/
theorem C15_label (fams : List Str) :
    syntenyText none (some fams) = some (List.intercalate [',', ' '] (fams.map escape))
    ∧ (∀ w text, syntenyText (some w) (some fams) = some text → text ≠ [] →
        ∃ ls : List Line,
          text = List.intercalate texLineBreak (ls.map lineText) ∧
          List.intercalate [' '] (ls.map lineText) = formatSynteny (fams.map escape) ∧
          ls.length = (wrap w (splitSpaces (formatSynteny (fams.map escape)))).length ∧
          ∀ l ∈ ls, (lineText l).length ≤ w ∨ l.length = 1)
    ∧ (∀ w syn par l, internalLabel w syn par = some l →
        (l = [] ↔ (syn = par ∨ syntenyText w syn = some [])))
    ∧ (∀ w syn name text, syntenyText w syn = some text → text ≠ [] →
        leafLabel w syn name = some text) := by
  refine ⟨rfl, ?_, ?_, ?_⟩
  · intro w text h hne
    simp only [syntenyText, formatSyntenyW, balancedWrapText] at h
    split at h
    · simp only [Option.some.injEq] at h; exact absurd h.symm hne
    · simp only [Option.map_eq_some_iff] at h
      obtain ⟨ls, hls, rfl⟩ := h
      obtain ⟨_, h2, h3, h4⟩ := C15_wrap w _ ls hls
      exact ⟨ls, rfl, by rw [h2, lineText_splitSpaces], h3, h4⟩
  · intro w syn par l h
    simp only [internalLabel, Option.map_eq_some_iff] at h
    obtain ⟨text, ht, rfl⟩ := h
    by_cases e : syn = par
    · simp [e]
    · simp only [e, if_false, false_or, ht, Option.some.injEq]
  · intro w syn name text h hne
    simp only [leafLabel, h, Option.map_some, Option.some.injEq]
    cases text with
    | nil => exact absurd rfl hne
    | cons a b => simp

/-- `\node[extant gene={reccolor0}{a\_1}] at (1.5,2) {};` -/
example : fillsOK Generated.tmpl_stmt_3.holes
    ["reccolor0".toList, "a\\_1".toList, "1.5,2".toList] = true := by decide +kernel

example : (3, Generated.tmpl_stmt_3) ∈ Generated.statements := by decide +kernel

example : CallOK (Call.mk 3 Generated.tmpl_stmt_3
    [.color "ff0000".toList, .text "a\\_1".toList, .text "1.5,2".toList]) :=
  ⟨by decide +kernel, by decide +kernel⟩

example : isBalanced "{a}{".toList = false := by decide +kernel
example : escape "a_b\\".toList = "a\\_b\\\\".toList := by decide +kernel
example : wellEscaped "a_b".toList = false := by decide +kernel
example : wrap 5 ["ab".toList, "cd".toList, "efghijk".toList, "l".toList]
    = [["ab".toList, "cd".toList], ["efghijk".toList], ["l".toList]] := by decide +kernel
example : balancedWrap 7 ["a".toList, "b".toList, "c".toList, "defg".toList]
    = some [["a".toList, "b".toList, "c".toList], ["defg".toList]] := by decide +kernel
/-- nested colours: `((a,b)N[blue],c)M[red]` — `c` is red, `a` is blue -/
example :
    let t := CTree.node (some "red".toList) (.node (some "blue".toList) (.leaf none) (.leaf none)) (.leaf none)
    branchColor t [true] = "red".toList ∧ branchColor t [false, true] = "blue".toList ∧
    branchColor (.leaf none) [] = "000000".toList := by decide +kernel
example : internalLabel none (some ["a".toList]) (some ["a".toList]) = some [] := by decide +kernel
example : internalLabel none (some ["a_1".toList, "b".toList]) (some ["b".toList])
    = some "a\\_1, b".toList := by decide +kernel

end SR.C15
