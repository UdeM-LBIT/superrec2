/-
  C03 against the specification oracle `Spec.optimum … .unordered`, for all inputs and all unit
  costs (the oracle shares nothing with the optimiser).  Through `Spec.adequate_un` its optimum is
  the minimum of the evaluated cost over ALL valid set-labelled solutions (`Spec.validSol .unordered`:
  the family lists in any order, repetitions allowed), and its optimal set holds the normal ones
  (strictly increasing labels) among the optima.  The solver side is `uspfs_optimal_iff`
  (C03Full.lean); what follows `C03_oracle_sols_base` re-packs it in the variants' own words and
  says where it meets the oracle (`Adequate.cost_of_exact`, `Adequate.sols_of_exact`).
-/
import SRVerif.Properties.C03Full
import SRVerif.Proofs.OptAdequacyUn

namespace SR.C03

open SR Cost Spec

/-- Sorting and deduplicating every internal family list keeps validity, the species
    mapping and the evaluated cost, and yields strictly increasing labels. -/
theorem C03_norm (c : Costs) (o : OTree) (σ : Sol) (hv : Spec.validSol .unordered o σ = true) :
    Spec.validSol .unordered o (normSol σ) = true ∧ Normal (normSol σ) ∧
    sameMapping (normSol σ) σ = true ∧
    totalCost c .unordered o (normSol σ) = totalCost c .unordered o σ := by
  refine ⟨validSol_un_normSol o σ hv, normal_normSol σ, ?_, totalCost_normSol c o σ⟩
  clear hv
  induction σ with
  | leaf s g => simp [normSol, sameMapping]
  | node s f l r ihl ihr => simp [normSol, sameMapping, ihl, ihr]

/-- Every node of a valid solution holds its required content. -/
theorem C03_valid_required (o : OTree) (σ : Sol) (hv : Spec.validSol .unordered o σ = true) :
    HoldsRequired o [] σ := by
  simp only [Spec.validSol, Bool.and_eq_true] at hv
  exact holdsRequired_of_valid o o [] σ (isSub_root o) hv.2

variable (c : Costs) (S : RTree) (o : OTree)

/-- The oracle's optimum is a lower bound of the cost of EVERY valid set-labelled
    solution (any species mapping, any family labelling). -/
theorem C03_oracle_le (keep : Bool) (hS : ∀ p ∈ leafSpecies o, S.isNode p = true) (σ : Sol)
    (hv : Spec.validSol .unordered o σ = true) :
    Cost.le (Spec.optimum c S .unordered false keep o none).1 (totalCost c .unordered o σ) = true :=
  (adequate_un c S o false none).le keep ⟨hv, speciesOk_of_valid S o σ hS (validRec_of_validUn hv)⟩

/-- The oracle's optimal set is exactly the set of valid solutions with strictly
    increasing labels of minimum (finite) evaluated cost AMONG ALL VALID SOLUTIONS. -/
theorem C03_oracle_sols (hS : ∀ p ∈ leafSpecies o, S.isNode p = true) (σ : Sol) :
    σ ∈ (Spec.optimum c S .unordered false true o none).2 ↔
      Spec.validSol .unordered o σ = true ∧ Normal σ ∧ totalCost c .unordered o σ ≠ .inf ∧
      ∀ σ', Spec.validSol .unordered o σ' = true →
        Cost.le (totalCost c .unordered o σ) (totalCost c .unordered o σ') = true :=
  ((adequate_un c S o false none).congr fun σ =>
    and_iff_left_of_imp fun hv => speciesOk_of_valid S o σ hS (validRec_of_validUn hv)).mem_sols_min σ

theorem C03_oracle_sols_nodup (base keep : Bool) :
    (Spec.optimum c S .unordered base keep o none).2.Nodup := nodup_optimum_sols c S base _ _ _ _

/-- Base variant: the optimal set among the solutions that use the LCA mapping. -/
theorem C03_oracle_sols_base (σ : Sol) :
    σ ∈ (Spec.optimum c S .unordered true true o none).2 ↔
      Spec.validSol .unordered o σ = true ∧ sameMapping σ (lcaSol o) = true ∧ Normal σ ∧
      totalCost c .unordered o σ ≠ .inf ∧
      ∀ σ', Spec.validSol .unordered o σ' = true → sameMapping σ' (lcaSol o) = true →
        Cost.le (totalCost c .unordered o σ) (totalCost c .unordered o σ') = true := by
  rw [((adequate_un c S o true none).congr fun σ =>
    and_congr_right (speciesOk_base_iff_un S o σ)).mem_sols_min, and_assoc]
  simp only [and_imp]

/-- **C03, end to end, both variants.**  For a binary species tree containing the leaf
    species and `spe + sloss ≤ dup + 2·floss`: every solution returned by `uspfs` is a valid
    unordered super-reconciliation, and no valid solution with allowed species (nodes of
    `S`; the LCA species for `base`) — whatever its family labelling — is cheaper. -/
theorem C03_optimal (base : Bool) (hb : S.isBinary = true)
    (hS : ∀ p ∈ leafSpecies o, S.isNode p = true)
    (hcoh : c.spe + c.sloss ≤ c.dup + 2 * c.floss) :
    ∀ σ ∈ uspfs c S base o,
      Spec.validSol .unordered o σ = true ∧
      ∀ σ', Spec.validSol .unordered o σ' = true → SpeciesOk S base o σ' →
        Cost.le (totalCost c .unordered o σ) (totalCost c .unordered o σ') = true :=
  fun σ hσ => have h := ((uspfs_optimal_iff c S base o hb hS hcoh σ).mp hσ).1
    ⟨h.1.1, fun σ' hv' hs' => h.2 σ' ⟨hv', hs'⟩⟩

/-- Under the guards the oracle's optimum is finite (the solver's result is never empty
    and has finite cost). -/
theorem C03_optimum_finite (base keep : Bool) (hb : S.isBinary = true)
    (hS : ∀ p ∈ leafSpecies o, S.isNode p = true)
    (hcoh : c.spe + c.sloss ≤ c.dup + 2 * c.floss) :
    (Spec.optimum c S .unordered base keep o none).1 ≠ .inf := by
  obtain ⟨m, hm⟩ := List.exists_mem_of_ne_nil _ (C03_uspfs_total c S base o hb hS)
  rw [optimum_fst_keep c S base .unordered keep false o none,
    ← C03_full_eq c S base o hb hS hcoh m hm]
  exact C04.C04_unord_finite c S base o m hm

theorem normal_of_canonical : ∀ (σ : Sol) (p : Path) (anc : List Nat),
    Spec.canonicalUn o p anc σ = true → Normal σ
  | .leaf _ _, _, _, _ => trivial
  | .node _ f l r, p, anc, h => by
    simp only [Spec.canonicalUn, Bool.and_eq_true, Bool.or_eq_true, beq_iff_eq] at h
    refine ⟨?_, normal_of_canonical l _ _ h.1.2, normal_of_canonical r _ _ h.2⟩
    rcases h.1.1 with e | ⟨_, e⟩ <;> rw [e]
    · exact sortNat_sorted_lt (nodup_requiredContent o p)
    · exact sortNat_sorted_lt (nodup_dedup _)

/-- **C05 against the oracle**: the solver (policy ALL) returns exactly the CANONICAL
    members of the oracle's optimal set — the canonical restriction loses optimal
    solutions (non-canonical co-optima exist) but never the optimum. -/
theorem C03_uspfs_eq_canon_optimum (base : Bool) (hb : S.isBinary = true)
    (hS : ∀ p ∈ leafSpecies o, S.isNode p = true)
    (hcoh : c.spe + c.sloss ≤ c.dup + 2 * c.floss) (σ : Sol) :
    σ ∈ uspfs c S base o ↔
      σ ∈ (Spec.optimum c S .unordered base true o none).2 ∧ Spec.canonicalUn o [] [] σ = true :=
  (adequate_un c S o base none).sols_of_exact (uspfs_optimal_iff c S base o hb hS hcoh)
    (fun σ => normal_of_canonical o σ [] []) σ

/-- **C05 (⊆)**: every returned solution is a member of the oracle's optimal set. -/
theorem C03_uspfs_subset_optimum (base : Bool) (hb : S.isBinary = true)
    (hS : ∀ p ∈ leafSpecies o, S.isNode p = true)
    (hcoh : c.spe + c.sloss ≤ c.dup + 2 * c.floss) :
    ∀ σ ∈ uspfs c S base o,
      σ ∈ (Spec.optimum c S .unordered base true o none).2 ∧
      totalCost c .unordered o σ = (Spec.optimum c S .unordered base true o none).1 :=
  fun σ hσ => ⟨((C03_uspfs_eq_canon_optimum c S o base hb hS hcoh σ).mp hσ).1,
    (adequate_un c S o base none).cost_of_exact true
      ((uspfs_optimal_iff c S base o hb hS hcoh σ).mp hσ).1⟩

/-- **C03 + C05, exact form**, either variant (`Q` is how the variant speaks of allowed species: nothing
    for the extended one, the LCA mapping for `base`): `uspfs` (policy
    ALL) returns exactly the canonical valid solutions with allowed species of minimum (finite)
    evaluated cost among ALL valid solutions with allowed species. -/
theorem C03_exact_gen (base : Bool) (hb : S.isBinary = true)
    (hS : ∀ p ∈ leafSpecies o, S.isNode p = true)
    (hcoh : c.spe + c.sloss ≤ c.dup + 2 * c.floss) (Q : Sol → Prop)
    (hQ : ∀ σ, Spec.validSol .unordered o σ = true → (SpeciesOk S base o σ ↔ Q σ)) (σ : Sol) :
    σ ∈ uspfs c S base o ↔
      Spec.validSol .unordered o σ = true ∧ Q σ ∧ Spec.canonicalUn o [] [] σ = true ∧
      totalCost c .unordered o σ ≠ .inf ∧
      ∀ σ', Spec.validSol .unordered o σ' = true → Q σ' →
        Cost.le (totalCost c .unordered o σ) (totalCost c .unordered o σ') = true := by
  rw [uspfs_optimal_iff c S base o hb hS hcoh]
  exact ⟨fun ⟨⟨⟨hv, hs⟩, hmin⟩, hfin, hcan⟩ => ⟨hv, (hQ σ hv).mp hs, hcan, hfin,
      fun σ' hv' hq' => hmin σ' ⟨hv', (hQ σ' hv').mpr hq'⟩⟩,
    fun ⟨hv, hq, hcan, hfin, hmin⟩ => ⟨⟨⟨hv, (hQ σ hv).mpr hq⟩,
      fun σ' h' => hmin σ' h'.1 ((hQ σ' h'.1).mp h'.2)⟩, hfin, hcan⟩⟩

/-- **C03 + C05, SuperDTL, exact form**: `usreconcile_extended_uspfs` (policy ALL) returns
    exactly the canonical valid solutions of minimum (finite) evaluated cost among ALL
    valid solutions, each once. -/
theorem C03_ext_exact (hb : S.isBinary = true) (hS : ∀ p ∈ leafSpecies o, S.isNode p = true)
    (hcoh : c.spe + c.sloss ≤ c.dup + 2 * c.floss) :
    (∀ σ, σ ∈ uspfs c S false o ↔
      Spec.validSol .unordered o σ = true ∧ Spec.canonicalUn o [] [] σ = true ∧
      totalCost c .unordered o σ ≠ .inf ∧
      ∀ σ', Spec.validSol .unordered o σ' = true →
        Cost.le (totalCost c .unordered o σ) (totalCost c .unordered o σ') = true) ∧
    (uspfs c S false o).Nodup :=
  ⟨fun σ => by
      simpa using C03_exact_gen c S o false hb hS hcoh (fun _ => True) (speciesOk_ext_iff_un S o hS) σ,
    nodup_rankByCost _ _ _ _⟩

/-- **C03 + C05, base solver, exact form**: the same among the solutions that use the LCA
    species mapping. -/
theorem C03_base_exact (hb : S.isBinary = true) (hS : ∀ p ∈ leafSpecies o, S.isNode p = true)
    (hcoh : c.spe + c.sloss ≤ c.dup + 2 * c.floss) :
    (∀ σ, σ ∈ uspfs c S true o ↔
      Spec.validSol .unordered o σ = true ∧ sameMapping σ (lcaSol o) = true ∧
      Spec.canonicalUn o [] [] σ = true ∧ totalCost c .unordered o σ ≠ .inf ∧
      ∀ σ', Spec.validSol .unordered o σ' = true → sameMapping σ' (lcaSol o) = true →
        Cost.le (totalCost c .unordered o σ) (totalCost c .unordered o σ') = true) ∧
    (uspfs c S true o).Nodup :=
  ⟨C03_exact_gen c S o true hb hS hcoh _ (speciesOk_base_iff_un S o), nodup_rankByCost _ _ _ _⟩

/-- A well-formed coherent input on which a VALID solution with unsorted labels containing
    a repetition exists: it is outside the oracle's label space (not a member of the
    optimal set), yet its cost is bounded below by the oracle's optimum — here it attains
    it — and its normalisation is the member the solver returns. -/
example :
    let c : Costs := { spe := 0, dup := 1, hgt := .fin 1, floss := 1, sloss := 1 }
    let S : RTree := .node [.node [], .node []]
    let o : OTree :=
      .node (.node (.leaf [0] [1, 2]) (.node (.leaf [0] [1]) (.leaf [0] [1]))) (.leaf [1] [1, 2])
    let messy : Sol :=
      .node [] [2, 1, 2] (.node [0] [2, 1] (.leaf [0] [1, 2]) (.node [0] [1] (.leaf [0] [1]) (.leaf [0] [1])))
        (.leaf [1] [1, 2])
    S.isBinary = true ∧ (∀ p ∈ leafSpecies o, S.isNode p = true) ∧
    c.spe + c.sloss ≤ c.dup + 2 * c.floss ∧
    Spec.validSol .unordered o messy = true ∧ normSol messy ≠ messy ∧
    messy ∉ (Spec.optimum c S .unordered false true o none).2 ∧
    normSol messy ∈ (Spec.optimum c S .unordered false true o none).2 ∧
    totalCost c .unordered o messy = .fin 2 ∧
    (Spec.optimum c S .unordered false true o none).1 = .fin 2 ∧
    uspfs c S false o = [normSol messy] := by
  intro c S o messy
  have hb : S.isBinary = true := by decide
  have hS : ∀ p ∈ leafSpecies o, S.isNode p = true := by decide
  have hcoh : c.spe + c.sloss ≤ c.dup + 2 * c.floss := by decide
  have hne : normSol messy ≠ messy := by decide
  have hu : uspfs c S false o = [normSol messy] := uspfs_inherit_input
  -- the returned solution is optimal (`C03_uspfs_subset_optimum`), of the cost of `messy`
  -- (`totalCost_normSol`); members of the optimal set are normal (`Adequate.mem_sols`)
  obtain ⟨hmem, hopt⟩ := C03_uspfs_subset_optimum c S o false hb hS hcoh (normSol messy)
    (hu ▸ List.mem_singleton.mpr rfl)
  have hcost : totalCost c .unordered o messy = .fin 2 := by decide +kernel
  exact ⟨hb, hS, hcoh, by decide +kernel, hne,
    fun h => hne (normSol_eq_of_normal _ (((adequate_un c S o false none).mem_sols messy).mp h).2.1),
    hmem, hcost, by rw [← hopt, totalCost_normSol, hcost], hu⟩

/-- With `sloss = 0` NON-canonical optimal solutions exist (the node above the two `{1}`
    leaves may hold `{1, 2}` or `{1, 3}`, strictly between its required content `{1}` and
    its parent's `{1, 2, 3}`): the oracle's optimal set has four members, the solver returns
    exactly its two canonical ones (`C03_uspfs_eq_canon_optimum`). -/
example :
    let c : Costs := { spe := 0, dup := 1, hgt := .fin 1, floss := 1, sloss := 0 }
    let S : RTree := .node [.node [], .node []]
    let o : OTree :=
      .node (.node (.leaf [0] [1, 2, 3]) (.node (.leaf [0] [1]) (.leaf [0] [1]))) (.leaf [1] [1, 2, 3])
    let nonCanon : Sol :=
      .node [] [1, 2, 3] (.node [0] [1, 2, 3] (.leaf [0] [1, 2, 3])
        (.node [0] [1, 2] (.leaf [0] [1]) (.leaf [0] [1]))) (.leaf [1] [1, 2, 3])
    S.isBinary = true ∧ (∀ p ∈ leafSpecies o, S.isNode p = true) ∧
    c.spe + c.sloss ≤ c.dup + 2 * c.floss ∧
    (Spec.optimum c S .unordered false true o none).1 = .fin 2 ∧
    (Spec.optimum c S .unordered false true o none).2.length = 4 ∧
    nonCanon ∈ (Spec.optimum c S .unordered false true o none).2 ∧
    Spec.canonicalUn o [] [] nonCanon = false ∧ nonCanon ∉ uspfs c S false o ∧
    (uspfs c S false o).length = 2 ∧
    (∀ σ ∈ uspfs c S false o, σ ∈ (Spec.optimum c S .unordered false true o none).2) ∧
    ((Spec.optimum c S .unordered false true o none).2.filter
      (fun σ => Spec.canonicalUn o [] [] σ)).length = 2 := by
  decide +kernel

/-- Base variant: the LCA-mapped optimum is larger than the unrestricted one, the base
    solver attains it, and valid solutions that are not LCA-mapped are cheaper (so the
    restriction to LCA-mapped competitors in `C03_base_exact` is necessary). -/
example :
    let c : Costs := { spe := 1, dup := 1, hgt := .fin 1, floss := 1, sloss := 1 }
    let S : RTree := .node [.node [.node [], .node []], .node []]
    let o : OTree := .node (.node (.leaf [0, 0] [1, 2]) (.leaf [1] [2])) (.leaf [0, 1] [1])
    S.isBinary = true ∧ (∀ p ∈ leafSpecies o, S.isNode p = true) ∧
    c.spe + c.sloss ≤ c.dup + 2 * c.floss ∧
    (Spec.optimum c S .unordered true true o none).1 = .fin 6 ∧
    (Spec.optimum c S .unordered false true o none).1 = .fin 2 ∧
    (uspfs c S true o).map (totalCost c .unordered o) = [.fin 6] ∧
    (uspfs c S false o).map (totalCost c .unordered o) = [.fin 2, .fin 2, .fin 2] ∧
    (∀ σ ∈ uspfs c S true o, sameMapping σ (lcaSol o) = true) ∧
    (∀ σ ∈ uspfs c S false o, sameMapping σ (lcaSol o) = false) ∧
    (Spec.optimum c S .unordered true true o none).2 = uspfs c S true o := by
  decide +kernel

end SR.C03
