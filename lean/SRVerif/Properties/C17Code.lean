/-
  C17 — Ancestry queries on trees are exact: the range-minimum clauses of
  `Properties/C17.lean`, restated for the functions that `harness/translate_py.py`
  GENERATES from the text of `superrec2/utils/range_min_query.py` on every run
  (`SRVerif/Generated/RmqPy.lean`, namespace `SR.Gen.Rmq`: `_ilog2`, the
  structure `RangeMinQuery` with `RangeMinQuery.__init__` / `RangeMinQuery.__call__`).

  The bridge is `SRVerif/Generated/RmqPyEquiv.lean` (`gen_*_eq_model`, proved for
  all inputs in `SRVerif/Proofs/RmqPyEquiv.lean` by loop invariants over levels
  and positions of the sparse table).  A generated function returns
  `Except Py.Err ρ`; `.error e` means that the Python function raises `e`, so
  `… = .ok v` also says "does not raise" — no `IndexError` from an item
  assignment or a (possibly negative, wrapping) index, no `AssertionError` from
  `assert … is not None`, no `TypeError` from `min` on a `None` cell or from the
  elements' own `<`, and never the marker `OutOfSubset` (`2 ** negative`).

  The element type is opaque: the generated functions take `Element.__lt__` as
  the parameter `lt_ : α → α → Except Py.Err Bool`.  `codeLt α` instantiates it
  with the `<` of a linear order; `liftLt entryLt` with Python's comparison of
  `(level, node)` tuples, which raises when it would have to order two nodes.

  Built only when the translator tie is available (`translator_tie` in the evidence).

  Recorded scope of the translation: `start`, `stop` are Python ints (`Int`);
  the theorems below are about `0 ≤ start`, `stop ≤ len(data)` (natural numbers
  cast to `Int`).  Outside, the generated `__call__` still describes what Python
  does (negative indices wrap around), but nothing is claimed about it.
-/
import SRVerif.Properties.C17
import SRVerif.Generated.RmqPyEquiv

namespace SR.C17

open SR.Lca SR.Py SR.Gen.Rmq SR.RmqBridge

variable {α : Type}

/-- `<` of a linearly ordered element type as the `lt_` parameter of the
    generated functions: it never raises. -/
def codeLt (α : Type) [LinearOrder α] : α → α → Except Py.Err Bool := liftLt (ordLt α)

theorem C17_code_codeLt [LinearOrder α] (a b : α) : codeLt α a b = .ok (decide (a < b)) := rfl

/-- The generated functions compute exactly what the hand-written model computes,
    exceptions included: `_ilog2` on positive ints; `__init__` builds the model's
    table cell by cell for every list and every comparison (raising ones
    included; the empty list raises `IndexError`); `__call__` on non-negative
    bounds is the model's query on ANY table; construction followed by a query
    is the model's `rmq`. -/
theorem C17_code_tie :
    (∀ n : Nat, 0 < n → _ilog2 (n : Int) = .ok ((Lca.ilog2 n : Nat) : Int)) ∧
    (∀ (lt : Lt α) (data : List α),
      RangeMinQuery.__init__ (liftLt lt) data
        = (match Lca.build lt data with
           | .error e => .error (toPy e)
           | .ok tbl => .ok { sparse_table := tbl })) ∧
    (∀ (lt : Lt α) (self : RangeMinQuery α) (start stop : Nat),
      RangeMinQuery.__call__ (liftLt lt) self (start : Int) (stop : Int)
        = conv (Lca.query lt self.sparse_table start stop)) ∧
    (∀ (lt : Lt α) (data : List α) (start stop : Nat),
      (match RangeMinQuery.__init__ (liftLt lt) data with
       | .error e => .error e
       | .ok self => RangeMinQuery.__call__ (liftLt lt) self (start : Int) (stop : Int))
        = modelRmq lt data start stop) :=
  ⟨gen_ilog2_eq_model, gen_init_eq_model, gen_call_eq_model, fun lt data start stop => by
    -- the `match` of this statement and that of `gen_rmq_eq_model` are distinct auxiliary
    -- definitions: they are compared on the two constructors, not by unfolding `__init__`
    rw [← gen_rmq_eq_model]
    cases RangeMinQuery.__init__ (liftLt lt) data <;> rfl⟩

/-- Transfer: whenever the model's `rmq` answers (does not raise), so does the
    generated code — construction succeeds and the query on the constructed
    object returns the same answer. -/
theorem C17_code_of_model (lt : Lt α) (data : List α) (start stop : Nat) (r : Option α)
    (h : rmq lt data start stop = .ok r) :
    ∃ self, RangeMinQuery.__init__ (liftLt lt) data = .ok self ∧
      RangeMinQuery.__call__ (liftLt lt) self (start : Int) (stop : Int) = .ok r := by
  unfold rmq at h
  cases hb : Lca.build lt data with
  | error e => simp [hb] at h
  | ok tbl =>
    simp only [hb] at h
    refine ⟨⟨tbl⟩, ?_, ?_⟩
    · rw [gen_init_eq_model, hb]
    · rw [gen_call_eq_model, h]; rfl

example : ∃ self, RangeMinQuery.__init__ (codeLt Nat) [3, 1, 5, 3, 4, 7, 6, 1] = .ok self ∧
    RangeMinQuery.__call__ (codeLt Nat) self 2 7 = .ok (some 3) :=
  C17_code_of_model (ordLt Nat) _ 2 7 _ (by decide +kernel)

/-- A query on a non-empty range inside the array: construction and query do
    not raise, and the answer is an element of exactly `data[start:stop]` that
    is below every element of it — its minimum. -/
theorem C17_code_rmq [LinearOrder α] (data : List α) (start stop : Nat)
    (h1 : start < stop) (h2 : stop ≤ data.length) :
    ∃ self m, RangeMinQuery.__init__ (codeLt α) data = .ok self ∧
      RangeMinQuery.__call__ (codeLt α) self (start : Int) (stop : Int) = .ok (some m) ∧
      m ∈ slice data start stop ∧ ∀ x ∈ slice data start stop, m ≤ x := by
  obtain ⟨m, hq, hm, hle⟩ := C17_rmq data start stop h1 h2
  obtain ⟨self, hi, hc⟩ := C17_code_of_model (ordLt α) data start stop _ hq
  exact ⟨self, m, hi, hc, hm, hle⟩

example : slice [3, 1, 5, 3, 4, 7, 6, 1] 2 7 = [5, 3, 4, 7, 6] := rfl

/-- The same in terms of `List.min?`: the query is the minimum of the slice. -/
theorem C17_code_rmq_min [LinearOrder α] (data : List α) (start stop : Nat)
    (h1 : start < stop) (h2 : stop ≤ data.length) :
    ∃ self, RangeMinQuery.__init__ (codeLt α) data = .ok self ∧
      RangeMinQuery.__call__ (codeLt α) self (start : Int) (stop : Int)
        = .ok ((slice data start stop).min?) :=
  C17_code_of_model (ordLt α) data start stop _ (C17_rmq_min data start stop h1 h2)

example : ∃ self, RangeMinQuery.__init__ (codeLt Nat) [3, 1, 5, 3, 4, 7, 6, 1] = .ok self ∧
    RangeMinQuery.__call__ (codeLt Nat) self 2 7
      = .ok ((slice [3, 1, 5, 3, 4, 7, 6, 1] 2 7).min?) :=
  C17_code_rmq_min _ 2 7 (by decide) (by decide)

/-- On a non-empty array an empty range (`start ≥ stop`) yields `None`, whatever the bounds (on
    `[]` the construction raises: `C17_code_init_empty`). -/
theorem C17_code_rmq_empty [LinearOrder α] (data : List α) (start stop : Nat)
    (hne : data ≠ []) (h : stop ≤ start) :
    ∃ self, RangeMinQuery.__init__ (codeLt α) data = .ok self ∧
      RangeMinQuery.__call__ (codeLt α) self (start : Int) (stop : Int) = .ok none :=
  C17_code_of_model (ordLt α) data start stop _ (C17_rmq_empty data start stop hne h)

example : ∃ self, RangeMinQuery.__init__ (codeLt Nat) [3, 1, 5] = .ok self ∧
    RangeMinQuery.__call__ (codeLt Nat) self 2 1 = .ok none :=
  C17_code_rmq_empty _ 2 1 (by decide) (by decide)

/-- `None` is returned exactly for the empty ranges: for bounds inside a
    non-empty array the constructed object answers `None` iff `stop ≤ start`. -/
theorem C17_code_rmq_none_iff [LinearOrder α] (data : List α) (start stop : Nat)
    (hne : data ≠ []) (h2 : stop ≤ data.length) :
    ∃ self, RangeMinQuery.__init__ (codeLt α) data = .ok self ∧
      (RangeMinQuery.__call__ (codeLt α) self (start : Int) (stop : Int) = .ok none ↔ stop ≤ start) := by
  by_cases h : stop ≤ start
  · obtain ⟨self, hi, hc⟩ := C17_code_rmq_empty data start stop hne h
    exact ⟨self, hi, by simp [hc, h]⟩
  · obtain ⟨self, m, hi, hc, _⟩ := C17_code_rmq data start stop (by omega) h2
    refine ⟨self, hi, ?_⟩
    rw [hc]
    simp [h]

example : ∃ self, RangeMinQuery.__init__ (codeLt Nat) [3, 1, 5] = .ok self ∧
    (RangeMinQuery.__call__ (codeLt Nat) self 1 3 = .ok none ↔ 3 ≤ 1) :=
  C17_code_rmq_none_iff _ 1 3 (by decide) (by decide)

/-- Recorded behaviour of the code on the empty array: `levels = 0`, the table
    has no row, `self.sparse_table[0] = …` raises `IndexError` (whatever the
    comparison). -/
theorem C17_code_init_empty (lt : Lt α) :
    RangeMinQuery.__init__ (liftLt lt) ([] : List α) = .error .IndexError := by
  rw [gen_init_eq_model]
  rfl

/-- For a comparison that orders the elements by a key into a linear order
    (ties allowed): the answer is a key-minimal element of the range. -/
theorem C17_code_rmq_key {κ : Type} [LinearOrder κ] (key : α → κ) (lt : α → α → Bool)
    (hlt : ∀ a b, lt a b = decide (key a < key b)) (data : List α) (start stop : Nat)
    (h1 : start < stop) (h2 : stop ≤ data.length) :
    ∃ self m, RangeMinQuery.__init__ (liftLt (totalLt lt)) data = .ok self ∧
      RangeMinQuery.__call__ (liftLt (totalLt lt)) self (start : Int) (stop : Int) = .ok (some m) ∧
      m ∈ slice data start stop ∧ ∀ x ∈ slice data start stop, key m ≤ key x := by
  obtain ⟨m, hq, hm, hle⟩ := C17_rmq_key key lt hlt data start stop h1 h2
  obtain ⟨self, hi, hc⟩ := C17_code_of_model (totalLt lt) data start stop _ hq
  exact ⟨self, m, hi, hc, hm, hle⟩

/-- Tuples `(level, id)` of integers under Python's lexicographic comparison. -/
theorem C17_code_rmq_pairs (data : List (Int × Int)) (start stop : Nat)
    (h1 : start < stop) (h2 : stop ≤ data.length) :
    ∃ self m, RangeMinQuery.__init__ (liftLt pairLt) data = .ok self ∧
      RangeMinQuery.__call__ (liftLt pairLt) self (start : Int) (stop : Int) = .ok (some m) ∧
      m ∈ slice data start stop ∧
      ∀ x ∈ slice data start stop, m.1 < x.1 ∨ (m.1 = x.1 ∧ m.2 ≤ x.2) := by
  obtain ⟨m, hq, hm, hle⟩ := C17_rmq_pairs data start stop h1 h2
  obtain ⟨self, hi, hc⟩ := C17_code_of_model pairLt data start stop _ hq
  exact ⟨self, m, hi, hc, hm, hle⟩

example : ∃ self, RangeMinQuery.__init__ (liftLt pairLt) [(1, 2), (0, 3), (0, 1)] = .ok self ∧
    RangeMinQuery.__call__ (liftLt pairLt) self 0 3 = .ok (some (0, 1)) :=
  C17_code_of_model pairLt _ 0 3 _ (by decide +kernel)

/-- Python's `(level, node) < (level, node)` as the `lt_` parameter: it raises
    `TypeError` exactly when the levels are equal and the nodes distinct
    (`TreeNode < TreeNode`). -/
theorem C17_code_entryLt_raises_iff (a b : TourEntry) :
    liftLt entryLt a b = .error .TypeError ↔ (a.1 = b.1 ∧ a.2 ≠ b.2) := by
  unfold liftLt entryLt
  by_cases h1 : a.1 = b.1 <;> by_cases h2 : a.2 = b.2 <;> simp [h1, h2, conv, toPy]

/-- The generated constructor run on the Euler tour of ANY tree, with the
    comparison that raises on two distinct nodes of equal level, does not raise
    (the generated code propagates every exception of `lt_`, so `.ok` means no
    such comparison was evaluated), and every in-range query on the constructed
    object returns an entry of the range of minimal level. -/
theorem C17_code_no_node_cmp (t : RTree) :
    ∃ self, RangeMinQuery.__init__ (liftLt entryLt) (eulerTour t) = .ok self ∧
      ∀ start stop : Nat, start < stop → stop ≤ (eulerTour t).length →
        ∃ m, RangeMinQuery.__call__ (liftLt entryLt) self (start : Int) (stop : Int) = .ok (some m) ∧
          m ∈ slice (eulerTour t) start stop ∧ ∀ e ∈ slice (eulerTour t) start stop, m.1 ≤ e.1 := by
  obtain ⟨tbl, hb, hq⟩ := (C17_no_node_cmp t).2
  refine ⟨⟨tbl⟩, by rw [gen_init_eq_model, hb], ?_⟩
  intro start stop h1 h2
  obtain ⟨m, hm, hmem, hmin⟩ := hq start stop h1 h2
  exact ⟨m, by rw [gen_call_eq_model, hm]; rfl, hmem, hmin⟩

example : ∃ self, RangeMinQuery.__init__ (liftLt entryLt) (eulerTour exTree) = .ok self ∧
    RangeMinQuery.__call__ (liftLt entryLt) self 3 12 = .ok (some (0, [])) :=
  C17_code_of_model entryLt _ 3 12 _ (by decide +kernel)

end SR.C17
