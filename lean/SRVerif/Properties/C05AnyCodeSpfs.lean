/-
  C05, the policy ANY of the CODE-STRUCTURED model of the ordered solvers
  (`Model/SpfsCode.lean`: `SpfsCode.spfs .any` = `sreconcile_{base,extended}_spfs(…, ANY)`),
  against THE SAME model under ALL (`spfsCode` = `SpfsCode.spfs .all`, which
  `C02_code_refines` ties to the label-DP model `spfs`).  For all inputs:

  * `C05_code_any_table_spfs`   for every object (sub)tree and root order the dicts of the
        two tables read the same at every (species, mask): instantiated together, SAME VALUE,
        at most one ANY tag, which is one of the ALL tags, one as soon as ALL has one;
  * `C05_code_any_decode_spfs`  the outputs decoded from the ANY table are decoded from the
        ALL table, and an ALL cell that decodes to something has an ANY decoding;
  * `C05_code_any_error_spfs`, `C05_code_any_ok_spfs`   the two runs raise the same errors and
        succeed together (the root orderings do not depend on the policy);
  * `C05_code_any_card_spfs`, `C05_code_any_empty_iff_spfs`, `C05_code_any_total_spfs`
        at most one solution; none iff the ALL result is empty; exactly one otherwise (no
        hypothesis on the costs, the species tree, the leaves);
  * `C05_code_any_mem_spfs_of_uniform`   membership and equal result values, provided the
        evaluated cost is constant on the decodings of each root cell of the ALL tables;
  * `C05_code_any_mem_spfs` (+ `_none`, `_prescribed`), `C05_code_any_same_cost_spfs`
        inside the coherent region `spe + 2·sloss ≤ dup + 2·floss` (the hypotheses of
        `C05_any_mem_spfs` and the guards of `C02_code_refines`): the ANY solution is one of
        the ALL solutions of the same code — hence of `spfs` — with the same cost.
-/
import SRVerif.Proofs.AnyCodeSpfs
import SRVerif.Properties.C02Code
import SRVerif.Properties.C05Any

namespace SR.C05

open SR Cost AnyCode SpfsCode

section table

variable (c : Costs) (S : RTree) (base : Bool) (order : List Nat) (o : OTree)

/-- **The two tables**, at the dict of any object (sub)tree (the dicts of the inner object
    nodes are those of `computeTable` on the subtrees, with `isRoot = false`). -/
theorem C05_code_any_table_spfs (isRoot : Bool) (s : Path) (m : Nat) :
    let cA := lookup (computeTable c S base .any order isRoot o).cells s m
    let cL := lookup (computeTable c S base .all order isRoot o).cells s m
    (cA = none ↔ cL = none) ∧ Cell.value .min cA = Cell.value .min cL ∧
    (Cell.infos cA).length ≤ 1 ∧ (∀ t ∈ Cell.infos cA, t ∈ Cell.infos cL) ∧
    (Cell.infos cL ≠ [] → Cell.infos cA ≠ []) :=
  (lookup_al (computeTable_al c S base order o isRoot).cells s m).spec

theorem C05_code_any_decode_spfs (isRoot : Bool) (s : Path) (m : Nat) :
    (∀ sol ∈ decodeTable order (computeTable c S base .any order isRoot o) s m,
      sol ∈ decodeTable order (computeTable c S base .all order isRoot o) s m) ∧
    (decodeTable order (computeTable c S base .all order isRoot o) s m ≠ [] →
      decodeTable order (computeTable c S base .any order isRoot o) s m ≠ []) :=
  decodings c S base order o isRoot s m

end table

section solver

variable (c : Costs) (S : RTree) (base : Bool) (o : OTree) (pre : Option (List Nat))

theorem C05_code_any_error_spfs (e : Toposort.Err) :
    SpfsCode.spfs .any c S base o pre = .error e ↔ spfsCode c S base o pre = .error e := by
  simp only [spfsCode, SpfsCode.spfs]
  cases rootOrderings o pre <;> simp

/-- Both succeed together, with the result entries of the same root orderings. -/
theorem spfs_ok_iff (resA resL : List Sol) :
    SpfsCode.spfs .any c S base o pre = .ok resA ∧ spfsCode c S base o pre = .ok resL ↔
      ∃ os, rootOrderings o pre = .ok os ∧ resA = (results c S base .any o os).infos ∧
        resL = (results c S base .all o os).infos := by
  simp only [spfsCode, SpfsCode.spfs]
  cases rootOrderings o pre with
  | error e => simp
  | ok os =>
    simp only [Except.ok.injEq, exists_eq_left']
    constructor
    · rintro ⟨rfl, rfl⟩; exact ⟨rfl, rfl⟩
    · rintro ⟨rfl, rfl⟩; exact ⟨rfl, rfl⟩

theorem C05_code_any_ok_spfs :
    (∃ resA, SpfsCode.spfs .any c S base o pre = .ok resA) ↔
      (∃ resL, spfsCode c S base o pre = .ok resL) := by
  simp only [spfsCode, SpfsCode.spfs]
  cases rootOrderings o pre <;> simp

theorem C05_code_any_card_spfs (resA : List Sol)
    (hA : SpfsCode.spfs .any c S base o pre = .ok resA) : resA.length ≤ 1 := by
  obtain ⟨resL, hL⟩ := (C05_code_any_ok_spfs c S base o pre).mp ⟨resA, hA⟩
  obtain ⟨os, _, rfl, _⟩ := (spfs_ok_iff c S base o pre resA resL).mp ⟨hA, hL⟩
  exact (results_rel c S base o os).1

theorem C05_code_any_empty_iff_spfs (resA resL : List Sol)
    (hA : SpfsCode.spfs .any c S base o pre = .ok resA) (hL : spfsCode c S base o pre = .ok resL) :
    resA = [] ↔ resL = [] := by
  obtain ⟨os, _, rfl, rfl⟩ := (spfs_ok_iff c S base o pre resA resL).mp ⟨hA, hL⟩
  exact (results_rel c S base o os).2.1

theorem C05_code_any_total_spfs (resA resL : List Sol)
    (hA : SpfsCode.spfs .any c S base o pre = .ok resA) (hL : spfsCode c S base o pre = .ok resL)
    (hne : resL ≠ []) : resA.length = 1 := by
  have h1 := List.length_pos_iff.mpr fun h =>
    hne ((C05_code_any_empty_iff_spfs c S base o pre resA resL hA hL).mp h)
  have h2 := C05_code_any_card_spfs c S base o pre resA hA
  omega

/-- The evaluated cost is constant on the decodings of each root cell of the ALL tables. -/
def UniformSpfs (c : Costs) (S : RTree) (base : Bool) (o : OTree) (os : List (List Nat)) : Prop :=
  ∀ order ∈ os, ∀ sp ∈ levelorder S,
    ∀ x ∈ decodeTable order (computeTable c S base .all order true o) sp (subseqComplete order),
    ∀ y ∈ decodeTable order (computeTable c S base .all order true o) sp (subseqComplete order),
      totalCost c .ordered o x = totalCost c .ordered o y

theorem C05_code_any_mem_spfs_of_uniform (os : List (List Nat)) (hos : rootOrderings o pre = .ok os)
    (hu : UniformSpfs c S base o os) :
    ∃ resA resL, SpfsCode.spfs .any c S base o pre = .ok resA ∧
      spfsCode c S base o pre = .ok resL ∧
      (results c S base .any o os).value = (results c S base .all o os).value ∧
      ∀ sol ∈ resA, sol ∈ resL := by
  refine ⟨(results c S base .any o os).infos, (results c S base .all o os).infos,
    by simp only [SpfsCode.spfs, hos], by simp only [spfsCode, SpfsCode.spfs, hos], ?_⟩
  apply (results_rel c S base o os).2.2
  intro k hk x hx y hy
  simp only [rootKeys, List.mem_flatMap, List.mem_map] at hk
  obtain ⟨order, ho, sp, hsp, rfl⟩ := hk
  exact hu order ho sp hsp x hx y hy

/-- Inside the coherent region the table value is the evaluated cost of every decoding. -/
theorem uniformSpfs (os : List (List Nat)) (hos : ∀ order ∈ os, order ∈ rootOrders o pre)
    (hord : C02.OrdersOk o pre) (hb : S.isBinary = true)
    (hS : ∀ p ∈ leafSpecies o, S.isNode p = true)
    (hcoh : c.spe + 2 * c.sloss ≤ c.dup + 2 * c.floss) : UniformSpfs c S base o os := by
  intro order ho sp _ x hx y hy
  have hro := hos order ho
  have hlv := (hord order hro).2
  obtain ⟨d, hd, hsp, hlab, lx, hlx, rfl⟩ :=
    (C02.C02_code_decode c S base order o hS hlv true sp _ x).mp hx
  obtain ⟨d', hd', hsp', hlab', ly, hly, rfl⟩ :=
    (C02.C02_code_decode c S base order o hS hlv true sp _ y).mp hy
  have hdd : d' = d := dp_functional (ordAlg c) c S true _ hd' hd (by rw [hsp', hsp])
    (by rw [hlab', hlab])
  subst hdd
  have hg : d'.sols.map (ordSol order) ∈ spfsGroups c S base o pre := by
    simp only [spfsGroups, List.mem_flatMap, List.mem_map]
    exact ⟨order, hro, d', (C02.mem_spfsCellsFor c S base o).mpr ⟨hd, hlab⟩, rfl⟩
  exact spfs_uniform c S base o pre hord hb hS hcoh _ hg _ (List.mem_map.mpr ⟨lx, hlx, rfl⟩)
    _ (List.mem_map.mpr ⟨ly, hly, rfl⟩)

/-- **C05 (`any` ∈ `all`) for the code-structured ordered solvers**, inside the coherent
    region: the hypotheses of `C05_any_mem_spfs`, and the root orderings tried are those
    of `rootOrders` (the guard of `C02_code_refines`; see `_none` / `_prescribed`). -/
theorem C05_code_any_mem_spfs (hord : C02.OrdersOk o pre) (hb : S.isBinary = true)
    (hS : ∀ p ∈ leafSpecies o, S.isNode p = true)
    (hcoh : c.spe + 2 * c.sloss ≤ c.dup + 2 * c.floss)
    (horders : ∃ os, rootOrderings o pre = .ok os ∧ ∀ order, order ∈ os ↔ order ∈ rootOrders o pre) :
    ∃ resA resL, SpfsCode.spfs .any c S base o pre = .ok resA ∧
      spfsCode c S base o pre = .ok resL ∧ resA.length ≤ 1 ∧ (resA = [] ↔ resL = []) ∧
      ∀ sol ∈ resA, sol ∈ resL ∧ sol ∈ spfs c S base o pre := by
  obtain ⟨os, hos, hmem⟩ := horders
  obtain ⟨resA, resL, hA, hL, _, hsub⟩ := C05_code_any_mem_spfs_of_uniform c S base o pre os hos
    (uniformSpfs c S base o pre os (fun order h => (hmem order).mp h) hord hb hS hcoh)
  obtain ⟨res, hres, hiff, _⟩ := C02.C02_code_refines c S base o pre hS
    (fun order h => (hord order h).2) ⟨os, hos, hmem⟩
  have : res = resL := by rw [hL] at hres; exact (Except.ok.inj hres).symm
  subst this
  exact ⟨resA, res, hA, hL, C05_code_any_card_spfs c S base o pre resA hA,
    C05_code_any_empty_iff_spfs c S base o pre resA res hA hL,
    fun sol h => ⟨hsub sol h, (hiff sol).mp (hsub sol h)⟩⟩

/-- Without a prescribed root order: non-empty leaf syntenies (distinct families when the
    input is a single leaf). -/
theorem C05_code_any_mem_spfs_none (hne : ∀ f ∈ leafSyntenies o, f ≠ [])
    (hleaf : ∀ sp f, o = .leaf sp f → f.Nodup) (hb : S.isBinary = true)
    (hS : ∀ p ∈ leafSpecies o, S.isNode p = true)
    (hcoh : c.spe + 2 * c.sloss ≤ c.dup + 2 * c.floss) :
    ∃ resA resL, SpfsCode.spfs .any c S base o none = .ok resA ∧
      spfsCode c S base o none = .ok resL ∧ resA.length ≤ 1 ∧ (resA = [] ↔ resL = []) ∧
      ∀ sol ∈ resA, sol ∈ resL ∧ sol ∈ spfs c S base o none := by
  obtain ⟨os, hos, _, hmem⟩ := C02.C02_code_orders_none o hne hleaf
  exact C05_code_any_mem_spfs c S base o none (C02.C02_orders_ok o hne) hb hS hcoh ⟨os, hos, hmem⟩

/-- With a prescribed duplicate-free root order containing every (non-empty) leaf synteny. -/
theorem C05_code_any_mem_spfs_prescribed (r : List Nat) (hnd : r.Nodup)
    (h : ∀ f ∈ leafSyntenies o, f ≠ [] ∧ f.Sublist r) (hb : S.isBinary = true)
    (hS : ∀ p ∈ leafSpecies o, S.isNode p = true)
    (hcoh : c.spe + 2 * c.sloss ≤ c.dup + 2 * c.floss) :
    ∃ resA resL, SpfsCode.spfs .any c S base o (some r) = .ok resA ∧
      spfsCode c S base o (some r) = .ok resL ∧ resA.length ≤ 1 ∧ (resA = [] ↔ resL = []) ∧
      ∀ sol ∈ resA, sol ∈ resL ∧ sol ∈ spfs c S base o (some r) :=
  C05_code_any_mem_spfs c S base o (some r) (C02.C02_orders_ok_prescribed o r hnd h) hb hS hcoh
    ⟨_, rfl, fun _ => Iff.rfl⟩

theorem C05_code_any_same_cost_spfs (hord : C02.OrdersOk o pre) (hb : S.isBinary = true)
    (hS : ∀ p ∈ leafSpecies o, S.isNode p = true)
    (hcoh : c.spe + 2 * c.sloss ≤ c.dup + 2 * c.floss)
    (horders : ∃ os, rootOrderings o pre = .ok os ∧ ∀ order, order ∈ os ↔ order ∈ rootOrders o pre)
    (resA resL : List Sol) (hA : SpfsCode.spfs .any c S base o pre = .ok resA)
    (hL : spfsCode c S base o pre = .ok resL) :
    ∀ sol ∈ resA, ∀ sol' ∈ resL, totalCost c .ordered o sol = totalCost c .ordered o sol' := by
  obtain ⟨resA', resL', hA', hL', _, _, hmem⟩ :=
    C05_code_any_mem_spfs c S base o pre hord hb hS hcoh horders
  have e1 : resA' = resA := by rw [hA] at hA'; exact (Except.ok.inj hA').symm
  have e2 : resL' = resL := by rw [hL] at hL'; exact (Except.ok.inj hL').symm
  subst e1; subst e2
  obtain ⟨res, hres, hiff, _⟩ := C02.C02_code_refines c S base o pre hS
    (fun order h => (hord order h).2) horders
  have e3 : res = resL' := by rw [hL] at hres; exact (Except.ok.inj hres).symm
  subst e3
  intro sol hsol sol' hsol'
  exact C05_same_cost c .ordered o _ sol sol' ((hiff sol).mp (hmem sol hsol).1) ((hiff sol').mp hsol')

end solver

/-- Two compatible root orders, ties: at least two ALL solutions, the ANY run returns one of them;
    the guards of `C05_code_any_mem_spfs_none` hold. -/
example :
    let c : Costs := { spe := 0, dup := 1, hgt := .fin 1, floss := 1, sloss := 1 }
    let S : RTree := .node [.node [], .node []]
    let o : OTree := .node (.leaf [0] [0]) (.leaf [1] [1])
    c.spe + 2 * c.sloss ≤ c.dup + 2 * c.floss ∧ S.isBinary = true ∧
    (∀ p ∈ leafSpecies o, S.isNode p = true) ∧ (∀ f ∈ leafSyntenies o, f ≠ []) ∧
    (∃ resA resL, SpfsCode.spfs .any c S false o none = .ok resA ∧
      spfsCode c S false o none = .ok resL ∧ resA.length = 1 ∧ 2 ≤ resL.length ∧
      ∀ s ∈ resA, s ∈ resL) := by
  refine ⟨by decide, by decide, by decide, by decide, _, _, rfl, rfl, ?_⟩
  decide +kernel

/-- Inconsistent leaf orders: both results are empty; an empty leaf synteny: the ANY run raises. -/
example :
    let c : Costs := { spe := 1, dup := 1, hgt := .fin 1, floss := 1, sloss := 1 }
    let S : RTree := .node [.node [], .node []]
    SpfsCode.spfs .any c S false (.node (.leaf [0] [0, 1]) (.leaf [1] [1, 0])) none = .ok [] ∧
    spfsCode c S false (.node (.leaf [0] [0, 1]) (.leaf [1] [1, 0])) none = .ok [] ∧
    SpfsCode.spfs .any c S false (.node (.leaf [0] []) (.leaf [1] [1])) none = .error .indexError := by
  decide +kernel

end SR.C05
