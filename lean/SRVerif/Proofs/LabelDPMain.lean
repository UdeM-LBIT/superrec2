/-
  The generic label-DP theorems, for an arbitrary `LabelAlg`, against `labCost`, the evaluator-style
  cost of a labelled solution (sum of `genLocal` over the internal nodes).  Decoded solutions are
  admissible and of finite cost, at most the cell value plus a slack `X` per internal node that
  is 0 inside the coherent region `spe + K ≤ dup + 2 * floss` (`dp_sound`, `dp_decoded`); the table
  never over-estimates (`dp_lower`); a solution attaining the cell value is decoded (`dp_all`).
  Inside the coherent region this makes a cell's value the minimum of `labCost` over
  the admissible solutions with its root state and its decoded solutions the minimisers
  (`table_exact`; for the solvers `dp_dominated`, `dp_mem_of_le_decoded`).  At the end, the table
  read by key.
-/
import SRVerif.Proofs.LabelDPLocal

namespace SR

open Cost Path

namespace LSol

def sp {Lab : Type} : LSol Lab → Path
  | .leaf s _ => s
  | .node s _ _ _ => s

def lab {Lab : Type} : LSol Lab → Lab
  | .leaf _ l => l
  | .node _ l _ _ => l

def Valid {Lab : Type} : LSol Lab → Prop
  | .leaf _ _ => True
  | .node s _ l r => internalEvent s l.sp r.sp ≠ .invalid ∧ Valid l ∧ Valid r

end LSol

def ATree.internal {α : Type} : ATree α → Nat
  | .leaf _ _ => 0
  | .node _ l r => l.internal + r.internal + 1

section

variable {α Lab : Type}

/-- `ls` is a solution of the annotated input `t`: same shape, leaves at their
    given species with the leaf label, internal species / labels among those the
    algebra allows. -/
def Adm (A : LabelAlg α Lab) : ATree α → LSol Lab → Prop
  | .leaf a sp, .leaf s lab => s = sp ∧ lab = A.leafLab a
  | .node a l r, .node s lab sl sr => s ∈ A.allowed a ∧ lab ∈ A.labs a ∧ Adm A l sl ∧ Adm A r sr
  | _, _ => False

/-- The evaluator's local cost at the algebra's edge costs. -/
def genLocal (A : LabelAlg α Lab) (c : Costs) (a : α) (s : Path) (lab : Lab)
    (la : α) (x : Path) (lx : Lab) (ra : α) (y : Path) (ly : Lab) : Cost :=
  gl c s x (A.conserv a lab la lx) (A.segment a lab la lx) y (A.conserv a lab ra ly)
    (A.segment a lab ra ly)

/-- Sum of `genLocal` over the internal nodes; `inf` when the shapes differ. -/
def labCost (A : LabelAlg α Lab) (c : Costs) : ATree α → LSol Lab → Cost
  | .leaf _ _, .leaf _ _ => .fin 0
  | .node a l r, .node s lab sl sr =>
    genLocal A c a s lab l.data sl.sp sl.lab r.data sr.sp sr.lab + (labCost A c l sl + labCost A c r sr)
  | _, _ => .inf

/-- Leaf species and allowed species are nodes of the species tree. -/
def SpOk (A : LabelAlg α Lab) (S : RTree) : ATree α → Prop
  | .leaf _ sp => S.isNode sp = true
  | .node a l r => (∀ s ∈ A.allowed a, S.isNode s = true) ∧ SpOk A S l ∧ SpOk A S r

/-- The law relating the two edge costs: a conserved edge costs at most `K` more
    than a segment edge (`K = 0` plain, `2·sloss` ordered, `sloss` unordered). -/
def LabelAlg.Slack (A : LabelAlg α Lab) (K : Nat) : Prop :=
  ∀ a lab ca lc, A.conserv a lab ca lc ≼ A.segment a lab ca lc + .fin K

theorem Adm.leaf_inv {A : LabelAlg α Lab} {a : α} {sp : Path} {ls : LSol Lab}
    (h : Adm A (.leaf a sp) ls) : ls = .leaf sp (A.leafLab a) := by
  cases ls with
  | leaf s lab => obtain ⟨rfl, rfl⟩ := h; rfl
  | node => simp [Adm] at h

theorem Adm.node_inv {A : LabelAlg α Lab} {a : α} {l r : ATree α} {ls : LSol Lab}
    (h : Adm A (.node a l r) ls) :
    ∃ s lab x y, ls = .node s lab x y ∧ s ∈ A.allowed a ∧ lab ∈ A.labs a ∧ Adm A l x ∧ Adm A r y := by
  cases ls with
  | leaf => simp [Adm] at h
  | node s lab x y => exact ⟨s, lab, x, y, rfl, h⟩

theorem adm_isNode {A : LabelAlg α Lab} {S : RTree} {t : ATree α} {ls : LSol Lab}
    (hok : SpOk A S t) (h : Adm A t ls) : S.isNode ls.sp = true := by
  cases t <;> cases ls <;> simp only [Adm, SpOk, LSol.sp] at *
  · rw [h.1]; exact hok
  · exact hok.1 _ h.1

theorem labCost_node_ne_inf {A : LabelAlg α Lab} {c : Costs} {a : α} {l r : ATree α} {s : Path}
    {lab : Lab} {x y : LSol Lab} (h : labCost A c (.node a l r) (.node s lab x y) ≠ .inf) :
    genLocal A c a s lab l.data x.sp x.lab r.data y.sp y.lab ≠ .inf ∧
      labCost A c l x ≠ .inf ∧ labCost A c r y ≠ .inf :=
  ⟨(add_ne_inf h).1, add_ne_inf (add_ne_inf h).2⟩

/-- An invalid event, like a mismatch of shapes, makes the cost infinite: a labelling of finite
    cost has valid events only. -/
theorem valid_of_labCost_fin (A : LabelAlg α Lab) (c : Costs) :
    ∀ (t : ATree α) (ls : LSol Lab), labCost A c t ls ≠ .inf → ls.Valid := by
  intro t
  induction t with
  | leaf a sp => intro ls h; cases ls <;> first | trivial | exact absurd rfl h
  | node a l r ihl ihr =>
    intro ls h
    cases ls with
    | leaf => exact absurd rfl h
    | node s lab x y =>
      obtain ⟨hg, hx, hy⟩ := labCost_node_ne_inf h
      exact ⟨event_valid_of_gl hg, ihl x hx, ihr y hy⟩

variable [DecidableEq Lab]

theorem mem_dpTable_node {A : LabelAlg α Lab} {c : Costs} {S : RTree} {keep : Bool} {a : α}
    {l r : ATree α} {d : DCell Lab} :
    d ∈ dpTable A c S keep (.node a l r) ↔
      ∃ s ∈ A.allowed a, ∃ lab ∈ A.labs a,
        entry A c S keep a s lab l.data r.data (dpTable A c S keep l) (dpTable A c S keep r) = some d := by
  simp only [dpTable, List.mem_flatMap, List.mem_filterMap]

theorem mem_dpTable_leaf {A : LabelAlg α Lab} {c : Costs} {S : RTree} {keep : Bool} {a : α}
    {sp : Path} {d : DCell Lab} :
    d ∈ dpTable A c S keep (.leaf a sp) ↔
      d = { sp := sp, lab := A.leafLab a, cost := .fin 0,
            sols := if keep then [LSol.leaf sp (A.leafLab a)] else [] } := by
  simp only [dpTable, List.mem_singleton]

theorem dp_functional (A : LabelAlg α Lab) (c : Costs) (S : RTree) (keep : Bool) (t : ATree α)
    {d1 d2 : DCell Lab} (h1 : d1 ∈ dpTable A c S keep t) (h2 : d2 ∈ dpTable A c S keep t)
    (hs : d1.sp = d2.sp) (hl : d1.lab = d2.lab) : d1 = d2 := by
  cases t with
  | leaf a sp => rw [mem_dpTable_leaf] at h1 h2; rw [h1, h2]
  | node a l r =>
    obtain ⟨s1, _, lab1, _, e1⟩ := mem_dpTable_node.mp h1
    obtain ⟨s2, _, lab2, _, e2⟩ := mem_dpTable_node.mp h2
    have p1 := entry_eq_some _ _ _ _ _ _ _ _ _ _ e1
    have p2 := entry_eq_some _ _ _ _ _ _ _ _ _ _ e2
    have : s1 = s2 := by rw [← p1.1, ← p2.1, hs]
    subst this
    have : lab1 = lab2 := by rw [← p1.2.1, ← p2.2.1, hl]
    subst this
    rw [e1] at e2; injection e2

theorem cellTag_inj (A : LabelAlg α Lab) (c : Costs) (S : RTree) (keep : Bool) (t : ATree α)
    {d1 d2 : DCell Lab} (h1 : d1 ∈ dpTable A c S keep t) (h2 : d2 ∈ dpTable A c S keep t)
    (h : cellTag d1 = cellTag d2) : d1 = d2 := by
  simp only [cellTag, Prod.mk.injEq] at h
  exact dp_functional A c S keep t h1 h2 h.1 h.2

theorem findCell_dpTable (A : LabelAlg α Lab) (c : Costs) (S : RTree) (keep : Bool) (t : ATree α)
    {d : DCell Lab} (hd : d ∈ dpTable A c S keep t) :
    findCell (dpTable A c S keep t) (cellTag d) = some d := by
  obtain ⟨d', hf⟩ := findCell_of_mem hd
  obtain ⟨hd', ht⟩ := findCell_some hf
  rw [hf, cellTag_inj A c S keep t hd' hd ht]

theorem dp_finite (A : LabelAlg α Lab) (c : Costs) (S : RTree) (keep : Bool) (t : ATree α)
    {d : DCell Lab} (h : d ∈ dpTable A c S keep t) : d.cost ≠ .inf := by
  cases t with
  | leaf a sp => rw [mem_dpTable_leaf] at h; rw [h]; simp
  | node a l r =>
    obtain ⟨s, _, lab, _, e⟩ := mem_dpTable_node.mp h
    have p := entry_eq_some _ _ _ _ _ _ _ _ _ _ e
    rw [p.2.2.1]; exact p.2.2.2.1

theorem dpTable_core (A : LabelAlg α Lab) (c : Costs) (S : RTree) (t : ATree α) :
    (dpTable A c S false t).map DCell.core = (dpTable A c S true t).map DCell.core := by
  induction t with
  | leaf a sp => simp [dpTable, DCell.core]
  | node a l r ihl ihr =>
    simp only [dpTable, List.map_flatMap, List.map_filterMap, entry_map_core,
      fun s lab => best_congr A c S a s lab l.data r.data ihl ihr]

theorem sound_arith {g a b ca cb bst : Cost} {X nl nr : Nat} (ha : a ≼ ca + .fin (X * nl))
    (hb : b ≼ cb + .fin (X * nr)) (hg : g + (ca + cb) ≼ bst + .fin X) :
    g + (a + b) ≼ bst + .fin (X * (nl + nr + 1)) := by
  refine le_trans (add_le_add (le_refl g) (add_le_add ha hb)) ?_
  have e1 : g + (ca + .fin (X * nl) + (cb + .fin (X * nr))) =
      g + (ca + cb) + .fin (X * nl + X * nr) := by
    rw [← fin_add_fin_eq]; ac_rfl
  have e2 : bst + .fin (X * (nl + nr + 1)) = bst + .fin X + .fin (X * nl + X * nr) := by
    rw [add_assoc, fin_add_fin_eq]
    congr 2
    simp only [Nat.mul_add, Nat.mul_one]; omega
  rw [e1, e2]
  exact add_le_add hg (le_refl _)

/-- With `X = 0`, i.e. in the coherent region `spe + K ≤ dup + 2 * floss` (see `coh_arith`), the
    evaluated cost of a decoded solution is at most the cell value; in general it exceeds it by
    at most `X` per internal node, in particular it is finite (take `X = spe + K`: `dp_decoded`). -/
theorem dp_sound (A : LabelAlg α Lab) (c : Costs) (S : RTree) {K X : Nat} (hK : A.Slack K)
    (hX : c.spe + K ≤ c.dup + 2 * c.floss + X) :
    ∀ (t : ATree α), ∀ d ∈ dpTable A c S true t, ∀ ls ∈ d.sols,
      Adm A t ls ∧ ls.sp = d.sp ∧ ls.lab = d.lab ∧ ls.Valid ∧
      labCost A c t ls ≼ d.cost + .fin (X * t.internal) := by
  intro t
  induction t with
  | leaf a sp =>
    intro d hd ls hls
    rw [mem_dpTable_leaf] at hd
    subst hd
    simp only [if_true, List.mem_singleton] at hls
    subst hls
    simp [Adm, LSol.sp, LSol.lab, LSol.Valid, labCost]
  | node a l r ihl ihr =>
    intro d hd ls hls
    obtain ⟨s, hs, lab, hlab, e⟩ := mem_dpTable_node.mp hd
    obtain ⟨hsp, hlb, hcost, hfin, hsols, _⟩ := entry_eq_some _ _ _ _ _ _ _ _ _ _ e
    obtain ⟨t0, t1, cl, cr, x, y, hc, f0, f1, hx, hy, rfl⟩ := (hsols rfl ls).mp hls
    obtain ⟨ev, hev, dl, hdl, dr, hdr, v0, v1, h0, h1, e0, e1, hv⟩ :=
      entry_attained _ _ _ _ _ _ _ _ _ _ hc
    obtain rfl : cl = dl := Option.some.inj (f0.symm.trans (e0 ▸ findCell_dpTable A c S true l hdl))
    obtain rfl : cr = dr := Option.some.inj (f1.symm.trans (e1 ▸ findCell_dpTable A c S true r hdr))
    obtain ⟨ax, sx, lx, vx, cx⟩ := ihl cl hdl x hx
    obtain ⟨ay, sy, ly, vy, cy⟩ := ihr cr hdr y hy
    have hg := gl_le (hK a lab l.data cl.lab) (hK a lab r.data cr.lab) hX hev h0 h1
    refine ⟨⟨hs, hlab, ax, ay⟩, hsp.symm, hlb.symm, ⟨?_, vx, vy⟩, ?_⟩
    · simp only [sx, sy]; exact hg.1
    · simp only [labCost, genLocal, ATree.internal, sx, sy, lx, ly, hcost]
      refine sound_arith cx cy ?_
      rw [hv]; exact hg.2

theorem dp_decoded (A : LabelAlg α Lab) (c : Costs) (S : RTree) {K : Nat} (hK : A.Slack K)
    (t : ATree α) : ∀ d ∈ dpTable A c S true t, ∀ ls ∈ d.sols,
      Adm A t ls ∧ ls.sp = d.sp ∧ ls.lab = d.lab ∧ ls.Valid ∧ labCost A c t ls ≠ .inf ∧
      (c.spe + K ≤ c.dup + 2 * c.floss → labCost A c t ls ≼ d.cost) := by
  intro d hd ls hls
  -- with the slack `X = spe + K` per internal node `dp_sound` needs no coherence
  have hX : c.spe + K ≤ c.dup + 2 * c.floss + (c.spe + K) := by omega
  obtain ⟨adm, hsp, hlab, hval, hle⟩ := dp_sound A c S hK hX t d hd ls hls
  refine ⟨adm, hsp, hlab, hval, ?_, ?_⟩
  · obtain ⟨n, hn⟩ := ne_inf_iff.mp (dp_finite A c S true t hd)
    rw [hn] at hle
    intro e; rw [e] at hle; simp at hle
  · intro hcoh
    have hX0 : c.spe + K ≤ c.dup + 2 * c.floss + 0 := by omega
    simpa using (dp_sound A c S hK hX0 t d hd ls hls).2.2.2.2

/-- A node with a valid event over two child cells at the children's states, in a binary
    species tree: the evaluator's reading is one of the offered combinations, so the entry is
    at most the local cost plus the two cell values. -/
theorem node_offer (A : LabelAlg α Lab) (c : Costs) (S : RTree) (hb : S.isBinary = true) (a : α)
    (s : Path) (lab : Lab) (la ra : α) {L R : List (DCell Lab)} {x y : LSol Lab}
    {dl dr : DCell Lab} (hdl : dl ∈ L) (hdr : dr ∈ R) (sl : dl.sp = x.sp) (ll : dl.lab = x.lab)
    (sr : dr.sp = y.sp) (lr : dr.lab = y.lab) (hx : S.isNode x.sp = true)
    (hy : S.isNode y.sp = true) (hval : internalEvent s x.sp y.sp ≠ .invalid) :
    ∃ ev ∈ events c, ∃ v0 v1, roleVal A c S a s lab la ev.2.1 dl = some v0 ∧
      roleVal A c S a s lab ra ev.2.2 dr = some v1 ∧
      ev.1 + v0 + v1 = genLocal A c a s lab la x.sp x.lab ra y.sp y.lab + (dl.cost + dr.cost) ∧
      best A c S a s lab la ra L R ≼
        genLocal A c a s lab la x.sp x.lab ra y.sp y.lab + (dl.cost + dr.cost) := by
  obtain ⟨ev, hev, v0, v1, h0, h1, hsum⟩ :=
    gl_ge (c := c) (cost0 := dl.cost) (cv0 := A.conserv a lab la x.lab)
      (sv0 := A.segment a lab la x.lab) (cost1 := dr.cost)
      (cv1 := A.conserv a lab ra y.lab) (sv1 := A.segment a lab ra y.lab) hb hx hy hval
  have r0 : roleVal A c S a s lab la ev.2.1 dl = some v0 := by
    simp only [roleVal, sl, ll]; exact h0
  have r1 : roleVal A c S a s lab ra ev.2.2 dr = some v1 := by
    simp only [roleVal, sr, lr]; exact h1
  exact ⟨ev, hev, v0, v1, r0, r1, hsum, hsum ▸ entry_le A c S a s lab la ra L R hev hdl hdr r0 r1⟩

theorem dp_lower (A : LabelAlg α Lab) (c : Costs) (S : RTree) (keep : Bool)
    (hb : S.isBinary = true) :
    ∀ (t : ATree α), SpOk A S t → ∀ ls, Adm A t ls → labCost A c t ls ≠ .inf →
      ∃ d ∈ dpTable A c S keep t, d.sp = ls.sp ∧ d.lab = ls.lab ∧ d.cost ≼ labCost A c t ls := by
  intro t
  induction t with
  | leaf a sp =>
    intro _ ls hadm _
    obtain rfl := hadm.leaf_inv
    exact ⟨_, mem_dpTable_leaf.mpr rfl, rfl, rfl, by simp [labCost]⟩
  | node a l r ihl ihr =>
    intro hok ls hadm hfin
    obtain ⟨s, lab, x, y, rfl, hs, hlab, ax, ay⟩ := hadm.node_inv
    obtain ⟨_, okl, okr⟩ := hok
    obtain ⟨hgfin, hxfin, hyfin⟩ := labCost_node_ne_inf hfin
    simp only [labCost] at hfin ⊢
    obtain ⟨dl, hdl, sl, ll, cl⟩ := ihl okl x ax hxfin
    obtain ⟨dr, hdr, sr, lr, cr⟩ := ihr okr y ay hyfin
    obtain ⟨_, _, _, _, _, _, _, hle⟩ := node_offer A c S hb a s lab l.data r.data hdl hdr sl ll sr lr
      (adm_isNode okl ax) (adm_isNode okr ay) (event_valid_of_gl hgfin)
    have hle2 := le_trans hle (add_le_add (le_refl _) (add_le_add cl cr))
    have hbfin : best A c S a s lab l.data r.data (dpTable A c S keep l) (dpTable A c S keep r) ≠
        .inf := by
      intro e; rw [e] at hle2; exact hfin ((inf_le _).mp hle2)
    cases he : entry A c S keep a s lab l.data r.data (dpTable A c S keep l) (dpTable A c S keep r) with
    | none => exact absurd ((entry_eq_none _ _ _ _ _ _ _ _ _ _).mp he) hbfin
    | some d =>
      obtain ⟨hsp, hlb, hcost, _⟩ := entry_eq_some _ _ _ _ _ _ _ _ _ _ he
      refine ⟨d, mem_dpTable_node.mpr ⟨s, hs, lab, hlab, he⟩, hsp, hlb, ?_⟩
      rw [hcost]; exact hle2

theorem dp_all (A : LabelAlg α Lab) (c : Costs) (S : RTree) (hb : S.isBinary = true) :
    ∀ (t : ATree α), SpOk A S t → ∀ ls, Adm A t ls → ∀ d ∈ dpTable A c S true t,
      d.sp = ls.sp → d.lab = ls.lab → labCost A c t ls = d.cost → ls ∈ d.sols := by
  intro t
  induction t with
  | leaf a sp =>
    intro _ ls hadm d hd _ _ _
    obtain rfl := hadm.leaf_inv
    rw [mem_dpTable_leaf] at hd
    subst hd; simp
  | node a l r ihl ihr =>
    intro hok ls hadm d hd hdsp hdlab hcost
    obtain ⟨s, lab, x, y, rfl, hs, hlab, ax, ay⟩ := hadm.node_inv
    obtain ⟨_, okl, okr⟩ := hok
    obtain ⟨s', _, lab', _, e⟩ := mem_dpTable_node.mp hd
    obtain ⟨hsp, hlb, hc, hbfin, hsols, _⟩ := entry_eq_some _ _ _ _ _ _ _ _ _ _ e
    obtain rfl : s' = s := hsp.symm.trans hdsp
    obtain rfl : lab' = lab := hlb.symm.trans hdlab
    have hdfin := dp_finite A c S true _ hd
    obtain ⟨hgfin, hxfin, hyfin⟩ := labCost_node_ne_inf (hcost ▸ hdfin)
    simp only [labCost] at hcost
    obtain ⟨dl, hdl, sl, ll, cl⟩ := dp_lower A c S true hb l okl x ax hxfin
    obtain ⟨dr, hdr, sr, lr, cr⟩ := dp_lower A c S true hb r okr y ay hyfin
    obtain ⟨ev, hev, v0, v1, r0, r1, hsum, hle⟩ := node_offer A c S hb a s' lab' l.data r.data
      hdl hdr sl ll sr lr (adm_isNode okl ax) (adm_isNode okr ay) (event_valid_of_gl hgfin)
    rw [← hc] at hle hbfin
    obtain ⟨n, hn⟩ := ne_inf_iff.mp hdfin
    -- gl + (dl.cost + dr.cost) ≤ gl + (cost x + cost y) = d.cost ≤ gl + (dl.cost + dr.cost)
    obtain ⟨ex, ey⟩ := eq_of_add_le cl cr (by rw [add_assoc]; exact hcost.trans hn)
      (by rw [add_assoc, add_assoc, hcost]; exact hle)
    have heq : ev.1 + v0 + v1 =
        best A c S a s' lab' l.data r.data (dpTable A c S true l) (dpTable A c S true r) := by
      rw [hsum, ← hc, ← hcost, ex, ey]
    have hmem := entry_all A c S a s' lab' l.data r.data _ _ hev hdl hdr r0 r1 heq (hc ▸ hbfin)
    exact (hsols rfl _).mpr ⟨_, _, dl, dr, x, y, hmem, findCell_dpTable A c S true l hdl,
      findCell_dpTable A c S true r hdr, ihl okl x ax dl hdl sl ll ex.symm,
      ihr okr y ay dr hdr sr lr ey.symm, rfl⟩

theorem dp_nonempty (A : LabelAlg α Lab) (c : Costs) (S : RTree) :
    ∀ (t : ATree α), ∀ d ∈ dpTable A c S true t, ∃ ls, ls ∈ d.sols := by
  intro t
  induction t with
  | leaf a sp =>
    intro d hd
    rw [mem_dpTable_leaf] at hd
    subst hd; exact ⟨LSol.leaf sp (A.leafLab a), by simp⟩
  | node a l r ihl ihr =>
    intro d hd
    obtain ⟨s, _, lab, _, e⟩ := mem_dpTable_node.mp hd
    obtain ⟨_, _, _, hbfin, hsols, _⟩ := entry_eq_some _ _ _ _ _ _ _ _ _ _ e
    obtain ⟨t0, t1, hc⟩ := best_attained _ _ _ _ _ _ _ _ _ _ hbfin
    obtain ⟨ev, hev, dl, hdl, dr, hdr, v0, v1, h0, h1, e0, e1, hv⟩ :=
      entry_attained _ _ _ _ _ _ _ _ _ _ hc
    obtain ⟨x, hx⟩ := ihl dl hdl
    obtain ⟨y, hy⟩ := ihr dr hdr
    exact ⟨_, (hsols rfl _).mpr ⟨t0, t1, dl, dr, x, y, hc, e0 ▸ findCell_dpTable A c S true l hdl,
      e1 ▸ findCell_dpTable A c S true r hdr, hx, hy, rfl⟩⟩

theorem dp_mem_of_le_decoded (A : LabelAlg α Lab) (c : Costs) (S : RTree) {K : Nat}
    (hK : A.Slack K) (hcoh : c.spe + K ≤ c.dup + 2 * c.floss) (hb : S.isBinary = true)
    (t : ATree α) (hok : SpOk A S t) (ls : LSol Lab) (adm : Adm A t ls)
    (hfin : labCost A c t ls ≠ .inf)
    (hmin : ∀ d ∈ dpTable A c S true t, d.sp = ls.sp → d.lab = ls.lab → ∀ ls' ∈ d.sols,
      labCost A c t ls ≼ labCost A c t ls') :
    ∃ d ∈ dpTable A c S true t, d.sp = ls.sp ∧ d.lab = ls.lab ∧ ls ∈ d.sols := by
  obtain ⟨d, hd, hsp, hlab, hle⟩ := dp_lower A c S true hb t hok ls adm hfin
  obtain ⟨ls0, hls0⟩ := dp_nonempty A c S t d hd
  -- `d.cost ≼ labCost ls ≼ labCost ls0 ≼ d.cost`, and `dp_all` keeps every labelling of cost `d.cost`
  have hle0 := (dp_decoded A c S hK t d hd ls0 hls0).2.2.2.2.2 hcoh
  exact ⟨d, hd, hsp, hlab, dp_all A c S hb t hok ls adm d hd hsp hlab
    (le_antisymm (le_trans (hmin d hd hsp hlab ls0 hls0) hle0) hle)⟩

theorem dp_dominated (A : LabelAlg α Lab) (c : Costs) (S : RTree) {K : Nat} (hK : A.Slack K)
    (hb : S.isBinary = true) (t : ATree α) (hok : SpOk A S t) (ls : LSol Lab) (adm : Adm A t ls)
    (hfin : labCost A c t ls ≠ .inf) :
    ∃ d ∈ dpTable A c S true t, d.sp = ls.sp ∧ d.lab = ls.lab ∧ d.cost ≼ labCost A c t ls ∧
      ∃ ls' ∈ d.sols,
        (c.spe + K ≤ c.dup + 2 * c.floss → labCost A c t ls' ≼ labCost A c t ls) := by
  obtain ⟨d, hd, hsp, hlab, hle⟩ := dp_lower A c S true hb t hok ls adm hfin
  obtain ⟨ls', hls'⟩ := dp_nonempty A c S t d hd
  exact ⟨d, hd, hsp, hlab, hle, ls', hls', fun hcoh =>
    le_trans ((dp_decoded A c S hK t d hd ls' hls').2.2.2.2.2 hcoh) hle⟩

theorem table_exact (A : LabelAlg α Lab) (c : Costs) (S : RTree) {K : Nat} (hK : A.Slack K)
    (hcoh : c.spe + K ≤ c.dup + 2 * c.floss) (hb : S.isBinary = true) (t : ATree α)
    (hok : SpOk A S t) :
    ∀ d ∈ dpTable A c S true t,
      (∃ ls, ls ∈ d.sols) ∧
      (∀ ls, ls ∈ d.sols ↔
        Adm A t ls ∧ ls.sp = d.sp ∧ ls.lab = d.lab ∧ labCost A c t ls = d.cost) ∧
      (∀ ls, Adm A t ls → ls.sp = d.sp → ls.lab = d.lab → d.cost ≼ labCost A c t ls) := by
  intro d hd
  have hX : c.spe + K ≤ c.dup + 2 * c.floss + 0 := by omega
  have lower : ∀ ls, Adm A t ls → ls.sp = d.sp → ls.lab = d.lab → d.cost ≼ labCost A c t ls := by
    intro ls adm hsp hlab
    refine le_of_ne_inf fun hfin => ?_
    obtain ⟨d', hd', hsp', hlab', hle⟩ := dp_lower A c S true hb t hok ls adm hfin
    have : d' = d := dp_functional A c S true t hd' hd (by rw [hsp', hsp]) (by rw [hlab', hlab])
    rw [← this]; exact hle
  refine ⟨dp_nonempty A c S t d hd, ?_, lower⟩
  intro ls
  constructor
  · intro hls
    obtain ⟨adm, hsp, hlab, _, hle⟩ := dp_sound A c S hK hX t d hd ls hls
    refine ⟨adm, hsp, hlab, le_antisymm (by simpa using hle) (lower ls adm hsp hlab)⟩
  · rintro ⟨adm, hsp, hlab, hcost⟩
    exact dp_all A c S hb t hok ls adm d hd hsp.symm hlab.symm hcost

theorem findCell_dpTable_iff (A : LabelAlg α Lab) (c : Costs) (S : RTree) (keep : Bool) (t : ATree α)
    {s : Path} {k : Lab} {d : DCell Lab} :
    findCell (dpTable A c S keep t) (s, k) = some d ↔
      d ∈ dpTable A c S keep t ∧ d.sp = s ∧ d.lab = k := by
  constructor
  · intro h
    exact ⟨(findCell_some h).1, cellTag_eq.mp (findCell_some h).2⟩
  · rintro ⟨hd, rfl, rfl⟩
    exact findCell_dpTable A c S keep t hd

theorem exists_findCell_dpTable (A : LabelAlg α Lab) (c : Costs) (S : RTree) (keep : Bool) (t : ATree α)
    {s : Path} {k : Lab} {P : DCell Lab → Prop} :
    (∃ d, findCell (dpTable A c S keep t) (s, k) = some d ∧ P d) ↔
      ∃ d ∈ dpTable A c S keep t, d.sp = s ∧ d.lab = k ∧ P d := by
  simp only [findCell_dpTable_iff, and_assoc]

theorem findCell_dpTable_leaf (A : LabelAlg α Lab) (c : Costs) (S : RTree) (keep : Bool) (a : α)
    (sp s : Path) (k : Lab) :
    findCell (dpTable A c S keep (.leaf a sp)) (s, k) =
      if s = sp ∧ k = A.leafLab a then
        some { sp := sp, lab := A.leafLab a, cost := .fin 0,
               sols := if keep then [LSol.leaf sp (A.leafLab a)] else [] }
      else none := by
  simp only [dpTable, findCell, List.find?_cons, List.find?_nil]
  by_cases h : s = sp ∧ k = A.leafLab a
  · obtain ⟨rfl, rfl⟩ := h; simp
  · rw [if_neg h]
    have : (sp == s && A.leafLab a == k) = false := by
      cases hh : (sp == s && A.leafLab a == k)
      · rfl
      · simp only [Bool.and_eq_true, beq_iff_eq] at hh
        exact absurd ⟨hh.1.symm, hh.2.symm⟩ h
    simp [this]

theorem findCell_dpTable_node (A : LabelAlg α Lab) (c : Costs) (S : RTree) (keep : Bool) (a : α)
    (l r : ATree α) (s : Path) (k : Lab) :
    findCell (dpTable A c S keep (.node a l r)) (s, k) =
      if s ∈ A.allowed a ∧ k ∈ A.labs a then
        entry A c S keep a s k l.data r.data (dpTable A c S keep l) (dpTable A c S keep r)
      else none := by
  cases hf : findCell (dpTable A c S keep (.node a l r)) (s, k) with
  | some d =>
    obtain ⟨hd, htag⟩ := findCell_some hf
    obtain ⟨s', hs', k', hk', he⟩ := mem_dpTable_node.mp hd
    have p := entry_eq_some _ _ _ _ _ _ _ _ _ _ he
    rw [cellTag_eq] at htag
    obtain rfl : s' = s := by rw [← p.1, htag.1]
    obtain rfl : k' = k := by rw [← p.2.1, htag.2]
    rw [if_pos ⟨hs', hk'⟩, he]
  | none =>
    by_cases hs : s ∈ A.allowed a ∧ k ∈ A.labs a
    · rw [if_pos hs]
      cases he : entry A c S keep a s k l.data r.data (dpTable A c S keep l) (dpTable A c S keep r) with
      | none => rfl
      | some d =>
        have p := entry_eq_some _ _ _ _ _ _ _ _ _ _ he
        rw [← p.1, ← p.2.1, ← cellTag,
          findCell_dpTable A c S keep _ (mem_dpTable_node.mpr ⟨s, hs.1, k, hs.2, he⟩)] at hf
        cases hf
    · rw [if_neg hs]

theorem dp_isNode {A : LabelAlg α Lab} (c : Costs) (S : RTree) (keep : Bool) (t : ATree α)
    (hok : SpOk A S t) {d : DCell Lab} (hd : d ∈ dpTable A c S keep t) : S.isNode d.sp = true := by
  cases t with
  | leaf a sp => rw [mem_dpTable_leaf] at hd; rw [hd]; exact hok
  | node a l r =>
    obtain ⟨s, hs, k, _, he⟩ := mem_dpTable_node.mp hd
    have p := entry_eq_some _ _ _ _ _ _ _ _ _ _ he
    rw [p.1]; exact hok.1 s hs

/-- Decoding at every species of `S` with the root label `k` yields what the cells of label `k`
    hold, as soon as the decoder `dec` reads the table by key. -/
theorem mem_flatMap_decode (A : LabelAlg α Lab) (c : Costs) (S : RTree) (t : ATree α) (k : Lab)
    {N : List Path} (hN : ∀ p, p ∈ N ↔ S.isNode p = true)
    (hnode : ∀ d ∈ dpTable A c S true t, S.isNode d.sp = true)
    {dec : Path → List Sol} {f : LSol Lab → Sol}
    (hdec : ∀ s sol, sol ∈ dec s ↔
      ∃ d, findCell (dpTable A c S true t) (s, k) = some d ∧ ∃ ls ∈ d.sols, sol = f ls) (sol : Sol) :
    sol ∈ N.flatMap dec ↔
      sol ∈ ((dpTable A c S true t).filter fun d => d.lab == k).flatMap fun d => d.sols.map f := by
  simp only [List.mem_flatMap, List.mem_filter, List.mem_map, beq_iff_eq, hN, hdec,
    findCell_dpTable_iff]
  constructor
  · rintro ⟨s, _, d, ⟨hd, _, hk⟩, ls, hls, rfl⟩
    exact ⟨d, ⟨hd, hk⟩, ls, hls, rfl⟩
  · rintro ⟨d, ⟨hd, hk⟩, ls, hls, rfl⟩
    exact ⟨d.sp, hnode d hd, d, ⟨hd, rfl, hk⟩, ls, hls, rfl⟩

/-- The value of the cell tagged `t` in a list of label-DP cells (`inf` when absent). -/
def costAt (L : List (DCell Lab)) (t : Path × Lab) : Cost :=
  match findCell L t with
  | some d => d.cost
  | none => .inf

theorem costAt_ne_inf {L : List (DCell Lab)} {t : Path × Lab} (h : costAt L t ≠ .inf) :
    ∃ d ∈ L, cellTag d = t := by
  unfold costAt at h
  cases hf : findCell L t with
  | none => rw [hf] at h; exact absurd rfl h
  | some d => exact ⟨d, findCell_some hf⟩

end

end SR
