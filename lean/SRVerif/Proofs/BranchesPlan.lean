/-
  `_compute_branches` as ONE plan, run: whenever the model returns `.ok st` (no validity
  hypothesis at all), `st` is the result of placing, one after the other, the branches of an
  explicit, state-free list `fullPlan` — the concatenation of the `nodePlan`s of the object nodes,
  species pass by species pass — into empty states (`computeBranches_ran`).  One pass succeeds
  exactly when the events are valid and its plan can be run (`processGenes_iff`).  What is true
  of the final state is then read off the plan.
-/
import SRVerif.Proofs.LayoutInv

namespace SR.Layout

open SR

/-- The branches inserted by the pass of species `s` over the object nodes `G`. -/
def passPlan (s : Path) (G : List (Path × Sol)) : List (Path × Branch) :=
  (G.filter fun g => g.2.sp = s).flatMap fun g => nodePlan s g.1 g.2

theorem passPlan_cons (s : Path) (g : Path × Sol) (G : List (Path × Sol)) :
    passPlan s (g :: G) = (if g.2.sp = s then nodePlan s g.1 g.2 else []) ++ passPlan s G := by
  unfold passPlan
  by_cases h : g.2.sp = s <;> simp [h]

theorem passPlan_append (s : Path) (A B : List (Path × Sol)) :
    passPlan s (A ++ B) = passPlan s A ++ passPlan s B := by simp [passPlan]

theorem mem_passPlan {s : Path} {G : List (Path × Sol)} {e : Path × Branch} :
    e ∈ passPlan s G ↔ ∃ g ∈ G, g.2.sp = s ∧ e ∈ nodePlan s g.1 g.2 := by
  simp only [passPlan, List.mem_flatMap, List.mem_filter, decide_eq_true_eq]
  constructor
  · rintro ⟨g, ⟨h1, h2⟩, h3⟩; exact ⟨g, h1, h2, h3⟩
  · rintro ⟨g, h1, h2, h3⟩; exact ⟨g, ⟨h1, h2⟩, h3⟩

theorem processGenes_iff (s : Path) : ∀ (G : List (Path × Sol)) (st st' : LState), s ∈ skeys st →
    (processGenes s G st = .ok st' ↔
      (∀ g ∈ G, g.2.sp = s → Planned s g.2) ∧ Ran st (passPlan s G) st') := by
  intro G
  induction G with
  | nil =>
    intro st st' _
    simp only [processGenes, passPlan, List.filter_nil, List.flatMap_nil, Ran, Except.ok.injEq]
    exact ⟨fun h => ⟨by simp, h.symm⟩, fun h => h.2.symm⟩
  | cons g G ih =>
    intro st st' hs
    obtain ⟨p, sub⟩ := g
    simp only [processGenes, passPlan_cons, List.forall_mem_cons]
    by_cases hsp : sub.sp = s
    · simp only [hsp, if_true, true_implies, ran_append]
      constructor
      · intro h
        cases h1 : processGene st s p sub with
        | error e => simp [h1] at h
        | ok st1 =>
          simp only [h1] at h
          obtain ⟨hv, r1⟩ := (processGene_iff hs).1 h1
          obtain ⟨a, b⟩ := (ih st1 st' (by rw [r1.did.keys]; exact hs)).1 h
          exact ⟨⟨hv, a⟩, st1, r1, b⟩
      · rintro ⟨⟨hv, a⟩, st1, r1, b⟩
        rw [(processGene_iff hs).2 ⟨hv, r1⟩]
        exact (ih st1 st' (by rw [r1.did.keys]; exact hs)).2 ⟨a, b⟩
    · simpa [hsp] using ih st st' hs

/-- Everything `_compute_branches` inserts, species pass by species pass. -/
def fullPlan (sol : Sol) (L : List Path) : List (Path × Branch) :=
  L.flatMap fun s => passPlan s (genesPost sol [])

theorem mem_fullPlan {sol : Sol} {L : List Path} {e : Path × Branch} :
    e ∈ fullPlan sol L ↔ ∃ g ∈ genesPost sol [], g.2.sp ∈ L ∧ e ∈ nodePlan g.2.sp g.1 g.2 := by
  simp only [fullPlan, List.mem_flatMap, mem_passPlan]
  constructor
  · rintro ⟨s, hs, g, hg, rfl, he⟩; exact ⟨g, hg, hs, he⟩
  · rintro ⟨g, hg, hs, he⟩; exact ⟨_, hs, g, hg, rfl, he⟩

theorem processSpecies_ran (sol : Sol) : ∀ (L : List Path) (st st' : LState),
    processSpecies sol L st = .ok st' → Ran (st ++ initSt L) (fullPlan sol L) st' := by
  intro L
  induction L with
  | nil => intro st st' h; simpa [processSpecies, initSt, fullPlan, Ran, eq_comm] using h
  | cons s L ih =>
    intro st st' h
    simp only [processSpecies] at h
    cases h1 : processGenes s (genesPost sol []) (st ++ [(s, ⟨[], []⟩)]) with
    | error e => simp [h1] at h
    | ok st1 =>
      simp only [h1] at h
      have r1 := ((processGenes_iff s _ _ _ (by simp [skeys])).1 h1).2
      have : st ++ initSt (s :: L) = (st ++ [(s, ⟨[], []⟩)]) ++ initSt L := by simp [initSt]
      rw [this, show fullPlan sol (s :: L) = passPlan s (genesPost sol []) ++ fullPlan sol L from
        List.flatMap_cons]
      exact ran_append.2 ⟨_, r1.frame _, ih st1 st' h⟩

theorem computeBranches_ran {S : RTree} {sol : Sol} {st : LState} (h : computeBranches S sol = .ok st) :
    Ran (initSt S.postorder) (fullPlan sol S.postorder) st := by
  simpa using processSpecies_ran sol S.postorder [] st h

theorem computeBranches_plan {S : RTree} {sol : Sol} {st : LState}
    (h : computeBranches S sol = .ok st) :
    skeys st = S.postorder ∧ (∀ e ∈ fullPlan sol S.postorder, e.1 ∈ S.postorder) ∧
      ∀ t, brs st t = planAt t (fullPlan sol S.postorder) := by
  have d := (computeBranches_ran h).did
  have hk := skeys_initSt S.postorder
  exact ⟨d.keys.trans hk, fun e he => hk ▸ d.ex e he, fun t => by rw [d.brs, brs_initSt]; rfl⟩

theorem mem_brs_iff {S : RTree} {sol : Sol} {st : LState} (h : computeBranches S sol = .ok st)
    {t : Path} {b : Branch} :
    b ∈ brs st t ↔ ∃ p sub, subAt sol p = some sub ∧ sub.sp ∈ S.postorder ∧
      (t, b) ∈ nodePlan sub.sp p sub := by
  rw [(computeBranches_plan h).2.2 t, mem_planAt, mem_fullPlan]
  constructor
  · rintro ⟨⟨p, sub⟩, hg, hL, he⟩
    obtain ⟨q, rfl, hq⟩ := (mem_genesPost sol [] _ _).1 hg
    exact ⟨_, sub, hq, hL, he⟩
  · rintro ⟨p, sub, hq, hL, he⟩
    exact ⟨(p, sub), (mem_genesPost sol [] _ _).2 ⟨p, rfl, hq⟩, hL, he⟩

end SR.Layout
