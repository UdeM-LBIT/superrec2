/-
  What the three code-structured tables have in common with the label DP, whatever the label
  algebra: a cell of the code is the label DP's `entry` for the same key (`CellOK`), as soon
  as the batches it received agree with the label DP's candidates on their finite members
  (`CellOK.of_corr`); and following the tags of such a cell yields the solutions stored in
  the label DP's entry (`CellOK.decode`, the node case of every `_decode_*_table`).  Below the
  cell: `RowOk` and `role_corr` (the candidates offered to one role); above the table: `result_iff`.
-/
import SRVerif.Proofs.CodeExt
import SRVerif.Proofs.LabelDPMain

namespace SR

open Cost

section

variable {α Lab : Type} [DecidableEq Lab]

/-- The top of the route: a result entry under ALL keeps, of the outputs offered, what
    `rankByCost` keeps of any list with the same members. -/
theorem result_iff (c : Costs) (mode : LabelMode) (o : OTree) (D D' : List Sol)
    (hD : ∀ sol, sol ∈ D ↔ sol ∈ D') (sol : Sol) :
    sol ∈ (Entry.update (Entry.init .min .all)
      (D.map fun out => ({ value := Cost.toExt (totalCost c mode o out), info := some out } : Cand Sol))).infos ↔
      sol ∈ rankByCost c mode o D' := by
  rw [(Entry.result_spec (totalCost c mode o) D).1 sol, mem_rankByCost]
  constructor
  · rintro ⟨h1, h2⟩
    exact ⟨(hD sol).mp h1, fun s' hs' => h2 s' ((hD s').mpr hs')⟩
  · rintro ⟨h1, h2⟩
    exact ⟨(hD sol).mpr h1, fun s' hs' => h2 s' ((hD s').mp hs')⟩

/-- The row of a child node in a code-structured table (read as values, `inf` where there is
    no cell) carries the values of the label DP's cells `L` of that child.  Each model produces it
    in its own shape: `RowAgrees.rowOk` (thl), `CellsRel` (spfs), `rowOf_rowOk` (uspfs). -/
structure RowOk (S : RTree) (val : Path → Lab → ExtInt) (L : List (DCell Lab)) : Prop where
  value : ∀ x k, val x k = Cost.toExt (costAt L (x, k))
  node : ∀ d ∈ L, S.isNode d.sp = true
  func : ∀ d1 ∈ L, ∀ d2 ∈ L, cellTag d1 = cellTag d2 → d1 = d2

theorem RowOk.costAt_of_mem {S : RTree} {val : Path → Lab → ExtInt} {L : List (DCell Lab)}
    (h : RowOk S val L) {d : DCell Lab} (hd : d ∈ L) : costAt L (cellTag d) = d.cost := by
  obtain ⟨d', hd'⟩ := findCell_of_mem hd
  have := findCell_some hd'
  rw [costAt, hd', h.func d' this.1 d hd this.2]

theorem baseE_rv (A : LabelAlg α Lab) (c : Costs) (S : RTree) (a : α) (s : Path) (lab : Lab) (ca : α)
    (ρ : RoleId) {L : List (DCell Lab)} {val : Path → Lab → ExtInt} (h : RowOk S val L)
    (x : Path) (k : Lab) :
    (baseE c S s ρ x).map (fun b => b + val x k +
        Cost.toExt (if ρ.isCons then A.conserv a lab ca k else A.segment a lab ca k)) =
      (rv c S s ρ x (costAt L (x, k)) (A.conserv a lab ca k) (A.segment a lab ca k)).map Cost.toExt := by
  rw [rv_eq, baseE_eq, Option.map_map, Option.map_map, h.value]
  congr 1
  funext b
  simp only [Function.comp, Cost.toExt_add, Cost.toExt_fin]

/-- `cs` are the candidates a code-structured solver offers to the role
    entry `ρ` of `(s, lab)`: each is a child state `φ t = (x, k)` placed where the role applies
    (`baseE`), valued branch losses + `val x k` + edge cost (`hfwd`), and every such candidate of
    finite value at a node of `S` is offered (`hbwd`).  If the child row `val` carries the label
    DP's values (`RowOk`), `cs` corresponds to what the label DP offers to that role. -/
theorem role_corr (A : LabelAlg α Lab) (c : Costs) (S : RTree) (a : α) (s : Path) (lab : Lab) (ca : α)
    (ρ : RoleId) {L : List (DCell Lab)} {val : Path → Lab → ExtInt} (h : RowOk S val L) {τ : Type}
    {φ : τ → Path × Lab} (hφ : Function.Surjective φ) {cs : List (Cand τ)}
    (hfwd : ∀ cd ∈ cs, ∃ t b, baseE c S s ρ (φ t).1 = some b ∧
      cd = ⟨b + val (φ t).1 (φ t).2 + Cost.toExt (if ρ.isCons then A.conserv a lab ca (φ t).2
        else A.segment a lab ca (φ t).2), some t⟩)
    (hbwd : ∀ t b (n : Nat), S.isNode (φ t).1 = true → baseE c S s ρ (φ t).1 = some b →
      b + val (φ t).1 (φ t).2 + Cost.toExt (if ρ.isCons then A.conserv a lab ca (φ t).2
        else A.segment a lab ca (φ t).2) = .fin (n : Int) → (⟨.fin (n : Int), some t⟩ : Cand τ) ∈ cs) :
    CorrOn φ cs (roleCands A c S a s lab ca ρ L) := by
  refine ⟨?_, ?_, fun _ u _ => hφ u⟩
  · intro cd hcd
    obtain ⟨t, b, hb, rfl⟩ := hfwd cd hcd
    have hrv := baseE_rv A c S a s lab ca ρ h (φ t).1 (φ t).2
    rw [hb] at hrv
    obtain ⟨v, _, hve⟩ := Option.map_eq_some_iff.mp hrv.symm
    exact ⟨v, t, by rw [hve]⟩
  · intro n t
    rw [mem_roleCands]
    have hrv := baseE_rv A c S a s lab ca ρ h (φ t).1 (φ t).2
    constructor
    · intro hcd
      obtain ⟨t', b, hb, heq⟩ := hfwd _ hcd
      simp only [Cand.mk.injEq, Option.some.injEq] at heq
      obtain ⟨hval, rfl⟩ := heq
      rw [hb, Option.map_some, ← hval] at hrv
      obtain ⟨v, hr, hve⟩ := Option.map_eq_some_iff.mp hrv.symm
      obtain rfl : v = .fin n := toExt_eq_fin.mp hve
      -- the child cell exists, since its cost is finite
      obtain ⟨d, hd, ht⟩ := costAt_ne_inf (rv_cost_ne_inf hr (by simp))
      obtain ⟨e1, e2⟩ := cellTag_eq.mp ht
      have hcost : costAt L ((φ t).1, (φ t).2) = d.cost := by
        rw [← e1, ← e2]; exact h.costAt_of_mem hd
      refine ⟨d, hd, ?_, ht⟩
      rw [hcost] at hr
      simp only [roleVal, e1, e2]
      exact hr
    · rintro ⟨d, hd, hr, ht⟩
      simp only at hr ht
      obtain ⟨e1, e2⟩ := cellTag_eq.mp ht
      have hcost : costAt L ((φ t).1, (φ t).2) = d.cost := by
        rw [← e1, ← e2]; exact h.costAt_of_mem hd
      simp only [roleVal, e1, e2] at hr
      rw [hcost, hr] at hrv
      obtain ⟨b, hb, hbe⟩ := Option.map_eq_some_iff.mp hrv
      exact hbwd t b n (e1 ▸ h.node d hd) hb hbe

variable (A : LabelAlg α Lab) (c : Costs) (S : RTree) (keep : Bool)
  (a : α) (s : Path) (lab : Lab) (la ra : α) (L R : List (DCell Lab)) {τ : Type}

/-- A cell of a code-structured table against the label DP's `entry` for the same key: absent
    together; otherwise the same value, and as tags (read through `ψ`) the tag pairs attaining
    it.  The table and decoder theorems of the three models go through this relation; the
    statements of C01–C03 for the code-structured models (`…_tags`) write it out. -/
structure CellOK (ψ : τ → (Path × Lab) × (Path × Lab)) (cell : Cell τ) : Prop where
  absent : entry A c S keep a s lab la ra L R = none → cell = none
  present : ∀ d, entry A c S keep a s lab la ra L R = some d →
    ∃ e, cell = some e ∧ e.value = d.cost.toExt ∧
      ∀ t, t ∈ e.infos ↔ (d.cost, ψ t) ∈ cands A c S a s lab la ra L R

variable {A c S keep a s lab la ra L R} in
theorem CellOK.of_some {ψ : τ → (Path × Lab) × (Path × Lab)} {cell : Cell τ} {e : Entry τ}
    (h : CellOK A c S keep a s lab la ra L R ψ cell) (he : cell = some e) :
    ∃ d, entry A c S keep a s lab la ra L R = some d ∧ e.value = d.cost.toExt ∧
      ∀ t, t ∈ e.infos ↔ (d.cost, ψ t) ∈ cands A c S a s lab la ra L R := by
  cases hd : entry A c S keep a s lab la ra L R with
  | none => rw [h.absent hd] at he; cases he
  | some d =>
    obtain ⟨e', hce, hv, ht⟩ := h.present d hd
    rw [he, Option.some.injEq] at hce
    exact ⟨d, rfl, hce ▸ hv, hce ▸ ht⟩

variable [DecidableEq τ]

theorem CellOK.of_corr {ψ : τ → (Path × Lab) × (Path × Lab)} {bs : List (List (Cand τ))}
    (hC : CorrOn ψ bs.flatten (cands A c S a s lab la ra L R)) :
    CellOK A c S keep a s lab la ra L R ψ (bs.foldl (Cell.update .min .all) none) := by
  obtain ⟨hinf, hfin⟩ := cell_of_corrOn hC
  constructor
  · intro he
    have hb := (entry_eq_none _ _ _ _ _ _ _ _ _ _).mp he
    -- `best` unfolded by hand: left to the unifier, it unfolds the candidate lists first
    unfold best at hb
    exact hinf hb
  · intro d he
    have p := entry_eq_some _ _ _ _ _ _ _ _ _ _ he
    rw [p.2.2.1]
    exact hfin p.2.2.2.1

theorem CellOK.of_batch {ψ : τ → (Path × Lab) × (Path × Lab)} {batch : List (Cand τ)}
    (hC : CorrOn ψ batch (cands A c S a s lab la ra L R)) :
    CellOK A c S keep a s lab la ra L R ψ (Cell.update .min .all none batch) :=
  .of_corr (bs := [batch]) A c S keep a s lab la ra L R
    (by rwa [List.flatten_cons, List.flatten_nil, List.append_nil])

omit [DecidableEq τ] in
variable {A c S a s lab la ra L R} in
/-- Following the tags of one cell.  `DL t ml` / `DR t mr`: "`ml` is decoded for the left /
    right child at tag `t`", known to be the images under `fL` / `fR` of the solutions in the
    label DP's child cells; `mat` materialises a solution of this node from those of the
    children.  Then what is decoded at this cell are the images of the solutions in the label
    DP's entry. -/
theorem CellOK.decode {ψ : τ → (Path × Lab) × (Path × Lab)} {cell : Cell τ}
    (h : CellOK A c S true a s lab la ra L R ψ cell) (hψ : Function.Surjective ψ)
    {DL DR : Path × Lab → Sol → Prop} {fL fR mat : LSol Lab → Sol} {mk : Sol → Sol → Sol}
    (hL : ∀ t ml, DL t ml ↔ ∃ cl, findCell L t = some cl ∧ ∃ x ∈ cl.sols, ml = fL x)
    (hR : ∀ t mr, DR t mr ↔ ∃ cr, findCell R t = some cr ∧ ∃ y ∈ cr.sols, mr = fR y)
    (hmat : ∀ x y, mat (.node s lab x y) = mk (fL x) (fR y)) (sol : Sol) :
    (∃ info ∈ Cell.infos cell, ∃ ml, DL (ψ info).1 ml ∧ ∃ mr, DR (ψ info).2 mr ∧ mk ml mr = sol) ↔
      ∃ d, entry A c S true a s lab la ra L R = some d ∧ ∃ ls ∈ d.sols, sol = mat ls := by
  cases he : entry A c S true a s lab la ra L R with
  | none =>
    rw [h.absent he]
    constructor
    · rintro ⟨_, hi, _⟩; cases hi
    · rintro ⟨_, hd, _⟩; cases hd
  | some d =>
    obtain ⟨e, rfl, _, htags⟩ := h.present d he
    have p := entry_eq_some _ _ _ _ _ _ _ _ _ _ he
    have hsols := p.2.2.2.2.1 rfl
    simp only [Cell.infos, hL, hR]
    constructor
    · rintro ⟨info, hinfo, _, ⟨cl, hcl, x, hx, rfl⟩, _, ⟨cr, hcr, y, hy, rfl⟩, rfl⟩
      refine ⟨d, rfl, .node s lab x y, (hsols _).mpr ⟨(ψ info).1, (ψ info).2, cl, cr, x, y, ?_, hcl,
        hcr, hx, hy, rfl⟩, (hmat x y).symm⟩
      rw [← p.2.2.1]; exact (htags info).mp hinfo
    · rintro ⟨_, hd, ls, hls, rfl⟩
      obtain rfl := Option.some.inj hd
      obtain ⟨t0, t1, cl, cr, x, y, hc, hcl, hcr, hx, hy, rfl⟩ := (hsols ls).mp hls
      obtain ⟨info, hi⟩ := hψ (t0, t1)
      refine ⟨info, (htags _).mpr (by rw [p.2.2.1, hi]; exact hc), _, ⟨cl, ?_, x, hx, rfl⟩, _,
        ⟨cr, ?_, y, hy, rfl⟩, (hmat x y).symm⟩
      · rw [hi]; exact hcl
      · rw [hi]; exact hcr

end

end SR
