/-
  Lifting along a presentation (`Present.lean`), one theorem per solver: each solver returns the
  optima of its validity predicate (`SolverExact.lean`), a presentation `f` keeps predicate and
  cost, so results correspond along `f` (`isOptimalFor_embed`, `emb_transfer`).  `g` is a
  cost-non-increasing retraction of the valid solutions of the new problem: `retrValid`,
  `retrExh`, `retrThl` (`Present.lean`) and `retrSol` (here) for a right inverse, the projection
  `unog` for the outgroup.
-/
import SRVerif.Proofs.Present
import SRVerif.Proofs.SolverExact

namespace SR.Transfer

open SR Spec SR.C09

variable {o o' : OTree} {f : Sol → Sol} (T : Transfer o o' f)
include T

theorem vSol (mode : LabelMode) (base : Bool) (s : Sol) :
    VSol mode base o' (f s) ↔ VSol mode base o s := by
  simp only [VSol, T.valid, T.lca]

theorem retrSol {g : Sol → Sol} (hfg : ∀ s, f (g s) = s) (c : Costs) (mode : LabelMode)
    (base : Bool) :
    ∀ s, VSol mode base o' s → VSol mode base o (g s) ∧
      Cost.le (totalCost c mode o (g s)) (totalCost c mode o' s) = true :=
  retract_of_rightInv (T.vSol mode base) (T.cost c mode) hfg

theorem spec (c : Costs) (mode : LabelMode) (g : Sol → Sol)
    (hg : ∀ s, validSol mode o' s = true → validSol mode o (g s) = true ∧
      Cost.le (totalCost c mode o (g s)) (totalCost c mode o' s) = true) :
    (∀ sol, IsOptimal c mode o sol ↔ IsOptimal c mode o' (f sol)) ∧
    (∀ m, IsMinCost c mode o m ↔ IsMinCost c mode o' m) :=
  transport_embed f g (fun s => by rw [T.valid]) (T.cost c mode) hg

/-- Two minima, one of each problem, are equal (the oracle's optimum, in particular). -/
theorem minCost (c : Costs) (mode : LabelMode) (g : Sol → Sol)
    (hg : ∀ s, validSol mode o' s = true → validSol mode o (g s) = true ∧
      Cost.le (totalCost c mode o (g s)) (totalCost c mode o' s) = true) {m m' : Cost}
    (hm : IsMinCost c mode o m) (hm' : IsMinCost c mode o' m') : m' = m :=
  IsMinCostFor.unique hm' (((T.spec c mode g hg).2 m).mp hm)

theorem exh (c : Costs) (g : Sol → Sol)
    (hg : ∀ s, (validRec o' s = true ∧ plainLabels o' s = true) →
      (validRec o (g s) = true ∧ plainLabels o (g s) = true) ∧
      Cost.le (totalCost c .plain o (g s)) (totalCost c .plain o' s) = true) (sol : Sol) :
    sol ∈ exhaustive c o ↔ f sol ∈ exhaustive c o' := by
  rw [mem_exhaustive_iff, mem_exhaustive_iff]
  exact isOptimalFor_embed f g T.vExh (T.cost c .plain) hg sol

end SR.Transfer

namespace SR.Present

open SR Spec SR.C09

variable {S S' : RTree} {o o' : OTree} {f : Sol → Sol} (P : Present S S' o o' f)
include P

theorem guardOrd {c : Costs} (G : GuardOrd c S o) : GuardOrd c S' o' :=
  ⟨P.ne G.ne, by rw [P.bin]; exact G.bin, P.sp G.sp, G.coh⟩

theorem guardUn {c : Costs} (G : GuardUn c S o) : GuardUn c S' o' :=
  ⟨by rw [P.bin]; exact G.bin, P.sp G.sp, G.coh⟩

theorem thl (c : Costs) (hb : S.isBinary = true) (hS : ∀ q ∈ leafSpecies o, S.isNode q = true)
    (hcoh : c.spe ≤ c.dup + 2 * c.floss) (g : Sol → Sol)
    (hg : ∀ s, (validRec o' s = true ∧ s ∈ allMappings S' o') →
      (validRec o (g s) = true ∧ g s ∈ allMappings S o) ∧
      Cost.le (totalCost c .plain o (g s)) (totalCost c .plain o' s) = true) (sol : Sol) :
    sol ∈ SR.thl c S o ↔ f sol ∈ SR.thl c S' o' := by
  rw [mem_thl_iff c S o hb hS hcoh, mem_thl_iff c S' o' (by rw [P.bin]; exact hb) (P.sp hS) hcoh]
  exact isOptimalFor_embed f g P.vThl (P.cost c .plain) hg sol

theorem spfs {c : Costs} (G : GuardOrd c S o) (base : Bool) (g : Sol → Sol)
    (hg : ∀ s, VSol .ordered base o' s → VSol .ordered base o (g s) ∧
      Cost.le (totalCost c .ordered o (g s)) (totalCost c .ordered o' s) = true) :
    (∀ s, s ∈ SR.spfs c S base o none ↔ f s ∈ SR.spfs c S' base o' none) ∧
    (∀ s ∈ SR.spfs c S base o none, ∀ s' ∈ SR.spfs c S' base o' none,
      totalCost c .ordered o' s' = totalCost c .ordered o s) ∧
    (∀ s' ∈ SR.spfs c S' base o' none, f (g s') = s' → g s' ∈ SR.spfs c S base o none) :=
  emb_transfer f g (mem_spfs_iff G base) (mem_spfs_iff (P.guardOrd G) base)
    (P.vSol .ordered base) (P.cost c .ordered) (fun _ => Iff.rfl) hg

theorem uspfs {c : Costs} (G : GuardUn c S o) (base : Bool) (g : Sol → Sol)
    (hg : ∀ s, VSol .unordered base o' s → VSol .unordered base o (g s) ∧
      Cost.le (totalCost c .unordered o (g s)) (totalCost c .unordered o' s) = true) :
    (∀ s, s ∈ SR.uspfs c S base o ↔ f s ∈ SR.uspfs c S' base o') ∧
    (∀ s ∈ SR.uspfs c S base o, ∀ s' ∈ SR.uspfs c S' base o',
      totalCost c .unordered o' s' = totalCost c .unordered o s) ∧
    (∀ s' ∈ SR.uspfs c S' base o', f (g s') = s' → g s' ∈ SR.uspfs c S base o) :=
  emb_transfer f g (mem_uspfs_iff G base) (mem_uspfs_iff (P.guardUn G) base)
    (P.vSol .unordered base) (P.cost c .unordered) (fun s => by rw [P.canon]) hg

/-- The oracle's optimum: every mode without a prescribed root order, … -/
theorem optimum (c : Costs) (mode : LabelMode) (keep : Bool)
    (hS : ∀ q ∈ leafSpecies o, S.isNode q = true) (g : Sol → Sol)
    (hg : ∀ s, validSol mode o' s = true → validSol mode o (g s) = true ∧
      Cost.le (totalCost c mode o (g s)) (totalCost c mode o' s) = true) :
    (Spec.optimum c S' mode false keep o' none).1 = (Spec.optimum c S mode false keep o none).1 :=
  P.minCost c mode g hg (optimum_isMinCost c S mode o keep hS)
    (optimum_isMinCost c S' mode o' keep (P.sp hS))

/-- … and the plain mode with any. -/
theorem optimumPlain (c : Costs) (keep : Bool) (pre : Option (List Nat))
    (hS : ∀ q ∈ leafSpecies o, S.isNode q = true) (g : Sol → Sol)
    (hg : ∀ s, validSol .plain o' s = true → validSol .plain o (g s) = true ∧
      Cost.le (totalCost c .plain o (g s)) (totalCost c .plain o' s) = true) :
    (Spec.optimum c S' .plain false keep o' pre).1 = (Spec.optimum c S .plain false keep o pre).1 :=
  P.minCost c .plain g hg (optimum_plain_isMinCost c S o keep pre hS)
    (optimum_plain_isMinCost c S' o' keep pre (P.sp hS))

end SR.Present
