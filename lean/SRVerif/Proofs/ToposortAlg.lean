/-
  C19: the two routines of `utils/toposort.py` meet the specification on
  well-formed graphs (no error, the fuel suffices, sound, complete, no
  repetition).
-/
import SRVerif.Proofs.ToposortInv

namespace SR.Toposort

theorem WF.succ_keys {g : Graph} (h : WF g) : ∀ p ∈ g, ∀ v ∈ p.2, v ∈ keys g :=
  fun p hp => (h.2 p hp).2

theorem foldlM_nested {σ : Type} (f : σ → Nat → Except Err σ) (g : Graph) : ∀ st : σ,
    g.foldlM (fun st p => p.2.foldlM f st) st = (g.flatMap (·.2)).foldlM f st := by
  induction g with
  | nil => intro st; simp
  | cons a g ih =>
    intro st
    rw [List.foldlM_cons, List.flatMap_cons, List.foldlM_append]
    cases h : List.foldlM f st a.2 with
    | error e => simp [bind, Except.bind]
    | ok st' => simp only [bind, Except.bind]; exact ih st'

theorem allInitOne_eq {I : Indeg} {a : Nat} {x : Int} (st : List Nat) (h : I.lookup a = some x) :
    allInitOne (st, I) a = .ok (st.erase a, I.set a (x + 1)) := by
  simp [allInitOne, bump_eq I a 1 x h]

theorem initFold_eq : ∀ (ts st : List Nat) (I : Indeg), (I.map (·.1)).Nodup →
    (∀ v ∈ ts, v ∈ I.map (·.1)) →
    ts.foldlM allInitOne (st, I) = .ok (st.diff ts, I.shift ts 1) := by
  intro ts
  induction ts with
  | nil => intro st I _ _; simp [shift_nil, pure, Except.pure]
  | cons a ts ih =>
    intro st I hn hts
    obtain ⟨x, hx⟩ := List.exists_lookup_iff_mem_keys.2 (hts a List.mem_cons_self)
    rw [List.foldlM_cons, allInitOne_eq st hx, List.diff_cons, ← set_shift hn hx]
    exact ih _ _ (keys_set I a _ ▸ hn)
      (fun v hv => keys_set I a _ ▸ hts v (List.mem_cons_of_mem _ hv))

theorem initFold_err (ts : List Nat) : ∀ (st : List Nat) (I : Indeg), (∃ v ∈ ts, v ∉ I.map (·.1)) →
    ts.foldlM allInitOne (st, I) = .error .keyError := by
  induction ts with
  | nil => intro _ _ h; simp at h
  | cons a ts ih =>
    rintro st I ⟨v, hv, hvn⟩
    rw [List.foldlM_cons]
    cases hx : I.lookup a with
    | none => simp [allInitOne, Indeg.bump, hx, bind, Except.bind]
    | some x =>
      rw [allInitOne_eq st hx]
      refine ih _ _ ⟨v, (List.mem_cons.1 hv).resolve_left ?_, by rw [keys_set]; exact hvn⟩
      rintro rfl
      exact hvn (List.exists_lookup_iff_mem_keys.1 ⟨x, hx⟩)

theorem count_targets (g : Graph) (hs : ∀ p ∈ g, p.2.Nodup) (v : Nat) :
    (g.flatMap (·.2)).count v = indegOf g [] v := by
  induction g with
  | nil => simp [indegOf]
  | cons a g ih =>
    rw [List.flatMap_cons, List.count_append, ih (fun p hp => hs p (List.mem_cons_of_mem _ hp))]
    simp only [indegOf, List.countP_cons, List.not_mem_nil, not_false_eq_true, decide_true,
      Bool.true_and, decide_eq_true_eq]
    rw [(hs a List.mem_cons_self).count]
    omega

theorem keys_init (g : Graph) : (Indeg.init g).map (·.1) = keys g := by
  simp [Indeg.init, keys]

theorem lookup_init (g : Graph) (v : Nat) : (Indeg.init g).lookup v = (g.lookup v).map fun _ => 0 :=
  List.lookup_map_snd (fun _ _ => (0 : Int)) g v

theorem allInit_spec {g : Graph} (hwf : WF g) :
    ∃ starts I, allInit g = .ok (starts, I) ∧ Inv g [] starts I := by
  obtain ⟨hk, hwf2⟩ := hwf
  have hts : ∀ v ∈ g.flatMap (·.2), v ∈ (Indeg.init g).map (·.1) := by
    intro v hv
    obtain ⟨p, hp, hvp⟩ := List.mem_flatMap.1 hv
    exact keys_init g ▸ (hwf2 p hp).2 v hvp
  refine ⟨_, _, by rw [allInit, foldlM_nested]; exact initFold_eq _ _ _ (keys_init g ▸ hk) hts,
    (keys_shift _ _ _).trans (keys_init g), fun v hv => ?_, hk.diff, fun v => ?_,
    by simp, by simp, by simp⟩
  · obtain ⟨ss, hss⟩ := List.exists_lookup_iff_mem_keys.2 hv
    rw [lookup_shift, lookup_init, hss, count_targets g (fun p hp => (hwf2 p hp).1)]
    simp
  · rw [hk.mem_sdiff_iff]
    simp only [Ready, List.not_mem_nil, not_false_eq_true, true_and, List.mem_flatMap, not_exists,
      not_and, imp_false]

theorem allInit_err {g : Graph} (hbad : ∃ p ∈ g, ∃ v ∈ p.2, v ∉ keys g) :
    allInit g = .error .keyError := by
  obtain ⟨p, hp, v, hv, hvn⟩ := hbad
  rw [allInit, foldlM_nested]
  exact initFold_err _ _ _ ⟨v, List.mem_flatMap.2 ⟨p, hp, hv⟩, by rw [keys_init]; exact hvn⟩

/-! #### `toposort` initialises like `toposort_all`

`deque.remove` raises on an absent element where `set.discard` does not, and is only called
when the in-degree is 0; the two loops agree because the vertices at in-degree 0 are exactly
those still in `starts`. -/

def InitPre (st : List Nat) (I : Indeg) : Prop :=
  ∀ v x, I.lookup v = some x → 0 ≤ x ∧ (x = 0 ↔ v ∈ st)

theorem kahnInitOne_eq (st : List Nat) (I : Indeg) (a : Nat) (h : InitPre st I) :
    kahnInitOne (st, I) a = allInitOne (st, I) a := by
  simp only [kahnInitOne, allInitOne, Indeg.bump]
  cases hl : I.lookup a with
  | none => rfl
  | some x =>
    obtain ⟨_, h2⟩ := h a x hl
    by_cases e : x = 0
    · simp [e, h2.1 e]
    · have : a ∉ st := fun hm => e (h2.2 hm)
      simp [e, List.erase_of_not_mem this]

theorem InitPre.step {st : List Nat} {I : Indeg} {a : Nat} {x : Int} (hpre : InitPre st I)
    (hn : st.Nodup) (hx : I.lookup a = some x) : InitPre (st.erase a) (I.set a (x + 1)) := by
  intro v y hy
  by_cases e : v = a
  · subst e
    rw [lookup_set_self I v _ x hx, Option.some.injEq] at hy
    have := (hpre v x hx).1
    subst hy
    exact ⟨by omega, fun h => by omega, fun h => absurd h (by simp [hn.mem_erase_iff])⟩
  · rw [lookup_set_ne I a v _ e] at hy
    rw [List.mem_erase_of_ne e]
    exact hpre v y hy

theorem kahnFold_eq : ∀ (ts st : List Nat) (I : Indeg), InitPre st I → st.Nodup →
    ts.foldlM kahnInitOne (st, I) = ts.foldlM allInitOne (st, I) := by
  intro ts
  induction ts with
  | nil => intro _ _ _ _; rfl
  | cons a ts ih =>
    intro st I hpre hn
    rw [List.foldlM_cons, List.foldlM_cons, kahnInitOne_eq st I a hpre]
    cases hx : I.lookup a with
    | none => simp [allInitOne, Indeg.bump, hx, bind, Except.bind]
    | some x =>
      rw [allInitOne_eq st hx]
      exact ih _ _ (hpre.step hn hx) (hn.erase a)

theorem kahnInit_eq {g : Graph} (hk : (keys g).Nodup) : kahnInit g = allInit g := by
  rw [kahnInit, allInit, foldlM_nested, foldlM_nested]
  refine kahnFold_eq _ _ _ (fun v x hx => ?_) hk
  have hv : v ∈ keys g := keys_init g ▸ List.exists_lookup_iff_mem_keys.1 ⟨x, hx⟩
  obtain ⟨ss, hss⟩ := List.exists_lookup_iff_mem_keys.2 hv
  rw [lookup_init, hss, Option.map_some, Option.some.injEq] at hx
  subst hx
  simp [hv]

theorem kahnInit_spec {g : Graph} (hwf : WF g) :
    ∃ starts I, kahnInit g = .ok (starts, I) ∧ Inv g [] starts I :=
  kahnInit_eq hwf.1 ▸ allInit_spec hwf

theorem malformed_keyError {g : Graph} (hk : (keys g).Nodup)
    (hbad : ∃ p ∈ g, ∃ v ∈ p.2, v ∉ keys g) :
    toposortAll g = .error .keyError ∧ toposort g = .error .keyError :=
  ⟨by simp [toposortAll, allInit_err hbad], by simp [toposort, kahnInit_eq hk, allInit_err hbad]⟩

theorem setAdd_fresh (ns : List Nat) (v : Nat) (h : v ∉ ns) : setAdd ns v = ns ++ [v] :=
  List.addNew_of_not_mem h

theorem fuel_step {g : Graph} {done ns : List Nat} {I : Indeg} {x fuel : Nat}
    (h : Inv g (x :: done) ns I) (hf : g.length - done.length < fuel + 1) :
    g.length - (x :: done).length < fuel := by
  have := length_le_of_nodup_keys h.dnodup h.dkeys
  rw [List.length_cons] at this ⊢
  omega

theorem btLoop_spec {g : Graph} (hwf : WF g) {done starts : List Nat} {I : Indeg}
    (hinv : Inv g done starts I)
    (rec : List Nat → Indeg → Except Err (List (List Nat) × Indeg))
    (hrec : ∀ x ns I', Inv g (x :: done) ns I' →
      ∃ rs, rec ns I' = .ok (rs, I') ∧ Enum g (x :: done) rs) :
    ∀ (l : List Nat) (acc : List (List Nat)), l.Nodup → (∀ x ∈ l, x ∈ starts) →
      ∃ rs, l.foldlM (btStep g rec starts) (acc, I) = .ok (acc ++ rs, I) ∧ EnumVia g done l rs := by
  intro l
  induction l with
  | nil => intro acc _ _; exact ⟨[], by simp [pure, Except.pure], .nil⟩
  | cons x l ih =>
    intro acc hl hsub
    obtain ⟨ss, hss, ns', I', hdec, hinv', hinc⟩ := inv_step hwf hinv (hsub x List.mem_cons_self)
      (starts.erase x) (hinv.snodup.erase x)
      (fun v => by rw [hinv.snodup.mem_erase_iff, and_comm]) setAdd setAdd_fresh
    obtain ⟨sub, hsubr, hsube⟩ := hrec x ns' I' hinv'
    obtain ⟨rs', h1, h2⟩ := ih (acc ++ sub.map (· ++ [x]))
      (List.nodup_cons.1 hl).2 (fun y hy => hsub y (List.mem_cons_of_mem _ hy))
    refine ⟨sub.map (· ++ [x]) ++ rs', ?_, .cons (List.nodup_cons.1 hl).1 hsube h2⟩
    have hstep : btStep g rec starts (acc, I) x = .ok (acc ++ sub.map (· ++ [x]), I) := by
      simp only [btStep, hss, hdec, hsubr, hinc]
    rw [List.foldlM_cons, hstep, ← List.append_assoc]
    exact h1

theorem bt_spec {g : Graph} (hwf : WF g) : ∀ (fuel : Nat) (done starts : List Nat) (I : Indeg),
    Inv g done starts I → g.length - done.length < fuel →
    ∃ rs, bt g fuel starts I = .ok (rs, I) ∧ Enum g done rs := by
  intro fuel
  induction fuel with
  | zero => intro _ _ _ _ h; omega
  | succ fuel ih =>
    intro done starts I hinv hfuel
    cases hst : starts with
    | nil =>
      refine ⟨[[]], by rw [bt], Enum.stuck fun v hv => ?_⟩
      simpa [hst] using (hinv.smem v).2 hv
    | cons x0 t =>
      obtain ⟨rs, h1, h2⟩ := btLoop_spec hwf hinv (bt g fuel)
        (fun x ns I' hinv' => ih _ ns I' hinv' (fuel_step hinv' hfuel))
        starts [] hinv.snodup (fun _ h => h)
      refine ⟨rs, ?_, h2.enum hinv.smem (by simp [hst])⟩
      rw [bt, ← hst]
      simpa using h1

theorem checkRev_eq (n : Nat) (rs : List (List Nat)) :
    checkRev n rs = if ∀ r ∈ rs, r.length = n then some (rs.map List.reverse) else none := by
  induction rs with
  | nil => simp [checkRev]
  | cons r rs ih =>
    simp only [checkRev, ih]
    by_cases e : r.length = n
    · by_cases e2 : ∀ r ∈ rs, r.length = n
      · rw [if_pos e2]; simp only [e, ne_eq, not_true_eq_false, if_false, List.mem_cons, forall_eq_or_imp, true_and, List.map_cons]; rw [if_pos e2]
      · rw [if_neg e2]; simp [e, e2]
    · simp [e]

theorem checkRev_spec {g : Graph} (hwf : WF g) {rs : List (List Nat)} (h : Enum g [] rs) :
    ((checkRev g.length rs).getD []).Nodup ∧
      ∀ o, o ∈ (checkRev g.length rs).getD [] ↔ IsTopo g o := by
  obtain ⟨hn, hm⟩ := h
  rw [checkRev_eq]
  refine ⟨?_, fun o => ⟨fun ho => ?_, fun ht => ?_⟩⟩
  · split
    · exact hn.map List.reverse_injective
    · exact List.nodup_nil
  · split at ho
    · rename_i hall
      obtain ⟨r, hr, rfl⟩ := List.mem_map.1 ho
      exact greedy_full_isTopo hwf.succ_keys ((hm r).1 hr) (by simp [hall r hr])
    · simp at ho
  · have hall : ∀ r ∈ rs, r.length = g.length := fun r hr => by
      simpa using greedy_full hwf.1 ht ((hm r).1 hr)
    rw [if_pos hall]
    exact List.mem_map.2 ⟨o.reverse, (hm _).2 (by simpa using isTopo_greedy ht), o.reverse_reverse⟩

theorem toposortAll_spec {g : Graph} (hwf : WF g) :
    ∃ os, toposortAll g = .ok os ∧ os.Nodup ∧ ∀ o, o ∈ os ↔ IsTopo g o := by
  obtain ⟨starts, I, hinit, hinv⟩ := allInit_spec hwf
  obtain ⟨rs, hbt, hrs⟩ := bt_spec hwf (g.length + 1) [] starts I hinv (by simp)
  exact ⟨(checkRev g.length rs).getD [], by simp [toposortAll, hinit, hbt], checkRev_spec hwf hrs⟩

theorem kahnLoop_spec {g : Graph} (hwf : WF g) : ∀ (fuel : Nat) (done starts : List Nat) (I : Indeg)
    (result : List Nat), Inv g done starts I → g.length - done.length < fuel →
    ∃ s, kahnLoop g fuel starts I result = .ok (result ++ s) ∧ Greedy g done s := by
  intro fuel
  induction fuel with
  | zero => intro _ _ _ _ _ h; omega
  | succ fuel ih =>
    intro done starts I result hinv hfuel
    cases starts with
    | nil => exact ⟨[], by simp [kahnLoop], fun v hv => absurd ((hinv.smem v).2 hv) (by simp)⟩
    | cons x rest =>
      have hnd := List.nodup_cons.1 hinv.snodup
      obtain ⟨ss, hss, ns', I', hdec, hinv', _⟩ := inv_step hwf hinv (x := x) List.mem_cons_self rest hnd.2
        (fun v => ⟨fun h => ⟨List.mem_cons_of_mem _ h, fun e => hnd.1 (e ▸ h)⟩,
          fun h => (List.mem_cons.1 h.1).resolve_left h.2⟩)
        pushBack (fun _ _ _ => rfl)
      obtain ⟨s, h1, h2⟩ := ih (x :: done) ns' I' (result ++ [x]) hinv'
        (fuel_step hinv' hfuel)
      refine ⟨x :: s, ?_, (hinv.smem x).1 List.mem_cons_self, h2⟩
      simp only [kahnLoop, hss, hdec]
      rw [h1]; simp

theorem greedy_length_iff {g : Graph} (hwf : WF g) {s : List Nat} (hg : Greedy g [] s) :
    s.length = g.length ↔ ∃ o, IsTopo g o :=
  ⟨fun h => ⟨s, greedy_full_isTopo hwf.succ_keys hg h⟩, fun ⟨_, ht⟩ => greedy_full hwf.1 ht hg⟩

theorem toposort_spec {g : Graph} (hwf : WF g) :
    ∃ r, toposort g = .ok r ∧ (∀ o, r = some o → IsTopo g o) ∧
      (r = none ↔ ¬ ∃ o, IsTopo g o) := by
  obtain ⟨starts, I, hinit, hinv⟩ := kahnInit_spec hwf
  obtain ⟨s, hloop, hg⟩ := kahnLoop_spec hwf (g.length + 1) [] starts I [] hinv (by simp)
  rw [List.nil_append] at hloop
  refine ⟨if s.length = g.length then some s else none, by simp [toposort, hinit, hloop],
    fun o ho => ?_, ?_⟩
  · split at ho
    · rename_i hlen
      exact Option.some.inj ho ▸ greedy_full_isTopo hwf.succ_keys hg hlen
    · cases ho
  · rw [← greedy_length_iff hwf hg]
    split <;> simp [*]

theorem toposort_none_iff {g : Graph} (hwf : WF g) :
    toposort g = .ok none ↔ ¬ ∃ o, IsTopo g o := by
  obtain ⟨r, hr, _, h2⟩ := toposort_spec hwf
  rw [hr, Except.ok.injEq]
  exact h2

theorem toposort_some_iff {g : Graph} (hwf : WF g) :
    (∃ o, toposort g = .ok (some o)) ↔ ∃ o, IsTopo g o := by
  obtain ⟨r, hr, h1, h2⟩ := toposort_spec hwf
  rw [hr]
  cases r with
  | none => exact ⟨fun ⟨_, h⟩ => (nomatch h), fun h => absurd h (h2.1 rfl)⟩
  | some o => exact ⟨fun _ => ⟨o, h1 o rfl⟩, fun _ => ⟨o, rfl⟩⟩

theorem toposortAll_nil_iff {g : Graph} (hwf : WF g) :
    toposortAll g = .ok [] ↔ ¬ ∃ o, IsTopo g o := by
  obtain ⟨os, h, _, hm⟩ := toposortAll_spec hwf
  rw [h, Except.ok.injEq]
  constructor
  · rintro rfl ⟨o, ht⟩
    exact List.not_mem_nil ((hm o).2 ht)
  · intro hno
    cases os with
    | nil => rfl
    | cons o _ => exact absurd ⟨o, (hm o).1 List.mem_cons_self⟩ hno

theorem toposortAll_ne_nil_iff {g : Graph} (hwf : WF g) :
    (∃ os, toposortAll g = .ok os ∧ os ≠ []) ↔ ∃ o, IsTopo g o := by
  obtain ⟨os, h, _, hm⟩ := toposortAll_spec hwf
  rw [h]
  constructor
  · rintro ⟨_, e, hne⟩
    cases e
    obtain ⟨o, ho⟩ := List.exists_mem_of_ne_nil os hne
    exact ⟨o, (hm o).1 ho⟩
  · exact fun ⟨o, ht⟩ => ⟨os, rfl, List.ne_nil_of_mem ((hm o).2 ht)⟩

end SR.Toposort
