/-
  `reconcile_thl` (`Model/ThlCode.lean`) under `RetentionPolicy.ANY` against the same model
  under `RetentionPolicy.ALL`.  Both tables satisfy the recurrence `RowSpec` at every
  row (`Rows`, by `computeTable_rec`), whose batches read only the VALUE rows of the
  children; so the cells are related (`AnyCode.CellRel`) and ANY decodes a subset of what
  ALL decodes, non-empty together.
-/
import SRVerif.Proofs.AnyCodeEntry
import SRVerif.Proofs.ThlCodeDecode

namespace SR

open Path Cost AnyCode

namespace ThlCode

theorem aggOf_anySub (xs : List Path) (w : Path → ExtInt) :
    AnySub .min (aggOf .any xs w) (aggOf .all xs w) :=
  (aggOf_inv .any xs w).anySub (aggOf_inv .all xs w) (BRel.refl _)

theorem comb_bRel (xs ys : List Path) (wa wb : Path → ExtInt) (k : ExtInt) :
    BRel (cands ((aggOf .any xs wa).combine (aggOf .any ys wb) (combinator k)))
      (cands ((aggOf .all xs wa).combine (aggOf .all ys wb) (combinator k))) :=
  cands_bRel (combine_anySub (aggOf_anySub xs wa) (aggOf_anySub ys wb) (combinator k)
    (fun a b => k + a + b) MappingInfo.mk (fun _ _ _ _ => rfl))

theorem speBatch_bRel (c : Costs) (S : RTree) (s : Path) (gl gr : Path → ExtInt) :
    BRel (speBatch .any c S s gl gr) (speBatch .all c S s gl gr) :=
  (comb_bRel ..).append (comb_bRel ..)

theorem dtBatch_bRel (c : Costs) (S : RTree) (s : Path) (gl gr : Path → ExtInt) :
    BRel (dtBatch .any c S s gl gr) (dtBatch .all c S s gl gr) :=
  ((comb_bRel ..).append (comb_bRel ..)).append (comb_bRel ..)

theorem batches_bRels (c : Costs) (S : RTree) (s : Path) (gl gr : Path → ExtInt) :
    BRels (batches .any c S s gl gr) (batches .all c S s gl gr) := by
  unfold batches
  cases S.isLeafAt s
  · exact .cons (speBatch_bRel c S s gl gr) (.cons (dtBatch_bRel c S s gl gr) .nil)
  · exact .cons (dtBatch_bRel c S s gl gr) .nil

theorem cellRel_rows (c : Costs) (S : RTree) (tA tL : Table) : ∀ (t : OTree) (w : Path),
    Rows .any c S tA t w → Rows .all c S tL t w →
    ∀ s, CellRel .min (tA.get (w, s)) (tL.get (w, s)) := by
  intro t
  induction t with
  | leaf sp f =>
    intro w hA hL s
    rw [hA.root s, hL.root s]
    split
    · exact cellRel_update .none (BRel.refl _)
    · exact .none
  | node l r ihl ihr =>
    intro w hA hL s
    have h0 : (fun x => tA.value (w ++ [0], x)) = fun x => tL.value (w ++ [0], x) :=
      funext fun x => (ihl _ hA.left hL.left x).value
    have h1 : (fun x => tA.value (w ++ [1], x)) = fun x => tL.value (w ++ [1], x) :=
      funext fun x => (ihr _ hA.right hL.right x).value
    rw [hA.root s, hL.root s, h0, h1]
    split
    · exact cellRel_foldl (batches_bRels ..) .none
    · exact .none

theorem decode_sub (c : Costs) (S : RTree) (tA tL : Table) : ∀ (t : OTree) (w : Path),
    Rows .any c S tA t w → Rows .all c S tL t w →
    ∀ s, ∀ sol ∈ decode tA t w s, sol ∈ decode tL t w s := by
  intro t
  induction t with
  | leaf sp f =>
    intro w hA hL s sol hsol
    have hv : tA.value (w, s) = tL.value (w, s) := (cellRel_rows c S tA tL _ w hA hL s).value
    simp only [decode] at hsol ⊢
    rw [← hv]; exact hsol
  | node l r ihl ihr =>
    intro w hA hL s sol hsol
    have hrel := cellRel_rows c S tA tL _ w hA hL s
    simp only [decode, List.mem_flatMap, List.mem_map] at hsol ⊢
    obtain ⟨info, hi, ml, hml, mr, hmr, rfl⟩ := hsol
    exact ⟨info, hrel.infos_sub info hi, ml, ihl _ hA.left hL.left _ ml hml,
      mr, ihr _ hA.right hL.right _ mr hmr, rfl⟩

theorem get_ne_none_of_decode (tbl : Table) (t : OTree) (w s : Path) (h : decode tbl t w s ≠ []) :
    tbl.get (w, s) ≠ none := by
  intro hn
  apply h
  cases t with
  | leaf sp f => simp [decode, Table.value, hn, Cell.value, ExtInt.isInfinite]
  | node l r => simp [decode, Table.infos, hn, Cell.infos]

theorem get_ne_none_of_value {tbl : Table} {k : Key} (h : tbl.value k ≠ .posInf) :
    tbl.get k ≠ none := by
  intro hn; apply h; simp [Table.value, hn, Cell.value]

theorem cands_combine_prov (r : Retain) (xs ys : List Path) (wa wb : Path → ExtInt) (k : ExtInt) :
    ∀ cnd ∈ cands ((aggOf r xs wa).combine (aggOf r ys wb) (combinator k)),
      ∃ t, cnd.info = some t ∧ cnd.value = k + wa t.left + wb t.right := by
  intro cnd h
  obtain ⟨t, ht, rfl⟩ := List.mem_map.mp h
  obtain ⟨x, y, rfl, ca, hca, cb, hcb, h1, h2, hv⟩ := combine_prov (aggOf_inv r xs wa)
    (aggOf_inv r ys wb) (combinator k) (fun a b => k + a + b) MappingInfo.mk (fun _ _ _ _ => rfl) t ht
  obtain ⟨x', _, rfl⟩ := List.mem_map.mp hca
  obtain ⟨y', _, rfl⟩ := List.mem_map.mp hcb
  cases h1; cases h2
  exact ⟨_, rfl, hv⟩

theorem batches_prov (r : Retain) (c : Costs) (S : RTree) (s : Path) (gl gr : Path → ExtInt) :
    ∀ cnd ∈ (batches r c S s gl gr).flatten, ∃ t, cnd.info = some t ∧
      (cnd.value ≠ .posInf → gl t.left ≠ .posInf ∧ gr t.right ≠ .posInf) := by
  -- every aggregate entry is offered `gl x` (resp. `gr y`) plus a finite distance, or as it is
  have key : ∀ (xs ys : List Path) (wa wb : Path → ExtInt) (k : ExtInt),
      (∀ x, wa x ≠ .posInf → gl x ≠ .posInf) → (∀ y, wb y ≠ .posInf → gr y ≠ .posInf) →
      ∀ cnd ∈ cands ((aggOf r xs wa).combine (aggOf r ys wb) (combinator k)),
      ∃ t, cnd.info = some t ∧
        (cnd.value ≠ .posInf → gl t.left ≠ .posInf ∧ gr t.right ≠ .posInf) := by
    intro xs ys wa wb k ha hb cnd h
    obtain ⟨t, hi, hv⟩ := cands_combine_prov r xs ys _ _ k cnd h
    refine ⟨t, hi, fun hne => ?_⟩
    rw [hv] at hne
    obtain ⟨h1, h2⟩ := AnyCode.add_ne_posInf hne
    exact ⟨ha _ (AnyCode.add_ne_posInf h1).2, hb _ h2⟩
  have plus : ∀ (g d : Path → ExtInt) (x : Path), g x + d x ≠ .posInf → g x ≠ .posInf :=
    fun _ _ _ h => (AnyCode.add_ne_posInf h).1
  have hspe : ∀ cnd ∈ speBatch r c S s gl gr, ∃ t, cnd.info = some t ∧
      (cnd.value ≠ .posInf → gl t.left ≠ .posInf ∧ gr t.right ≠ .posInf) := by
    intro cnd h
    simp only [speBatch, List.mem_append] at h
    rcases h with h | h
    · exact key _ _ _ _ _ (plus gl _) (plus gr _) cnd h
    · exact key _ _ _ _ _ (plus gl _) (plus gr _) cnd h
  have hdt : ∀ cnd ∈ dtBatch r c S s gl gr, ∃ t, cnd.info = some t ∧
      (cnd.value ≠ .posInf → gl t.left ≠ .posInf ∧ gr t.right ≠ .posInf) := by
    intro cnd h
    simp only [dtBatch, List.mem_append] at h
    rcases h with (h | h) | h
    · exact key _ _ _ _ _ (plus gl _) (plus gr _) cnd h
    · exact key _ _ _ _ _ (fun _ h => h) (plus gr _) cnd h
    · exact key _ _ _ _ _ (plus gl _) (fun _ h => h) cnd h
  intro cnd h
  unfold batches at h
  cases hl : S.isLeafAt s <;> simp only [hl, Bool.false_eq_true, if_false, if_true, List.nil_append,
    List.cons_append, List.flatten_cons, List.flatten_nil, List.append_nil, List.mem_append] at h
  · rcases h with h | h
    · exact hspe cnd h
    · exact hdt cnd h
  · exact hdt cnd h

theorem decode_ne_nil (r : Retain) (hr : r ≠ .none) (c : Costs) (S : RTree) (tbl : Table) :
    ∀ (t : OTree) (w : Path), Rows r c S tbl t w →
    ∀ s, tbl.get (w, s) ≠ none → decode tbl t w s ≠ [] := by
  intro t
  induction t with
  | leaf sp f =>
    intro w hrows s hs
    have hrow := hrows.root s
    by_cases hsp : s = sp
    · rw [if_pos hsp, Cell.update_leaf] at hrow
      simp [decode, Table.value, hrow, Cell.value, ExtInt.isInfinite]
    · rw [if_neg hsp] at hrow
      exact absurd hrow hs
  | node l r' ihl ihr =>
    intro w hrows s hs
    have hrow := hrows.root s
    by_cases hsp : s ∈ S.postorder
    · rw [if_pos hsp] at hrow
      obtain ⟨t, ht, hx, hy⟩ := tag_of_prov hr hrow hs
        (P := fun t => tbl.get (w ++ [0], t.left) ≠ none ∧ tbl.get (w ++ [1], t.right) ≠ none)
        fun cnd hc => by
          obtain ⟨t, hi, hf⟩ := batches_prov r c S s _ _ cnd hc
          exact ⟨t, hi, fun hv => ⟨get_ne_none_of_value (hf hv).1, get_ne_none_of_value (hf hv).2⟩⟩
      obtain ⟨ml, hml⟩ := List.exists_mem_of_ne_nil _ (ihl _ hrows.left _ hx)
      obtain ⟨mr, hmr⟩ := List.exists_mem_of_ne_nil _ (ihr _ hrows.right _ hy)
      apply List.ne_nil_of_mem (a := Sol.node s [] ml mr)
      simp only [decode, List.mem_flatMap, List.mem_map]
      exact ⟨t, ht, ml, hml, mr, hmr, rfl⟩
    · rw [if_neg hsp] at hrow
      exact absurd hrow hs

theorem decodings (c : Costs) (S : RTree) (tA tL : Table) (t : OTree) (w : Path)
    (hA : Rows .any c S tA t w) (hL : Rows .all c S tL t w) (s : Path) :
    (∀ sol ∈ decode tA t w s, sol ∈ decode tL t w s) ∧
    (decode tL t w s ≠ [] → decode tA t w s ≠ []) :=
  ⟨decode_sub c S _ _ t w hA hL s, fun h => decode_ne_nil .any (by simp) c S _ t w hA s fun hn =>
    get_ne_none_of_decode _ t w s h ((cellRel_rows c S _ _ t w hA hL s).isNone.mp hn)⟩

theorem reconcile_inv (r : Retain) (c : Costs) (S : RTree) (o : OTree) :
    Entry.Inv .min r
      (outCands (fun out => (recCost c o out).toExt) S.levelorder
        (fun s => decode (computeTable r c S o) o [] s))
      (reconcile r c S o) := by
  rw [reconcile_eq]
  exact Entry.inv_fresh .min r _

theorem reconcile_rel (c : Costs) (S : RTree) (o : OTree) :
    (thlCodeAny c S o).length ≤ 1 ∧ (thlCodeAny c S o = [] ↔ thlCode c S o = []) ∧
    ((∀ s ∈ S.levelorder, ∀ x ∈ decode (computeTable .all c S o) o [] s,
        ∀ y ∈ decode (computeTable .all c S o) o [] s, recCost c o x = recCost c o y) →
      (reconcile .any c S o).value = (reconcile .all c S o).value ∧
      ∀ sol ∈ thlCodeAny c S o, sol ∈ thlCode c S o) :=
  result_rel (recCost c o) S.levelorder _ _
    (fun s _ => decodings c S _ _ o [] (computeTable_rec .any c S o) (computeTable_rec .all c S o) s)
    _ _ (reconcile_inv .any c S o) (reconcile_inv .all c S o)

end ThlCode

end SR
