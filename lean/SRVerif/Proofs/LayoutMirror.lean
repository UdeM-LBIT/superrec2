/-
  The HORIZONTAL code path of the layout model is the transposed image of the
  VERTICAL one (used by `SR.C14.C14_mirror`).

  Transposition (`tr`) exchanges the two coordinates of every position and
  rectangle; the measured sizes are exchanged (`Size.swap`).  One lemma per
  phase of `layout.compute`.
-/
import SRVerif.Proofs.LayoutState

namespace SR.Layout

def Pos.tr (p : Pos) : Pos := ⟨p.y, p.x⟩
def Rect.tr (r : Rect) : Rect := ⟨r.y, r.x, r.h, r.w⟩
def Size.swap (s : Size) : Size := ⟨s.h, s.w⟩

def trRects (l : List (Key × Rect)) : List (Key × Rect) := l.map fun e => (e.1, e.2.tr)
def trAnchors (l : List (Key × Pos)) : List (Key × Pos) := l.map fun e => (e.1, e.2.tr)

def BState.tr (b : BState) : BState := ⟨b.na, b.ns, trRects b.rects, trAnchors b.anchors⟩
def SpLayout.tr (l : SpLayout) : SpLayout := ⟨l.branches, trRects l.rects, trAnchors l.anchors⟩

def Info.tr (i : Info) : Info :=
  ⟨i.sp, i.lay.tr, i.size.swap, i.trunk.tr, i.fork, i.leftPos.tr, i.rightPos.tr⟩

def ITree.tr : ITree → ITree
  | .leaf i => .leaf i.tr
  | .node i l r => .node i.tr l.tr r.tr

/-- Same-named anchor fields correspond (V parent = top ↔ H parent = left,
    V left = left ↔ H left = top, V right = right ↔ H right = bottom,
    V child = bottom ↔ H child = right): every point is transposed. -/
def FBranch.tr (b : FBranch) : FBranch :=
  ⟨b.key, b.kind, b.left, b.right, b.rect.tr, b.aParent.tr, b.aLeft.tr, b.aRight.tr, b.aChild.tr⟩

def SubLayout.tr (l : SubLayout) : SubLayout :=
  ⟨l.sp, l.rect.tr, l.trunk.tr, l.fork, trAnchors l.anchors, l.branches.map FBranch.tr⟩

@[simp] theorem Pos.tr_tr (p : Pos) : p.tr.tr = p := rfl
@[simp] theorem Rect.tr_tr (r : Rect) : r.tr.tr = r := rfl
@[simp] theorem Size.swap_swap (s : Size) : s.swap.swap = s := rfl

theorem FBranch.tr_tr (b : FBranch) : b.tr.tr = b := rfl

theorem SubLayout.tr_tr (l : SubLayout) : l.tr.tr = l := by
  obtain ⟨sp, rect, trunk, fork, anchors, branches⟩ := l
  simp only [SubLayout.tr, trAnchors, List.map_map, Rect.tr_tr, SubLayout.mk.injEq, true_and]
  exact ⟨List.map_id'' (fun _ => rfl) anchors, List.map_id'' (fun _ => rfl) branches⟩

theorem map_tr_tr (all : List SubLayout) : (all.map SubLayout.tr).map SubLayout.tr = all := by
  rw [List.map_map]
  exact List.map_id'' SubLayout.tr_tr all

@[simp] theorem ITree.tr_info (t : ITree) : t.tr.info = t.info.tr := by
  cases t <;> rfl

@[simp] theorem Except.map_ok' {ε α β : Type} (f : α → β) (a : α) :
    Except.map f (.ok a : Except ε α) = .ok (f a) := rfl
@[simp] theorem Except.map_error' {ε α β : Type} (f : α → β) (e : ε) :
    Except.map f (.error e : Except ε α) = .error e := rfl

theorem lookupKey_trRects (l : List (Key × Rect)) (k : Key) :
    lookupKey (trRects l) k = (lookupKey l k).map Rect.tr := by
  rw [trRects, lookupKey_eq_lookup, lookupKey_eq_lookup]
  exact List.lookup_map_snd (fun _ => Rect.tr) l k

theorem rectOf_trRects (l : List (Key × Rect)) (k : Option Key) :
    rectOf (trRects l) k = (rectOf l k).map Rect.tr := by
  cases k with
  | none => rfl
  | some k =>
    simp only [rectOf, lookupKey_trRects]
    cases lookupKey l k <;> rfl

theorem trRects_append (a b : List (Key × Rect)) : trRects (a ++ b) = trRects a ++ trRects b := by
  simp [trRects]

theorem trAnchors_append (a b : List (Key × Pos)) :
    trAnchors (a ++ b) = trAnchors a ++ trAnchors b := by
  simp [trAnchors]

theorem stepH_tr (P : Params) (sizes : Key → Size) (an : List Key) (bs : BState) (b : Branch) :
    stepH P sizes an bs.tr b =
      (stepV P (fun k => (sizes k).swap) an bs b).map BState.tr := by
  obtain ⟨key, kind, left, right⟩ := b
  obtain ⟨na, ns, rects, anchors⟩ := bs
  cases kind
  case leaf =>
    by_cases h : key ∈ an <;>
      simp [stepH, stepV, BState.tr, Size.swap, Rect.makeFrom, Rect.center, Rect.tr, Pos.tr,
        trRects, trAnchors, h]
  case spec =>
    by_cases h : key ∈ an <;>
      simp [stepH, stepV, BState.tr, Size.swap, Rect.makeFrom, Rect.center, Rect.tr, Pos.tr,
        trRects, trAnchors, h]
  case loss =>
    by_cases h : key ∈ an <;>
      simp [stepH, stepV, BState.tr, Size.swap, Rect.makeFrom, Rect.center, Rect.tr, Pos.tr,
        trRects, trAnchors, h]
  case dup =>
    simp only [stepH, stepV, BState.tr, rectOf_trRects]
    cases rectOf rects left <;> cases rectOf rects right <;>
    by_cases h : key ∈ an <;>
      simp [BState.tr, Size.swap, Rect.makeFrom, Rect.center, Rect.tr, Pos.tr, Pos.add,
        trRects, trAnchors, h]
  case hgt =>
    simp only [stepH, stepV, BState.tr, rectOf_trRects]
    cases rectOf rects left <;>
    by_cases h : key ∈ an <;>
      simp [BState.tr, Size.swap, Rect.makeFrom, Rect.center, Rect.tr, Pos.tr,
        trRects, trAnchors, h]

theorem foldE_step_tr (P : Params) (sizes : Key → Size) (an : List Key) (bl : List Branch)
    (bs : BState) :
    foldE (stepH P sizes an) bl bs.tr =
      (foldE (stepV P (fun k => (sizes k).swap) an) bl bs).map BState.tr := by
  induction bl generalizing bs with
  | nil => rfl
  | cons b t ih =>
    simp only [foldE, stepH_tr]
    cases stepV P (fun k => (sizes k).swap) an bs b with
    | error e => rfl
    | ok bs' => simpa using ih bs'

theorem shiftRects_tr (p : Pos) (l : List (Key × Rect)) :
    shiftRects p.tr (trRects l) = trRects (shiftRects p l) := by
  simp [shiftRects, trRects, Rect.shift, Rect.tr, Pos.tr]

theorem shiftAnchors_tr (p : Pos) (l : List (Key × Pos)) :
    shiftAnchors p.tr (trAnchors l) = trAnchors (shiftAnchors p l) := by
  simp [shiftAnchors, trAnchors, Pos.add, Pos.tr]

theorem shiftList_tr (l : List (Key × Rect)) :
    ((trRects l).map fun e => -(e.2.bottom.y)) = l.map fun e => -(e.2.right.x) := by
  simp [trRects, Rect.bottom, Rect.right, Rect.tr]

theorem layoutBranchesH_tr (P : Params) (sizes : Key → Size) (st : SpState) :
    layoutBranchesH P sizes st =
      (layoutBranchesV P (fun k => (sizes k).swap) st).map SpLayout.tr := by
  have h := foldE_step_tr P sizes st.anchors st.branches ⟨0, P.pad, [], []⟩
  have h0 : (BState.tr ⟨0, P.pad, [], []⟩) = ⟨0, P.pad, [], []⟩ := rfl
  rw [h0] at h
  simp only [layoutBranchesH, layoutBranchesV, h]
  cases foldE (stepV P (fun k => (sizes k).swap) st.anchors) st.branches ⟨0, P.pad, [], []⟩ with
  | error e => rfl
  | ok bs =>
    simp only [Except.map_ok']
    split
    · rfl
    · simp only [Except.map_ok', SpLayout.tr, BState.tr, shiftList_tr]
      rw [← shiftRects_tr, ← shiftAnchors_tr]
      rfl

def trLays (l : List (Path × SpLayout)) : List (Path × SpLayout) := l.map fun e => (e.1, e.2.tr)

theorem layoutAllH_tr (P : Params) (sizes : Key → Size) (st : LState) :
    layoutAllH P sizes st = (layoutAllV P (fun k => (sizes k).swap) st).map trLays := by
  induction st with
  | nil => rfl
  | cons a t ih =>
    obtain ⟨s, sp⟩ := a
    simp only [layoutAllH, layoutAllV, ih, layoutBranchesH_tr]
    cases layoutBranchesV P (fun k => (sizes k).swap) sp <;>
      cases layoutAllV P (fun k => (sizes k).swap) t <;> rfl

theorem lookupSp_trLays (l : List (Path × SpLayout)) (p : Path) :
    lookupSp (trLays l) p = (lookupSp l p).map SpLayout.tr := by
  rw [trLays, lookupSp_eq_lookup, lookupSp_eq_lookup]
  exact List.lookup_map_snd (fun _ => SpLayout.tr) l p

theorem trunkDimsH_tr (P : Params) (rects : List (Key × Rect)) :
    trunkDimsH P (trRects rects) =
      ((trunkDimsV P rects).2.1, (trunkDimsV P rects).1, (trunkDimsV P rects).2.2) := by
  unfold trunkDimsH trunkDimsV
  by_cases h : rects.isEmpty
  · simp [trRects, h]
  · simp [trRects, h, Rect.topLeft, Rect.bottomRight, Rect.tr, Function.comp_def]

theorem sizesH_tr (P : Params) (laysV laysH : Path → Option SpLayout)
    (hl : ∀ p, laysH p = (laysV p).map SpLayout.tr) (B : BTree) (p : Path) :
    sizesH P laysH B p = (sizesV P laysV B p).map ITree.tr := by
  induction B generalizing p with
  | leaf =>
    simp only [sizesH, sizesV, hl]
    cases laysV p with
    | none => rfl
    | some lay =>
      simp [SpLayout.tr, trunkDimsH_tr, ITree.tr, Info.tr, Size.swap, Rect.makeFrom, Rect.tr,
        Pos.tr]
  | node a b iha ihb =>
    simp only [sizesH, sizesV, hl, iha, ihb]
    cases sizesV P laysV a (p ++ [0]) with
    | error e => rfl
    | ok lt =>
      cases sizesV P laysV b (p ++ [1]) with
      | error e => rfl
      | ok rt =>
        cases laysV p with
        | none => rfl
        | some lay =>
          simp [SpLayout.tr, trunkDimsH_tr, ITree.tr, Info.tr, Size.swap, Rect.makeFrom, Rect.tr,
            Pos.tr, Rect.bottom, Rect.top, Rect.left, Rect.right]

theorem finishBranchH_tr (off : Pos) (b : Branch) (r : Rect) :
    finishBranchH off.tr b r.tr = (finishBranchV off b r).tr := by
  obtain ⟨key, kind, left, right⟩ := b
  cases kind <;>
    simp [finishBranchH, finishBranchV, FBranch.tr, Rect.shift, Rect.tr, Pos.tr, Rect.center,
      Rect.left, Rect.top, Rect.bottom, Rect.right]

theorem finishH_tr (i : Info) (r : Rect) : finishH i.tr r.tr = (finishV i r).tr := by
  simp only [finishH, finishV, SubLayout.tr, Info.tr, SpLayout.tr]
  congr 1
  · exact shiftAnchors_tr (i.trunk.shift r.topLeft).topRight i.lay.anchors
  · simp only [trRects, List.zip_map_right, List.map_map]
    apply List.map_congr_left
    intro e _
    exact finishBranchH_tr (i.trunk.shift r.topLeft).bottomRight e.1 e.2.2

theorem placeH_tr (t : ITree) (r : Rect) :
    placeH t.tr r.tr = (placeV t r).map SubLayout.tr := by
  induction t generalizing r with
  | leaf i => simp [placeH, placeV, ITree.tr, finishH_tr]
  | node i lt rt ihl ihr =>
    simp only [placeH, placeV, ITree.tr, finishH_tr, List.map_cons, List.map_append,
      ITree.tr_info, ← ihl, ← ihr]
    rfl

theorem computeH_tr (P : Params) (sizes : Key → Size) (S : RTree) (sol : Sol) :
    computeH P sizes S sol =
      (computeV P (fun k => (sizes k).swap) S sol).map (List.map SubLayout.tr) := by
  fun_cases computeV P (fun k => (sizes k).swap) S sol
  all_goals simp only [computeH, layoutAllH_tr, Except.map_ok', Except.map_error',
    sizesH_tr P _ _ (lookupSp_trLays _), ITree.tr_info, ← placeH_tr, *]
  rfl

theorem computeH_ok {P : Params} {sizes : Key → Size} {S : RTree} {sol : Sol} {all : List SubLayout} :
    computeH P sizes S sol = .ok all ↔
      ∃ allV, computeV P (fun k => (sizes k).swap) S sol = .ok allV ∧ all = allV.map SubLayout.tr := by
  rw [computeH_tr]
  cases computeV P (fun k => (sizes k).swap) S sol with
  | error e => simp [Except.map_error']
  | ok allV => simp [Except.map_ok', eq_comm]

end SR.Layout
