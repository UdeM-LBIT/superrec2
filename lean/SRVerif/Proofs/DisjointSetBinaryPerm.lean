/-
  `binary()` for an ARBITRARY iteration order of the set of representatives: the Python code
  iterates `list(set(self.find(i) for i in range(n)))` in CPython's set order (not increasing in
  general).  For any duplicate-free listing `gs` of that set, `_binary` enumerates exactly the
  colourings of `gs` (true = `first` block, false = `second` block) in which both colours occur and
  the first `true` element is smaller than the first `false` one: one of the two colourings of every
  two-block coarsening (`binaryOrd_twoBlocks`; read through `to_list()`: `binary_toList`).
-/
import SRVerif.Proofs.DisjointSetBinary
import SRVerif.Proofs.ListAux

namespace SR.DS

/-- The first element of `gs` whose colour is `b`, for a LIST of choices `c` (what `colsGo`
    enumerates).  On the choices of a colouring function it is `firstOf` (`firstCol_map`), in
    which `Coloured` and the main theorem speak. -/
def firstCol (b : Bool) : List Nat → List Bool → Option Nat
  | g :: gs, x :: c => if x = b then some g else firstCol b gs c
  | [], _ => none
  | _ :: _, [] => none

/- One lemma per state `(first, second)` of `_binary`, for any list `gs` (`_any`: no order on
   `gs` is assumed).  Once both are chosen every colouring passes; while one is missing the test
   `g > first` / `g < second` is made on the first element that gets the missing colour, and only
   there: so membership is a condition on `firstCol` alone.  From `(None, None)` this leaves, of a
   colouring and its complement, the one whose first `true` element is the smaller. -/
theorem mem_colsGo_both (f s : Nat) : ∀ (gs : List Nat) (c : List Bool),
    c ∈ colsGo gs (some f) (some s) ↔ c.length = gs.length
  | [], c => by cases c <;> simp [colsGo]
  | g :: gs, [] => by simp [colsGo]
  | g :: gs, b :: c => by cases b <;> simp [colsGo, mem_colsGo_both f s gs]

theorem cols_first_any (f : Nat) : ∀ (gs : List Nat) (c : List Bool),
    c ∈ colsGo gs (some f) none ↔ c.length = gs.length ∧ ∃ s, firstCol false gs c = some s ∧ s > f
  | [], c => by cases c <;> simp [colsGo, firstCol]
  | g :: gs, [] => by simp [colsGo, firstCol]
  | g :: gs, b :: c => by
    cases b <;> simp [colsGo, firstCol, mem_colsGo_both, cols_first_any f gs, and_comm]

theorem cols_second_any (s : Nat) : ∀ (gs : List Nat) (c : List Bool),
    c ∈ colsGo gs none (some s) ↔ c.length = gs.length ∧ ∃ f, firstCol true gs c = some f ∧ f < s
  | [], c => by cases c <;> simp [colsGo, firstCol]
  | g :: gs, [] => by simp [colsGo, firstCol]
  | g :: gs, b :: c => by
    cases b <;> simp [colsGo, firstCol, mem_colsGo_both, cols_second_any s gs, and_comm]

theorem cols_none_any : ∀ (gs : List Nat) (c : List Bool),
    c ∈ colsGo gs none none ↔ c.length = gs.length ∧
      ∃ f s, firstCol true gs c = some f ∧ firstCol false gs c = some s ∧ f < s
  | [], c => by cases c <;> simp [colsGo, firstCol]
  | g :: gs, [] => by simp [colsGo, firstCol]
  | g :: gs, b :: c => by
    cases b <;> simp [colsGo, firstCol, cols_first_any, cols_second_any]

theorem cols_nodup : ∀ (gs : List Nat) (f s : Option Nat), (colsGo gs f s).Nodup
  | [], f, s => by cases f <;> cases s <;> simp [colsGo]
  | g :: gs, none, none => by
    rw [colsGo]; exact List.nodup_map_cons_append (cols_nodup gs _ _) (cols_nodup gs _ _) (by decide)
  | g :: gs, none, some s => by
    rw [colsGo]; exact List.nodup_map_cons_append (List.nodup_ite (cols_nodup gs _ _)) (cols_nodup gs _ _) (by decide)
  | g :: gs, some f, none => by
    rw [colsGo]; exact List.nodup_map_cons_append (cols_nodup gs _ _) (List.nodup_ite (cols_nodup gs _ _)) (by decide)
  | g :: gs, some f, some s => by
    rw [colsGo]; exact List.nodup_map_cons_append (cols_nodup gs _ _) (cols_nodup gs _ _) (by decide)

theorem cols_both_length (f s : Nat) : ∀ gs : List Nat,
    (colsGo gs (some f) (some s)).length = 2 ^ gs.length
  | [] => rfl
  | g :: gs => by
    simp only [colsGo, List.length_append, List.length_map, cols_both_length f s gs,
      List.length_cons]
    omega

theorem cols_count (x : Nat) : ∀ (gs : List Nat), x ∉ gs →
    (colsGo gs (some x) none).length + (colsGo gs none (some x)).length + 1 = 2 ^ gs.length := by
  intro gs
  induction gs with
  | nil => intro _; simp [colsGo]
  | cons g gs ih =>
    intro hx
    have hne : g ≠ x := fun h => hx (by simp [h])
    have ih' := ih (fun h => hx (by simp [h]))
    have h1 := cols_both_length x g gs
    have h2 := cols_both_length g x gs
    have hp : 2 ^ (g :: gs).length = 2 * 2 ^ gs.length := by simp [Nat.pow_succ, Nat.mul_comm]
    rw [hp]
    by_cases hlt : g < x
    · have hgt : ¬ g > x := by omega
      simp only [colsGo, hlt, hgt, if_true, if_false, List.length_append, List.length_map,
        List.length_nil, h2]
      omega
    · have hgt : g > x := by omega
      simp only [colsGo, hlt, hgt, if_true, if_false, List.length_append, List.length_map,
        List.length_nil, h1]
      omega

theorem cols_none_length (gs : List Nat) (hn : gs.Nodup) :
    (colsGo gs none none).length = 2 ^ (gs.length - 1) - 1 := by
  cases gs with
  | nil => simp [colsGo]
  | cons g gs =>
    have := cols_count g gs (List.nodup_cons.mp hn).1
    simp only [colsGo, List.length_append, List.length_map, List.length_cons, Nat.add_sub_cancel]
    omega

theorem firstCol_map (κ : Nat → Bool) (b : Bool) : ∀ gs : List Nat,
    firstCol b gs (gs.map κ) = firstOf κ b gs
  | [] => rfl
  | g :: gs => by
    simp only [List.map_cons, firstCol, firstOf, List.find?_cons, firstCol_map κ b gs]
    cases κ g <;> cases b <;> rfl

theorem firstOf_isSome {κ : Nat → Bool} {b : Bool} {gs : List Nat} {g : Nat}
    (hg : g ∈ gs) (hk : κ g = b) : ∃ g', firstOf κ b gs = some g' :=
  Option.isSome_iff_exists.mp (List.find?_isSome.mpr ⟨g, hg, by simpa using hk⟩)

theorem firstOf_not (κ : Nat → Bool) (b : Bool) (gs : List Nat) :
    firstOf (fun g => !κ g) b gs = firstOf κ (!b) gs := by
  rw [firstOf, firstOf]
  congr 1; funext g; cases κ g <;> cases b <;> rfl

theorem firstOf_congr {κ κ' : Nat → Bool} {gs : List Nat} (h : ∀ g, g ∈ gs → κ' g = κ g) (b : Bool) :
    firstOf κ' b gs = firstOf κ b gs := by
  rw [← firstCol_map, ← firstCol_map, List.map_congr_left h]

theorem mem_cols_map {κ : Nat → Bool} {gs : List Nat} :
    gs.map κ ∈ colsGo gs none none ↔
      ∃ f s, firstOf κ true gs = some f ∧ firstOf κ false gs = some s ∧ f < s := by
  simp only [cols_none_any, List.length_map, firstCol_map, true_and]

/-- `gs` lists the roots of `d`, each once, in any order: a possible value of
    `list(set(find(i) for i in range(n)))`.  Entries: `listing_roots` (the model's increasing
    order); `mem_allReps` (the values computed by the finds are the roots), through which
    `listing_of_allReps` and, for the generated code, `DsuPyProofs.listOfSet_listing` give a
    `Listing`; `SR.C20.RepListing` (the same in the words of `find`, Properties/C20Binary). -/
structure Listing (d : DS) (gs : List Nat) : Prop where
  nodup : gs.Nodup
  mem : ∀ r, r ∈ gs ↔ r ∈ roots d

theorem Listing.length {d : DS} {gs : List Nat} (h : Listing d gs) : gs.length = d.nroots := by
  rw [← roots_length d]
  exact ((List.perm_ext_iff_of_nodup h.nodup (roots_nodup d)).mpr h.mem).length_eq

theorem listing_roots (d : DS) : Listing d (roots d) := ⟨roots_nodup d, fun _ => Iff.rfl⟩

/-- The structure built for the colouring function `κ` along the listing `gs`. -/
abbrev colourG (d : DS) (gs : List Nat) (κ : Nat → Bool) : DS :=
  applyCol gs (gs.map κ) d.allReps.1 none none

theorem colourG_spec {n : Nat} {d : DS} {ps : List (Nat × Nat)} (hI : Inv n d ps)
    {gs : List Nat} (hL : Listing d gs) (κ : Nat → Bool) :
    WF (colourG d gs κ) ∧ (colourG d gs κ).size = n ∧
    (∀ x y, x < n → y < n →
      (rep (colourG d gs κ) x = rep (colourG d gs κ) y ↔ κ (rep d x) = κ (rep d y))) ∧
    (∀ x y, Conn ps x y → rep (colourG d gs κ) x = rep (colourG d gs κ) y) := by
  have hW := hI.wf
  obtain ⟨hP, hW', _⟩ := sortedReps_eq hW
  have h0 : Coloured d κ [] d.allReps.1 :=
    ⟨⟨hW', hP.size⟩, fun x y => ((hP.same x y).trans (same_iff_rep hW x y)).trans (by simp)⟩
  obtain ⟨⟨h1, h2⟩, h3⟩ := applyCol_coloured hW κ gs [] _ h0
    (fun r hr => (hL.mem r).mp (by simpa using hr)) (by simpa using hL.nodup)
  have hmem : ∀ x, x < n → rep d x ∈ [] ++ gs := fun x hx =>
    (hL.mem _).mpr (rep_mem_roots hW (hI.ok.lt hx))
  refine ⟨h1, h2.trans hI.size, fun x y hx hy => ((same_iff_rep h1 x y).symm.trans (h3 x y)).trans ?_,
    fun x y h => (same_iff_rep h1 x y).mp
      ((h3 x y).mpr (Or.inl ((same_iff_rep hW x y).mp ((hI.same x y).mpr h))))⟩
  exact ⟨fun h => h.elim (fun h => by rw [h]) (fun h => h.2.2), fun h => Or.inr ⟨hmem x hx, hmem y hy, h⟩⟩

/-- `_binary(partition, groups = gs, None, None)` after the finds of `binary()`; the statements of
    Properties/C20Binary call the same list `SR.C20.binaryIn d gs`. -/
def binaryOrd (d : DS) (gs : List Nat) : List DS := binGo gs d.allReps.1 none none

theorem binary_eq_binaryOrd (d : DS) : d.binary = binaryOrd d d.sortedReps.2 := rfl

/-- `res` lists, each once, the two-block coarsenings on `{0..n-1}` of the partition generated by
    `ps`, which has `k` classes: in the words of `C20_binary` (`rep b x = rep b y` is
    `find x == find y` on `b`). -/
def TwoBlocks (n : Nat) (ps : List (Nat × Nat)) (k : Nat) (res : List DS) : Prop :=
    (∀ b, b ∈ res → b.size = n ∧ (∀ x y, Conn ps x y → rep b x = rep b y) ∧
      ∃ u v, u < n ∧ v < n ∧ ¬ rep b u = rep b v ∧ ∀ x, x < n → rep b x = rep b u ∨ rep b x = rep b v) ∧
    res.Pairwise (fun b b' => ∃ x y, x < n ∧ y < n ∧ ¬ (rep b x = rep b y ↔ rep b' x = rep b' y)) ∧
    (∀ R : Nat → Nat → Prop, (∀ x, x < n → R x x) → (∀ x y, x < n → y < n → R x y → R y x) →
      (∀ x y z, x < n → y < n → z < n → R x y → R y z → R x z) →
      (∀ x y, x < n → y < n → Conn ps x y → R x y) →
      (∃ u v, u < n ∧ v < n ∧ ¬ R u v ∧ ∀ x, x < n → R x u ∨ R x v) →
      ∃ b, b ∈ res ∧ ∀ x y, x < n → y < n → (rep b x = rep b y ↔ R x y)) ∧
    res.length = 2 ^ (k - 1) - 1

open Classical in
theorem binaryOrd_twoBlocks {n : Nat} {d : DS} {ps : List (Nat × Nat)} (hI : Inv n d ps)
    {gs : List Nat} (hL : Listing d gs) :
    (∀ b, b ∈ binaryOrd d gs → WF b) ∧ TwoBlocks n ps d.groups (binaryOrd d gs) := by
  have hW := hI.wf
  rw [binaryOrd, binGo_eq]
  have hgn : ∀ g, g ∈ gs → g < n := fun g hg => hI.size ▸ (mem_roots.mp ((hL.mem g).mp hg)).1
  have hrepg : ∀ g, g ∈ gs → rep d g = g := fun g hg => rep_of_mem_roots hW ((hL.mem g).mp hg)
  have hcol : ∀ c, c ∈ colsGo gs none none → ∃ κ : Nat → Bool, gs.map κ = c ∧
      ∃ f s, firstOf κ true gs = some f ∧ firstOf κ false gs = some s ∧
        f < s ∧ f ∈ gs ∧ s ∈ gs ∧ κ f = true ∧ κ s = false := by
    intro c hc
    obtain ⟨κ, rfl⟩ := List.exists_map_eq_of_nodup hL.nodup ((cols_none_any gs c).mp hc).1
    obtain ⟨f, s, hf, hs, hfs⟩ := mem_cols_map.mp hc
    exact ⟨κ, rfl, f, s, hf, hs, hfs, (firstOf_some hf).1, (firstOf_some hs).1, (firstOf_some hf).2,
      (firstOf_some hs).2⟩
  refine ⟨fun b hb => ?_, ?_, ?_, ?_, ?_⟩
  · obtain ⟨c, hc, rfl⟩ := List.mem_map.mp hb
    obtain ⟨κ, rfl, _⟩ := hcol c hc
    exact (colourG_spec hI hL κ).1
  · intro b hb
    obtain ⟨c, hc, rfl⟩ := List.mem_map.mp hb
    obtain ⟨κ, rfl, f, s, _, _, _, hfm, hsm, hkf, hks⟩ := hcol c hc
    obtain ⟨_, h2, h3, h4⟩ := colourG_spec hI hL κ
    refine ⟨h2, h4, f, s, hgn f hfm, hgn s hsm, ?_, ?_⟩
    · rw [h3 f s (hgn f hfm) (hgn s hsm), hrepg f hfm, hrepg s hsm, hkf, hks]
      intro h; cases h
    · intro x hx
      cases hk : κ (rep d x) with
      | true => left; rw [h3 x f hx (hgn f hfm), hrepg f hfm, hk, hkf]
      | false => right; rw [h3 x s hx (hgn s hsm), hrepg s hsm, hk, hks]
  · rw [List.pairwise_map]
    refine List.Pairwise.imp_of_mem ?_ (cols_nodup gs none none)
    intro c c' hc hc' hne
    obtain ⟨κ, rfl, f, s, hf, hs, hfs, hfm, hsm, hkf, hks⟩ := hcol c hc
    obtain ⟨κ', rfl, f', s', hf', hs', hfs', _, _, _, _⟩ := hcol c' hc'
    obtain ⟨_, _, h3, _⟩ := colourG_spec hI hL κ
    obtain ⟨_, _, h3', _⟩ := colourG_spec hI hL κ'
    apply Classical.byContradiction
    intro hcon
    -- on the listed roots both colourings have the same kernel
    have hker : ∀ x y, x ∈ gs → y ∈ gs → (κ x = κ y ↔ κ' x = κ' y) := by
      intro x y hx hy
      rw [← hrepg x hx, ← hrepg y hy, ← h3 x y (hgn x hx) (hgn y hy), ← h3' x y (hgn x hx) (hgn y hy)]
      apply Classical.byContradiction
      intro h; exact hcon ⟨x, y, hgn x hx, hgn y hy, h⟩
    cases hk' : κ' f with
    | true =>
      -- the colourings agree
      apply hne
      apply List.map_congr_left
      intro x hx
      have := hker x f hx hfm
      rw [hkf, hk'] at this
      exact Bool.eq_iff_iff.mpr this
    | false =>
      -- the colourings are opposite, so the first elements are exchanged
      have hopp : ∀ x, x ∈ gs → κ' x = !κ x := by
        intro x hx
        have := hker x f hx hfm
        rw [hkf, hk'] at this
        exact eq_not_of_iff this
      rw [firstOf_congr hopp, firstOf_not] at hf' hs'
      rw [Bool.not_true, hs] at hf'
      rw [Bool.not_false, hf] at hs'
      cases hf'; cases hs'
      omega
  · intro R hrefl hsymm htrans hco ⟨u, v, hu, hv, huv, hall⟩
    let κ0 : Nat → Bool := fun g => decide (R g u)
    have hrepn : ∀ x, x < n → rep d x < n := fun x hx => (hI.ok.find hx).2
    have hxr : ∀ x, x < n → R x (rep d x) := fun x hx =>
      hco x _ hx (hrepn x hx) ((hI.same _ _).mp (same_rep hW x))
    have hrx : ∀ z, z < n → (κ0 (rep d z) = true ↔ R z u) := by
      intro z hz
      simp only [κ0, decide_eq_true_eq]
      constructor
      · intro h; exact htrans z _ u hz (hrepn z hz) hu (hxr z hz) h
      · intro h
        exact htrans _ z u (hrepn z hz) hz hu (hsymm z _ hz (hrepn z hz) (hxr z hz)) h
    have hmemrep : ∀ x, x < n → rep d x ∈ gs := fun x hx =>
      (hL.mem _).mpr (rep_mem_roots hW (hI.ok.lt hx))
    have hku : κ0 (rep d u) = true := (hrx u hu).mpr (hrefl u hu)
    have hkv : κ0 (rep d v) = false := by
      cases h : κ0 (rep d v) with
      | false => rfl
      | true => exact absurd (hsymm v u hv hu ((hrx v hv).mp h)) huv
    obtain ⟨f, hf⟩ := firstOf_isSome (hmemrep u hu) hku
    obtain ⟨s, hs⟩ := firstOf_isSome (hmemrep v hv) hkv
    have hfs : f ≠ s := fun h => by
      have := (firstOf_some hf).2; rw [h, (firstOf_some hs).2] at this; cases this
    -- the kernel of κ0 (and of its negation) on representatives is R
    have hkerR : ∀ x y, x < n → y < n → ((κ0 (rep d x) = κ0 (rep d y)) ↔ R x y) := by
      intro x y hx hy
      rw [two_class_iff hsymm htrans hu hv hall hx hy, ← hrx x hx, ← hrx y hy]
      cases κ0 (rep d x) <;> cases κ0 (rep d y) <;> simp
    -- of `κ0` and its negation, the one whose first `true` root is the smaller is enumerated
    have hfin : ∀ κ : Nat → Bool, gs.map κ ∈ colsGo gs none none →
        (∀ x y, x < n → y < n → (κ (rep d x) = κ (rep d y) ↔ R x y)) →
        ∃ b, b ∈ (colsGo gs none none).map (fun c => applyCol gs c d.allReps.1 none none) ∧
          ∀ x y, x < n → y < n → (rep b x = rep b y ↔ R x y) := fun κ hcin hk =>
      ⟨colourG d gs κ, List.mem_map.mpr ⟨gs.map κ, hcin, rfl⟩, fun x y hx hy =>
        ((colourG_spec hI hL κ).2.2.1 x y hx hy).trans (hk x y hx hy)⟩
    by_cases hlt : f < s
    · exact hfin κ0 (mem_cols_map.mpr ⟨f, s, hf, hs, hlt⟩) hkerR
    · refine hfin (fun g => !κ0 g) (mem_cols_map.mpr ⟨s, f, (firstOf_not κ0 true gs).trans hs,
        (firstOf_not κ0 false gs).trans hf, by omega⟩) (fun x y hx hy => ?_)
      rw [← hkerR x y hx hy]
      cases κ0 (rep d x) <;> cases κ0 (rep d y) <;> simp
  · rw [List.length_map, cols_none_length gs hL.nodup, hL.length, hW.grp]

theorem mem_allReps {d : DS} (hd : WF d) (r : Nat) : r ∈ d.allReps.2 ↔ r ∈ roots d := by
  have : d.allReps.2 = (List.range d.size).map (rep d) := (allReps_fold hd d.size (Nat.le_refl _)).2.2
  simp only [this, List.mem_map, List.mem_range, mem_roots_iff ⟨hd, rfl⟩]

theorem listing_of_allReps {d : DS} (hd : WF d) {gs : List Nat} (hn : gs.Nodup)
    (hm : ∀ r, r ∈ gs ↔ r ∈ d.allReps.2) : Listing d gs :=
  ⟨hn, fun r => (hm r).trans (mem_allReps hd r)⟩

/-- Completeness for a cut given as a predicate on positions. -/
theorem TwoBlocks.cut {n : Nat} {ps : List (Nat × Nat)} {k : Nat} {res : List DS}
    (h : TwoBlocks n ps k res) (q : Nat → Prop) (hu : ∃ u, u < n ∧ q u) (hv : ∃ v, v < n ∧ ¬ q v)
    (hq : ∀ x y, x < n → y < n → Conn ps x y → (q x ↔ q y)) :
    ∃ b, b ∈ res ∧ ∀ x y, x < n → y < n → (rep b x = rep b y ↔ (q x ↔ q y)) := by
  obtain ⟨_, _, h3, _⟩ := h
  obtain ⟨u, hu, hqu⟩ := hu
  obtain ⟨v, hv, hqv⟩ := hv
  refine h3 (fun x y => q x ↔ q y) (fun _ _ => Iff.rfl) (fun _ _ _ _ => Iff.symm)
    (fun _ _ _ _ _ _ => Iff.trans) hq ⟨u, v, hu, hv, fun h => hqv (h.mp hqu), fun x _ => ?_⟩
  by_cases hx : q x
  · exact Or.inl ⟨fun _ => hqu, fun _ => hx⟩
  · exact Or.inr ⟨fun h => absurd h hx, fun h => absurd h hqv⟩

/-- `TwoBlocks` read through `to_list()`, which is how `all_trees_from_triples` consumes `binary()`:
    every member has two groups that never separate connected positions, every such cut is the pair
    of groups of a member in one of the two orders, and two members cut differently. -/
def TwoCuts (n : Nat) (ps : List (Nat × Nat)) (res : List DS) : Prop :=
    (∀ b, b ∈ res → ∃ g0 g1, b.toList.2 = [g0, g1] ∧ g0 ≠ [] ∧ g1 ≠ [] ∧
        g0.Pairwise (· < ·) ∧ g1.Pairwise (· < ·) ∧ (∀ i, i ∈ g0 → i ∉ g1) ∧
        (∀ i, i < n ↔ i ∈ g0 ∨ i ∈ g1) ∧
        ∀ x y, x < n → y < n → Conn ps x y → (x ∈ g0 ↔ y ∈ g0)) ∧
    (∀ q : Nat → Prop, (∃ u, u < n ∧ q u) → (∃ v, v < n ∧ ¬ q v) →
        (∀ x y, x < n → y < n → Conn ps x y → (q x ↔ q y)) →
        ∃ b g0 g1, b ∈ res ∧ b.toList.2 = [g0, g1] ∧
          ((∀ i, i < n → (i ∈ g0 ↔ q i)) ∨ (∀ i, i < n → (i ∈ g1 ↔ q i)))) ∧
    res.Pairwise (fun b b' => ∃ x y, x < n ∧ y < n ∧
        ¬ ((x ∈ b.toList.2.getD 0 [] ↔ y ∈ b.toList.2.getD 0 []) ↔
           (x ∈ b'.toList.2.getD 0 [] ↔ y ∈ b'.toList.2.getD 0 [])))

theorem TwoBlocks.toList {n : Nat} {ps : List (Nat × Nat)} {k : Nat} {res : List DS}
    (hW : ∀ b, b ∈ res → WF b) (h : TwoBlocks n ps k res) : TwoCuts n ps res := by
  have hcut := h.cut
  obtain ⟨h1, h2, _, _⟩ := h
  have hg := fun b (hb : b ∈ res) => toList_two (b := b) ⟨hW b hb, (h1 b hb).1⟩ (h1 b hb).2.2
  refine ⟨fun b hb => ?_, fun q hu hv hq => ?_, ?_⟩
  · obtain ⟨g0, g1, e, a1, a2, a3, a4, a5, a6, a7⟩ := hg b hb
    exact ⟨g0, g1, e, a1, a2, a3, a4, a5, a6,
      fun x y hx hy hc => (a7 x y hx hy).mp ((h1 b hb).2.1 x y hc)⟩
  · obtain ⟨b, hb, hbq⟩ := hcut q hu hv hq
    obtain ⟨g0, g1, e, _, _, _, _, a5, a6, a7⟩ := hg b hb
    obtain ⟨u, hu, hqu⟩ := hu
    have key : ∀ i, i < n → ((i ∈ g0 ↔ u ∈ g0) ↔ (q i ↔ q u)) := fun i hi =>
      (a7 i u hi hu).symm.trans (hbq i u hi hu)
    refine ⟨b, g0, g1, hb, e, ?_⟩
    by_cases hu0 : u ∈ g0
    · left; intro i hi
      exact ⟨fun h => ((key i hi).mp ⟨fun _ => hu0, fun _ => h⟩).mpr hqu,
        fun h => ((key i hi).mpr ⟨fun _ => hqu, fun _ => h⟩).mpr hu0⟩
    · right; intro i hi
      have hi1 : i ∈ g1 ↔ i ∉ g0 :=
        ⟨fun h1 h0 => a5 i h0 h1, fun h0 => ((a6 i).mp hi).resolve_left h0⟩
      rw [hi1]
      exact ⟨fun h => ((key i hi).mp ⟨fun h' => absurd h' h, fun h' => absurd h' hu0⟩).mpr hqu,
        fun h h0 => hu0 (((key i hi).mpr ⟨fun _ => hqu, fun _ => h⟩).mp h0)⟩
  · refine List.Pairwise.imp_of_mem ?_ h2
    intro b b' hb hb' ⟨x, y, hx, hy, hne⟩
    obtain ⟨g0, g1, e, _, _, _, _, _, _, a7⟩ := hg b hb
    obtain ⟨g0', g1', e', _, _, _, _, _, _, a7'⟩ := hg b' hb'
    refine ⟨x, y, hx, hy, ?_⟩
    rw [e, e']
    show ¬ ((x ∈ g0 ↔ y ∈ g0) ↔ (x ∈ g0' ↔ y ∈ g0'))
    rw [← a7 x y hx hy, ← a7' x y hx hy]
    exact hne

theorem binary_toList {n : Nat} {d : DS} {ps : List (Nat × Nat)} (hI : Inv n d ps) :
    TwoCuts n ps d.binary := by
  rw [binary_eq_binaryOrd, (sortedReps_eq hI.wf).2.2]
  obtain ⟨hW, h⟩ := binaryOrd_twoBlocks hI (listing_roots d)
  exact h.toList hW

end SR.DS
