/-
  What one table entry of the label DP computes, in terms of which child cell is offered to
  which role with which value (`roleVal`) and of the six event combinations (`events`):
  a separable minimum over the five role aggregates of each child, read off the aggregate
  invariant `Agg.Inv` of `Proofs/Agg.lean` element by element (`entry_le`, `entry_attained`,
  `entry_all`).  An entry reads only the species, label and
  value of the child cells (`DCell.core`, `best_congr`, `entry_map_core`).  `decodeTag`, which
  turns a tag pair into solutions, is defined in `Model/LabelDPAny.lean` (the ANY model shares
  it): hence that import; `entry_eq` restates `entry` with it.
-/
import SRVerif.Proofs.Agg
import SRVerif.Model.LabelDPAny

namespace SR

open Cost Path

inductive RoleId where
  | left | right | cons | seg | sep
  deriving DecidableEq, Repr

def Roles.get {τ : Type} (r : Roles τ) : RoleId → Agg τ
  | .left => r.left
  | .right => r.right
  | .cons => r.cons
  | .seg => r.seg
  | .sep => r.sep

/-- The value with which a child placed at `x` (sub-cost `cost`, conserved /
    segment edge costs `cv` / `sv`) is offered to role `ρ` of species `s`;
    `none` when it is not offered to that role. -/
def rv (c : Costs) (S : RTree) (s : Path) (ρ : RoleId) (x : Path) (cost cv sv : Cost) : Option Cost :=
  match ρ with
  | .cons => if isAnc s x then some (.fin (c.floss * dist s x) + cost + cv) else none
  | .seg => if isAnc s x then some (.fin (c.floss * dist s x) + cost + sv) else none
  | .left =>
    if isAnc s x && !speciesIsLeaf S s && isAnc (s ++ [0]) x then
      some (.fin (c.floss * (dist s x - 1)) + cost + cv) else none
  | .right =>
    if isAnc s x && !speciesIsLeaf S s && !isAnc (s ++ [0]) x && isAnc (s ++ [1]) x then
      some (.fin (c.floss * (dist s x - 1)) + cost + cv) else none
  | .sep => if !isAnc s x && !isAnc x s then some (cost + sv) else none

/-- The placement part of `rv`: the full losses charged on the branch from `s` to `x`
    (one less below a child of `s`), `none` when the role does not apply. -/
def rvBase (c : Costs) (S : RTree) (s : Path) (ρ : RoleId) (x : Path) : Option Nat :=
  match ρ with
  | .cons | .seg => if isAnc s x then some (c.floss * dist s x) else none
  | .left =>
    if isAnc s x && !speciesIsLeaf S s && isAnc (s ++ [0]) x then
      some (c.floss * (dist s x - 1)) else none
  | .right =>
    if isAnc s x && !speciesIsLeaf S s && !isAnc (s ++ [0]) x && isAnc (s ++ [1]) x then
      some (c.floss * (dist s x - 1)) else none
  | .sep => if !isAnc s x && !isAnc x s then some 0 else none

/-- The roles charged the conserved edge cost; the others are charged the segment one. -/
def RoleId.isCons : RoleId → Bool
  | .seg | .sep => false
  | _ => true

theorem rv_eq (c : Costs) (S : RTree) (s : Path) (ρ : RoleId) (x : Path) (cost cv sv : Cost) :
    rv c S s ρ x cost cv sv =
      (rvBase c S s ρ x).map fun b => .fin b + cost + (if ρ.isCons then cv else sv) := by
  cases ρ <;> dsimp only [rv, rvBase, RoleId.isCons] <;> split
  case sep.isTrue => simp
  all_goals rfl

theorem rv_cost_ne_inf {c : Costs} {S : RTree} {s x : Path} {ρ : RoleId} {cost cv sv v : Cost}
    (h : rv c S s ρ x cost cv sv = some v) (hv : v ≠ .inf) : cost ≠ .inf := by
  rw [rv_eq] at h
  obtain ⟨_, _, rfl⟩ := Option.map_eq_some_iff.mp h
  exact (add_ne_inf (add_ne_inf hv).1).2

def cellTag {Lab : Type} (cell : DCell Lab) : Path × Lab := (cell.sp, cell.lab)

/-- The six event combinations of `entryCands`: event cost, role of the left
    child, role of the right child. -/
def events (c : Costs) : List (Cost × RoleId × RoleId) :=
  [(.fin c.spe, .left, .right), (.fin c.spe, .right, .left),
   (.fin c.dup, .cons, .seg), (.fin c.dup, .seg, .cons),
   (c.hgt, .cons, .sep), (c.hgt, .sep, .cons)]

theorem entryCands_eq {Lab : Type} [DecidableEq Lab] (c : Costs) (r0 r1 : Roles (Path × Lab)) :
    entryCands c r0 r1 =
      (events c).flatMap (fun ev => Agg.comb ev.1 (r0.get ev.2.1) (r1.get ev.2.2)) := by
  simp [entryCands, events, Roles.get]

section

variable {α Lab : Type} [DecidableEq Lab]

def roleVal (A : LabelAlg α Lab) (c : Costs) (S : RTree) (a : α) (s : Path) (lab : Lab) (ca : α)
    (ρ : RoleId) (cell : DCell Lab) : Option Cost :=
  rv c S s ρ cell.sp cell.cost (A.conserv a lab ca cell.lab) (A.segment a lab ca cell.lab)

def Agg.offerOpt {τ : Type} [DecidableEq τ] (a : Agg τ) (o : Option Cost) (t : τ) : Agg τ :=
  match o with
  | some v => a.update v t
  | none => a

theorem offer_eq (A : LabelAlg α Lab) (c : Costs) (S : RTree) (a : α) (s : Path) (lab : Lab) (ca : α)
    (r : Roles (Path × Lab)) (cell : DCell Lab) :
    offer A c S a s lab ca r cell =
      { left := r.left.offerOpt (roleVal A c S a s lab ca .left cell) (cellTag cell),
        right := r.right.offerOpt (roleVal A c S a s lab ca .right cell) (cellTag cell),
        cons := r.cons.offerOpt (roleVal A c S a s lab ca .cons cell) (cellTag cell),
        seg := r.seg.offerOpt (roleVal A c S a s lab ca .seg cell) (cellTag cell),
        sep := r.sep.offerOpt (roleVal A c S a s lab ca .sep cell) (cellTag cell) } := by
  unfold offer roleVal
  by_cases h1 : isAnc s cell.sp = true
  · by_cases h2 : speciesIsLeaf S s = true
    · simp [rv, Agg.offerOpt, cellTag, h1, h2]
    · by_cases h3 : isAnc (s ++ [0]) cell.sp = true
      · simp [rv, Agg.offerOpt, cellTag, h1, h2, h3]
      · by_cases h4 : isAnc (s ++ [1]) cell.sp = true
        · simp [rv, Agg.offerOpt, cellTag, h1, h2, h3, h4]
        · simp [rv, Agg.offerOpt, cellTag, h1, h2, h3, h4]
  · by_cases h5 : isAnc cell.sp s = true
    · simp [rv, Agg.offerOpt, h1, h5]
    · simp [rv, Agg.offerOpt, cellTag, h1, h5]

theorem offer_get (A : LabelAlg α Lab) (c : Costs) (S : RTree) (a : α) (s : Path) (lab : Lab) (ca : α)
    (r : Roles (Path × Lab)) (cell : DCell Lab) (ρ : RoleId) :
    (offer A c S a s lab ca r cell).get ρ =
      (r.get ρ).offerOpt (roleVal A c S a s lab ca ρ cell) (cellTag cell) := by
  rw [offer_eq]
  cases ρ <;> rfl

/-- The candidates offered to role `ρ` by a list of child cells. -/
def roleCands (A : LabelAlg α Lab) (c : Costs) (S : RTree) (a : α) (s : Path) (lab : Lab) (ca : α)
    (ρ : RoleId) (cells : List (DCell Lab)) : List (Cost × (Path × Lab)) :=
  cells.filterMap (fun cell => (roleVal A c S a s lab ca ρ cell).map (fun v => (v, cellTag cell)))

theorem foldl_offer_get (A : LabelAlg α Lab) (c : Costs) (S : RTree) (a : α) (s : Path) (lab : Lab)
    (ca : α) (ρ : RoleId) (cells : List (DCell Lab)) (r : Roles (Path × Lab)) :
    (cells.foldl (offer A c S a s lab ca) r).get ρ =
      Agg.offerAll (r.get ρ) (roleCands A c S a s lab ca ρ cells) := by
  induction cells generalizing r with
  | nil => simp [roleCands, Agg.offerAll]
  | cons cell cells ih =>
    rw [List.foldl_cons, ih, offer_get]
    cases h : roleVal A c S a s lab ca ρ cell with
    | none => simp [roleCands, h, Agg.offerOpt]
    | some v => simp [roleCands, h, Agg.offerOpt, Agg.offerAll]

theorem roles_get (A : LabelAlg α Lab) (c : Costs) (S : RTree) (a : α) (s : Path) (lab : Lab)
    (ca : α) (ρ : RoleId) (cells : List (DCell Lab)) :
    (roles A c S a s lab ca cells).get ρ = Agg.ofList (roleCands A c S a s lab ca ρ cells) := by
  unfold roles
  rw [foldl_offer_get]
  cases ρ <;> rfl

omit [DecidableEq Lab] in
theorem mem_roleCands {A : LabelAlg α Lab} {c : Costs} {S : RTree} {a : α} {s : Path} {lab : Lab}
    {ca : α} {ρ : RoleId} {cells : List (DCell Lab)} {p : Cost × (Path × Lab)} :
    p ∈ roleCands A c S a s lab ca ρ cells ↔
      ∃ cell ∈ cells, roleVal A c S a s lab ca ρ cell = some p.1 ∧ cellTag cell = p.2 := by
  simp only [roleCands, List.mem_filterMap, Option.map_eq_some_iff]
  constructor
  · rintro ⟨cell, hc, v, hv, rfl⟩; exact ⟨cell, hc, hv, rfl⟩
  · rintro ⟨cell, hc, hv, ht⟩; exact ⟨cell, hc, p.1, hv, by rw [ht]⟩

theorem roles_spec (A : LabelAlg α Lab) (c : Costs) (S : RTree) (a : α) (s : Path) (lab : Lab)
    (ca : α) (ρ : RoleId) (cells : List (DCell Lab)) :
    let ag := (roles A c S a s lab ca cells).get ρ
    (∀ cell ∈ cells, ∀ v, roleVal A c S a s lab ca ρ cell = some v → ag.val ≼ v) ∧
    (∀ t, t ∈ ag.tags ↔
      ∃ cell ∈ cells, roleVal A c S a s lab ca ρ cell = some ag.val ∧ cellTag cell = t) ∧
    (∀ cell ∈ cells, ∀ v, roleVal A c S a s lab ca ρ cell = some v → ∃ t, t ∈ ag.tags) := by
  intro ag
  have hag : ag = Agg.ofList (roleCands A c S a s lab ca ρ cells) := roles_get ..
  have inv := Agg.inv_ofList (roleCands A c S a s lab ca ρ cells)
  rw [← hag] at inv
  refine ⟨?_, ?_, ?_⟩
  · intro cell hc v hv
    exact inv.lower (v, cellTag cell) (mem_roleCands.mpr ⟨cell, hc, hv, rfl⟩)
  · intro t
    rw [inv.tags t]
    constructor
    · rintro ⟨p, hp, rfl, hv⟩
      obtain ⟨cell, hc, h1, h2⟩ := mem_roleCands.mp hp
      exact ⟨cell, hc, hv ▸ h1, h2⟩
    · rintro ⟨cell, hc, h1, rfl⟩
      exact ⟨(ag.val, cellTag cell), mem_roleCands.mpr ⟨cell, hc, h1, rfl⟩, rfl, rfl⟩
  · intro cell hc v hv
    apply inv.tags_ne_nil
    intro hnil
    have : (v, cellTag cell) ∈ roleCands A c S a s lab ca ρ cells :=
      mem_roleCands.mpr ⟨cell, hc, hv, rfl⟩
    rw [hnil] at this; cases this

/-- The candidates of the one entry `(s, lab)` over the child tables `L`, `R`: value and pair of
    child tags (`DPSolver.cands` is something else: the outputs a solver offers). -/
def cands (A : LabelAlg α Lab) (c : Costs) (S : RTree) (a : α) (s : Path) (lab : Lab) (la ra : α)
    (L R : List (DCell Lab)) : List (Cost × ((Path × Lab) × (Path × Lab))) :=
  entryCands c (roles A c S a s lab la L) (roles A c S a s lab ra R)

/-- The value of that entry: the least candidate value. -/
def best (A : LabelAlg α Lab) (c : Costs) (S : RTree) (a : α) (s : Path) (lab : Lab) (la ra : α)
    (L R : List (DCell Lab)) : Cost :=
  Cost.minList ((cands A c S a s lab la ra L R).map (·.1))

theorem mem_cands {A : LabelAlg α Lab} {c : Costs} {S : RTree} {a : α} {s : Path} {lab : Lab}
    {la ra : α} {L R : List (DCell Lab)} {v : Cost} {t0 t1 : Path × Lab} :
    (v, (t0, t1)) ∈ cands A c S a s lab la ra L R ↔
      ∃ ev ∈ events c,
        t0 ∈ ((roles A c S a s lab la L).get ev.2.1).tags ∧
        t1 ∈ ((roles A c S a s lab ra R).get ev.2.2).tags ∧
        v = ev.1 + ((roles A c S a s lab la L).get ev.2.1).val +
          ((roles A c S a s lab ra R).get ev.2.2).val := by
  simp only [cands, entryCands_eq, List.mem_flatMap, Agg.mem_comb]

/-- What the recurrence reads from a child cell. -/
def DCell.core (d : DCell Lab) : Path × Lab × Cost := (d.sp, d.lab, d.cost)

theorem offer_congr (A : LabelAlg α Lab) (c : Costs) (S : RTree) (a : α) (s : Path) (lab : Lab) (ca : α)
    (r : Roles (Path × Lab)) {d d' : DCell Lab} (h : d.core = d'.core) :
    offer A c S a s lab ca r d = offer A c S a s lab ca r d' := by
  simp only [DCell.core, Prod.mk.injEq] at h
  obtain ⟨h1, h2, h3⟩ := h
  simp only [offer, h1, h2, h3]

theorem roles_congr (A : LabelAlg α Lab) (c : Costs) (S : RTree) (a : α) (s : Path) (lab : Lab) (ca : α)
    {L L' : List (DCell Lab)} (h : L.map DCell.core = L'.map DCell.core) :
    roles A c S a s lab ca L = roles A c S a s lab ca L' := by
  unfold roles
  generalize (Roles.empty : Roles (Path × Lab)) = r
  induction L generalizing L' r with
  | nil =>
    cases L' with
    | nil => rfl
    | cons _ _ => simp at h
  | cons d L ih =>
    cases L' with
    | nil => simp at h
    | cons d' L' =>
      simp only [List.map_cons, List.cons.injEq] at h
      simp only [List.foldl_cons]
      rw [offer_congr A c S a s lab ca r h.1]
      exact ih h.2 _

theorem cands_congr (A : LabelAlg α Lab) (c : Costs) (S : RTree) (a : α) (s : Path) (lab : Lab)
    (la ra : α) {L R L' R' : List (DCell Lab)} (hL : L.map DCell.core = L'.map DCell.core)
    (hR : R.map DCell.core = R'.map DCell.core) :
    cands A c S a s lab la ra L R = cands A c S a s lab la ra L' R' := by
  simp only [cands, roles_congr A c S a s lab la hL, roles_congr A c S a s lab ra hR]

theorem best_congr (A : LabelAlg α Lab) (c : Costs) (S : RTree) (a : α) (s : Path) (lab : Lab)
    (la ra : α) {L R L' R' : List (DCell Lab)} (hL : L.map DCell.core = L'.map DCell.core)
    (hR : R.map DCell.core = R'.map DCell.core) :
    best A c S a s lab la ra L R = best A c S a s lab la ra L' R' := by
  simp only [best, cands_congr A c S a s lab la ra hL hR]

variable (A : LabelAlg α Lab) (c : Costs) (S : RTree) (a : α) (s : Path) (lab : Lab) (la ra : α)
  (L R : List (DCell Lab))

theorem entry_le {ev : Cost × RoleId × RoleId} (hev : ev ∈ events c) {dl dr : DCell Lab}
    (hl : dl ∈ L) (hr : dr ∈ R) {v0 v1 : Cost}
    (h0 : roleVal A c S a s lab la ev.2.1 dl = some v0)
    (h1 : roleVal A c S a s lab ra ev.2.2 dr = some v1) :
    best A c S a s lab la ra L R ≼ ev.1 + v0 + v1 := by
  obtain ⟨hle0, _, hne0⟩ := roles_spec A c S a s lab la ev.2.1 L
  obtain ⟨hle1, _, hne1⟩ := roles_spec A c S a s lab ra ev.2.2 R
  obtain ⟨t0, ht0⟩ := hne0 dl hl v0 h0
  obtain ⟨t1, ht1⟩ := hne1 dr hr v1 h1
  have hmem : (ev.1 + ((roles A c S a s lab la L).get ev.2.1).val +
      ((roles A c S a s lab ra R).get ev.2.2).val, (t0, t1)) ∈ cands A c S a s lab la ra L R :=
    mem_cands.mpr ⟨ev, hev, ht0, ht1, rfl⟩
  refine le_trans (minList_le (List.mem_map.mpr ⟨_, hmem, rfl⟩)) ?_
  exact add_le_add (add_le_add (le_refl _) (hle0 dl hl v0 h0)) (hle1 dr hr v1 h1)

theorem entry_attained {v : Cost} {t0 t1 : Path × Lab}
    (h : (v, (t0, t1)) ∈ cands A c S a s lab la ra L R) :
    ∃ ev ∈ events c, ∃ dl ∈ L, ∃ dr ∈ R, ∃ v0 v1,
      roleVal A c S a s lab la ev.2.1 dl = some v0 ∧
      roleVal A c S a s lab ra ev.2.2 dr = some v1 ∧
      cellTag dl = t0 ∧ cellTag dr = t1 ∧ v = ev.1 + v0 + v1 := by
  obtain ⟨ev, hev, ht0, ht1, hv⟩ := mem_cands.mp h
  obtain ⟨_, htag0, _⟩ := roles_spec A c S a s lab la ev.2.1 L
  obtain ⟨_, htag1, _⟩ := roles_spec A c S a s lab ra ev.2.2 R
  obtain ⟨dl, hl, h0, e0⟩ := (htag0 t0).mp ht0
  obtain ⟨dr, hr, h1, e1⟩ := (htag1 t1).mp ht1
  exact ⟨ev, hev, dl, hl, dr, hr, _, _, h0, h1, e0, e1, hv⟩

theorem entry_all {ev : Cost × RoleId × RoleId} (hev : ev ∈ events c) {dl dr : DCell Lab}
    (hl : dl ∈ L) (hr : dr ∈ R) {v0 v1 : Cost}
    (h0 : roleVal A c S a s lab la ev.2.1 dl = some v0)
    (h1 : roleVal A c S a s lab ra ev.2.2 dr = some v1)
    (heq : ev.1 + v0 + v1 = best A c S a s lab la ra L R)
    (hfin : best A c S a s lab la ra L R ≠ inf) :
    (best A c S a s lab la ra L R, (cellTag dl, cellTag dr)) ∈ cands A c S a s lab la ra L R := by
  obtain ⟨hle0, htag0, hne0⟩ := roles_spec A c S a s lab la ev.2.1 L
  obtain ⟨hle1, htag1, hne1⟩ := roles_spec A c S a s lab ra ev.2.2 R
  obtain ⟨t0, ht0⟩ := hne0 dl hl v0 h0
  obtain ⟨t1, ht1⟩ := hne1 dr hr v1 h1
  have hmem : (ev.1 + ((roles A c S a s lab la L).get ev.2.1).val +
      ((roles A c S a s lab ra R).get ev.2.2).val, (t0, t1)) ∈ cands A c S a s lab la ra L R :=
    mem_cands.mpr ⟨ev, hev, ht0, ht1, rfl⟩
  have hb : best A c S a s lab la ra L R ≼ _ := minList_le (List.mem_map.mpr ⟨_, hmem, rfl⟩)
  obtain ⟨n, hn⟩ := ne_inf_iff.mp hfin
  have := eq_of_add_le (e := ev.1) (hle0 dl hl v0 h0) (hle1 dr hr v1 h1) (heq.trans hn)
    (by rw [heq]; exact hb)
  refine mem_cands.mpr ⟨ev, hev, ?_, ?_, ?_⟩
  · exact (htag0 _).mpr ⟨dl, hl, by rw [this.1]; exact h0, rfl⟩
  · exact (htag1 _).mpr ⟨dr, hr, by rw [this.2]; exact h1, rfl⟩
  · rw [this.1, this.2]; exact heq.symm

theorem best_attained (hfin : best A c S a s lab la ra L R ≠ inf) :
    ∃ t0 t1, (best A c S a s lab la ra L R, (t0, t1)) ∈ cands A c S a s lab la ra L R := by
  rcases minList_mem_or_inf ((cands A c S a s lab la ra L R).map (·.1)) with h | h
  · exact absurd h hfin
  · obtain ⟨⟨v, t0, t1⟩, hp, hv⟩ := List.mem_map.mp h
    refine ⟨t0, t1, ?_⟩
    have : v = best A c S a s lab la ra L R := hv
    rw [← this]; exact hp

omit [DecidableEq Lab] in
theorem cellTag_eq {d : DCell Lab} {t : Path × Lab} : cellTag d = t ↔ d.sp = t.1 ∧ d.lab = t.2 := by
  cases t; simp [cellTag]

theorem findCell_some {cells : List (DCell Lab)} {t : Path × Lab} {d : DCell Lab}
    (h : findCell cells t = some d) : d ∈ cells ∧ cellTag d = t := by
  unfold findCell at h
  refine ⟨List.mem_of_find?_eq_some h, ?_⟩
  have := List.find?_some h
  simp only [Bool.and_eq_true, beq_iff_eq] at this
  exact cellTag_eq.mpr this

theorem findCell_of_mem {cells : List (DCell Lab)} {d : DCell Lab} (h : d ∈ cells) :
    ∃ d', findCell cells (cellTag d) = some d' := by
  unfold findCell
  cases hf : cells.find? (fun d' => d'.sp == (cellTag d).1 && d'.lab == (cellTag d).2) with
  | some d' => exact ⟨d', rfl⟩
  | none =>
    have := List.find?_eq_none.mp hf d h
    simp [cellTag] at this

theorem mem_decodeTag {s : Path} {lab : Lab} {L R : List (DCell Lab)}
    {t : (Path × Lab) × (Path × Lab)} {ls : LSol Lab} :
    ls ∈ decodeTag s lab L R t ↔
      ∃ cl cr x y, findCell L t.1 = some cl ∧ findCell R t.2 = some cr ∧ x ∈ cl.sols ∧
        y ∈ cr.sols ∧ ls = .node s lab x y := by
  unfold decodeTag
  cases findCell L t.1 with
  | none => simp
  | some cl =>
    cases findCell R t.2 with
    | none => simp
    | some cr =>
      simp only [List.mem_flatMap, List.mem_map, Option.some.injEq]
      constructor
      · rintro ⟨x, hx, y, hy, rfl⟩; exact ⟨cl, cr, x, y, rfl, rfl, hx, hy, rfl⟩
      · rintro ⟨_, _, x, y, rfl, rfl, hx, hy, rfl⟩; exact ⟨x, hx, y, hy, rfl⟩

theorem entry_eq (keep : Bool) :
    entry A c S keep a s lab la ra L R =
      if (best A c S a s lab la ra L R).isInf then none
      else some { sp := s, lab := lab, cost := best A c S a s lab la ra L R,
                  sols := if keep then
                      (dedup (((cands A c S a s lab la ra L R).filter
                        (fun p => p.1 = best A c S a s lab la ra L R)).map (·.2))).flatMap
                          (decodeTag s lab L R)
                    else [] } := by
  unfold entry best cands
  rfl

/-- State and value of an entry do not depend on what is decoded. -/
theorem entry_map_core (A : LabelAlg α Lab) (c : Costs) (S : RTree) (keep : Bool) (a : α) (s : Path)
    (lab : Lab) (la ra : α) (L R : List (DCell Lab)) :
    (entry A c S keep a s lab la ra L R).map DCell.core =
      if (best A c S a s lab la ra L R).isInf then none
      else some (s, lab, best A c S a s lab la ra L R) := by
  rw [entry_eq]
  split
  · rfl
  · simp only [Option.map_some, DCell.core]

theorem entry_eq_none :
    entry A c S keep a s lab la ra L R = none ↔ best A c S a s lab la ra L R = inf := by
  rw [entry_eq]
  cases h : best A c S a s lab la ra L R <;> simp [isInf]

theorem entry_eq_some {keep : Bool} {d : DCell Lab}
    (h : entry A c S keep a s lab la ra L R = some d) :
    d.sp = s ∧ d.lab = lab ∧ d.cost = best A c S a s lab la ra L R ∧
    best A c S a s lab la ra L R ≠ inf ∧
    (keep = true → ∀ ls, ls ∈ d.sols ↔
      ∃ t0 t1 cl cr x y, (best A c S a s lab la ra L R, (t0, t1)) ∈ cands A c S a s lab la ra L R ∧
        findCell L t0 = some cl ∧ findCell R t1 = some cr ∧ x ∈ cl.sols ∧ y ∈ cr.sols ∧
        ls = .node s lab x y) ∧
    (keep = false → d.sols = []) := by
  rw [entry_eq] at h
  obtain ⟨hfin, rfl⟩ := ite_isInf_eq_some h
  -- `dsimp only` reduces the projection; `rfl` would unfold `best` first
  refine ⟨rfl, rfl, by dsimp only, hfin, ?_, ?_⟩
  · intro hk ls
    subst hk
    simp only [if_true, List.mem_flatMap, mem_dedup_filter_val, mem_decodeTag]
    constructor
    · rintro ⟨⟨t0, t1⟩, hp, cl, cr, x, y, h0, h1, hx, hy, rfl⟩
      exact ⟨t0, t1, cl, cr, x, y, hp, h0, h1, hx, hy, rfl⟩
    · rintro ⟨t0, t1, cl, cr, x, y, hp, h0, h1, hx, hy, rfl⟩
      exact ⟨(t0, t1), hp, cl, cr, x, y, h0, h1, hx, hy, rfl⟩
  · intro hk; subst hk; rfl

end

end SR
