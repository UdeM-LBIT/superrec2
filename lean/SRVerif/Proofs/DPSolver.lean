/-
  A solver built on the label DP, once.  `thl`, `spfs` and `uspfs` all build one table per
  index (the root orders of `spfs`; a single index otherwise), select the root cells by their
  label, turn every decoded labelling into an output by `dec` and rank the outputs by the
  evaluator.  The theorems about the result speak of candidates `(i, ls)` — admissible labellings
  with the right root label and finite `labCost` — not of cells.  A particular solver owes the
  slack of its algebra (`hK`), that its trees use species of `S` (`hok`), the bridge
  `evaluated cost ∘ dec = labCost` on candidates (`hbr`) and, to leave the labellings, what its
  decoder makes of candidates (`hV` of `mem_rank_space`).
-/
import SRVerif.Proofs.LabelDPMain
import SRVerif.Proofs.Optima

namespace SR

open Cost

/-- What is asked of two solvers to compare them (`Exact.le`): everything about a result list
    but completeness; `coh` is the region of unit costs in which it is optimal. -/
structure Exact {κ : Type} (coh : Prop) (res : List Sol) (cost : Sol → Cost) (decode : κ → Sol)
    (Cand : κ → Prop) (lc : κ → Cost) : Prop where
  dec : ∀ a ∈ res, ∃ k, Cand k ∧ decode k = a
  faithful : ∀ k, Cand k → cost (decode k) = lc k
  ne : ∀ k, Cand k → res ≠ []
  opt : coh → ∀ a ∈ res, ∀ k, Cand k → cost a ≼ lc k

structure DPSolver (α Lab ι : Type) where
  A : LabelAlg α Lab
  idx : List ι
  tree : ι → ATree α
  root : ι → Lab → Bool
  dec : ι → LSol Lab → Sol

namespace DPSolver

variable {α Lab ι : Type} [DecidableEq Lab] (D : DPSolver α Lab ι) (c : Costs) (S : RTree)

def cells (keep : Bool) (i : ι) : List (DCell Lab) :=
  (dpTable D.A c S keep (D.tree i)).filter (fun d => D.root i d.lab)

/-- What the solver offers to its result entry: the outputs decoded from the root cells.  (Not
    `SR.cands`, the tag pairs offered to one table entry.) -/
def cands : List Sol :=
  D.idx.flatMap fun i => (D.cells c S true i).flatMap (fun d => d.sols.map (D.dec i))

def tableMin : Cost :=
  Cost.minList (D.idx.flatMap fun i => (D.cells c S false i).map (·.cost))

/-- The labellings the solver optimises over, keyed by their index; `cands` holds outputs of
    some of them (`cand_of_mem_cands`), the result those of the cheapest (`mem_rank_iff`). -/
def Cand (k : ι × LSol Lab) : Prop :=
  k.1 ∈ D.idx ∧ Adm D.A (D.tree k.1) k.2 ∧ D.root k.1 k.2.lab = true ∧
    labCost D.A c (D.tree k.1) k.2 ≠ .inf

abbrev out (k : ι × LSol Lab) : Sol := D.dec k.1 k.2

abbrev lc (k : ι × LSol Lab) : Cost := labCost D.A c (D.tree k.1) k.2

theorem mem_cells {keep : Bool} {i : ι} {d : DCell Lab} :
    d ∈ D.cells c S keep i ↔ d ∈ dpTable D.A c S keep (D.tree i) ∧ D.root i d.lab = true :=
  List.mem_filter

theorem mem_cands {σ : Sol} :
    σ ∈ D.cands c S ↔ ∃ i ∈ D.idx, ∃ d ∈ D.cells c S true i, ∃ ls ∈ d.sols, D.dec i ls = σ := by
  simp only [cands, List.mem_flatMap, List.mem_map]

theorem cells_costs (i : ι) :
    (D.cells c S false i).map (·.cost) = (D.cells c S true i).map (·.cost) := by
  have key : ∀ L : List (DCell Lab), (L.filter (fun d => D.root i d.lab)).map (·.cost) =
      ((L.map DCell.core).filter (fun x => D.root i x.2.1)).map (·.2.2) := fun L => by
    rw [List.filter_map, List.map_map]; rfl
  rw [cells, cells, key, key, dpTable_core]

variable {K : Nat} (hK : D.A.Slack K)
include hK

theorem cand_of_decoded {i : ι} (hi : i ∈ D.idx) {d : DCell Lab} (hd : d ∈ D.cells c S true i)
    {ls : LSol Lab} (hls : ls ∈ d.sols) : D.Cand c (i, ls) := by
  obtain ⟨hd, hr⟩ := (D.mem_cells c S).mp hd
  obtain ⟨adm, _, hl, _, hfin, _⟩ := dp_decoded D.A c S hK _ d hd ls hls
  exact ⟨hi, adm, by rw [hl]; exact hr, hfin⟩

/-- What is left of C04 for a solver is what its decoder makes of candidates. -/
theorem cand_of_mem_cands {σ : Sol} (h : σ ∈ D.cands c S) : ∃ k, D.Cand c k ∧ D.out k = σ := by
  obtain ⟨i, hi, d, hd, ls, hls, e⟩ := (D.mem_cands c S).mp h
  exact ⟨(i, ls), D.cand_of_decoded c S hK hi hd hls, e⟩

theorem cand_of_mem_rank {mode : LabelMode} {o : OTree} {σ : Sol}
    (h : σ ∈ rankByCost c mode o (D.cands c S)) : ∃ k, D.Cand c k ∧ D.out k = σ :=
  D.cand_of_mem_cands c S hK ((mem_rankByCost c mode o _ σ).mp h).1

variable (hb : S.isBinary = true) (hok : ∀ i ∈ D.idx, SpOk D.A S (D.tree i))
include hb hok

theorem dominated {k : ι × LSol Lab} (h : D.Cand c k) :
    ∃ d ∈ D.cells c S true k.1, ∃ ls ∈ d.sols,
      (c.spe + K ≤ c.dup + 2 * c.floss → D.lc c (k.1, ls) ≼ D.lc c k) := by
  obtain ⟨hi, adm, hr, hfin⟩ := h
  obtain ⟨d, hd, _, hlab, _, ls, hls, hle⟩ := dp_dominated D.A c S hK hb _ (hok _ hi) _ adm hfin
  exact ⟨d, (D.mem_cells c S).mpr ⟨hd, by rw [hlab]; exact hr⟩, ls, hls, hle⟩

omit hK in
theorem rank_ne_nil (mode : LabelMode) (o : OTree) {k : ι × LSol Lab} (h : D.Cand c k) :
    rankByCost c mode o (D.cands c S) ≠ [] := by
  obtain ⟨hi, adm, hr, hfin⟩ := h
  obtain ⟨d, hd, _, hlab, _⟩ := dp_lower D.A c S true hb _ (hok _ hi) _ adm hfin
  obtain ⟨ls, hls⟩ := dp_nonempty D.A c S _ d hd
  exact rankByCost_ne_nil c mode o (List.ne_nil_of_mem ((D.mem_cands c S).mpr
    ⟨_, hi, d, (D.mem_cells c S).mpr ⟨hd, by rw [hlab]; exact hr⟩, ls, hls, rfl⟩))

variable (hcoh : c.spe + K ≤ c.dup + 2 * c.floss)
include hcoh

theorem cost_of_decoded {i : ι} (hi : i ∈ D.idx) {d : DCell Lab} (hd : d ∈ D.cells c S true i)
    {ls : LSol Lab} (hls : ls ∈ d.sols) : labCost D.A c (D.tree i) ls = d.cost :=
  (((table_exact D.A c S hK hcoh hb _ (hok i hi) d ((D.mem_cells c S).mp hd).1).2.1 ls).mp
    hls).2.2.2

variable {mode : LabelMode} {o : OTree}
  (hbr : ∀ k, D.Cand c k → totalCost c mode o (D.out k) = D.lc c k)
include hbr

theorem value_of_decoded {i : ι} (hi : i ∈ D.idx) {d : DCell Lab} (hd : d ∈ D.cells c S true i)
    {ls : LSol Lab} (hls : ls ∈ d.sols) : totalCost c mode o (D.dec i ls) = d.cost :=
  (hbr _ (D.cand_of_decoded c S hK hi hd hls)).trans
    (D.cost_of_decoded c S hK hb hok hcoh hi hd hls)

theorem le_of_cand {σ : Sol} (h : σ ∈ rankByCost c mode o (D.cands c S)) {k : ι × LSol Lab}
    (hk : D.Cand c k) : totalCost c mode o σ ≼ D.lc c k := by
  obtain ⟨d, hd, ls, hls, hle⟩ := D.dominated c S hK hb hok hk
  refine le_trans (((mem_rankByCost c mode o _ σ).mp h).2 _
    ((D.mem_cands c S).mpr ⟨_, hk.1, d, hd, ls, hls, rfl⟩)) ?_
  exact hbr _ (D.cand_of_decoded c S hK hk.1 hd hls) ▸ hle hcoh

theorem mem_rank_iff (σ : Sol) :
    σ ∈ rankByCost c mode o (D.cands c S) ↔
      (∃ k, D.Cand c k ∧ D.out k = σ) ∧ ∀ k, D.Cand c k → totalCost c mode o σ ≼ D.lc c k := by
  refine ⟨fun h => ⟨D.cand_of_mem_rank c S hK h,
    fun k => D.le_of_cand c S hK hb hok hcoh hbr h⟩, ?_⟩
  -- (←) a cheapest candidate costs no more than anything decoded, so the table keeps it
  -- (`dp_mem_of_le_decoded`): it is offered, and nothing offered beats it
  rintro ⟨⟨⟨i, ls⟩, h, rfl⟩, hmin⟩
  have hdec : ∀ i' ∈ D.idx, ∀ d' ∈ D.cells c S true i', ∀ ls' ∈ d'.sols,
      D.lc c (i, ls) ≼ D.lc c (i', ls') :=
    fun i' hi' d' hd' ls' hls' => hbr _ h ▸ hmin _ (D.cand_of_decoded c S hK hi' hd' hls')
  obtain ⟨hi, adm, hr, hfin⟩ := h
  obtain ⟨d, hd, _, hlab, hin⟩ := dp_mem_of_le_decoded D.A c S hK hcoh hb _ (hok i hi) ls adm hfin
    fun d' hd' _ hlab' ls' hls' =>
      hdec i hi d' ((D.mem_cells c S).mpr ⟨hd', by rw [hlab']; exact hr⟩) ls' hls'
  refine (mem_rankByCost c mode o _ _).mpr ⟨(D.mem_cands c S).mpr
    ⟨i, hi, d, (D.mem_cells c S).mpr ⟨hd, by rw [hlab]; exact hr⟩, ls, hin, rfl⟩, fun σ' hσ' => ?_⟩
  obtain ⟨i', hi', d', hd', ls', hls', rfl⟩ := (D.mem_cands c S).mp hσ'
  have hc := D.cand_of_decoded c S hK hi' hd' hls'
  exact hbr _ hc ▸ hmin _ hc

/-- Exactness against a solution space `V` given by a specification.  This is where a solver's
    theorems leave the labellings: what is left to a solver is `hV`, what its decoder makes of
    candidates and which labelling a member of `V` comes from. -/
theorem mem_rank_space (V : Sol → Prop)
    (hV : ∀ σ, (∃ k, D.Cand c k ∧ D.out k = σ) ↔ V σ ∧ totalCost c mode o σ ≠ .inf) (σ : Sol) :
    σ ∈ rankByCost c mode o (D.cands c S) ↔
      IsOptimalFor V (totalCost c mode o) σ ∧ totalCost c mode o σ ≠ .inf := by
  rw [D.mem_rank_iff c S hK hb hok hcoh hbr, hV]
  refine ⟨fun ⟨⟨hσ, hfin⟩, hmin⟩ => ⟨⟨hσ, fun σ' hσ' => le_of_ne_inf fun hfin' => ?_⟩, hfin⟩,
    fun ⟨⟨hσ, hmin⟩, hfin⟩ =>
      ⟨⟨hσ, hfin⟩, fun k hk => hbr k hk ▸ hmin _ ((hV _).mp ⟨k, hk, rfl⟩).1⟩⟩
  obtain ⟨k, hk, rfl⟩ := (hV σ').mpr ⟨hσ', hfin'⟩
  exact hbr k hk ▸ hmin k hk

/-- When `V` has a member of finite cost (`hne`) the optima are finite by themselves. -/
theorem all_of_space (V : Sol → Prop)
    (hV : ∀ σ, (∃ k, D.Cand c k ∧ D.out k = σ) ↔ V σ ∧ totalCost c mode o σ ≠ .inf)
    (hne : ∃ σ, V σ ∧ totalCost c mode o σ ≠ .inf) :
    (∀ σ, σ ∈ rankByCost c mode o (D.cands c S) ↔
      V σ ∧ ∀ σ', V σ' → totalCost c mode o σ ≼ totalCost c mode o σ') ∧
    (rankByCost c mode o (D.cands c S)).Nodup := by
  refine ⟨fun σ => (D.mem_rank_space c S hK hb hok hcoh hbr V hV σ).trans
    ⟨fun h => h.1, fun h => ⟨h, fun e => ?_⟩⟩, nodup_rankByCost _ _ _ _⟩
  obtain ⟨m, hm, hmfin⟩ := hne
  exact hmfin ((inf_le _).mp (e ▸ h.2 m hm))

omit hcoh in
theorem exact : Exact (c.spe + K ≤ c.dup + 2 * c.floss) (rankByCost c mode o (D.cands c S))
    (totalCost c mode o) D.out (D.Cand c) (D.lc c) where
  dec _ h := D.cand_of_mem_rank c S hK h
  faithful := hbr
  ne _ h := D.rank_ne_nil c S hb hok mode o h
  opt hcoh _ h _ hk := D.le_of_cand c S hK hb hok hcoh hbr h hk

end DPSolver

/-! The optimiser's own value: `tableMin` is the minimum of the generic cost over the candidates —
a lower bound for all unit costs, attained inside the coherent region.  Comparisons of table
minima (between variants, between cost vectors) therefore take the hypothesis of `Exact.le`:
a map of candidates that does not raise the generic cost. -/

namespace DPSolver

variable {α Lab ι : Type} [DecidableEq Lab] (D : DPSolver α Lab ι) (c : Costs) (S : RTree)

theorem tableMin_le (hb : S.isBinary = true) (hok : ∀ i ∈ D.idx, SpOk D.A S (D.tree i))
    {k : ι × LSol Lab} (h : D.Cand c k) : D.tableMin c S ≼ D.lc c k := by
  obtain ⟨hi, adm, hr, hfin⟩ := h
  obtain ⟨d, hd, _, hlab, hle⟩ := dp_lower D.A c S false hb _ (hok _ hi) _ adm hfin
  exact le_trans (minList_le (List.mem_flatMap.mpr ⟨_, hi, List.mem_map.mpr
    ⟨d, (D.mem_cells c S).mpr ⟨hd, by rw [hlab]; exact hr⟩, rfl⟩⟩)) hle

theorem tableMin_attained {K : Nat} (hK : D.A.Slack K) (hb : S.isBinary = true)
    (hok : ∀ i ∈ D.idx, SpOk D.A S (D.tree i)) (hcoh : c.spe + K ≤ c.dup + 2 * c.floss) :
    D.tableMin c S = .inf ∨ ∃ k, D.Cand c k ∧ D.lc c k = D.tableMin c S := by
  refine (minList_mem_or_inf _).imp id fun h => ?_
  obtain ⟨i, hi, hv⟩ := List.mem_flatMap.mp h
  rw [D.cells_costs] at hv
  obtain ⟨d, hd, e⟩ := List.mem_map.mp hv
  obtain ⟨ls, hls⟩ := dp_nonempty D.A c S _ d ((D.mem_cells c S).mp hd).1
  exact ⟨(i, ls), D.cand_of_decoded c S hK hi hd hls,
    (D.cost_of_decoded c S hK hb hok hcoh hi hd hls).trans e⟩

/-- Only `D'` has to be inside its coherent region. -/
theorem tableMin_le_of_cands (hb : S.isBinary = true) (hok : ∀ i ∈ D.idx, SpOk D.A S (D.tree i))
    {α' Lab' ι' : Type} [DecidableEq Lab'] (D' : DPSolver α' Lab' ι')
    (c' : Costs) {K' : Nat} (hK' : D'.A.Slack K') (hok' : ∀ i ∈ D'.idx, SpOk D'.A S (D'.tree i))
    (hcoh' : c'.spe + K' ≤ c'.dup + 2 * c'.floss)
    (sim : ∀ k', D'.Cand c' k' → ∃ k, D.Cand c k ∧ D.lc c k ≼ D'.lc c' k') :
    D.tableMin c S ≼ D'.tableMin c' S := by
  rcases D'.tableMin_attained c' S hK' hb hok' hcoh' with e | ⟨k', hk', e⟩
  · rw [e]; exact le_inf _
  · obtain ⟨k, hk, hle⟩ := sim k' hk'
    exact e ▸ le_trans (D.tableMin_le c S hb hok hk) hle

theorem cost_eq_tableMin {K : Nat} (hK : D.A.Slack K) (hb : S.isBinary = true)
    (hok : ∀ i ∈ D.idx, SpOk D.A S (D.tree i)) (hcoh : c.spe + K ≤ c.dup + 2 * c.floss)
    {mode : LabelMode} {o : OTree}
    (hbr : ∀ k, D.Cand c k → totalCost c mode o (D.out k) = D.lc c k) {σ : Sol}
    (h : σ ∈ rankByCost c mode o (D.cands c S)) : totalCost c mode o σ = D.tableMin c S := by
  obtain ⟨k₀, hk₀, e₀⟩ := D.cand_of_mem_rank c S hK h
  apply le_antisymm
  · rcases D.tableMin_attained c S hK hb hok hcoh with e | ⟨k, hk, e⟩
    · rw [e]; exact le_inf _
    · exact e ▸ D.le_of_cand c S hK hb hok hcoh hbr h hk
  · exact e₀ ▸ hbr k₀ hk₀ ▸ D.tableMin_le c S hb hok hk₀

end DPSolver

/-- Comparison of two exact solvers along a map `φ` of candidates that does not raise the generic
    cost; such maps come from simulations of annotated trees (`Sim.transfer`, `C10Sim.lean`). -/
theorem Exact.le {κ κ' : Type} {coh coh' : Prop} {X Y : List Sol} {cX cY : Sol → Cost}
    {dX : κ → Sol} {dY : κ' → Sol} {CX : κ → Prop} {CY : κ' → Prop} {lX : κ → Cost}
    {lY : κ' → Cost} (hX : Exact coh X cX dX CX lX) (hY : Exact coh' Y cY dY CY lY) (φ : κ' → κ)
    (sim : ∀ k, CY k → CX (φ k) ∧ lX (φ k) ≼ lY k) :
    (coh → ∀ a ∈ X, ∀ b ∈ Y, Cost.le (cX a) (cY b) = true) ∧ (Y ≠ [] → X ≠ []) := by
  constructor
  · intro hc a ha b hb
    obtain ⟨k, hk, rfl⟩ := hY.dec b hb
    rw [hY.faithful k hk]
    exact le_trans (hX.opt hc a ha _ (sim k hk).1) (sim k hk).2
  · intro hne
    obtain ⟨b, hb⟩ := List.exists_mem_of_ne_nil _ hne
    obtain ⟨k, hk, _⟩ := hY.dec b hb
    exact hX.ne _ (sim k hk).1

end SR
