/-
  C08, optimum over ALL binary refinements: the guards of the binary solver theorems hold for
  the input built from any pair of refinements, and every pair of refinements in the SPEC
  sense (any child order) has a representative in `binarize tO × binarize tS` with the same
  valid solutions at the same costs (`exists_binarize_transfers`).
-/
import SRVerif.Proofs.BinarizeOptAll
import SRVerif.Proofs.BinarizeComplete
import SRVerif.Proofs.RTree

namespace SR.Bin

open SR

theorem isBinary_shape (b : BinT) : (shape b.toN).isBinary = true := by
  induction b with
  | leaf i => simp [BinT.toN, shape, RTree.isBinary]
  | node a l r ihl ihr => simp [BinT.toN, shape, shapeList, RTree.isBinary, ihl, ihr]

theorem isNode_pathOf (id : Nat) : ∀ (b : BinT) (p : Path), b.pathOf id = some p →
    (shape b.toN).isNode p = true := by
  intro b
  induction b with
  | leaf i =>
    intro p h
    simp only [BinT.pathOf] at h
    split at h
    · cases h; exact RTree.isNode_nil _
    · cases h
  | node a l r ihl ihr =>
    intro p h
    simp only [BinT.pathOf] at h
    simp only [BinT.toN, shape, shapeList]
    cases hl : l.pathOf id with
    | some q =>
      rw [hl] at h
      cases h
      exact (RTree.isNode_cons _ 0 q).mpr ⟨_, rfl, ihl q hl⟩
    | none =>
      rw [hl] at h
      cases hr : r.pathOf id with
      | some q =>
        rw [hr] at h
        cases h
        exact (RTree.isNode_cons _ 1 q).mpr ⟨_, rfl, ihr q hr⟩
      | none => rw [hr] at h; cases h

theorem leafSpecies_toOTree (data : LeafData) (bS : BinT) : ∀ bO : BinT,
    leafSpecies (toOTree data bS bO) = bO.leaves.map (fun i => (bS.pathOf (data i).1).getD []) := by
  intro bO
  induction bO with
  | leaf i => rfl
  | node a l r ihl ihr => simp [toOTree, leafSpecies, BinT.leaves, ihl, ihr]

theorem leafSyntenies_toOTree (data : LeafData) (bS : BinT) : ∀ bO : BinT,
    leafSyntenies (toOTree data bS bO) = bO.leaves.map (fun i => (data i).2) := by
  intro bO
  induction bO with
  | leaf i => rfl
  | node a l r ihl ihr => simp [toOTree, leafSyntenies, BinT.leaves, ihl, ihr]

theorem leafSpecies_toOTree_isNode (data : LeafData) (bS bO : BinT)
    (h : ∀ i ∈ bO.leaves, (data i).1 ∈ bS.leaves) :
    ∀ p ∈ leafSpecies (toOTree data bS bO), (shape bS.toN).isNode p = true := by
  intro p hp
  rw [leafSpecies_toOTree, List.mem_map] at hp
  obtain ⟨i, hi, rfl⟩ := hp
  have hs := (BinT.pathOf_isSome_iff bS).mpr (h i hi)
  cases hq : bS.pathOf (data i).1 with
  | none => rw [hq] at hs; cases hs
  | some q => exact isNode_pathOf _ bS q hq

theorem dfact_pos : ∀ n : Nat, 0 < Spec.dfact n
  | 0 => by simp [Spec.dfact]
  | 1 => by simp [Spec.dfact]
  | n + 2 => by
    rw [Spec.dfact]
    exact Nat.mul_pos (by omega) (dfact_pos n)

mutual
  theorem refCount_pos : ∀ t : NTree, 0 < Spec.refCount t
    | .leaf _ => by simp [Spec.refCount]
    | .node _ cs => by
      rw [Spec.refCount]
      exact Nat.mul_pos (dfact_pos _) (refCountList_pos cs)
  theorem refCountList_pos : ∀ cs : List NTree, 0 < Spec.refCountList cs
    | [] => by simp [Spec.refCountList]
    | c :: cs => by
      rw [Spec.refCountList]
      exact Nat.mul_pos (refCount_pos c) (refCountList_pos cs)
end

theorem binarize_ne_nil (t : NTree) (hwf : t.WF = true) : binarize t ≠ [] := by
  intro e
  have h := length_binarize t hwf
  rw [e] at h
  have := refCount_pos t
  simp at h
  omega

theorem exists_binarize_transfers (data : LeafData) (tO tS : NTree)
    (hwO : tO.WF = true) (hwS : tS.WF = true) (hnO : tO.leaves.Nodup) (hnS : tS.leaves.Nodup)
    (rO rS : BinT) (hrO : Spec.IsRefinement rO.toN tO) (hrS : Spec.IsRefinement rS.toN tS) :
    ∃ bO ∈ binarize tO, ∃ bS ∈ binarize tS, BinT.Equiv bO rO ∧ BinT.Equiv bS rS ∧
      Transfers (toOTree data rS rO) (toOTree data bS bO) ∧
      Transfers (toOTree data bS bO) (toOTree data rS rO) := by
  obtain ⟨bO, hbO, heO⟩ := binarize_complete tO hwO hnO rO (ref_of_isRefinement hrO)
  obtain ⟨bS, hbS, heS⟩ := binarize_complete tS hwS hnS rS (ref_of_isRefinement hrS)
  have hndr : rS.leaves.Nodup := by
    have := hrS.2.1
    rw [BinT.leaves_toN] at this
    exact this.nodup_iff.mpr hnS
  have hndb : bS.leaves.Nodup := heS.leaves_perm.nodup_iff.mpr hndr
  exact ⟨bO, hbO, bS, hbS, heO, heS, transfers_equiv data heO.symm heS.symm hndr,
    transfers_equiv data heO heS hndb⟩

end SR.Bin
