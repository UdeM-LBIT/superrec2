/-
  Every drawing call of the model `drawCalls` is an ADMISSIBLE call of the `render` model over the
  generated templates (`CallOK`): its statement is one of `Generated.statements` and each filling
  lies in the filling space of its hole.  Through this the `C15_draw_*` theorems apply `C15_balanced` /
  `C15_structure` (stated for call sequences with `CallOK`) to the calls made for a layout.
-/
import SRVerif.Proofs.TikzDraw
import SRVerif.Proofs.TikzDoc
import SRVerif.Proofs.TikzWrap
import SRVerif.Proofs.TikzEscape

namespace SR.TikzDraw

open SR SR.Layout SR.Tikz

theorem digitChar_digit (n : Nat) : Tikz.isDigit (digitChar n) = true := by
  unfold digitChar
  split <;> decide

/-- The characters a printed coordinate may contain. -/
def coordChar (c : Char) : Bool :=
  Tikz.isDigit c || c == '.' || c == ',' || c == '-' || c == '+' || c == 'e'

theorem coordChar_of_digit (c : Char) (h : Tikz.isDigit c = true) : coordChar c = true := by
  simp [coordChar, h]

theorem fmtCoord_chars (q : Rat) : ∀ c ∈ fmtCoord q, coordChar c = true := by
  intro c hc
  unfold fmtCoord at hc
  simp only [List.mem_append] at hc
  rcases hc with ((hc | hc) | hc) | hc
  · split at hc
    · simp only [List.mem_singleton] at hc; subst hc; decide
    · cases hc
  · exact coordChar_of_digit c (natStr_digits _ c hc)
  · simp only [List.mem_singleton] at hc; subst hc; decide
  · split at hc
    · simp only [List.mem_singleton] at hc; subst hc; decide
    · have := (List.dropWhile_sublist _).subset (List.mem_reverse.1 hc)
      simp only [List.mem_reverse, List.mem_cons, List.not_mem_nil, or_false] at this
      rcases this with rfl | rfl | rfl | rfl <;> exact coordChar_of_digit _ (digitChar_digit _)

theorem fillOK_coord (p : Pos) : fillOK .coord (fmtPos p) = true := by
  simp only [fillOK, List.all_eq_true]
  intro c hc
  have : coordChar c = true := by
    simp only [fmtPos, List.mem_append, List.mem_singleton] at hc
    rcases hc with (hc | rfl) | hc
    · exact fmtCoord_chars _ c hc
    · decide
    · exact fmtCoord_chars _ c hc
  simpa [coordChar] using this

theorem speciesLabel_braceFree {w : Option Nat} {name label : Str}
    (hn : braceFree name = true) (h : speciesLabel w name = some label) :
    braceFree label = true := by
  have he := braceFree_escape name hn
  unfold speciesLabel at h
  cases w with
  | none => simp only [Option.some.injEq] at h; subst h; exact he
  | some w => exact balancedWrapText_braceFree (by decide) he h

theorem speciesLabel_isSome {w : Option Nat} (hw : w ≠ some 0) (name : Str) :
    (speciesLabel w name).isSome = true := by
  unfold speciesLabel
  cases w with
  | none => rfl
  | some n =>
    simp only
    unfold balancedWrapText
    split
    · rfl
    · have hn : 0 < n := by
        cases n with
        | zero => exact absurd rfl hw
        | succ k => omega
      obtain ⟨ls, hls⟩ := Option.isSome_iff_exists.1 (balancedWrap_isSome n (splitSpaces (escape name)) hn)
      simp [hls]


theorem stmtAt_mem (k : Nat) (hk : k < 14) : stmtAt k ∈ Generated.statements := by
  have hk' : k < Generated.statements.length := by rw [Generated.statement_count]; exact hk
  unfold stmtAt
  simp only [List.getD_eq_getElem?_getD, List.getElem?_eq_getElem hk', Option.getD_some]
  exact List.getElem_mem hk'

theorem holes_0 : (stmtAt 0).2.holes = [.coord, .unit, .coord, .coord, .coord, .coord, .unit,
    .coord, .coord, .coord, .coord, .unit, .coord, .coord, .coord] := by decide +kernel
theorem holes_1 : (stmtAt 1).2.holes = [.unit, .coord, .coord, .label, .coord, .coord] := by
  decide +kernel
theorem holes_2 : (stmtAt 2).2.holes = [.color, .coord, .coord] := by decide +kernel
theorem holes_3 : (stmtAt 3).2.holes = [.color, .label, .coord] := by decide +kernel
theorem holes_4 : (stmtAt 4).2.holes = [.color, .coord, .coord] := by decide +kernel
theorem holes_5 : (stmtAt 5).2.holes = [.color, .coord] := by decide +kernel
theorem holes_6 : (stmtAt 6).2.holes = [.color, .coord, .kw [linkVH, linkHV], .coord] := by
  decide +kernel
theorem holes_7 : (stmtAt 7).2.holes = [.color, .coord, .kw [linkVH, linkHV], .coord, .coord,
    .kw [linkVH, linkHV], .coord] := by decide +kernel
theorem holes_8 : (stmtAt 8).2.holes = [.color, .coord, .label] := by decide +kernel
theorem holes_9 : (stmtAt 9).2.holes = [.color, .coord, .kw [linkVH, linkHV], .coord, .coord,
    .kw [linkVH, linkHV], .coord] := by decide +kernel
theorem holes_10 : (stmtAt 10).2.holes = [.color, .coord, .label] := by decide +kernel
theorem holes_11 : (stmtAt 11).2.holes = [.color, .coord, .coord] := by decide +kernel
theorem holes_12 : (stmtAt 12).2.holes =
    [.color, .coord, .kw [bendRight, bendLeft, bendUp, bendDown], .coord] := by decide +kernel
theorem holes_13 : (stmtAt 13).2.holes = [.color, .coord, .label] := by decide +kernel

/-- The decorations and string parameters lie in the filling spaces of C15: colour codes are
    alphanumeric, branch labels brace-balanced, species names brace-free (they are escaped and
    wrapped by the drawing code itself), the rounding length brace-free. -/
structure DecoOK (dp : DParams) (deco : Deco) : Prop where
  color : ∀ s k, (deco.color s k).all isAlnum = true
  name : ∀ s k, isBalanced (deco.name s k) = true
  spName : ∀ s, braceFree (deco.spName s) = true
  rounding : braceFree dp.rounding = true

@[simp] theorem reqOK_coord (p : Pos) : reqOK .coord (.text (fmtPos p)) = true := by
  simp [reqOK, fillOK_coord]
@[simp] theorem reqOK_color (h : Str) : reqOK .color (.color h) = h.all isAlnum := rfl
@[simp] theorem reqOK_label (s : Str) : reqOK .label (.text s) = isBalanced s := rfl
@[simp] theorem reqOK_unit (s : Str) : reqOK .unit (.text s) = braceFree s := rfl
@[simp] theorem reqOK_kw (cs : List Str) (s : Str) : reqOK (.kw cs) (.text s) = cs.contains s := rfl

theorem callOK_of (c : DrawCall) (hk : c.stmt < 14)
    (h : reqsOK (stmtAt c.stmt).2.holes (c.fills.map DFill.toFill) = true) : CallOK c.toCall :=
  ⟨stmtAt_mem c.stmt hk, h⟩

theorem links_mem (o : Orientation) :
    ((forkLinks o).1 = linkVH ∨ (forkLinks o).1 = linkHV) ∧
    ((forkLinks o).2 = linkVH ∨ (forkLinks o).2 = linkHV) := by
  cases o <;> simp [forkLinks]

theorem phantom_balanced : isBalanced phantomDash = true := by decide

theorem forkInner_callOK (o : Orientation) (dp : DParams) (deco : Deco) (hok : DecoOK dp deco)
    (lay l r : SubLayout) : CallOK (forkInner o dp lay l r).toCall := by
  apply callOK_of _ (by simp [forkInner])
  simp [forkInner, holes_0, reqsOK, DFill.toFill, hok.rounding]

theorem forkLeaf_callOK {o : Orientation} {dp : DParams} {deco : Deco} (hok : DecoOK dp deco)
    {lay : SubLayout} {f : DrawCall} (h : forkLeaf o dp deco lay = .ok f) : CallOK f.toCall := by
  obtain ⟨label, _, _, _, _, hlab, rfl⟩ := forkLeaf_inv h
  have hb := isBalanced_of_braceFree _ (speciesLabel_braceFree (hok.spName lay.sp) hlab)
  apply callOK_of _ (by simp)
  simp [holes_1, reqsOK, DFill.toFill, hok.rounding, hb]

theorem drawBranch_callOK {o : Orientation} {dp : DParams} {deco : Deco} (hok : DecoOK dp deco)
    {all : List SubLayout} {spOf : Path → Option Path} {lay : SubLayout}
    {ll rl : Option SubLayout} {b : FBranch} {cs : List DrawCall}
    (h : drawBranch o dp deco all spOf lay ll rl b = .ok cs) : ∀ c ∈ cs, CallOK c.toCall := by
  have hcol := hok.color lay.sp b.key
  have hname := hok.name lay.sp b.key
  obtain ⟨l1, l2⟩ := links_mem o
  have ok : ∀ k fills target, k < 14 →
      reqsOK (stmtAt k).2.holes ((branchStmt deco lay b k fills target).fills.map DFill.toFill) = true →
      CallOK (branchStmt deco lay b k fills target).toCall :=
    fun k fills target hk h => callOK_of _ hk h
  refine forall_mem_drawBranch (P := fun c => CallOK c.toCall) h ?_ ?_
  · intro a
    exact ok 2 _ _ (by decide) (by simp [holes_2, reqsOK, DFill.toFill, hcol])
  · intro body hd
    cases hd with
    | leaf hk =>
      exact List.forall_mem_singleton.2
        (ok 3 _ _ (by decide) (by simp [holes_3, reqsOK, DFill.toFill, hcol, hname]))
    | loss hk keep =>
      exact forall_mem_triple
        (ok 4 _ _ (by decide) (by simp [holes_4, reqsOK, DFill.toFill, hcol]))
        (ok 5 _ _ (by decide) (by simp [holes_5, reqsOK, DFill.toFill, hcol]))
        (ok 6 _ _ (by decide) (by simp [holes_6, reqsOK, DFill.toFill, hcol, l2]))
    | spec hk la ra =>
      exact forall_mem_pair
        (ok 7 _ _ (by decide) (by simp [holes_7, reqsOK, DFill.toFill, hcol, l1, l2]))
        (ok 8 _ _ (by decide) (by simp [holes_8, reqsOK, DFill.toFill, hcol, hname]))
    | dup hk la ra =>
      exact forall_mem_pair
        (ok 9 _ _ (by decide) (by simp [holes_9, reqsOK, DFill.toFill, hcol, l1, l2]))
        (ok 10 _ _ (by decide) (by simp [holes_10, reqsOK, DFill.toFill, hcol, hname]))
    | hgt hk g s fl foreign la out bend hr hs hfl hf hbend =>
      refine forall_mem_triple
        (ok 11 _ _ (by decide) (by simp [holes_11, reqsOK, DFill.toFill, hcol]))
        (ok 12 _ _ (by decide)
          (by simpa [holes_12, reqsOK, DFill.toFill, hcol] using hbend))
        (ok 13 _ _ (by decide) ?_)
      simp only [branchStmt, holes_13, List.map_cons, List.map_nil, reqsOK, DFill.toFill,
        reqOK_coord, reqOK_color, reqOK_label, hcol, Bool.true_and, Bool.and_true]
      split
      · exact phantom_balanced
      · exact hname

theorem drawCalls_callOK {o : Orientation} {dp : DParams} {deco : Deco} (hok : DecoOK dp deco)
    {S : RTree} {spOf : Path → Option Path} {all : List SubLayout} {calls : List DrawCall}
    (h : drawCalls o dp deco S spOf all = .ok calls) : ∀ c ∈ calls, CallOK c.toCall := by
  intro c hc
  cases origin_of_mem h c hc with
  | leafFork lay _ _ hf => exact forkLeaf_callOK hok hf
  | innerFork lay l r _ _ _ _ hc' => subst hc'; exact forkInner_callOK o dp deco hok lay l r
  | branch lay ll rl b cs _ _ _ hd hc' => exact drawBranch_callOK hok hd c hc'

end SR.TikzDraw
