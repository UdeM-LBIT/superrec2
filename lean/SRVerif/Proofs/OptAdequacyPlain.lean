/-
  The generic oracle adequacy (`Proofs/OptAdequacy.lean`) specialised to the plain mode
  (C01): `Spec.optimum … .plain` is the minimum of the evaluated cost `_cost_rec` over all
  valid reconciliations with species in `S` (the LCA mapping for `base`), and its optimal
  set consists of such reconciliations of minimum cost.  The oracle's plain solutions carry
  the empty synteny at every node (leaves included): `stripFam`.  The link is `adequate_plain`.
-/
import SRVerif.Proofs.OptAdequacyOrd

namespace SR.Spec

open SR Cost Path

/-- Forget all syntenies. -/
def stripFam : Sol → Sol
  | .leaf s _ => .leaf s []
  | .node s _ l r => .node s [] (stripFam l) (stripFam r)

theorem stripFam_sp (sol : Sol) : (stripFam sol).sp = sol.sp := by cases sol <;> rfl

theorem recCost_stripFam (c : Costs) : ∀ (t : OTree) (sol : Sol),
    recCost c t (stripFam sol) = recCost c t sol := by
  intro t
  induction t with
  | leaf sp f => intro sol; cases sol <;> simp [stripFam, recCost]
  | node l r ihl ihr =>
    intro sol
    cases sol with
    | leaf s g => simp [stripFam, recCost]
    | node s g sl sr =>
      simp only [stripFam, SR.recCost_node, stripFam_sp, ihl, ihr]

theorem localCost_plain (c : Costs) (whole : OTree) (p s : Path) (f : List Nat) (a : Path)
    (fa : List Nat) (b : Path) (fb : List Nat) :
    localCost c .plain whole p s f a fa b fb = localRecCost c s a b := by
  simp [localCost, edgeOk]

theorem specCost_plain (c : Costs) (S : RTree) (base : Bool) (whole : OTree) :
    ∀ (t : OTree) (p : Path) (sol : Sol), Feasible S .plain base whole p t sol →
      specCost c .plain whole p sol = recCost c t sol := by
  intro t
  induction t with
  | leaf sp f =>
    intro p sol hf
    cases sol with
    | node s g sl sr => simp [Feasible] at hf
    | leaf s g =>
      simp only [Feasible] at hf
      simp [specCost, recCost, hf.1]
  | node l r ihl ihr =>
    intro p sol hf
    cases sol with
    | leaf s g => simp [Feasible] at hf
    | node s g sl sr =>
      simp only [Feasible] at hf
      simp only [specCost, localCost_plain, SR.recCost_node, ihl _ sl hf.2.2.1, ihr _ sr hf.2.2.2]

theorem feasible_plain_of_valid (S : RTree) (base : Bool) (whole : OTree) :
    ∀ (t : OTree) (p : Path) (sol : Sol), validRec t sol = true → SpeciesOk S base t sol →
      Feasible S .plain base whole p t (stripFam sol) := by
  intro t p sol hv
  revert p
  refine validRec_induction (P := fun t sol => ∀ p, SpeciesOk S base t sol →
    Feasible S .plain base whole p t (stripFam sol)) ?_ ?_ t sol hv
  · intro sp f g p _
    simp [stripFam, Feasible, leafLabel]
  · intro l r s g sl sr _ _ _ ihl ihr p hs
    simp only [stripFam, Feasible, labelSpace, List.mem_singleton, true_and]
    exact ⟨hs.1, ihl _ hs.2.1, ihr _ hs.2.2⟩

theorem valid_of_feasible_plain (c : Costs) (S : RTree) (base : Bool) (whole : OTree) :
    ∀ (t : OTree) (p : Path) (sol : Sol), Feasible S .plain base whole p t sol →
      specCost c .plain whole p sol ≠ .inf →
      validRec t sol = true ∧ SpeciesOk S base t sol ∧ stripFam sol = sol :=
  Feasible.induction_finite
    (P := fun _ t sol => validRec t sol = true ∧ SpeciesOk S base t sol ∧ stripFam sol = sol)
    (fun _ sp f => by simp [validRec, SpeciesOk, stripFam, leafLabel])
    (fun _ l r s f sl sr hs hg _ _ hev _ ⟨vl, sl', el⟩ ⟨vr, sr', er⟩ => by
      simp only [labelSpace, List.mem_singleton] at hg
      refine ⟨?_, ⟨hs, sl', sr'⟩, by simp [stripFam, el, er, hg]⟩
      simp only [validRec, Bool.and_eq_true, bne_iff_ne, ne_eq]
      exact ⟨⟨hev, vl⟩, vr⟩)

variable (c : Costs) (S : RTree) (o : OTree)

theorem adequate_plain (base : Bool) (pre : Option (List Nat)) : Adequate c S .plain base o pre
    (fun sol => validRec o sol = true ∧ SpeciesOk S base o sol) (fun sol => stripFam sol = sol)
    stripFam where
  into sol hv :=
    have hf := feasible_plain_of_valid S base o o [] sol hv.1 hv.2
    ⟨.plain, List.mem_singleton.mpr rfl, hf,
      by rw [specCost_plain c S base o o [] _ hf, recCost_stripFam, totalCost_plain]⟩
  fix _ hn := hn
  out md hmd sol hf hfin := by
    cases List.mem_singleton.mp hmd
    obtain ⟨hv, hs, he⟩ := valid_of_feasible_plain c S base o o [] sol hf hfin
    exact ⟨⟨hv, hs⟩, he, by rw [totalCost_plain, specCost_plain c S base o o [] sol hf]⟩

theorem mem_optimum_plain_sols (base : Bool) (pre : Option (List Nat)) (sol : Sol) :
    sol ∈ (optimum c S .plain base true o pre).2 ↔
      validRec o sol = true ∧ SpeciesOk S base o sol ∧ stripFam sol = sol ∧
      totalCost c .plain o sol = (optimum c S .plain base true o pre).1 ∧
      (optimum c S .plain base true o pre).1 ≠ .inf := by
  rw [(adequate_plain c S o base pre).mem_sols, and_assoc]

end SR.Spec
