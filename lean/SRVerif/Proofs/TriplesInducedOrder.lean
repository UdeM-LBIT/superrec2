/-
  BreakUp for an ARBITRARY order of contraction.  `tree_to_triples` pops the minimal internal nodes
  (cherries) from a Python `set`, i.e. in an address-dependent order, and the set of emitted triples
  depends on that order; `Model/Triples.lean` fixes one admissible order.  Here the loop is a
  nondeterministic rewriting system (`Step`: contract ANY non-root cherry; `Run`; `BreakUp`: run
  until the root is the only internal node).  The model's order is one of the runs
  (`treeToTriples_breakUp`); for EVERY run the emitted triples are proper and displayed by `t`
  (`run_displays`) and generate all induced triples (`breakUp_induced`).  The link for the latter is
  a static certificate (`Covers`): for every non-root internal node `v = (v1, v2)` of `t` some
  emitted triple `r1 r2 | s` has `r1` below `v1`, `r2` below `v2` and `s` below the sister of `v`;
  a tree displaying the certificate displays everything because its clades are laminar.
-/
import SRVerif.Proofs.TriplesClades

namespace SR.Tri

open SR SR.DS LTree Spec

/-- The triples emitted strictly inside a subtree (all but the last one). -/
def innerTr : LTree → List Triple
  | .node [t1, t2] => (contract t1 t2.firstLeaf).2 ++ (contract t2 (contract t1 t2.firstLeaf).1).2
  | _ => []

theorem innerTr_node (t1 t2 : LTree) : innerTr (.node [t1, t2]) =
    (contract t1 t2.firstLeaf).2 ++ (contract t2 (contract t1 t2.firstLeaf).1).2 := rfl

theorem mkTriple_cases (l r s : Nat) :
    mkTriple l r s = (l, r, s) ∨ mkTriple l r s = (r, l, s) := by
  unfold mkTriple; split <;> simp

theorem firstLeaf_mem {t : LTree} (h : t.isBinary = true) : t.firstLeaf ∈ t.leaves := by
  have := binary_leaves_ne t h
  unfold firstLeaf
  cases hl : t.leaves with
  | nil => exact absurd hl this
  | cons a as => simp

theorem treeToTriples_eq : ∀ (t : LTree), t.isBinary = true →
    treeToTriples t = some (t.leaves, innerTr t) := by
  refine binary_rec (fun a => ?_) (fun t1 t2 h1 h2 _ _ => ?_)
  · simp [treeToTriples, isBinary, leaves, innerTr]
  · simp [treeToTriples, isBinary, h1, h2, innerTr]

theorem treeToTriples_none {t : LTree} (h : t.isBinary = false) : treeToTriples t = none := by
  simp [treeToTriples, h]

/-- The root of `T`, whose sister has leaf set `sis`, has a witness triple in `R`: `r1 r2 | s`
    with `r1`, `r2` below the two children and `s` below the sister.  Meant for binary trees: it
    is `True` of a leaf and of any node that has not two children, and the lemmas that recurse over
    the tree assume `isBinary`. -/
def Wit (R : List Triple) : LTree → List Nat → Prop
  | .node [u1, u2], sis =>
    ∃ r1 r2 s, r1 ∈ u1.leaves ∧ r2 ∈ u2.leaves ∧ s ∈ sis ∧ ((r1, r2, s) ∈ R ∨ (r2, r1, s) ∈ R)
  | _, _ => True

/-- Every non-root internal node of `T` has a witness triple in `R` (binary trees only, as for `Wit`). -/
def Covers (R : List Triple) : LTree → Prop
  | .node [u1, u2] => (Wit R u1 u2.leaves ∧ Covers R u1) ∧ (Wit R u2 u1.leaves ∧ Covers R u2)
  | _ => True

theorem wit_node (R : List Triple) (u1 u2 : LTree) (sis : List Nat) : Wit R (.node [u1, u2]) sis ↔
    ∃ r1 r2 s, r1 ∈ u1.leaves ∧ r2 ∈ u2.leaves ∧ s ∈ sis ∧ ((r1, r2, s) ∈ R ∨ (r2, r1, s) ∈ R) := by
  simp only [Wit]

theorem covers_node (R : List Triple) (u1 u2 : LTree) : Covers R (.node [u1, u2]) ↔
    (Wit R u1 u2.leaves ∧ Covers R u1) ∧ (Wit R u2 u1.leaves ∧ Covers R u2) := by
  simp only [Covers]

theorem wit_mono {R R' : List Triple} (hR : ∀ tr, tr ∈ R → tr ∈ R') {u1 u2 v1 v2 : LTree}
    (h1 : ∀ x, x ∈ u1.leaves → x ∈ v1.leaves) (h2 : ∀ x, x ∈ u2.leaves → x ∈ v2.leaves)
    {sis sis' : List Nat} (hs : ∀ x, x ∈ sis → x ∈ sis') (h : Wit R (.node [u1, u2]) sis) :
    Wit R' (.node [v1, v2]) sis' := by
  obtain ⟨r1, r2, s, a1, a2, a3, a4⟩ := (wit_node ..).mp h
  exact (wit_node ..).mpr ⟨r1, r2, s, h1 _ a1, h2 _ a2, hs _ a3, a4.imp (hR _) (hR _)⟩

theorem wit_sis {R R' : List Triple} (hR : ∀ tr, tr ∈ R → tr ∈ R') {sis sis' : List Nat}
    (hs : ∀ x, x ∈ sis → x ∈ sis') : ∀ (T : LTree), T.isBinary = true → Wit R T sis → Wit R' T sis' :=
  binary_rec (fun _ _ => by simp only [Wit])
    (fun _ _ _ _ _ _ h => wit_mono hR (fun _ h => h) (fun _ h => h) hs h)

theorem covers_mono {R R' : List Triple} (hR : ∀ tr, tr ∈ R → tr ∈ R') : ∀ (T : LTree),
    T.isBinary = true → Covers R T → Covers R' T := by
  refine binary_rec (fun _ _ => by simp only [Covers]) (fun u1 u2 b1 b2 ih1 ih2 h => ?_)
  rw [covers_node] at h ⊢
  exact ⟨⟨wit_sis hR (fun _ h => h) u1 b1 h.1.1, ih1 h.1.2⟩,
    ⟨wit_sis hR (fun _ h => h) u2 b2 h.2.1, ih2 h.2.2⟩⟩

section
variable {S : LTree} {R : List Triple}

/-- A covered subtree whose sister has leaves `sis` lies in a clade of `S`
    that misses some leaf of `sis`; the children of a covered node lie in
    disjoint clades. -/
theorem cover_clade (hS : S.leaves.Nodup) (hR : ∀ tr, tr ∈ R → displays S tr = true) :
    ∀ (T : LTree), T.isBinary = true → T.leaves.Nodup → (∀ x, x ∈ T.leaves → x ∈ S.leaves) →
    Covers R T →
    (∀ sis, sis ≠ [] → (∀ x, x ∈ sis → x ∉ T.leaves) → Wit R T sis →
      ∃ C s, C ∈ clades S ∧ (∀ x, x ∈ T.leaves → x ∈ C) ∧ s ∈ sis ∧ s ∉ C) ∧
    (∀ t1 t2, T = .node [t1, t2] →
      ∃ C1 C2, C1 ∈ clades S ∧ C2 ∈ clades S ∧ (∀ x, x ∈ t1.leaves → x ∈ C1) ∧
        (∀ x, x ∈ t2.leaves → x ∈ C2) ∧ ∀ x, x ∈ C1 → x ∉ C2) := by
  refine binary_rec (fun a _ hsub _ => ?_) (fun t1 t2 hb1 hb2 ih1 ih2 hn hsub hcov => ?_)
  · refine ⟨?_, fun t1 t2 h => by cases h⟩
    intro sis hne hdis _
    obtain ⟨s, hs⟩ := List.exists_mem_of_ne_nil _ hne
    have ha : a ∈ S.leaves := hsub a (by simp [leaves])
    refine ⟨[a], s, singleton_clade S a ha, fun x hx => by simpa [leaves] using hx, hs, ?_⟩
    intro h
    apply hdis s hs
    simp only [List.mem_singleton] at h
    simp [leaves, h]
  · obtain ⟨hn1, hn2, hdis⟩ := nodup_node2 hn
    have hsub1 : ∀ x, x ∈ t1.leaves → x ∈ S.leaves := fun x hx =>
      hsub x ((leaves_node2 t1 t2 x).mpr (Or.inl hx))
    have hsub2 : ∀ x, x ∈ t2.leaves → x ∈ S.leaves := fun x hx =>
      hsub x ((leaves_node2 t1 t2 x).mpr (Or.inr hx))
    rw [covers_node] at hcov
    have hpair : ∃ C1 C2, C1 ∈ clades S ∧ C2 ∈ clades S ∧ (∀ x, x ∈ t1.leaves → x ∈ C1) ∧
          (∀ x, x ∈ t2.leaves → x ∈ C2) ∧ ∀ x, x ∈ C1 → x ∉ C2 := by
      obtain ⟨C1, s1, hC1, h1in, hs1, h1out⟩ := (ih1 hn1 hsub1 hcov.1.2).1 _
        (binary_leaves_ne t2 hb2) (fun x h2 h1 => hdis x h1 h2) hcov.1.1
      obtain ⟨C2, s2, hC2, h2in, hs2, h2out⟩ := (ih2 hn2 hsub2 hcov.2.2).1 _
        (binary_leaves_ne t1 hb1) (fun x h1 h2 => hdis x h1 h2) hcov.2.1
      refine ⟨C1, C2, hC1, hC2, h1in, h2in, ?_⟩
      rcases clades_laminar S hS C1 C2 hC1 hC2 with h | h | h
      · exact absurd (h _ (h1in _ hs2)) h2out
      · exact absurd (h _ (h2in _ hs1)) h1out
      · exact h
    refine ⟨?_, ?_⟩
    · intro sis _ _ hw
      obtain ⟨r1, r2, s, hr1, hr2, hs, hmem⟩ := (wit_node ..).mp hw
      obtain ⟨C1, C2, hC1, hC2, h1in, h2in, h12⟩ := hpair
      have h3 : ∃ C3, C3 ∈ clades S ∧ r1 ∈ C3 ∧ r2 ∈ C3 ∧ s ∉ C3 := by
        rcases hmem with hm | hm
        · obtain ⟨C3, hC3, ha, hb3, hc⟩ := displays_clade (hR _ hm)
          exact ⟨C3, hC3, ha, hb3, hc⟩
        · obtain ⟨C3, hC3, ha, hb3, hc⟩ := displays_clade (hR _ hm)
          exact ⟨C3, hC3, hb3, ha, hc⟩
      obtain ⟨C3, hC3, h31, h32, h3s⟩ := h3
      have r1C1 := h1in _ hr1
      have r2C2 := h2in _ hr2
      have hsub13 : ∀ x, x ∈ C1 → x ∈ C3 := by
        rcases clades_laminar S hS C1 C3 hC1 hC3 with h | h | h
        · exact h
        · exact absurd r2C2 (h12 _ (h _ h32))
        · exact absurd h31 (h _ r1C1)
      have hsub23 : ∀ x, x ∈ C2 → x ∈ C3 := by
        rcases clades_laminar S hS C2 C3 hC2 hC3 with h | h | h
        · exact h
        · exact absurd (h _ h31) (h12 _ r1C1)
        · exact absurd h32 (h _ r2C2)
      refine ⟨C3, s, hC3, ?_, hs, h3s⟩
      intro x hx
      rcases (leaves_node2 t1 t2 x).mp hx with hx | hx
      · exact hsub13 _ (h1in _ hx)
      · exact hsub23 _ (h2in _ hx)
    · intro u1 u2 he
      simp only [LTree.node.injEq, List.cons.injEq, and_true] at he
      obtain ⟨rfl, rfl⟩ := he
      exact hpair

theorem covers_induced (hS : S.leaves.Nodup) (hR : ∀ tr, tr ∈ R → displays S tr = true) :
    ∀ (T : LTree), T.isBinary = true → T.leaves.Nodup →
    (∀ x, x ∈ T.leaves → x ∈ S.leaves) → Covers R T →
    ∀ tr, proper tr = true → displays T tr = true → displays S tr = true := by
  refine binary_rec (fun a _ _ _ tr hp hd => ?_)
    (fun t1 t2 hb1 hb2 ih1 ih2 hn hsub hcov tr hp hd => ?_)
  · exfalso
    obtain ⟨h1, h2, _⟩ := (displays_iff _ tr).mp hd
    simp only [leaves, List.mem_singleton] at h1 h2
    exact ((proper_iff tr).mp hp).1 (h1.trans h2.symm)
  · obtain ⟨hn1, hn2, hdis⟩ := nodup_node2 hn
    have hsub1 : ∀ x, x ∈ t1.leaves → x ∈ S.leaves := fun x hx =>
      hsub x ((leaves_node2 t1 t2 x).mpr (Or.inl hx))
    have hsub2 : ∀ x, x ∈ t2.leaves → x ∈ S.leaves := fun x hx =>
      hsub x ((leaves_node2 t1 t2 x).mpr (Or.inr hx))
    obtain ⟨C1, C2, hC1, hC2, h1in, h2in, h12⟩ :=
      (cover_clade hS hR (.node [t1, t2]) (isBinary_node2.mpr ⟨hb1, hb2⟩) hn hsub hcov).2 t1 t2 rfl
    rw [covers_node] at hcov
    obtain ⟨hside, hd1, hd2⟩ := displays_child hdis hd
    obtain ⟨ha, hb0, hc, _⟩ := (displays_iff _ tr).mp hd
    have hc' := (leaves_node2 t1 t2 _).mp hc
    rcases hside with ⟨a1, b1⟩ | ⟨a2, b2⟩
    · rcases hc' with c1 | c2
      · exact ih1 hn1 hsub1 hcov.1.2 tr hp (hd1 a1 c1)
      · exact (displays_iff S tr).mpr ⟨hsub _ ha, hsub _ hb0, hsub _ hc, C1, hC1, h1in _ a1, h1in _ b1,
          fun h => h12 _ h (h2in _ c2)⟩
    · rcases hc' with c1 | c2
      · exact (displays_iff S tr).mpr ⟨hsub _ ha, hsub _ hb0, hsub _ hc, C2, hC2, h2in _ a2, h2in _ b2,
          fun h => h12 _ (h1in _ c1) h⟩
      · exact ih2 hn2 hsub2 hcov.2.2 tr hp (hd2 a2 c2)

end

/-- One iteration of the `while` loop on the working copy: some non-root
    minimal internal node `other = (x, y)` with sister `σ` is popped; the
    triple `(min x y, max x y, first leaf of σ)` is emitted;
    `parent.add_child(right_node.detach()); parent.remove_child(other)` turns
    the children of the parent into `[σ, y]` whichever side `other` was on. -/
inductive Step : LTree → Triple → LTree → Prop
  | hereL (x y : Nat) (σ : LTree) :
      Step (.node [.node [.leaf x, .leaf y], σ]) (mkTriple x y σ.firstLeaf) (.node [σ, .leaf y])
  | hereR (x y : Nat) (σ : LTree) :
      Step (.node [σ, .node [.leaf x, .leaf y]]) (mkTriple x y σ.firstLeaf) (.node [σ, .leaf y])
  | inL {a a' : LTree} {tr : Triple} (b : LTree) : Step a tr a' → Step (.node [a, b]) tr (.node [a', b])
  | inR {b b' : LTree} {tr : Triple} (a : LTree) : Step b tr b' → Step (.node [a, b]) tr (.node [a, b'])

/-- Several iterations, with the triples emitted, in order. -/
inductive Run : LTree → List Triple → LTree → Prop
  | nil (t : LTree) : Run t [] t
  | cons {t t' t'' : LTree} {tr : Triple} {trs : List Triple} :
      Step t tr t' → Run t' trs t'' → Run t (tr :: trs) t''

/-- The loop stops when no non-root minimal internal node is left: the
    working tree is a single leaf or the root is the only internal node. -/
def Final : LTree → Prop
  | .leaf _ => True
  | .node [.leaf _, .leaf _] => True
  | _ => False

/-- `trs` is a possible list of triples of `tree_to_triples t` (for some order
    of popping the set of minimal internal nodes). -/
def BreakUp (t : LTree) (trs : List Triple) : Prop := ∃ t', Run t trs t' ∧ Final t'

theorem Run.trans {t t' t'' : LTree} {a b : List Triple} (h1 : Run t a t') (h2 : Run t' b t'') :
    Run t (a ++ b) t'' := by
  induction h1 with
  | nil _ => exact h2
  | cons hs _ ih => exact Run.cons hs (ih h2)

theorem Run.single {t t' : LTree} {tr : Triple} (h : Step t tr t') : Run t [tr] t' :=
  Run.cons h (Run.nil _)

theorem Run.liftL {a a' : LTree} {trs : List Triple} (b : LTree) (h : Run a trs a') :
    Run (.node [a, b]) trs (.node [a', b]) := by
  induction h with
  | nil _ => exact Run.nil _
  | cons hs _ ih => exact Run.cons (Step.inL b hs) ih

theorem Run.liftR {b b' : LTree} {trs : List Triple} (a : LTree) (h : Run b trs b') :
    Run (.node [a, b]) trs (.node [a, b']) := by
  induction h with
  | nil _ => exact Run.nil _
  | cons hs _ ih => exact Run.cons (Step.inR a hs) ih

/-- One step removes one leaf `x`; every clade of `T'` is a clade of
    `T` with `x` possibly removed. -/
theorem step_inv {T T' : LTree} {tr : Triple} (h : Step T tr T') :
    ∃ x, T.leaves.Perm (x :: T'.leaves) ∧
      ∀ C', C' ∈ clades T' → ∃ C, C ∈ clades T ∧ (∀ z, z ∈ C' → z ∈ C) ∧
        (∀ z, z ∈ C → z ∈ C' ∨ z = x) := by
  -- the root clades are the leaf lists, related by the permutation
  have root : ∀ {a b a' b' : LTree} {x : Nat},
      (LTree.node [a, b]).leaves.Perm (x :: (LTree.node [a', b']).leaves) →
      ∃ C, C ∈ clades (.node [a, b]) ∧ (∀ z, z ∈ a'.leaves ++ b'.leaves → z ∈ C) ∧
        (∀ z, z ∈ C → z ∈ a'.leaves ++ b'.leaves ∨ z = x) := by
    intro a b a' b' x hp
    refine ⟨_, leaves_mem_clades _, fun z hz => ?_, fun z hz => ?_⟩
    · exact hp.mem_iff.mpr (List.mem_cons_of_mem _ (leaves_node2_eq a' b' ▸ hz))
    · rcases List.mem_cons.mp (hp.mem_iff.mp hz) with h | h
      · exact Or.inr h
      · exact Or.inl (leaves_node2_eq a' b' ▸ h)
  induction h with
  | hereL x y σ =>
    have hp : (LTree.node [.node [.leaf x, .leaf y], σ]).leaves.Perm
        (x :: (LTree.node [σ, .leaf y]).leaves) := by
      simp only [leaves_node2_eq]
      simp only [leaves, List.cons_append, List.nil_append]
      exact ((List.perm_append_singleton y σ.leaves).symm).cons x
    refine ⟨x, hp, fun C' hC' => ?_⟩
    rcases (mem_clades_node2 σ (.leaf y) C').mp hC' with rfl | hC' | hC'
    · exact root hp
    · exact ⟨C', (mem_clades_node2 _ σ _).mpr (Or.inr (Or.inr hC')), fun _ h => h, fun _ h => Or.inl h⟩
    · simp only [clades, List.mem_singleton] at hC'
      subst hC'
      refine ⟨[y], (mem_clades_node2 _ σ _).mpr (Or.inr (Or.inl ?_)), fun _ h => h, fun _ h => Or.inl h⟩
      simp [clades, cladesL]
  | hereR x y σ =>
    have hp : (LTree.node [σ, .node [.leaf x, .leaf y]]).leaves.Perm
        (x :: (LTree.node [σ, .leaf y]).leaves) := by
      simp only [leaves_node2_eq]
      simp only [leaves]
      exact List.perm_middle
    refine ⟨x, hp, fun C' hC' => ?_⟩
    rcases (mem_clades_node2 σ (.leaf y) C').mp hC' with rfl | hC' | hC'
    · exact root hp
    · exact ⟨C', (mem_clades_node2 σ _ _).mpr (Or.inr (Or.inl hC')), fun _ h => h, fun _ h => Or.inl h⟩
    · simp only [clades, List.mem_singleton] at hC'
      subst hC'
      refine ⟨[y], (mem_clades_node2 σ _ _).mpr (Or.inr (Or.inr ?_)), fun _ h => h, fun _ h => Or.inl h⟩
      simp [clades, cladesL]
  | @inL a a' tr b _ ih =>
    obtain ⟨x, hpa, hcl⟩ := ih
    have hp : (LTree.node [a, b]).leaves.Perm (x :: (LTree.node [a', b]).leaves) := by
      rw [leaves_node2_eq, leaves_node2_eq]
      exact hpa.append_right b.leaves
    refine ⟨x, hp, fun C' hC' => ?_⟩
    rcases (mem_clades_node2 a' b C').mp hC' with rfl | hC' | hC'
    · exact root hp
    · obtain ⟨C, hC, h1, h2⟩ := hcl C' hC'
      exact ⟨C, (mem_clades_node2 a b C).mpr (Or.inr (Or.inl hC)), h1, h2⟩
    · exact ⟨C', (mem_clades_node2 a b C').mpr (Or.inr (Or.inr hC')), fun _ h => h, fun _ h => Or.inl h⟩
  | @inR b b' tr a _ ih =>
    obtain ⟨x, hpb, hcl⟩ := ih
    have hp : (LTree.node [a, b]).leaves.Perm (x :: (LTree.node [a, b']).leaves) := by
      rw [leaves_node2_eq, leaves_node2_eq]
      exact (hpb.append_left a.leaves).trans List.perm_middle
    refine ⟨x, hp, fun C' hC' => ?_⟩
    rcases (mem_clades_node2 a b' C').mp hC' with rfl | hC' | hC'
    · exact root hp
    · exact ⟨C', (mem_clades_node2 a b C').mpr (Or.inr (Or.inl hC')), fun _ h => h, fun _ h => Or.inl h⟩
    · obtain ⟨C, hC, h1, h2⟩ := hcl C' hC'
      exact ⟨C, (mem_clades_node2 a b C).mpr (Or.inr (Or.inr hC)), h1, h2⟩

theorem step_sub {T T' : LTree} {tr : Triple} (h : Step T tr T') :
    ∀ z, z ∈ T'.leaves → z ∈ T.leaves := by
  obtain ⟨x, hp, _⟩ := step_inv h
  exact fun z hz => hp.mem_iff.mpr (List.mem_cons_of_mem _ hz)

theorem step_nodup {T T' : LTree} {tr : Triple} (h : Step T tr T') (hn : T.leaves.Nodup) :
    T'.leaves.Nodup := by
  obtain ⟨x, hp, _⟩ := step_inv h
  exact (List.nodup_cons.mp (hp.nodup_iff.mp hn)).2

theorem mkTriple_mem (x y s : Nat) (R : List Triple) :
    (x, y, s) ∈ mkTriple x y s :: R ∨ (y, x, s) ∈ mkTriple x y s :: R := by
  rcases mkTriple_cases x y s with e | e <;> rw [e] <;> simp

/-- What is left of the certificate after a step certifies, together with the emitted triple, the
    tree before it.  The root's witness and the witnesses below it are carried separately, so the
    same statement serves at the root of the whole tree, which needs no witness. -/
theorem step_covers {T T' : LTree} {tr : Triple} (h : Step T tr T') : T.isBinary = true →
    T'.isBinary = true ∧ ∀ (R : List Triple),
      (Covers R T' → Covers (tr :: R) T) ∧ ∀ sis, Wit R T' sis → Wit (tr :: R) T sis := by
  have hR : ∀ {R : List Triple} {tr : Triple} t, t ∈ R → t ∈ tr :: R :=
    fun _ h => List.mem_cons_of_mem _ h
  -- the cherry `(x, y)` beside `σ`: certified by the emitted triple; `σ` keeps its certificate
  have cherry : ∀ (x y : Nat) (σ : LTree) (R : List Triple), σ.isBinary = true →
      Wit R σ (LTree.leaf y).leaves ∧ Covers R σ →
      (Wit (mkTriple x y σ.firstLeaf :: R) (.node [.leaf x, .leaf y]) σ.leaves ∧
        Covers (mkTriple x y σ.firstLeaf :: R) (.node [.leaf x, .leaf y])) ∧
      (Wit (mkTriple x y σ.firstLeaf :: R) σ (LTree.node [.leaf x, .leaf y]).leaves ∧
        Covers (mkTriple x y σ.firstLeaf :: R) σ) := fun x y σ R hb hc =>
    ⟨⟨(wit_node ..).mpr ⟨x, y, _, by simp [leaves], by simp [leaves], firstLeaf_mem hb, mkTriple_mem ..⟩,
        by simp [Covers, Wit]⟩,
      wit_sis hR (fun z hz => by simp only [leaves, List.mem_singleton] at hz; simp [leaves, leavesL, hz])
        σ hb hc.1,
      covers_mono hR σ hb hc.2⟩
  induction h with
  | hereL x y σ =>
    intro hb
    simp only [isBinary, Bool.and_eq_true, true_and] at hb
    refine ⟨by simp [isBinary, hb], fun R => ⟨fun hc => ?_, fun sis hw => ?_⟩⟩
    · rw [covers_node] at hc ⊢
      exact cherry x y σ R hb hc.1
    · obtain ⟨r1, r2, s, a1, a2, a3, a4⟩ := (wit_node ..).mp hw
      have : r2 = y := by simpa [leaves] using a2
      exact (wit_node ..).mpr ⟨r2, r1, s, by simp [leaves, leavesL, this], a1, a3, a4.symm.imp (hR _) (hR _)⟩
  | hereR x y σ =>
    intro hb
    simp only [isBinary, Bool.and_eq_true, and_true] at hb
    refine ⟨by simp [isBinary, hb], fun R => ⟨fun hc => ?_, fun sis hw => ?_⟩⟩
    · rw [covers_node] at hc ⊢
      exact (cherry x y σ R hb hc.1).symm
    · obtain ⟨r1, r2, s, a1, a2, a3, a4⟩ := (wit_node ..).mp hw
      have : r2 = y := by simpa [leaves] using a2
      exact (wit_node ..).mpr ⟨r1, r2, s, a1, by simp [leaves, leavesL, this], a3, a4.imp (hR _) (hR _)⟩
  | @inL a a' tr b hs ih =>
    intro hb
    simp only [isBinary, Bool.and_eq_true] at hb
    obtain ⟨hb', hc⟩ := ih hb.1
    have hl := step_sub hs
    refine ⟨by simp [isBinary, hb', hb.2], fun R =>
      ⟨fun h => ?_, fun sis hw => wit_mono hR hl (fun _ h => h) (fun _ h => h) hw⟩⟩
    rw [covers_node] at h ⊢
    exact ⟨⟨(hc R).2 _ h.1.1, (hc R).1 h.1.2⟩, wit_sis hR hl b hb.2 h.2.1, covers_mono hR b hb.2 h.2.2⟩
  | @inR b b' tr a hs ih =>
    intro hb
    simp only [isBinary, Bool.and_eq_true] at hb
    obtain ⟨hb', hc⟩ := ih hb.2
    have hl := step_sub hs
    refine ⟨by simp [isBinary, hb', hb.1], fun R =>
      ⟨fun h => ?_, fun sis hw => wit_mono hR (fun _ h => h) hl (fun _ h => h) hw⟩⟩
    rw [covers_node] at h ⊢
    exact ⟨⟨wit_sis hR hl a hb.1 h.1.1, covers_mono hR a hb.1 h.1.2⟩, (hc R).2 _ h.2.1, (hc R).1 h.2.2⟩

theorem covers_final {T : LTree} (h : Final T) (R : List Triple) : Covers R T := by
  match T, h with
  | .leaf _, _ => simp only [Covers]
  | .node [.leaf a, .leaf b], _ => simp [Covers, Wit]

theorem run_covers {T T' : LTree} {trs : List Triple} (h : Run T trs T') :
    T.isBinary = true → Final T' → Covers trs T := by
  induction h with
  | nil t => intro _ hf; exact covers_final hf []
  | cons hs _ ih =>
    intro hb hf
    exact ((step_covers hs hb).2 _).1 (ih (step_covers hs hb).1 hf)

theorem breakUp_covers {t : LTree} {trs : List Triple} (hb : t.isBinary = true) (h : BreakUp t trs) :
    Covers trs t := by
  obtain ⟨t', hr, hf⟩ := h
  exact run_covers hr hb hf

theorem breakUp_induced {t S : LTree} {trs : List Triple} (hb : t.isBinary = true)
    (hn : t.leaves.Nodup) (h : BreakUp t trs) (hS : S.leaves.Nodup)
    (hsub : ∀ x, x ∈ t.leaves → x ∈ S.leaves) (hd : ∀ tr, tr ∈ trs → displays S tr = true) :
    ∀ tr, proper tr = true → displays t tr = true → displays S tr = true :=
  covers_induced hS hd t hb hn hsub (breakUp_covers hb h)

theorem contract_node_eq (t1 t2 : LTree) (s : Nat) :
    contract (.node [t1, t2]) s =
      if (t1.isLeaf || !t2.isLeaf) = true then
        ((contract t2 (contract t1 t2.firstLeaf).1).1,
          innerTr (.node [t1, t2]) ++
            [mkTriple (contract t1 t2.firstLeaf).1 (contract t2 (contract t1 t2.firstLeaf).1).1 s])
      else
        ((contract t1 t2.firstLeaf).1,
          innerTr (.node [t1, t2]) ++
            [mkTriple (contract t2 (contract t1 t2.firstLeaf).1).1 (contract t1 t2.firstLeaf).1 s]) := by
  by_cases h : (t1.isLeaf || !t2.isLeaf) = true
  · simp only [contract, innerTr, h, if_true]
  · simp only [contract, innerTr, h]; rfl

theorem isLeaf_eq {t : LTree} (h : t.isLeaf = true) : ∃ a, t = .leaf a := by
  cases t with
  | leaf a => exact ⟨a, rfl⟩
  | node cs => simp [isLeaf] at h

/-- The model's contraction of an internal subtree is a run ending in the
    cherry `(l, r)`, followed by the parent's step that emits `l r | s`. -/
theorem contract_run : ∀ (T : LTree), T.isBinary = true → T.isLeaf = false →
    ∃ l r, Run T (innerTr T) (.node [.leaf l, .leaf r]) ∧
      ∀ s, contract T s = (r, innerTr T ++ [mkTriple l r s]) := by
  refine binary_rec (fun _ h => by simp [isLeaf] at h) (fun t1 t2 _ _ ih1 ih2 _ => ?_)
  · by_cases h1 : t1.isLeaf = true
    · obtain ⟨a, rfl⟩ := isLeaf_eq h1
      by_cases h2 : t2.isLeaf = true
      · obtain ⟨b, rfl⟩ := isLeaf_eq h2
        refine ⟨a, b, ?_, fun s => ?_⟩
        · simp only [innerTr, contract, List.append_nil]; exact Run.nil _
        · rw [contract_node_eq]; simp [isLeaf, contract]
      · have h2' : t2.isLeaf = false := by simpa using h2
        obtain ⟨l2, r2, hrun, hc⟩ := ih2 h2'
        refine ⟨a, r2, ?_, fun s => ?_⟩
        · have e : innerTr (.node [.leaf a, t2]) = innerTr t2 ++ [mkTriple l2 r2 a] := by
            simp only [innerTr_node, contract, List.nil_append, hc]
          rw [e]
          have hstep := Step.hereR l2 r2 (.leaf a)
          simp only [firstLeaf, leaves, List.headD_cons] at hstep
          exact (Run.liftR (.leaf a) hrun).trans (Run.single hstep)
        · rw [contract_node_eq]; simp [isLeaf, contract, hc]
    · have h1' : t1.isLeaf = false := by simpa using h1
      obtain ⟨l1, r1, hrun1, hc1⟩ := ih1 h1'
      have hstep1 := Step.hereL l1 r1 t2
      have hrunA : Run (.node [t1, t2]) (innerTr t1 ++ [mkTriple l1 r1 t2.firstLeaf])
          (.node [t2, .leaf r1]) := (Run.liftL t2 hrun1).trans (Run.single hstep1)
      by_cases h2 : t2.isLeaf = true
      · obtain ⟨b, rfl⟩ := isLeaf_eq h2
        refine ⟨b, r1, ?_, fun s => ?_⟩
        · have e : innerTr (.node [t1, .leaf b]) = innerTr t1 ++ [mkTriple l1 r1 (LTree.leaf b).firstLeaf] := by
            simp only [innerTr_node, contract, List.append_nil, hc1]
          rw [e]; exact hrunA
        · rw [contract_node_eq, h1']; simp [isLeaf, contract, hc1]
      · have h2' : t2.isLeaf = false := by simpa using h2
        obtain ⟨l2, r2, hrun2, hc2⟩ := ih2 h2'
        refine ⟨r1, r2, ?_, fun s => ?_⟩
        · have e : innerTr (.node [t1, t2]) =
              (innerTr t1 ++ [mkTriple l1 r1 t2.firstLeaf]) ++ (innerTr t2 ++ [mkTriple l2 r2 r1]) := by
            simp only [innerTr_node, hc1, hc2]
          rw [e]
          have hstep2 := Step.hereL l2 r2 (.leaf r1)
          simp only [firstLeaf, leaves, List.headD_cons] at hstep2
          exact hrunA.trans ((Run.liftL (.leaf r1) hrun2).trans (Run.single hstep2))
        · rw [contract_node_eq]; simp [h1', h2', hc1, hc2]

theorem innerTr_breakUp (t : LTree) (hb : t.isBinary = true) : BreakUp t (innerTr t) := by
  by_cases h : t.isLeaf = true
  · obtain ⟨a, rfl⟩ := isLeaf_eq h
    exact ⟨.leaf a, by simp only [innerTr]; exact Run.nil _, trivial⟩
  · obtain ⟨l, r, hrun, _⟩ := contract_run t hb (by simpa using h)
    exact ⟨_, hrun, trivial⟩

theorem treeToTriples_breakUp {t : LTree} {ls : List Nat} {trs : List Triple}
    (h : treeToTriples t = some (ls, trs)) : ls = t.leaves ∧ BreakUp t trs := by
  by_cases hb : t.isBinary = true
  · rw [treeToTriples_eq t hb] at h
    simp only [Option.some.injEq, Prod.mk.injEq] at h
    obtain ⟨rfl, rfl⟩ := h
    exact ⟨rfl, innerTr_breakUp t hb⟩
  · rw [treeToTriples_none (by simpa using hb)] at h; cases h

theorem displays_mk {T : LTree} {x y s : Nat} {C : List Nat} (hx : x ∈ T.leaves) (hy : y ∈ T.leaves)
    (hs : s ∈ T.leaves) (hC : C ∈ clades T) (hxC : x ∈ C) (hyC : y ∈ C) (hsC : s ∉ C) :
    displays T (mkTriple x y s) = true := by
  rcases mkTriple_cases x y s with e | e <;> rw [e]
  · exact (displays_iff T _).mpr ⟨hx, hy, hs, C, hC, hxC, hyC, hsC⟩
  · exact (displays_iff T _).mpr ⟨hy, hx, hs, C, hC, hyC, hxC, hsC⟩

theorem proper_mkTriple {x y s : Nat} (hxy : x ≠ y) (hxs : x ≠ s) (hys : y ≠ s) :
    proper (mkTriple x y s) = true := by
  rcases mkTriple_cases x y s with e | e <;> rw [e]
  · exact proper_mk hxy hxs hys
  · exact proper_mk (Ne.symm hxy) hys hxs

theorem step_displays {T T' : LTree} {tr : Triple} (h : Step T tr T') : T.isBinary = true →
    T.leaves.Nodup → proper tr = true ∧ displays T tr = true := by
  -- a cherry `(x, y)` beside `σ`: the clade `[x, y]` misses the first leaf of `σ`
  have cherry : ∀ {U : LTree} {x y : Nat} {σ : LTree}, σ.isBinary = true → U.leaves.Nodup →
      U.leaves.Perm (x :: y :: σ.leaves) → [x, y] ∈ clades U →
      proper (mkTriple x y σ.firstLeaf) = true ∧ displays U (mkTriple x y σ.firstLeaf) = true := by
    intro U x y σ hb hn hp hC
    have hfl := firstLeaf_mem hb
    have hn' := hp.nodup_iff.mp hn
    simp only [List.nodup_cons, List.mem_cons, not_or] at hn'
    obtain ⟨⟨hxy, hxσ⟩, hyσ, _⟩ := hn'
    have hxs : x ≠ σ.firstLeaf := fun h => hxσ (h ▸ hfl)
    have hys : y ≠ σ.firstLeaf := fun h => hyσ (h ▸ hfl)
    refine ⟨proper_mkTriple hxy hxs hys, displays_mk (C := [x, y]) (hp.mem_iff.mpr (by simp))
      (hp.mem_iff.mpr (by simp)) (hp.mem_iff.mpr (by simp [hfl])) hC (by simp) (by simp) ?_⟩
    intro h
    simp only [List.mem_cons, List.not_mem_nil, or_false] at h
    rcases h with h | h
    · exact hxs h.symm
    · exact hys h.symm
  induction h with
  | hereL x y σ =>
    intro hb hn
    refine cherry (isBinary_node2.mp hb).2 hn ?_ (by simp [clades, cladesL, leavesL, leaves])
    simp only [leaves_node2_eq]
    simp only [leaves, List.cons_append, List.nil_append]
    exact List.Perm.refl _
  | hereR x y σ =>
    intro hb hn
    refine cherry (isBinary_node2.mp hb).1 hn ?_ (by simp [clades, cladesL, leavesL, leaves])
    simp only [leaves_node2_eq]
    simp only [leaves]
    exact List.perm_append_comm
  | @inL a a' tr b _ ih =>
    intro hb hn
    obtain ⟨hp, hd⟩ := ih (isBinary_node2.mp hb).1 (nodup_node2 hn).1
    exact ⟨hp, displays_node List.mem_cons_self hd⟩
  | @inR b b' tr a _ ih =>
    intro hb hn
    obtain ⟨hp, hd⟩ := ih (isBinary_node2.mp hb).2 (nodup_node2 hn).2.1
    exact ⟨hp, displays_node (List.mem_cons_of_mem _ List.mem_cons_self) hd⟩

/-- A triple displayed after a step was displayed before it, through the clade that lost at most
    the removed leaf. -/
theorem run_displays {T T' : LTree} {trs : List Triple} (h : Run T trs T') : T.isBinary = true →
    T.leaves.Nodup → ∀ tr, tr ∈ trs → proper tr = true ∧ displays T tr = true := by
  induction h with
  | nil _ => intro _ _ tr h; cases h
  | cons hs _ ih =>
    intro hb hn tr htr
    rcases List.mem_cons.mp htr with rfl | htr
    · exact step_displays hs hb hn
    · obtain ⟨x, hp, hcl⟩ := step_inv hs
      obtain ⟨hpr, hd⟩ := ih (step_covers hs hb).1 (step_nodup hs hn) tr htr
      obtain ⟨h1, h2, h3, C', hC', k1, k2, k3⟩ := (displays_iff _ tr).mp hd
      obtain ⟨C, hC, c1, c2⟩ := hcl C' hC'
      have hl := step_sub hs
      refine ⟨hpr, (displays_iff _ tr).mpr ⟨hl _ h1, hl _ h2, hl _ h3, C, hC, c1 _ k1, c1 _ k2, ?_⟩⟩
      intro h
      rcases c2 _ h with h | h
      · exact k3 h
      · exact (List.nodup_cons.mp (hp.nodup_iff.mp hn)).1 (h ▸ h3)

theorem breakUp_displays {t : LTree} {trs : List Triple} (hb : t.isBinary = true) (hn : t.leaves.Nodup)
    (h : BreakUp t trs) : ∀ tr, tr ∈ trs → proper tr = true ∧ displays t tr = true := by
  obtain ⟨_, hr, _⟩ := h
  exact run_displays hr hb hn

theorem breakUp_scope {t : LTree} {trs : List Triple} (hb : t.isBinary = true) (hn : t.leaves.Nodup)
    (h : BreakUp t trs) : ∀ tr, tr ∈ trs →
      proper tr = true ∧ tr.1 ∈ t.leaves ∧ tr.2.1 ∈ t.leaves ∧ tr.2.2 ∈ t.leaves := by
  intro tr htr
  obtain ⟨hp, hd⟩ := breakUp_displays hb hn h tr htr
  obtain ⟨h1, h2, h3, _⟩ := (displays_iff _ tr).mp hd
  exact ⟨hp, h1, h2, h3⟩

end SR.Tri
