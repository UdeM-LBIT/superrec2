/-
  `tourPaths t` is the sequence of node paths visited by `_euler_tour`; the
  modelled tour is that sequence decorated with `level = length of the path`.
  The key fact (`tourPaths_inv`): between any two positions of the tour, the
  longest common prefix of the two visited nodes is itself visited, and every
  node visited in between lies below it.
-/
import SRVerif.Model.Lca
import SRVerif.Proofs.RTree

namespace SR

namespace Lca

open Path

/-! ### `lcp` by cases, and the lemmas of `Proofs/Paths.lean` (stated there with `isAnc`) in prefix form -/

theorem lcp_cons_same (i : Nat) (u v : Path) : lcp (i :: u) (i :: v) = i :: lcp u v := by
  rw [lcp, if_pos (beq_self_eq_true i)]

theorem lcp_cons_ne {i j : Nat} (h : i ≠ j) (u v : Path) : lcp (i :: u) (j :: v) = [] := by
  simp [lcp, h]

@[simp] theorem lcp_nil_left (q : Path) : lcp [] q = [] := by simp [lcp]

theorem lcp_prefix_left (p q : Path) : lcp p q <+: p :=
  (isAnc_iff_prefix _ _).1 (lcp_isAnc_left p q)

theorem lcp_prefix_right (p q : Path) : lcp p q <+: q :=
  (isAnc_iff_prefix _ _).1 (lcp_isAnc_right p q)

theorem prefix_lcp {r p q : Path} (h1 : r <+: p) (h2 : r <+: q) : r <+: lcp p q :=
  (isAnc_iff_prefix _ _).1 (isAnc_lcp ((isAnc_iff_prefix _ _).2 h1) ((isAnc_iff_prefix _ _).2 h2))

theorem lcp_eq_left_iff (p q : Path) : lcp p q = p ↔ p <+: q :=
  ⟨fun h => h ▸ lcp_prefix_right p q, fun h => lcp_eq_left_of_isAnc ((isAnc_iff_prefix _ _).2 h)⟩

theorem lcp_self (p : Path) : lcp p p = p := Path.lcp_self p

theorem foldl_lcp_prefix (ps : List Path) (p0 : Path) : ∀ x ∈ p0 :: ps, ps.foldl lcp p0 <+: x := by
  obtain ⟨h0, hr⟩ := (isAnc_foldl_lcp _ ps p0).1 (isAnc_refl (ps.foldl lcp p0))
  intro x hx
  rw [← isAnc_iff_prefix]
  rcases List.mem_cons.1 hx with rfl | hx
  · exact h0
  · exact hr x hx

theorem prefix_foldl_lcp (ps : List Path) (p0 r : Path) (h : ∀ x ∈ p0 :: ps, r <+: x) :
    r <+: ps.foldl lcp p0 :=
  (isAnc_iff_prefix _ _).1 ((isAnc_foldl_lcp r ps p0).2
    ⟨(isAnc_iff_prefix _ _).2 (h p0 List.mem_cons_self),
      fun q hq => (isAnc_iff_prefix _ _).2 (h q (List.mem_cons_of_mem _ hq))⟩)

mutual
  /-- The nodes `_euler_tour` visits, as paths relative to the root of `t`: the root (`[]`), then for
      each child its own tour under the child's index followed by a return to the root. -/
  def tourPaths : RTree → List Path
    | .node cs => [] :: tourPathsList cs 0
  /-- The visits after the first one to the root, from the `i`-th child on. -/
  def tourPathsList : List RTree → Nat → List Path
    | [], _ => []
    | c :: cs, i => (tourPaths c).map (i :: ·) ++ [] :: tourPathsList cs (i + 1)
end

/-- The entry recorded for the node `p` when the tour was started at level
    `lvl` on the node of path `pre`. -/
def lift (lvl : Nat) (pre : Path) (p : Path) : TourEntry := (lvl + p.length, pre ++ p)

theorem lift_cons (lvl : Nat) (pre : Path) (i : Nat) (p : Path) :
    lift lvl pre (i :: p) = lift (lvl + 1) (pre ++ [i]) p := by
  simp [lift]
  omega

mutual
  theorem eulerTourFrom_eq : ∀ (t : RTree) (lvl : Nat) (pre : Path),
      eulerTourFrom t lvl pre = (tourPaths t).map (lift lvl pre)
    | .node [], lvl, pre => by simp [eulerTourFrom, tourPaths, tourPathsList, lift]
    | .node (c :: cs), lvl, pre => by
      rw [eulerTourFrom, eulerTourChildren_eq (c :: cs) lvl pre 0, tourPaths]
      simp [lift]
  theorem eulerTourChildren_eq : ∀ (cs : List RTree) (lvl : Nat) (pre : Path) (i : Nat),
      eulerTourChildren cs lvl pre i = (tourPathsList cs i).map (lift lvl pre)
    | [], lvl, pre, i => by simp [eulerTourChildren, tourPathsList]
    | c :: cs, lvl, pre, i => by
      rw [eulerTourChildren, eulerTourFrom_eq c, eulerTourChildren_eq cs, tourPathsList]
      simp only [List.map_append, List.map_map, List.map_cons]
      congr 1
      · apply List.map_congr_left
        intro p _
        simp [lift_cons]
      · simp [lift]
end

/-- The tour entry of a node: its level is the length of its path. -/
def entry (p : Path) : TourEntry := (p.length, p)

theorem eulerTour_eq (t : RTree) : eulerTour t = (tourPaths t).map entry := by
  rw [eulerTour, eulerTourFrom_eq]
  apply List.map_congr_left
  intro p _
  simp [lift, entry]

/-- Between any two positions `x ≤ y` of `T`, the longest common prefix of
    the two nodes occurs, and it is a prefix of everything in between. -/
def Inv (T : List Path) : Prop :=
  ∀ (x y : Nat) (u v : Path), x ≤ y → T[x]? = some u → T[y]? = some v →
    (∃ z, x ≤ z ∧ z ≤ y ∧ T[z]? = some (lcp u v)) ∧
    (∀ (z : Nat) (e : Path), x ≤ z → z ≤ y → T[z]? = some e → lcp u v <+: e)

theorem inv_map {T : List Path} (h : Inv T) (i : Nat) : Inv (T.map (i :: ·)) := by
  intro x y u v hxy hu hv
  simp only [List.getElem?_map, Option.map_eq_some_iff] at hu hv
  obtain ⟨u', hu', rfl⟩ := hu
  obtain ⟨v', hv', rfl⟩ := hv
  obtain ⟨⟨z, hz1, hz2, hz3⟩, hall⟩ := h x y u' v' hxy hu' hv'
  rw [lcp_cons_same]
  refine ⟨⟨z, hz1, hz2, by simp [hz3]⟩, ?_⟩
  intro z e h1 h2 he
  simp only [List.getElem?_map, Option.map_eq_some_iff] at he
  obtain ⟨e', he', rfl⟩ := he
  exact List.cons_prefix_cons.2 ⟨rfl, hall z e' h1 h2 he'⟩

theorem inv_root_cons {L : List Path} (h : Inv L) : Inv ([] :: L) := by
  intro x y u v hxy hu hv
  cases x with
  | zero =>
    cases hu
    rw [lcp_nil_left]
    exact ⟨⟨0, Nat.le_refl _, Nat.zero_le _, rfl⟩, fun _ _ _ _ _ => List.nil_prefix⟩
  | succ x =>
    cases y with
    | zero => exact absurd hxy (Nat.not_succ_le_zero _)
    | succ y =>
      obtain ⟨⟨z, hz1, hz2, hz3⟩, hall⟩ := h x y u v (Nat.le_of_succ_le_succ hxy) hu hv
      refine ⟨⟨z + 1, Nat.succ_le_succ hz1, Nat.succ_le_succ hz2, hz3⟩, fun z e h1 h2 he => ?_⟩
      cases z with
      | zero => exact absurd h1 (Nat.not_succ_le_zero _)
      | succ z => exact hall z e (Nat.le_of_succ_le_succ h1) (Nat.le_of_succ_le_succ h2) he

theorem inv_append {A R : List Path} (hA : Inv A) (hR : Inv ([] :: R))
    (hcross : ∀ u ∈ A, ∀ v ∈ R, lcp u v = []) : Inv (A ++ [] :: R) := by
  intro x y u v hxy hu hv
  by_cases hx : x < A.length
  · rw [List.getElem?_append_left hx] at hu
    by_cases hy : y < A.length
    · rw [List.getElem?_append_left hy] at hv
      obtain ⟨⟨z, hz1, hz2, hz3⟩, hall⟩ := hA x y u v hxy hu hv
      refine ⟨⟨z, hz1, hz2, ?_⟩, fun z e h1 h2 he => ?_⟩
      · rw [List.getElem?_append_left (Nat.lt_of_le_of_lt hz2 hy)]; exact hz3
      · rw [List.getElem?_append_left (Nat.lt_of_le_of_lt h2 hy)] at he
        exact hall z e h1 h2 he
    · -- `u` in `A`, `v` the root or in `R`: the root, at position `A.length`, is their lcp
      have hy' := Nat.le_of_not_lt hy
      have hnil : lcp u v = [] := by
        obtain ⟨k, rfl⟩ := Nat.exists_eq_add_of_le hy'
        rw [List.getElem?_append_right (Nat.le_add_right _ _), Nat.add_sub_cancel_left] at hv
        cases k with
        | zero =>
          cases hv
          exact lcp_nil_right u
        | succ k => exact hcross u (List.mem_of_getElem? hu) v (List.mem_of_getElem? hv)
      rw [hnil]
      exact ⟨⟨A.length, Nat.le_of_lt hx, hy', by simp⟩, fun _ _ _ _ _ => List.nil_prefix⟩
  · -- both positions in `[] :: R`, shifted by `A.length`
    obtain ⟨x', rfl⟩ := Nat.exists_eq_add_of_le (Nat.le_of_not_lt hx)
    obtain ⟨y', rfl⟩ := Nat.exists_eq_add_of_le (Nat.le_trans (Nat.le_add_right _ _) hxy)
    rw [List.getElem?_append_right (Nat.le_add_right _ _), Nat.add_sub_cancel_left] at hu hv
    obtain ⟨⟨z, hz1, hz2, hz3⟩, hall⟩ := hR x' y' u v (Nat.le_of_add_le_add_left hxy) hu hv
    refine ⟨⟨A.length + z, Nat.add_le_add_left hz1 _, Nat.add_le_add_left hz2 _, ?_⟩,
      fun z e h1 h2 he => ?_⟩
    · rw [List.getElem?_append_right (Nat.le_add_right _ _), Nat.add_sub_cancel_left]; exact hz3
    · obtain ⟨z', rfl⟩ := Nat.exists_eq_add_of_le (Nat.le_trans (Nat.le_add_right _ _) h1)
      rw [List.getElem?_append_right (Nat.le_add_right _ _), Nat.add_sub_cancel_left] at he
      exact hall z' e (Nat.le_of_add_le_add_left h1) (Nat.le_of_add_le_add_left h2) he

theorem tourPathsList_head : ∀ (cs : List RTree) (i : Nat), ∀ e ∈ tourPathsList cs i,
    e = [] ∨ ∃ j e', e = j :: e' ∧ i ≤ j
  | [], i, e, he => by simp [tourPathsList] at he
  | c :: cs, i, e, he => by
    simp only [tourPathsList, List.mem_append, List.mem_map, List.mem_cons] at he
    rcases he with ⟨e', _, rfl⟩ | rfl | he
    · exact Or.inr ⟨i, e', rfl, Nat.le_refl _⟩
    · exact Or.inl rfl
    · rcases tourPathsList_head cs (i + 1) e he with h | ⟨j, e', rfl, hj⟩
      · exact Or.inl h
      · exact Or.inr ⟨j, e', rfl, by omega⟩

mutual
  theorem tourPaths_inv : ∀ t : RTree, Inv (tourPaths t)
    | .node cs => by
      rw [tourPaths]
      exact tourPathsList_inv cs 0
  theorem tourPathsList_inv : ∀ (cs : List RTree) (i : Nat), Inv ([] :: tourPathsList cs i)
    | [], i => by
      rw [tourPathsList]
      exact inv_root_cons fun x y u v _ hu => by simp at hu
    | c :: cs, i => by
      rw [tourPathsList]
      apply inv_root_cons
      apply inv_append (inv_map (tourPaths_inv c) i) (tourPathsList_inv cs (i + 1))
      intro u hu v hv
      simp only [List.mem_map] at hu
      obtain ⟨u', _, rfl⟩ := hu
      rcases tourPathsList_head cs (i + 1) v hv with rfl | ⟨j, v', rfl, hj⟩
      · exact lcp_nil_right _
      · exact lcp_cons_ne (by omega) _ _
end

theorem mem_tourPathsList : ∀ (cs : List RTree) (j k : Nat) (c : RTree) (q : Path),
    cs[k]? = some c → q ∈ tourPaths c → (j + k) :: q ∈ tourPathsList cs j
  | [], j, k, c, q, h, _ => by simp at h
  | c' :: cs, j, 0, c, q, h, hq => by
    simp at h
    subst h
    simp only [tourPathsList, List.mem_append, List.mem_map]
    exact Or.inl ⟨q, hq, by simp⟩
  | c' :: cs, j, k + 1, c, q, h, hq => by
    simp only [List.getElem?_cons_succ] at h
    have := mem_tourPathsList cs (j + 1) k c q h hq
    simp only [tourPathsList, List.mem_append, List.mem_cons]
    refine Or.inr (Or.inr ?_)
    have e : j + (k + 1) = j + 1 + k := by omega
    rw [e]
    exact this

theorem mem_tourPaths_of_isNode : ∀ (p : Path) (t : RTree), t.isNode p = true → p ∈ tourPaths t
  | [], .node cs, _ => by simp [tourPaths]
  | i :: p, .node cs, h => by
    obtain ⟨c, hc, hq⟩ := (RTree.isNode_cons cs i p).1 h
    have := mem_tourPathsList cs 0 i c p hc (mem_tourPaths_of_isNode p c hq)
    rw [tourPaths]
    simpa using this

end Lca

end SR
