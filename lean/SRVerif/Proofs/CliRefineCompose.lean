/-
  C12 ∘ C08: `label_internal` → refinement → (re-parse) → `label_internal`, on name trees: for
  any binary refinement `B` of the labelled input tree (`IsRefinement`; the members of `binarize`,
  decoded, are such: `binarize_isRefinement`).

  `Same`: what re-parsing through Newick may do to a name — a given name is kept, an
  unnamed node stays unnamed (ete3 writes the empty name of a new node as `NoName`;
  both are "unnamed" for `label_internal`).  The clauses proved are the fields of `Refined`
  (names) and `RefinedCol` (colours).
-/
import SRVerif.Proofs.CliRefineBridge

namespace SR.Cli

open SR.Ser

/-- Re-parsing keeps given names and keeps unnamed nodes unnamed. -/
def Same (n n' : String) : Prop :=
  (isUnnamed n = false → n' = n) ∧ (isUnnamed n = true → isUnnamed n' = true)

theorem Same.refl (n : String) : Same n n := ⟨fun _ => rfl, fun h => h⟩

theorem same_keeps : ∀ n n', Same n n' → isUnnamed n = false → n' = n := fun _ _ h => h.1

theorem givenOf_of_same {l l' : List String} (h : Aligned Same l l') : givenOf l' = givenOf l := by
  induction h with
  | nil => rfl
  | @cons a b l₁ l₂ hr _ ih =>
    cases hu : isUnnamed a with
    | true => simpa [givenOf, List.filter_cons, hu, hr.2 hu] using ih
    | false =>
      obtain rfl := hr.1 hu
      simp only [givenOf, List.filter_cons, hu, Bool.not_false] at ih ⊢
      rw [ih]

theorem givenOf_eq_self {l : List String} (h : ∀ x ∈ l, isUnnamed x = false) : givenOf l = l := by
  unfold givenOf
  rw [List.filter_eq_self]
  intro x hx
  simp [h x hx]

theorem mem_givenOf {l : List String} {x : String} :
    x ∈ givenOf l ↔ x ∈ l ∧ isUnnamed x = false := by
  simp [givenOf, List.mem_filter]

/-- The statement of the composition.  `t` the input tree, `t₁` after the first
    `label_internal`, `b₁` a refinement after the second `label_internal`; nodes are
    (clade = leaf names below, name), `cn`, in pre-order. -/
structure Refined (pfx : String) (t t₁ b₁ : NT) : Prop where
  /-- (1) all names of the output tree are pairwise distinct … -/
  nodup : b₁.names.Nodup
  /-- … and none is empty or `NoName`. -/
  named : ∀ x ∈ b₁.names, isUnnamed x = false
  /-- (2) every node of the labelled input is found with the same clade and the same name … -/
  kept : ∀ x ∈ cn t₁, ∃ y ∈ cn b₁, y.1.Perm x.1 ∧ y.2 = x.2
  /-- … where the labelled input has the clades of the input, in the same pre-order
      positions, and the names `label_internal` computes from the input's names … -/
  first_clades : (cn t₁).map (·.1) = (cn t).map (·.1)
  first_names : t₁.names = labelNames pfx t.names
  /-- … in particular every node the user named keeps its name on the node with its clade. -/
  user : ∀ x ∈ cn t, isUnnamed x.2 = false → ∃ y ∈ cn b₁, y.1.Perm x.1 ∧ y.2 = x.2
  /-- (3) every node whose clade is not a clade of the input is called `pfx ++ k`, a name
      the labelled input does not use. -/
  fresh : ∀ y ∈ cn b₁, (∀ x ∈ cn t₁, ¬ y.1.Perm x.1) →
    ∃ k, y.2 = mkName pfx k ∧ mkName pfx k ∉ t₁.names
  /-- (4) the output tree is binary with the leaves of the input. -/
  binary : isBin b₁ = true
  leaves : (lvs b₁).Perm (lvs t)

theorem refine_compose (pfx : String) (t : NT) (hleaf : ∀ x ∈ lvs t, isUnnamed x = false)
    (hg : (given t).Nodup) (B : NT) (hB : IsRefinement (labelTree pfx t) B) (r : NT)
    (hr : Relab Same B r) : Refined pfx t (labelTree pfx t) (labelTree pfx r) := by
  -- first round: clades in place, names those of `labelNames`, all of them given and distinct
  have hk1 := labRel_keeps pfx t.names
  have hnames1 := names_labelTree pfx t
  have hnamed1 : ∀ x ∈ (labelTree pfx t).names, isUnnamed x = false :=
    hnames1 ▸ labelNames_named pfx t.names
  have hlvs1 := Relab.lvs_eq hk1 _ _ (labelTree_relab pfx t) hleaf
  have hcn1 := Relab.cn_aligned hk1 _ _ (labelTree_relab pfx t) hleaf
  -- the refinement, re-parsed
  have hleafB : ∀ x ∈ lvs B, isUnnamed x = false :=
    fun x hx => hleaf x (hlvs1 ▸ hB.leaves.mem_iff.mp hx)
  have hlvsR := Relab.lvs_eq same_keeps _ _ hr hleafB
  have hcnR := Relab.cn_aligned same_keeps _ _ hr hleafB
  have hgivenR : (given r).Perm (labelTree pfx t).names := by
    rw [show given r = given B from givenOf_of_same (Relab.names_aligned same_keeps hr hleafB),
      ← givenOf_eq_self hnamed1]
    exact hB.given
  have hleafR : ∀ x ∈ lvs r, isUnnamed x = false := hlvsR ▸ hleafB
  -- second round
  have hk2 := labRel_keeps pfx r.names
  have hnames2 := names_labelTree pfx r
  have hcn2 := Relab.cn_aligned hk2 _ _ (labelTree_relab pfx r) hleafR
  have hkept : ∀ x ∈ cn (labelTree pfx t), ∃ y ∈ cn (labelTree pfx r), y.1.Perm x.1 ∧ y.2 = x.2 := by
    intro x hx
    have hxn := hnamed1 _ (names_eq_cn _ ▸ List.mem_map_of_mem hx)
    obtain ⟨y, hy, hp1, he1⟩ := hB.keeps Prod.fst x (cn_eq_cg _ ▸ hx)
    obtain ⟨z, hz, hz1, hz2⟩ := hcnR.exists_right (cn_eq_cg _ ▸ hy)
    have hzy : z.2 = y.2 := hz2.1 (he1 ▸ hxn)
    obtain ⟨w, hw, hw1, hw2⟩ := hcn2.exists_right hz
    exact ⟨w, hw, by rw [hw1, hz1]; exact hp1, by rw [hw2.1 (by rw [hzy, he1]; exact hxn), hzy, he1]⟩
  refine
    { nodup := hnames2 ▸ labelNames_nodup pfx r.names
        (hgivenR.nodup_iff.mpr (hnames1 ▸ labelNames_nodup pfx t.names hg))
      named := hnames2 ▸ labelNames_named pfx r.names
      kept := hkept
      first_clades := Aligned.map_eq (hcn1.imp fun _ _ h => h.1)
      first_names := hnames1
      user := fun x hx hxn => ?_
      fresh := fun w hw hno => ?_
      binary := by
        rw [(Relab.arity _ _ (labelTree_relab pfx r)).1, (Relab.arity _ _ hr).1]; exact hB.binary
      leaves := by
        rw [Relab.lvs_eq hk2 _ _ (labelTree_relab pfx r) hleafR, hlvsR, ← hlvs1]; exact hB.leaves }
  · obtain ⟨y, hy, hy1, hy2⟩ := hcn1.exists_right hx
    obtain rfl : y = x := Prod.ext hy1 (hy2.1 hxn)
    exact hkept y hy
  · obtain ⟨z, hz, hz1, hz2⟩ := hcn2.exists_left hw
    obtain ⟨y, hy, hy1, hy2⟩ := hcnR.exists_left hz
    have hyu : isUnnamed y.2 = true := by
      refine Bool.not_eq_false _ ▸ fun hyn => ?_
      obtain ⟨x, hx, hpx, _⟩ := hB.from_input Prod.fst y (cn_eq_cg _ ▸ hy) fun h => by
        rw [h] at hyn; exact absurd hyn (by decide)
      exact hno x (cn_eq_cg _ ▸ hx) (by rw [hz1, hy1]; exact hpx)
    obtain ⟨k, hk, hfree⟩ := hz2.2 (hy2.2 hyu)
    exact ⟨k, hk, fun hmem => hfree (mem_givenOf.mp (hgivenR.mem_iff.mpr hmem)).1⟩

/-- The colour clauses of the composition (`ColourClauses` of `Properties/C12Refine.lean`, as a
    structure). -/
structure RefinedCol (t t₁ b₁ : NT) : Prop where
  first : cc t₁ = cc t
  kept : ∀ x ∈ cc t, ∃ y ∈ cc b₁, y.1.Perm x.1 ∧ y.2 = x.2
  from_input : ∀ y ∈ cc b₁, y.2 ≠ none → ∃ x ∈ cc t, y.1.Perm x.1 ∧ y.2 = x.2

theorem refine_colours (pfx : String) (t : NT) (hleaf : ∀ x ∈ lvs t, isUnnamed x = false)
    (B : NT) (hB : IsRefinement (labelTree pfx t) B) (r : NT) (hr : Relab Same B r) :
    RefinedCol t (labelTree pfx t) (labelTree pfx r) := by
  have hlvs1 := Relab.lvs_eq (labRel_keeps pfx t.names) _ _ (labelTree_relab pfx t) hleaf
  have hcc1 := Relab.cc_eq (labRel_keeps pfx t.names) _ _ (labelTree_relab pfx t) hleaf
  have hleafB : ∀ x ∈ lvs B, isUnnamed x = false :=
    fun x hx => hleaf x (hlvs1 ▸ hB.leaves.mem_iff.mp hx)
  have hleafR : ∀ x ∈ lvs r, isUnnamed x = false := by
    rw [Relab.lvs_eq same_keeps _ _ hr hleafB]; exact hleafB
  have hcc : cc (labelTree pfx r) = cc B :=
    (Relab.cc_eq (labRel_keeps pfx r.names) _ _ (labelTree_relab pfx r) hleafR).trans
      (Relab.cc_eq same_keeps _ _ hr hleafB)
  refine ⟨hcc1, ?_, ?_⟩ <;> rw [hcc, ← hcc1, cc_eq_cg, cc_eq_cg]
  · exact hB.keeps _
  · exact hB.from_input _

end SR.Cli
