/-
  What the plan of one step looks like: where the loss branches of a chain sit, which keys the
  node's own branch has, points to and consumes (`chain_valid`, `planOf_typed`, `planOf_own`).
  The key a loss branch points to (`chain_wired`) and the keys the node's own branch consumes
  (`planOf_own`) are top keys of a child's lineage in a definite species (`TopC`, `Top`); the
  pointers of a speciation branch are in `Proofs/BranchesWire` (`spec_wired`).  No state occurs here.
-/
import SRVerif.Proofs.LayoutStep

namespace SR.Layout

open SR

/-- The lineage a key belongs to: the object node itself, or the lineage of the pseudo-gene. -/
def Key.lin : Key → Path
  | .gene p => p
  | .loss g _ => g

/-- The object node whose step inserts the branch with this key: the node itself, or the parent of
    the lineage of a pseudo-gene. -/
def Key.owner : Key → Path
  | .gene p => p
  | .loss g _ => g.dropLast

theorem ev_hgt {s a b : Path} (h : internalEvent s a b = .hgt) :
    ¬ (Path.isAnc s a = true ∧ Path.isAnc s b = true) ∧
      (Path.isAnc s a = true ∨ Path.isAnc s b = true) := by
  have e := eventAt s a b
  rw [h] at e
  cases e with
  | hgtLeft hx hy _ => exact ⟨fun h => absurd (hy ▸ h.2) (by simp), .inl hx⟩
  | hgtRight hx _ hy => exact ⟨fun h => absurd (hx ▸ h.1) (by simp), .inr hy⟩

theorem chainTop_lin (g b : Path) (w : List Nat) : (chainTop g (.gene g) b w).lin = g := by
  cases w <;> rfl

theorem chain_valid {g : Path} {prev : Key} {b : Path} {w : List Nat} {e : Path × Branch}
    (he : e ∈ chainList g prev b w) :
    e.2.key = .loss g e.1 ∧ e.2.kind = .loss ∧ b <+: e.1 ∧ e.1 <+: b ++ w ∧ e.1 ≠ b ++ w := by
  obtain ⟨w1, i, w2, rfl, h1, h2⟩ := mem_chainList.1 (show (e.1, e.2) ∈ _ from he)
  rw [h2, h1]
  refine ⟨rfl, rfl, List.prefix_append _ _, ⟨i :: w2, by simp⟩, fun h => ?_⟩
  have := congrArg List.length h
  simp at this

/-- The species child `0` / `1` of an internal object node is mapped to. -/
def childSp : Sol → Nat → Option Path
  | .node _ _ l _, 0 => some l.sp
  | .node _ _ _ r, 1 => some r.sp
  | _, _ => none

/-- The node's own branch has the evaluator's kind; a transfer points to the
    transferred child and keeps the conserved one on its left. -/
def NodeBranch (s p : Path) (sub : Sol) (b : Branch) : Prop :=
  match sub with
  | .leaf _ _ => b.kind = .leaf
  | .node _ _ l r =>
    match internalEvent s l.sp r.sp with
    | .spec => b.kind = .spec
    | .dup => b.kind = .dup
    | .hgt => b.kind = .hgt ∧ ∃ k1, b.left = some k1 ∧
        ((Path.isAnc s l.sp = true ∧ k1.lin = p ++ [0] ∧ b.right = some (.gene (p ++ [1]))) ∨
         (Path.isAnc s l.sp = false ∧ k1.lin = p ++ [1] ∧ b.right = some (.gene (p ++ [0]))))
    | _ => False

/-- What the branches inserted by the step of node `p` (mapped to `s`) look like. -/
def StepTyped (s p : Path) (sub : Sol) (t : Path) (b : Branch) : Prop :=
  (b.kind = .loss ∧ ∃ i a, childSp sub i = some a ∧ b.key = .loss (p ++ [i]) t ∧
      t <+: a ∧ t ≠ a ∧ Path.isAnc s t = true ∧
      (∀ sp f l r, sub = .node sp f l r → internalEvent s l.sp r.sp = .spec → t ≠ s)) ∨
  (b.kind ≠ .loss ∧ t = s ∧ b.key = .gene p ∧ NodeBranch s p sub b)

theorem IsChild.childSp {sp : Path} {f : List Nat} {l r : Sol} {c : Nat} {a : Path}
    (h : IsChild l r c a) : childSp (.node sp f l r) c = some a := by
  rcases h with ⟨rfl, rfl⟩ | ⟨rfl, rfl⟩ <;> rfl

theorem childSp_subAt {sol : Sol} {p : Path} {sub : Sol} {i : Nat} {a : Path}
    (hp : subAt sol p = some sub) (hc : childSp sub i = some a) :
    ∃ ch, subAt sol (p ++ [i]) = some ch ∧ ch.sp = a := by
  match sub, i, hc with
  | .node _ _ l r, 0, hc =>
    simp only [childSp, Option.some.injEq] at hc; exact ⟨l, (subAt_child hp).1, hc⟩
  | .node _ _ l r, 1, hc =>
    simp only [childSp, Option.some.injEq] at hc; exact ⟨r, (subAt_child hp).2, hc⟩

/-- `kk` is the key that sits at the top of lineage `g` in species `c`:
    the child object node itself when `c` is its species `a`, otherwise the
    pseudo-gene of the chain in `c`. -/
def TopC (pl : List (Path × Branch)) (g a : Path) (kk : Key) (c : Path) : Prop :=
  kk.lin = g ∧ c <+: a ∧ ((kk = .gene g ∧ c = a) ∨ ∃ b', (c, b') ∈ pl ∧ b'.key = kk)

theorem TopC.mono {pl pl' : List (Path × Branch)} {g a : Path} {kk : Key} {c : Path}
    (h : TopC pl g a kk c) (hsub : ∀ e ∈ pl, e ∈ pl') : TopC pl' g a kk c := by
  obtain ⟨h1, h2, h3⟩ := h
  refine ⟨h1, h2, ?_⟩
  rcases h3 with h3 | ⟨b', hb', hk⟩
  · exact Or.inl h3
  · exact Or.inr ⟨b', hsub _ hb', hk⟩

/-- Every branch of the chain `pl` of lineage `g` (whose gene sits in `a`) is a loss branch at or
    below `s` that keeps, on side `j`, the top key of the lineage in the child species `e.1 ++ [j]`. -/
def LossW (pl : List (Path × Branch)) (g a s : Path) : Prop :=
  ∀ e ∈ pl, e.2.kind = .loss ∧ Path.isAnc s e.1 = true ∧ ∃ j kk,
    e.2.left = (if j = 0 then some kk else none) ∧ e.2.right = (if j = 1 then some kk else none) ∧
    TopC pl g a kk (e.1 ++ [j])

theorem chain_wired (g b0 : Path) (w : List Nat) {s : Path} (hs : s <+: b0) :
    LossW (chainList g (.gene g) b0 w) g (b0 ++ w) s ∧
      TopC (chainList g (.gene g) b0 w) g (b0 ++ w) (chainTop g (.gene g) b0 w) b0 := by
  -- the top key of the lineage in `b0 ++ w1`, for a split `w = w1 ++ w2`
  have top : ∀ w1 w2, w = w1 ++ w2 → TopC (chainList g (.gene g) b0 w) g (b0 ++ w)
      (chainTop g (.gene g) (b0 ++ w1) w2) (b0 ++ w1) := by
    intro w1 w2 hw
    refine ⟨by cases w2 <;> rfl, ⟨w2, by rw [hw, List.append_assoc]⟩, ?_⟩
    cases w2 with
    | nil => exact .inl ⟨rfl, by rw [hw, List.append_nil]⟩
    | cons i w2' => exact .inr ⟨_, mem_chainList.2 ⟨w1, i, w2', hw, rfl, rfl⟩, rfl⟩
  refine ⟨?_, ?_⟩
  · intro e he
    obtain ⟨w1, i, w2, hw, h1, h2⟩ := mem_chainList.1 (show (e.1, e.2) ∈ _ from he)
    rw [h2, h1]
    refine ⟨rfl, (Path.isAnc_iff_prefix _ _).2 (hs.trans (List.prefix_append _ _)), i, _, rfl, rfl, ?_⟩
    have := top (w1 ++ [i]) w2 (by rw [hw, List.append_assoc]; rfl)
    rw [← List.append_assoc] at this
    exact this
  · have := top [] w rfl
    rw [List.append_nil] at this
    exact this

/-- `kk` is the top key, in species `c`, of the lineage `p ++ [i]` of some child `i` of the node
    `(p, sub)`: `TopC` with the species `a` of that child. -/
def Top (pl : List (Path × Branch)) (p : Path) (sub : Sol) (kk : Key) (c : Path) : Prop :=
  ∃ i a, childSp sub i = some a ∧ TopC pl (p ++ [i]) a kk c

theorem chain_typed {s p sp : Path} {f : List Nat} {l r : Sol} {c : Nat} {a b : Path} {w : List Nat}
    (hc : IsChild l r c a) (ha : a = b ++ w) (hs : s <+: b)
    (hspec : internalEvent s l.sp r.sp = .spec → s.length < b.length) :
    ∀ e ∈ chainList (p ++ [c]) (.gene (p ++ [c])) b w, StepTyped s p (.node sp f l r) e.1 e.2 := by
  intro e he
  obtain ⟨hkey, hkind, hb, hpre, hne⟩ := chain_valid he
  refine Or.inl ⟨hkind, c, a, hc.childSp, hkey, ha ▸ hpre, ha ▸ hne,
    (Path.isAnc_iff_prefix _ _).2 (hs.trans hb), ?_⟩
  intro _ _ _ _ hn hE h
  cases hn
  have := hb.length_le
  rw [h] at this
  have := hspec hE
  omega

theorem planOf_typed {s p : Path} {sub : Sol} {pl : List (Path × Branch)} (h : PlanOf s p sub pl) :
    ∀ e ∈ pl, StepTyped s p sub e.1 e.2 := by
  intro e he
  cases h with
  | leaf sp f =>
    simp only [List.mem_singleton] at he
    subst he
    exact Or.inr ⟨by simp, rfl, rfl, by simp [NodeBranch]⟩
  | invalid => cases he
  | spec hE h1 h2 _ _ e1 e2 _ =>
    simp only [List.mem_append, List.mem_singleton] at he
    rcases he with he | he | rfl
    · exact chain_typed h1 (by rw [e1]; simp) (List.prefix_append _ _) (fun _ => by simp) e he
    · exact chain_typed h2 (by rw [e2]; simp) (List.prefix_append _ _) (fun _ => by simp) e he
    · exact Or.inr ⟨by simp, rfl, rfl, by simp [NodeBranch, hE]⟩
  | dup hE e1 e2 =>
    have hns : internalEvent s _ _ = .spec → s.length < s.length := fun h => by rw [hE] at h; cases h
    simp only [List.mem_append, List.mem_singleton] at he
    rcases he with he | he | rfl
    · exact chain_typed (.inl ⟨rfl, rfl⟩) e1 (List.prefix_refl _) hns e he
    · exact chain_typed (.inr ⟨rfl, rfl⟩) e2 (List.prefix_refl _) hns e he
    · exact Or.inr ⟨by simp, rfl, rfl, by simp [NodeBranch, hE]⟩
  | @hgt sp f l r c c' a w hE h1 hc hkeep e1 =>
    simp only [List.mem_append, List.mem_singleton] at he
    rcases he with he | rfl
    · exact chain_typed h1 e1 (List.prefix_refl _) (fun h => by rw [hE] at h; cases h) e he
    · refine Or.inr ⟨by simp, rfl, rfl, ?_⟩
      have l0 := chainTop_lin (p ++ [c]) s w
      simp only [NodeBranch, hE]
      refine ⟨trivial, _, rfl, ?_⟩
      rcases h1 with ⟨rfl, rfl⟩ | ⟨rfl, rfl⟩
      · have : c' = 1 := by omega
        subst this
        exact Or.inl ⟨hkeep.1 rfl, l0, rfl⟩
      · have : c' = 0 := by omega
        subst this
        have hk : Path.isAnc s l.sp = false :=
          Bool.eq_false_iff.2 fun h => absurd (hkeep.2 h) (by simp)
        exact Or.inr ⟨hk, l0, rfl⟩

theorem nodePlan_typed (s p : Path) (sub : Sol) :
    ∀ e ∈ nodePlan s p sub, StepTyped s p sub e.1 e.2 := planOf_typed (planOf s p sub)

theorem StepTyped.owner {s p : Path} {sub : Sol} {t : Path} {b : Branch} (h : StepTyped s p sub t b) :
    b.key.owner = p := by
  rcases h with ⟨_, i, _, _, hk, _⟩ | ⟨_, _, hk, _⟩
  · rw [hk]; simp [Key.owner]
  · rw [hk]; rfl

theorem planOf_invalid {s p : Path} {sub : Sol} {pl : List (Path × Branch)} (h : PlanOf s p sub pl)
    (hv : ¬ Planned s sub) : pl = [] := by
  cases h with
  | invalid => rfl
  | leaf => exact absurd trivial hv
  | spec hE => exact absurd (by simp [Planned, hE]) hv
  | dup hE => exact absurd (by simp [Planned, hE]) hv
  | hgt hE => exact absurd (by simp [Planned, hE]) hv

theorem planOf_own {s p : Path} {sub : Sol} {pl : List (Path × Branch)} (h : PlanOf s p sub pl)
    (hv : Planned s sub) :
    ∃ pl' nb, pl = pl' ++ [(s, nb)] ∧ (∀ e ∈ pl', e.2.kind = .loss) ∧ nb.key = .gene p ∧
      (consumes nb).Nodup ∧ (∀ k ∈ consumes nb, Top pl' p sub k s) ∧
      (nb.kind = .dup → nb.left.isSome ∧ nb.right.isSome) ∧ (nb.kind = .hgt → nb.left.isSome) := by
  have loss : ∀ {g : Path} {q : Key} {b : Path} {w : List Nat}, ∀ e ∈ chainList g q b w,
      e.2.kind = .loss := fun e he => (chain_valid he).2.1
  -- the top key of the chain of child `c` (mapped to `s ++ w`) down to `s`
  have top : ∀ {c : Nat} {a : Path} {w : List Nat} {pl1 : List (Path × Branch)},
      childSp sub c = some a → a = s ++ w →
      (∀ e ∈ chainList (p ++ [c]) (.gene (p ++ [c])) s w, e ∈ pl1) →
      Top pl1 p sub (chainTop (p ++ [c]) (.gene (p ++ [c])) s w) s := by
    intro c a w pl1 hc ha hsub
    refine ⟨c, a, hc, ?_⟩
    rw [ha]
    exact (chain_wired (p ++ [c]) s w (List.prefix_refl s)).2.mono hsub
  cases h with
  | invalid hE => exact absurd hE hv
  | leaf sp f => exact ⟨[], _, rfl, by simp, rfl, List.nodup_nil, by simp [consumes], by simp, by simp⟩
  | spec =>
    refine ⟨_, _, (List.append_assoc ..).symm, ?_, rfl, List.nodup_nil, by simp [consumes],
      by simp, by simp⟩
    intro e he
    rcases List.mem_append.1 he with he | he
    · exact loss e he
    · exact loss e he
  | @dup _ _ _ _ w1 w2 hE e1 e2 =>
    have hne : chainTop (p ++ [0]) (.gene (p ++ [0])) s w1 ≠
        chainTop (p ++ [1]) (.gene (p ++ [1])) s w2 := by
      intro h
      have := congrArg Key.lin h
      rw [chainTop_lin, chainTop_lin] at this
      simpa using (List.append_inj' this rfl).2
    refine ⟨_, _, (List.append_assoc ..).symm, ?_, rfl, (show [_, _].Nodup by simp [hne]),
      ?_, fun _ => ⟨rfl, rfl⟩, by simp⟩
    · intro e he
      rcases List.mem_append.1 he with he | he
      · exact loss e he
      · exact loss e he
    · intro k (hk : k ∈ [_, _])
      simp only [List.mem_cons, List.not_mem_nil, or_false] at hk
      rcases hk with rfl | rfl
      · exact top (c := 0) rfl e1 fun e he => List.mem_append_left _ he
      · exact top (c := 1) rfl e2 fun e he => List.mem_append_right _ he
  | @hgt _ _ _ _ c _ a w hE h1 _ hkeep e1 =>
    refine ⟨_, _, rfl, fun e he => loss e he, rfl, (show [_].Nodup by simp), ?_, by simp,
      fun _ => rfl⟩
    intro k (hk : k ∈ [_])
    simp only [List.mem_singleton] at hk
    subst hk
    exact top h1.childSp e1 fun _ he => he

end SR.Layout
