/-
  Soundness of BUILD (`tree_from_triples`): the returned tree has the given leaves, displays every
  triple lying inside the leaf set and has no empty clade (`Good`).  The triples are read as `unite`
  operations on leaf positions, so the classes of the partition are those of `Conn`; read on names
  they are the blocks of BUILD's level (`blocks_spec`, `blocks_least`), and a node over such blocks
  is `Good` (`node_good`).
-/
import SRVerif.Proofs.DisjointSetBinaryPerm
import SRVerif.Proofs.TriplesClades

namespace SR.Tri

open SR SR.DS LTree Spec

theorem inside_iff (ls : List Nat) (tr : Triple) :
    inside ls tr = true ↔ tr.1 ∈ ls ∧ tr.2.1 ∈ ls ∧ tr.2.2 ∈ ls := by
  simp [inside, and_assoc]

/-- Pointwise relation between two lists. -/
inductive All2 {α β : Type} (R : α → β → Prop) : List α → List β → Prop
  | nil : All2 R [] []
  | cons {a : α} {b : β} {as : List α} {bs : List β} : R a b → All2 R as bs → All2 R (a :: as) (b :: bs)

theorem All2.left {α β : Type} {R : α → β → Prop} {as : List α} {bs : List β} (h : All2 R as bs)
    {a : α} (ha : a ∈ as) : ∃ b, b ∈ bs ∧ R a b := by
  induction h with
  | nil => cases ha
  | cons hr _ ih =>
    rcases List.mem_cons.mp ha with rfl | ha
    · exact ⟨_, by simp, hr⟩
    · obtain ⟨b, hb, hrb⟩ := ih ha
      exact ⟨b, by simp [hb], hrb⟩

theorem All2.right {α β : Type} {R : α → β → Prop} {as : List α} {bs : List β} (h : All2 R as bs)
    {b : β} (hb : b ∈ bs) : ∃ a, a ∈ as ∧ R a b := by
  induction h with
  | nil => cases hb
  | cons hr _ ih =>
    rcases List.mem_cons.mp hb with rfl | hb
    · exact ⟨_, by simp, hr⟩
    · obtain ⟨a, ha, hra⟩ := ih hb
      exact ⟨a, by simp [ha], hra⟩

theorem all2_of_mapM {α β : Type} {f : α → Option β} : ∀ {as : List α} {bs : List β},
    as.mapM f = some bs → All2 (fun a b => f a = some b) as bs := by
  intro as
  induction as with
  | nil => intro bs h; simp at h; subst h; exact All2.nil
  | cons a as ih =>
    intro bs h
    rw [List.mapM_cons] at h
    cases hfa : f a with
    | none => simp [hfa] at h
    | some b =>
      cases hrest : as.mapM f with
      | none => simp [hfa, hrest] at h
      | some bs' =>
        simp [hfa, hrest] at h
        subst h
        exact All2.cons hfa (ih hrest)

/-- `t` is a correct answer for the leaf list `ls`. -/
structure Good (triples : List Triple) (ls : List Nat) (t : LTree) : Prop where
  nodup : t.leaves.Nodup
  mem : ∀ x, x ∈ t.leaves ↔ x ∈ ls
  disp : ∀ tr, tr ∈ triples → inside ls tr = true → displays t tr = true
  ne : ∀ C, C ∈ clades t → C ≠ []

theorem node_good {triples : List Triple} {l : List Nat} {Ls : List (List Nat)} {cs : List LTree}
    (hdis : Ls.Pairwise (fun A B => ∀ x, x ∈ A → x ∉ B))
    (hcov : ∀ x, x ∈ l ↔ ∃ L, L ∈ Ls ∧ x ∈ L)
    (hpair : ∀ tr, tr ∈ triples → inside l tr = true → ∃ L, L ∈ Ls ∧ tr.1 ∈ L ∧ tr.2.1 ∈ L)
    (hcs : All2 (Good triples) Ls cs) (hne : l ≠ []) : Good triples l (.node cs) := by
  have hmem : ∀ x, x ∈ leavesL cs ↔ x ∈ l := by
    intro x
    rw [mem_leavesL, hcov]
    constructor
    · rintro ⟨c, hc, hx⟩
      obtain ⟨L, hL, hg⟩ := hcs.right hc
      exact ⟨L, hL, (hg.mem x).mp hx⟩
    · rintro ⟨L, hL, hx⟩
      obtain ⟨c, hc, hg⟩ := hcs.left hL
      exact ⟨c, hc, (hg.mem x).mpr hx⟩
  refine ⟨?_, hmem, ?_, ?_⟩
  · show (leavesL cs).Nodup
    clear hcov hpair hmem
    induction hcs with
    | nil => simp [leavesL]
    | @cons L c Ls cs hg _ ih =>
      rw [List.pairwise_cons] at hdis
      simp only [leavesL]
      rw [List.nodup_append]
      refine ⟨hg.nodup, ih hdis.2, ?_⟩
      intro a ha b hb hab
      subst hab
      obtain ⟨c', hc', hx⟩ := mem_leavesL.mp hb
      rename_i hrest
      obtain ⟨L', hL', hg'⟩ := hrest.right hc'
      exact hdis.1 L' hL' a ((hg.mem a).mp ha) ((hg'.mem a).mp hx)
  · intro tr htr hin
    obtain ⟨ha, hb, hc⟩ := (inside_iff l tr).mp hin
    obtain ⟨L, hL, haL, hbL⟩ := hpair tr htr hin
    obtain ⟨c, hcm, hg⟩ := hcs.left hL
    rw [displays_iff]
    refine ⟨(hmem _).mpr ha, (hmem _).mpr hb, (hmem _).mpr hc, ?_⟩
    by_cases hcL : tr.2.2 ∈ L
    · have := hg.disp tr htr ((inside_iff L tr).mpr ⟨haL, hbL, hcL⟩)
      obtain ⟨_, _, _, C, hC, h1, h2, h3⟩ := (displays_iff c tr).mp this
      exact ⟨C, (mem_clades_node cs C).mpr (Or.inr ⟨c, hcm, hC⟩), h1, h2, h3⟩
    · exact ⟨c.leaves, (mem_clades_node cs _).mpr (Or.inr ⟨c, hcm, leaves_mem_clades c⟩),
        (hg.mem _).mpr haL, (hg.mem _).mpr hbL, fun h => hcL ((hg.mem _).mp h)⟩
  · intro C hC
    rcases (mem_clades_node cs C).mp hC with rfl | ⟨c, hc, hCc⟩
    · obtain ⟨x, hx⟩ := List.exists_mem_of_ne_nil _ hne
      exact List.ne_nil_of_mem ((hmem x).mpr hx)
    · obtain ⟨L, _, hg⟩ := hcs.right hc
      exact hg.ne C hCc

theorem All2.imp_mem {α β : Type} {R S : α → β → Prop} {as : List α} {bs : List β}
    (h : All2 R as bs) (himp : ∀ a, a ∈ as → ∀ b, R a b → S a b) : All2 S as bs := by
  induction h with
  | nil => exact All2.nil
  | cons hr _ ih =>
    exact All2.cons (himp _ (by simp) _ hr) (ih (fun a ha b hab => himp a (by simp [ha]) b hab))

theorem All2.map_left {α β γ : Type} {R : γ → β → Prop} {f : α → γ} {as : List α} {bs : List β}
    (h : All2 (fun a b => R (f a) b) as bs) : All2 R (as.map f) bs := by
  induction h with
  | nil => exact All2.nil
  | cons hr _ ih => exact All2.cons hr ih

theorem All2.length_eq {α β : Type} {R : α → β → Prop} {as : List α} {bs : List β}
    (h : All2 R as bs) : as.length = bs.length := by
  induction h with
  | nil => rfl
  | cons _ _ ih => simp [ih]

theorem mem_groupLeaves {l g : List Nat} {x : Nat} :
    x ∈ groupLeaves l g ↔ ∃ i, i ∈ g ∧ l.getD i 0 = x := by
  simp [groupLeaves]

def tripleOp (l : List Nat) (t : Triple) : Op := .unite (l.idxOf t.1) (l.idxOf t.2.1)

theorem partitionOf_eq_run (l : List Nat) (trs : List Triple) :
    partitionOf l trs = run l.length (trs.map (tripleOp l)) := by
  simp only [partitionOf, run, List.foldl_map]
  rfl

theorem pairsOf_tripleOps (l : List Nat) (trs : List Triple) :
    pairsOf (trs.map (tripleOp l)) = trs.map (fun t => (l.idxOf t.1, l.idxOf t.2.1)) := by
  induction trs with
  | nil => rfl
  | cons t trs ih => simp [tripleOp, pairsOf, ← ih]

/-- The triples never name an unknown leaf in first or second position
    (otherwise the Python code raises `KeyError`).  With `l.Nodup` and `Proper` this is
    `SR.C20.Scope` of the Properties files. -/
def Known (l : List Nat) (trs : List Triple) : Prop := ∀ tr, tr ∈ trs → tr.1 ∈ l ∧ tr.2.1 ∈ l

theorem partitionOf_inv {l : List Nat} {trs : List Triple} (hk : Known l trs) :
    Inv l.length (partitionOf l trs) (trs.map (fun t => (l.idxOf t.1, l.idxOf t.2.1))) := by
  rw [partitionOf_eq_run, ← pairsOf_tripleOps]
  apply inv_run
  intro op hop
  obtain ⟨t, ht, rfl⟩ := List.mem_map.mp hop
  exact ⟨List.idxOf_lt_length_iff.mpr (hk t ht).1, List.idxOf_lt_length_iff.mpr (hk t ht).2⟩

theorem conn_names {l : List Nat} {trs : List Triple} (hk : Known l trs) {R : Nat → Nat → Prop}
    (r1 : ∀ x, R x x) (r2 : ∀ x y, R x y → R y x) (r3 : ∀ x y z, R x y → R y z → R x z)
    (hR : ∀ tr, tr ∈ trs → R tr.1 tr.2.1) {i j : Nat}
    (h : Conn (trs.map (fun t => (l.idxOf t.1, l.idxOf t.2.1))) i j) :
    R (l.getD i 0) (l.getD j 0) :=
  h.least (R := fun i j => R (l.getD i 0) (l.getD j 0)) (fun _ => r1 _) (fun _ _ => r2 _ _)
    (fun _ _ _ => r3 _ _ _) (fun a b hm => by
      obtain ⟨tr, htr, heq⟩ := List.mem_map.mp hm
      simp only [Prod.mk.injEq] at heq
      obtain ⟨rfl, rfl⟩ := heq
      rw [List.getD_idxOf (hk tr htr).1, List.getD_idxOf (hk tr htr).2]
      exact hR tr htr)

theorem mem_groupLeaves_iff {l g : List Nat} (hl : l.Nodup) (hg : ∀ i, i ∈ g → i < l.length) {x : Nat} :
    x ∈ groupLeaves l g ↔ x ∈ l ∧ l.idxOf x ∈ g := by
  rw [mem_groupLeaves]
  constructor
  · rintro ⟨i, hi, rfl⟩
    exact ⟨List.getD_mem (hg i hi), by rwa [List.idxOf_getD hl (hg i hi)]⟩
  · rintro ⟨hx, hi⟩
    exact ⟨_, hi, List.getD_idxOf hx⟩

theorem nodup_groupLeaves {l g : List Nat} (hl : l.Nodup) (hg : ∀ i, i ∈ g → i < l.length)
    (hs : g.Pairwise (· < ·)) : (groupLeaves l g).Nodup := by
  unfold groupLeaves
  rw [List.Nodup, List.pairwise_map]
  refine List.Pairwise.imp_of_mem ?_ hs
  intro i j hi hj hij heq
  have : i = j := by rw [← List.idxOf_getD hl (hg i hi), heq, List.idxOf_getD hl (hg j hj)]
  omega

/-- BUILD's level, on names: the groups of the partition are pairwise disjoint, duplicate-free,
    non-empty blocks that cover `l` and hold the first two leaves of every triple together.
    (`gs` only names the list of groups, which the statement mentions five times; users pass
    `_ rfl`.) -/
theorem blocks_spec {l : List Nat} {trs : List Triple} (hl : l.Nodup) (hk : Known l trs) :
    ∀ gs, gs = (partitionOf l trs).toList.2 →
    (gs.map (groupLeaves l)).Pairwise (fun A B => ∀ x, x ∈ A → x ∉ B) ∧
    (∀ x, x ∈ l ↔ ∃ L, L ∈ gs.map (groupLeaves l) ∧ x ∈ L) ∧
    (∀ tr, tr ∈ trs → inside l tr = true → ∃ L, L ∈ gs.map (groupLeaves l) ∧ tr.1 ∈ L ∧ tr.2.1 ∈ L) ∧
    (∀ g, g ∈ gs → (groupLeaves l g).Nodup ∧ groupLeaves l g ≠ []) ∧
    (partitionOf l trs).groups = gs.length := by
  rintro gs rfl
  have hI := partitionOf_inv hk
  have hC := toList_isClassList hI.wf
  have hlt : ∀ g, g ∈ (partitionOf l trs).toList.2 → ∀ i, i ∈ g → i < l.length := by
    intro g hg i hi
    obtain ⟨r, _, _, hm⟩ := hC.isClass g hg
    exact hI.size ▸ ((hm i).mp hi).1
  have hcov : ∀ x, x ∈ l → ∃ g, g ∈ (partitionOf l trs).toList.2 ∧ l.idxOf x ∈ g := fun x hx =>
    hC.cover _ (hI.size ▸ List.idxOf_lt_length_iff.mpr hx)
  refine ⟨?_, fun x => ⟨fun hx => ?_, ?_⟩, fun tr htr hin => ?_,
    fun g hg => ⟨nodup_groupLeaves hl (hlt g hg) (hC.sorted g hg), by simpa [groupLeaves] using hC.ne hg⟩,
    by rw [hC.length, hI.wf.grp]⟩
  · rw [List.pairwise_map]
    refine List.Pairwise.imp_of_mem ?_ hC.disjoint
    intro g g' hg hg' hd x hx hx'
    exact hd _ ((mem_groupLeaves_iff hl (hlt g hg)).mp hx).2 ((mem_groupLeaves_iff hl (hlt g' hg')).mp hx').2
  · obtain ⟨g, hg, hig⟩ := hcov x hx
    exact ⟨_, List.mem_map.mpr ⟨g, hg, rfl⟩, (mem_groupLeaves_iff hl (hlt g hg)).mpr ⟨hx, hig⟩⟩
  · rintro ⟨L, hL, hx⟩
    obtain ⟨g, hg, rfl⟩ := List.mem_map.mp hL
    exact ((mem_groupLeaves_iff hl (hlt g hg)).mp hx).1
  · obtain ⟨ha, hb, _⟩ := (inside_iff l tr).mp hin
    obtain ⟨g, hg, hig⟩ := hcov _ ha
    have hjg := (hC.same_iff hg hig (hI.size ▸ List.idxOf_lt_length_iff.mpr hb)).mpr
      ((hI.same _ _).mpr (Conn.base (List.mem_map.mpr ⟨tr, htr, rfl⟩)))
    exact ⟨_, List.mem_map.mpr ⟨g, hg, rfl⟩, (mem_groupLeaves_iff hl (hlt g hg)).mpr ⟨ha, hig⟩,
      (mem_groupLeaves_iff hl (hlt g hg)).mpr ⟨hb, hjg⟩⟩

/-- The blocks are the finest such. -/
theorem blocks_least {l : List Nat} {trs : List Triple} (hk : Known l trs) {R : Nat → Nat → Prop}
    (r1 : ∀ x, R x x) (r2 : ∀ x y, R x y → R y x) (r3 : ∀ x y z, R x y → R y z → R x z)
    (hR : ∀ tr, tr ∈ trs → R tr.1 tr.2.1) {g : List Nat} (hg : g ∈ (partitionOf l trs).toList.2)
    {x y : Nat} (hx : x ∈ groupLeaves l g) (hy : y ∈ groupLeaves l g) : R x y := by
  have hI := partitionOf_inv hk
  have hC := toList_isClassList hI.wf
  obtain ⟨i, hi, rfl⟩ := mem_groupLeaves.mp hx
  obtain ⟨j, hj, rfl⟩ := mem_groupLeaves.mp hy
  obtain ⟨r, _, _, hm⟩ := hC.isClass g hg
  exact conn_names hk r1 r2 r3 hR
    ((hI.same i j).mp ((hC.same_iff hg hi ((hm j).mp hj).1).mp hj))

def Proper (trs : List Triple) : Prop := ∀ tr, tr ∈ trs → proper tr = true

theorem good_leaf {trs : List Triple} (hp : Proper trs) (a : Nat) : Good trs [a] (.leaf a) := by
  refine ⟨by simp [leaves], fun x => by simp [leaves], ?_, by simp [clades]⟩
  intro tr htr hin
  obtain ⟨h1, h2, h3⟩ := (proper_iff tr).mp (hp tr htr)
  obtain ⟨i1, i2, i3⟩ := (inside_iff _ tr).mp hin
  simp only [List.mem_singleton] at i1 i2 i3
  omega

/-- `(A, B)` cuts `l` in two non-empty parts, and no triple inside `l` has its first two
    leaves apart: what a two-child root over `l` has to satisfy. -/
structure IsSplit (l : List Nat) (trs : List Triple) (A B : List Nat) : Prop where
  nodupA : A.Nodup
  nodupB : B.Nodup
  neA : A ≠ []
  neB : B ≠ []
  disj : ∀ x, x ∈ A → x ∉ B
  cover : ∀ x, x ∈ l ↔ x ∈ A ∨ x ∈ B
  resp : ∀ tr, tr ∈ trs → inside l tr = true → (tr.1 ∈ A ∧ tr.2.1 ∈ A) ∨ (tr.1 ∈ B ∧ tr.2.1 ∈ B)

theorem IsSplit.symm {l : List Nat} {trs : List Triple} {A B : List Nat} (h : IsSplit l trs A B) :
    IsSplit l trs B A :=
  ⟨h.nodupB, h.nodupA, h.neB, h.neA, fun x hb ha => h.disj x ha hb, fun x => (h.cover x).trans Or.comm,
    fun tr htr hin => (h.resp tr htr hin).symm⟩

theorem IsSplit.other {l : List Nat} {trs : List Triple} {A B : List Nat} (h : IsSplit l trs A B)
    {q : Nat → Prop} (hq : ∀ x, x ∈ l → (x ∈ A ↔ q x)) {x : Nat} (hx : x ∈ l) : x ∈ B ↔ ¬ q x := by
  rw [← hq x hx]
  exact ⟨fun hb ha => h.disj x ha hb, fun hna => ((h.cover x).mp hx).resolve_left hna⟩

theorem IsSplit.length_lt {l : List Nat} {trs : List Triple} {A B : List Nat} (h : IsSplit l trs A B)
    (hl : l.Nodup) : A.length < l.length ∧ B.length < l.length := by
  have hperm : (A ++ B).Perm l :=
    (List.perm_ext_iff_of_nodup
      (List.nodup_append.mpr ⟨h.nodupA, h.nodupB, fun a ha b hb hab => h.disj a ha (hab ▸ hb)⟩) hl).mpr
      (fun x => by rw [List.mem_append, h.cover])
  have := hperm.length_eq
  have := List.length_pos_iff.mpr h.neA
  have := List.length_pos_iff.mpr h.neB
  simp only [List.length_append] at *
  omega

theorem IsSplit.good {l : List Nat} {trs : List Triple} {A B : List Nat} (h : IsSplit l trs A B)
    {t0 t1 : LTree} (h0 : Good trs A t0) (h1 : Good trs B t1) : Good trs l (.node [t0, t1]) := by
  apply node_good (Ls := [A, B])
  · simpa using h.disj
  · intro x; rw [h.cover]; simp
  · intro tr htr hin
    rcases h.resp tr htr hin with h | h
    · exact ⟨_, by simp, h⟩
    · exact ⟨_, by simp, h⟩
  · exact All2.cons h0 (All2.cons h1 All2.nil)
  · obtain ⟨x, hx⟩ := List.exists_mem_of_ne_nil _ h.neA
    exact List.ne_nil_of_mem ((h.cover x).mpr (Or.inl hx))

/-- Two leaves: no proper triple lies inside (three different leaves among two). -/
theorem isSplit_two {trs : List Triple} (hp : Proper trs) {a b : Nat} (hab : a ≠ b) :
    IsSplit [a, b] trs [a] [b] := by
  refine ⟨by simp, by simp, by simp, by simp, by simpa using hab, by simp, fun tr htr hin => ?_⟩
  obtain ⟨h1, h2, h3⟩ := (proper_iff tr).mp (hp tr htr)
  obtain ⟨i1, i2, i3⟩ := (inside_iff _ tr).mp hin
  simp only [List.mem_cons, List.not_mem_nil, or_false] at i1 i2 i3
  rcases i1 with e1 | e1 <;> rcases i2 with e2 | e2
  · exact absurd (e1.trans e2.symm) h1
  · rcases i3 with e3 | e3
    · exact absurd (e1.trans e3.symm) h2
    · exact absurd (e2.trans e3.symm) h3
  · rcases i3 with e3 | e3
    · exact absurd (e2.trans e3.symm) h3
    · exact absurd (e1.trans e3.symm) h2
  · exact absurd (e1.trans e2.symm) h1

theorem good_cherry {trs : List Triple} (hp : Proper trs) {a b : Nat} (hab : a ≠ b) :
    Good trs [a, b] (.node [.leaf a, .leaf b]) :=
  (isSplit_two hp hab).good (good_leaf hp a) (good_leaf hp b)

theorem known_filter (L : List Nat) (trs : List Triple) : Known L (trs.filter (inside L)) := by
  intro tr htr
  have := (inside_iff L tr).mp (List.mem_filter.mp htr).2
  exact ⟨this.1, this.2.1⟩

theorem proper_filter {trs : List Triple} (hp : Proper trs) (q : Triple → Bool) :
    Proper (trs.filter q) := fun tr htr => hp tr (List.mem_filter.mp htr).1

theorem good_of_filter {trs : List Triple} {L : List Nat} {t : LTree}
    (h : Good (trs.filter (inside L)) L t) : Good trs L t :=
  ⟨h.nodup, h.mem, fun tr htr hin => h.disp tr (List.mem_filter.mpr ⟨htr, hin⟩) hin, h.ne⟩

theorem build_good : ∀ (fuel : Nat) (l : List Nat) (trs : List Triple) (t : LTree),
    l.Nodup → Known l trs → Proper trs → build fuel l trs = some t → Good trs l t := by
  intro fuel
  induction fuel with
  | zero => intro l trs t _ _ _ h; simp [build] at h
  | succ fuel ih =>
    intro l trs t hl hk hp h
    match l, hl, hk, h with
    | [], _, _, h => simp [build] at h
    | [a], _, _, h =>
      simp only [build, Option.some.injEq] at h
      subst h; exact good_leaf hp a
    | [a, b], hl, _, h =>
      simp only [build, Option.some.injEq] at h
      subst h
      exact good_cherry hp (by simpa using hl)
    | a :: b :: c :: rest, hl, hk, h =>
      simp only [build] at h
      generalize hl' : a :: b :: c :: rest = l at *
      by_cases hg : (partitionOf l trs).groups ≤ 1
      · simp [hg] at h
      · simp only [hg, if_false, Option.map_eq_some_iff] at h
        obtain ⟨cs, hcs, rfl⟩ := h
        obtain ⟨q1, q2, q3, q4, _⟩ := blocks_spec hl hk _ rfl
        apply node_good q1 q2 q3
        · apply All2.map_left
          refine (all2_of_mapM hcs).imp_mem ?_
          intro g hgm c hc
          exact good_of_filter (ih _ _ c (q4 g hgm).1 (known_filter _ _) (proper_filter hp _) hc)
        · rw [← hl']; simp

theorem treeFromTriples_good {l : List Nat} {trs : List Triple} {t : LTree}
    (hl : l.Nodup) (hk : Known l trs) (hp : Proper trs) (h : treeFromTriples l trs = some t) :
    Good trs l t := build_good _ l trs t hl hk hp h

end SR.Tri
