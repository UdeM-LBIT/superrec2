/-
  C09 for the label DP.  Two algebras of the same shape (`SameShape`: same leaf labels, labels,
  allowed species) with two cost vectors have the same admissible labellings (`adm_congr`), and
  facts on the edge charges lift to the generic cost (`labCost_scale`, `labCost_mono`).  Since a
  solver's table minimum is the minimum of the generic cost over its candidates
  (`DPSolver.tableMin_le`, `tableMin_attained`), that is all the table clauses need:
  `DPSolver.cand_of_dearer` feeds `tableMin_le_of_cands` (pointwise dearer costs: no smaller
  minimum), `DPSolver.tableMin_scale` is the scaling clause.
-/
import SRVerif.Proofs.DPSolver
import SRVerif.Spec.EventLog

namespace SR

open Cost Path SR.EventLog

theorem gl_scale {k : Nat} (hk : 0 < k) (c : Costs) (s x y : Path) (cvx svx cvy svy : Cost) :
    gl (scaleCosts k c) s x (scale k cvx) (scale k svx) y (scale k cvy) (scale k svy)
      = scale k (gl c s x cvx svx y cvy svy) := by
  unfold gl
  cases internalEvent s x y <;> simp only []
  · rfl
  · rfl
  · simp only [scaleCosts, scale_add, scale_fin, Nat.mul_assoc]
  · simp only [scaleCosts, ← scale_min hk, scale_add, scale_fin, Nat.mul_assoc]
  · split <;> simp only [scaleCosts, scale_add, scale_fin, Nat.mul_assoc]

theorem gl_mono {c d : Costs} (h : leCosts c d) (s x y : Path)
    {cvx svx cvy svy cvx' svx' cvy' svy' : Cost}
    (h1 : cvx ≼ cvx') (h2 : svx ≼ svx') (h3 : cvy ≼ cvy') (h4 : svy ≼ svy') :
    gl c s x cvx svx y cvy svy ≼ gl d s x cvx' svx' y cvy' svy' := by
  obtain ⟨g1, g2, g3, g4, _⟩ := h
  have fl : ∀ n, Cost.fin (c.floss * n) ≼ Cost.fin (d.floss * n) :=
    fun n => (Cost.fin_le_fin _ _).mpr (Nat.mul_le_mul_right n g4)
  unfold gl
  cases internalEvent s x y <;> simp only []
  · exact le_refl _
  · exact le_refl _
  · exact add_le_add (add_le_add ((Cost.fin_le_fin _ _).mpr g1) (add_le_add (fl _) h1))
      (add_le_add (fl _) h3)
  · exact min_le_min
      (add_le_add (add_le_add ((Cost.fin_le_fin _ _).mpr g2) (add_le_add (fl _) h1))
        (add_le_add (fl _) h4))
      (add_le_add (add_le_add ((Cost.fin_le_fin _ _).mpr g2) (add_le_add (fl _) h2))
        (add_le_add (fl _) h3))
  · split
    · exact add_le_add (add_le_add g3 (add_le_add (fl _) h1)) h4
    · exact add_le_add (add_le_add g3 h2) (add_le_add (fl _) h3)

section

variable {α Lab : Type}

/-- Two algebras that differ only in their edge costs. -/
structure SameShape (A₁ A₂ : LabelAlg α Lab) : Prop where
  leafLab : A₁.leafLab = A₂.leafLab
  labs : A₁.labs = A₂.labs
  allowed : A₁.allowed = A₂.allowed

theorem adm_congr {A₁ A₂ : LabelAlg α Lab} (h : SameShape A₁ A₂) :
    ∀ (t : ATree α) (ls : LSol Lab), Adm A₁ t ls → Adm A₂ t ls := by
  intro t
  induction t with
  | leaf a sp =>
    intro ls hl
    cases ls with
    | leaf s lab => simp only [Adm] at hl ⊢; rw [← h.leafLab]; exact hl
    | node s lab sl sr => exact hl
  | node a l r ihl ihr =>
    intro ls hl
    cases ls with
    | leaf s m => exact hl
    | node s m sl sr =>
      simp only [Adm] at hl ⊢
      rw [← h.allowed, ← h.labs]
      exact ⟨hl.1, hl.2.1, ihl sl hl.2.2.1, ihr sr hl.2.2.2⟩

theorem labCost_scale {k : Nat} (hk : 0 < k) (A₁ A₂ : LabelAlg α Lab) (c : Costs)
    (he : ∀ a lab ca lc, A₂.conserv a lab ca lc = scale k (A₁.conserv a lab ca lc) ∧
      A₂.segment a lab ca lc = scale k (A₁.segment a lab ca lc)) :
    ∀ (t : ATree α) (ls : LSol Lab),
      labCost A₂ (scaleCosts k c) t ls = scale k (labCost A₁ c t ls) := by
  intro t
  induction t with
  | leaf a sp => intro ls; cases ls <;> rfl
  | node a l r ihl ihr =>
    intro ls
    cases ls with
    | leaf s m => rfl
    | node s m sl sr =>
      simp only [labCost, genLocal, (he _ _ _ _).1, (he _ _ _ _).2, gl_scale hk, ihl, ihr, scale_add]

theorem labCost_mono (A₁ A₂ : LabelAlg α Lab) {c d : Costs} (h : leCosts c d)
    (he : ∀ a lab ca lc, A₁.conserv a lab ca lc ≼ A₂.conserv a lab ca lc ∧
      A₁.segment a lab ca lc ≼ A₂.segment a lab ca lc) :
    ∀ (t : ATree α) (ls : LSol Lab), labCost A₁ c t ls ≼ labCost A₂ d t ls := by
  intro t
  induction t with
  | leaf a sp => intro ls; cases ls <;> exact le_refl _
  | node a l r ihl ihr =>
    intro ls
    cases ls with
    | leaf s m => exact le_refl _
    | node s m sl sr =>
      simp only [labCost, genLocal]
      exact add_le_add (gl_mono h _ _ _ (he _ _ _ _).1 (he _ _ _ _).2 (he _ _ _ _).1 (he _ _ _ _).2)
        (add_le_add (ihl sl) (ihr sr))

namespace DPSolver

variable {ι : Type} (D : DPSolver α Lab ι) (c : Costs) (S : RTree)

theorem cand_of_dearer (A' : LabelAlg α Lab) (c' : Costs) (hsh : SameShape A' D.A)
    (hmono : ∀ i ls, labCost D.A c (D.tree i) ls ≼ labCost A' c' (D.tree i) ls)
    {k : ι × LSol Lab} (h : ({ D with A := A' } : DPSolver α Lab ι).Cand c' k) :
    D.Cand c k ∧ D.lc c k ≼ ({ D with A := A' } : DPSolver α Lab ι).lc c' k :=
  ⟨⟨h.1, adm_congr hsh _ _ h.2.1, h.2.2.1,
    fun e => h.2.2.2 ((inf_le _).mp (e ▸ hmono k.1 k.2))⟩, hmono k.1 k.2⟩

variable [DecidableEq Lab]

theorem tableMin_scale (D' : DPSolver α Lab ι) (c' : Costs) {K K' n : Nat} (hK : D.A.Slack K)
    (hK' : D'.A.Slack K') (hb : S.isBinary = true) (hok : ∀ i ∈ D.idx, SpOk D.A S (D.tree i))
    (hok' : ∀ i ∈ D'.idx, SpOk D'.A S (D'.tree i)) (hcoh : c.spe + K ≤ c.dup + 2 * c.floss)
    (hcoh' : c'.spe + K' ≤ c'.dup + 2 * c'.floss) (hc : ∀ k, D'.Cand c' k ↔ D.Cand c k)
    (hsc : ∀ k, D'.lc c' k = scale n (D.lc c k)) :
    D'.tableMin c' S = scale n (D.tableMin c S) := by
  apply le_antisymm
  · rcases D.tableMin_attained c S hK hb hok hcoh with e | ⟨k, hk, e⟩
    · rw [e]; exact le_inf _
    · rw [← e, ← hsc]; exact D'.tableMin_le c' S hb hok' ((hc k).mpr hk)
  · rcases D'.tableMin_attained c' S hK' hb hok' hcoh' with e | ⟨k, hk, e⟩
    · rw [e]; exact le_inf _
    · rw [← e, hsc]; exact scale_mono n (D.tableMin_le c S hb hok ((hc k).mp hk))

end DPSolver

end

end SR
