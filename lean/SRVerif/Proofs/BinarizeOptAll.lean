/-
  C08, optimum over ALL binary refinements.  Replacing either tree of a pair of refinements by
  one equal up to child order changes the binary input `toOTree data bS bO` only by a flip of
  object children (`OTree.flip F`), resp. a relabelling of the species paths by the `PathEmb`
  `Path.flipPos F` (distinct species leaves), `F` being read off the `BinT.Equiv` derivation.
  Both keep validity and evaluated cost (`Proofs/SwapObj`, `Proofs/SwapSp`): `Transfers o o'`,
  which is `∃ f` with the fields `valid` and `cost` of `Transfer o o' f` (`Proofs/Present`); the
  other fields are proved above the solver-adequacy modules, which this one does not import.
-/
import SRVerif.Proofs.SwapObj
import SRVerif.Spec.Refine

namespace SR.Bin

open SR

/-- The flip set of a node from the decision at the node and the flip sets of its
    children. -/
def joinF (b : Bool) (Fl Fr : Path → Bool) : Path → Bool
  | [] => b
  | 0 :: q => Fl q
  | 1 :: q => Fr q
  | _ => false

/-- Induction along the derivation of `BinT.Equiv a b`; it is `BTree.Equiv` of the skeletons,
    so `induction` does not apply to it directly. -/
theorem BinT.Equiv.ind {P : BinT → BinT → Prop} (leaf : ∀ i, P (.leaf i) (.leaf i))
    (congr : ∀ {a a' : Option Nat} {l r l' r' : BinT}, BinT.Equiv l l' → BinT.Equiv r r' →
      P l l' → P r r' → P (.node a l r) (.node a' l' r'))
    (swap : ∀ {a a' : Option Nat} {l r l' r' : BinT}, BinT.Equiv l r' → BinT.Equiv r l' →
      P l r' → P r l' → P (.node a l r) (.node a' l' r')) :
    ∀ {a b : BinT}, BinT.Equiv a b → P a b := by
  intro a
  induction a with
  | leaf i =>
    intro b h
    cases b with
    | leaf j => cases h; exact leaf i
    | node _ _ _ => cases h
  | node ann l r ihl ihr =>
    intro b h
    cases b with
    | leaf j => cases h
    | node ann' l' r' =>
      cases h with
      | congr h1 h2 => exact congr h1 h2 (ihl h1) (ihr h2)
      | swap h1 h2 => exact swap h1 h2 (ihl h1) (ihr h2)

theorem toOTree_equiv_obj (data : LeafData) (bS : BinT) {a b : BinT} (h : BinT.Equiv a b) :
    ∃ F, toOTree data bS b = (toOTree data bS a).flip F := by
  refine BinT.Equiv.ind (P := fun a b => ∃ F, toOTree data bS b = (toOTree data bS a).flip F)
    (fun i => ⟨fun _ => false, rfl⟩) ?_ ?_ h
  · rintro _ _ _ _ _ _ _ _ ⟨Fl, hl⟩ ⟨Fr, hr⟩
    exact ⟨joinF false Fl Fr, by simp [toOTree, OTree.flip, joinF, hl, hr]⟩
  · rintro _ _ _ _ _ _ _ _ ⟨Fl, hl⟩ ⟨Fr, hr⟩
    exact ⟨joinF true Fl Fr, by simp [toOTree, OTree.flip, joinF, hl, hr]⟩

theorem BinT.pathOf_isSome_iff {id : Nat} (b : BinT) : (b.pathOf id).isSome = true ↔ id ∈ b.leaves := by
  induction b with
  | leaf i => simp only [BinT.pathOf, BinT.leaves, List.mem_singleton]; split <;> simp_all [eq_comm]
  | node a l r ihl ihr =>
    simp only [BinT.pathOf, BinT.leaves, List.mem_append, ← ihl, ← ihr]
    cases l.pathOf id <;> cases r.pathOf id <;> simp

theorem BinT.mem_leaves_of_pathOf {id : Nat} {b : BinT} {p : Path} (h : b.pathOf id = some p) :
    id ∈ b.leaves :=
  (BinT.pathOf_isSome_iff b).mp (by rw [h]; rfl)

theorem BinT.pathOf_eq_none {id : Nat} {b : BinT} (h : id ∉ b.leaves) : b.pathOf id = none :=
  Option.not_isSome_iff_eq_none.mp fun hs => h ((BinT.pathOf_isSome_iff b).mp hs)

theorem pathOf_equiv {a b : BinT} (h : BinT.Equiv a b) : a.leaves.Nodup →
    ∃ F, ∀ id, b.pathOf id = (a.pathOf id).map (Path.flipPos F) := by
  refine BinT.Equiv.ind (P := fun a b => a.leaves.Nodup →
    ∃ F, ∀ id, b.pathOf id = (a.pathOf id).map (Path.flipPos F)) ?_ ?_ ?_ h
  · exact fun i _ => ⟨fun _ => false, fun id => by simp only [BinT.pathOf]; split <;> rfl⟩
  · intro _ _ l r _ _ _ _ ihl ihr hnd
    simp only [BinT.leaves, List.nodup_append] at hnd
    obtain ⟨Fl, hl⟩ := ihl hnd.1
    obtain ⟨Fr, hr⟩ := ihr hnd.2.1
    refine ⟨joinF false Fl Fr, fun id => ?_⟩
    simp only [BinT.pathOf, hl, hr]
    cases l.pathOf id <;> cases r.pathOf id <;> simp [Path.flipPos, joinF]
  · -- `l ~ r'`, `r ~ l'`: a leaf of `l` is not in `r`
    intro _ _ l r _ _ _ _ ihl ihr hnd
    simp only [BinT.leaves, List.nodup_append] at hnd
    obtain ⟨Fl, hl⟩ := ihl hnd.1
    obtain ⟨Fr, hr⟩ := ihr hnd.2.1
    refine ⟨joinF true Fl Fr, fun id => ?_⟩
    simp only [BinT.pathOf, hl, hr]
    cases hpl : l.pathOf id with
    | some p =>
      have hrn : r.pathOf id = none := BinT.pathOf_eq_none fun hx =>
        hnd.2.2 id (BinT.mem_leaves_of_pathOf hpl) id hx rfl
      simp [hrn, Path.flipPos, joinF, Path.swapNat]
    | none => cases r.pathOf id <;> simp [Path.flipPos, joinF, Path.swapNat]

theorem toOTree_mapSp (data : LeafData) (a b : BinT) (φ : Path → Path) (h0 : φ [] = [])
    (h : ∀ id, b.pathOf id = (a.pathOf id).map φ) :
    ∀ bO : BinT, toOTree data b bO = (toOTree data a bO).mapSp φ := by
  intro bO
  induction bO with
  | leaf i =>
    simp only [toOTree, OTree.mapSp, h]
    cases a.pathOf (data i).1 with
    | none => simp [h0]
    | some p => simp
  | node ann l r ihl ihr => simp only [toOTree, OTree.mapSp, ihl, ihr]

/-- `∃ f` with the fields `valid` and `cost` of the structure `Transfer o o' f`
    (`Proofs/Present`): what an optimum over refinements needs of a change of presentation. -/
def Transfers (o o' : OTree) : Prop :=
  ∃ f : Sol → Sol, ∀ (mode : LabelMode) (sol : Sol),
    Spec.validSol mode o' (f sol) = Spec.validSol mode o sol ∧
    ∀ c : Costs, totalCost c mode o' (f sol) = totalCost c mode o sol

theorem Transfers.refl (o : OTree) : Transfers o o := ⟨id, fun _ _ => ⟨rfl, fun _ => rfl⟩⟩

theorem Transfers.trans {o o' o'' : OTree} (h1 : Transfers o o') (h2 : Transfers o' o'') :
    Transfers o o'' := by
  obtain ⟨f, hf⟩ := h1
  obtain ⟨g, hg⟩ := h2
  refine ⟨g ∘ f, fun mode sol => ⟨?_, fun c => ?_⟩⟩
  · rw [Function.comp, (hg mode (f sol)).1, (hf mode sol).1]
  · rw [Function.comp, (hg mode (f sol)).2 c, (hf mode sol).2 c]

theorem transfers_flip (o : OTree) (F : Path → Bool) : Transfers o (o.flip F) :=
  ⟨Sol.flip F, fun mode sol => ⟨validSol_flip mode o sol F, fun c => totalCost_flip c mode o sol F⟩⟩

theorem transfers_mapSp (o : OTree) {φ : Path → Path} (hφ : PathEmb φ) : Transfers o (o.mapSp φ) :=
  ⟨Sol.mapSp φ, fun mode sol => ⟨validSol_mapSp hφ mode o sol, fun c => totalCost_mapSp hφ c mode o sol⟩⟩

theorem transfers_equiv_obj (data : LeafData) (bS : BinT) {a b : BinT} (he : BinT.Equiv a b) :
    Transfers (toOTree data bS a) (toOTree data bS b) := by
  obtain ⟨F, hF⟩ := toOTree_equiv_obj data bS he
  rw [hF]
  exact transfers_flip _ F

theorem transfers_equiv_sp (data : LeafData) {a b : BinT} (he : BinT.Equiv a b)
    (hnd : a.leaves.Nodup) (bO : BinT) :
    Transfers (toOTree data a bO) (toOTree data b bO) := by
  obtain ⟨F, hF⟩ := pathOf_equiv he hnd
  rw [toOTree_mapSp data a b _ rfl hF bO]
  exact transfers_mapSp _ (Path.flipPos_emb F)

theorem transfers_equiv (data : LeafData) {aO bO aS bS : BinT} (heO : BinT.Equiv aO bO)
    (heS : BinT.Equiv aS bS) (hnd : aS.leaves.Nodup) :
    Transfers (toOTree data aS aO) (toOTree data bS bO) :=
  (transfers_equiv_obj data aS heO).trans (transfers_equiv_sp data heS hnd bO)

theorem Transfers.exists_valid {o o' : OTree} (h : Transfers o o') (c : Costs) (mode : LabelMode)
    (sol : Sol) (hv : Spec.validSol mode o sol = true) :
    ∃ sol', Spec.validSol mode o' sol' = true ∧
      totalCost c mode o' sol' = totalCost c mode o sol := by
  obtain ⟨f, hf⟩ := h
  exact ⟨f sol, by rw [(hf mode sol).1]; exact hv, (hf mode sol).2 c⟩

end SR.Bin
