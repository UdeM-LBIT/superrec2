/-
  C06: the walks of the specification (`descend`, `classify`,
  `vertical`) against the evaluator's path operations (`isAnc`, `lcp`,
  `comparable`, `dist`).
-/
import SRVerif.Spec.EventLog
import SRVerif.Proofs.EventAt

namespace SR.EventLog

open SR SR.Path

theorem descend_eq_some_iff (s a : Path) (w : List Nat) :
    descend s a = some w ↔ a = s ++ w := by
  induction s generalizing a with
  | nil => simp [descend, eq_comm]
  | cons i s ih =>
    cases a with
    | nil => simp [descend]
    | cons j a =>
      simp only [descend]
      by_cases h : i = j
      · subst h; simp [ih]
      · simp only [h, if_false, List.cons_append, List.cons.injEq]
        constructor
        · intro h'; cases h'
        · rintro ⟨rfl, _⟩; exact absurd rfl h

theorem descend_append (s w : List Nat) : descend s (s ++ w) = some w :=
  (descend_eq_some_iff s (s ++ w) w).2 rfl

theorem descend_isSome (s a : Path) : (descend s a).isSome = isAnc s a := by
  cases h : descend s a with
  | some w =>
    rw [descend_eq_some_iff] at h
    subst h
    simp [isAnc_append]
  | none =>
    cases h' : isAnc s a with
    | false => rfl
    | true =>
      rw [isAnc_iff_prefix] at h'
      obtain ⟨w, rfl⟩ := h'
      rw [descend_append] at h
      cases h

theorem descend_eq_none_iff (s a : Path) : descend s a = none ↔ isAnc s a = false := by
  rw [← descend_isSome]
  cases descend s a <;> simp

theorem strictlyAbove_eq (b s : Path) : strictlyAbove b s = isStrictAnc b s := by
  unfold strictlyAbove isStrictAnc
  cases h : descend b s with
  | none =>
    rw [descend_eq_none_iff] at h
    simp [h]
  | some w =>
    rw [descend_eq_some_iff] at h
    subst h
    cases w with
    | nil => simp
    | cons i w => simp [isAnc_append]

/-- The model's name of a specification-level event kind. -/
def Kind.toEvent : Kind → Event
  | .spec => .spec
  | .dup => .dup
  | .hgt => .hgt
  | .invalid => .invalid

/-- `node_event` computes the first-principles classification — for every
    triple of species, valid or not. -/
theorem internalEvent_eq_classify (s a b : Path) :
    internalEvent s a b = (classify s a b).toEvent := by
  have he := eventAt s a b
  generalize internalEvent s a b = e at he ⊢
  have hno : ∀ {z : Path}, isAnc s z = false → descend s z = none :=
    fun h => (descend_eq_none_iff s _).2 h
  have habove : ∀ {z : Path}, isStrictAnc z s = true → isAnc s z = false := fun {z} h => by
    cases hz : isAnc s z
    · rfl
    · rw [isStrictAnc_false_of_isAnc hz] at h; cases h
  cases he with
  | spec hx hy hij =>
    subst hx hy
    simp [classify, descend_append, hij, Kind.toEvent]
  | @dup a' b' hx hy h =>
    subst hx hy
    rw [classify, descend_append, descend_append]
    cases a' <;> cases b' <;> first | rfl | simp [h _ _ _ _ rfl rfl, Kind.toEvent]
  | hgtLeft hx hy hy' =>
    obtain ⟨w, rfl⟩ := isAnc_iff_append.mp hx
    simp [classify, descend_append, hno hy, strictlyAbove_eq, isStrictAnc, hy', Kind.toEvent]
  | hgtRight hx hx' hy =>
    obtain ⟨w, rfl⟩ := isAnc_iff_append.mp hy
    simp [classify, descend_append, hno hx, strictlyAbove_eq, isStrictAnc, hx', Kind.toEvent]
  | invalid h =>
    rw [classify]
    rcases h with h | h | ⟨h1, h2⟩
    · rw [hno (habove h)]
      cases descend s b <;> simp [strictlyAbove_eq, h, Kind.toEvent]
    · rw [hno (habove h)]
      cases descend s a <;> simp [strictlyAbove_eq, h, Kind.toEvent]
    · rw [hno h1, hno h2]; rfl

theorem length_visited (s : Path) (w : List Nat) : (visited s w).length = w.length := by
  induction w generalizing s with
  | nil => rfl
  | cons i w ih => simp [visited, ih]

theorem length_vertical_append (s w : Path) : (vertical s (s ++ w)).length = w.length := by
  simp [vertical, descend_append, length_visited]

theorem vertical_of_not_isAnc {s a : Path} (h : isAnc s a = false) : vertical s a = [] := by
  simp [vertical, (descend_eq_none_iff s a).2 h]

theorem length_vertical_of_isAnc {s a : Path} (h : isAnc s a = true) :
    (vertical s a).length = dist s a := by
  rw [isAnc_iff_prefix] at h
  obtain ⟨w, rfl⟩ := h
  rw [length_vertical_append, dist_append]

theorem event_of_classify {s a b : Path} {k : Kind} (h : classify s a b = k) :
    internalEvent s a b = k.toEvent := by rw [internalEvent_eq_classify, h]

theorem classify_spec_dist {s a b : Path} (h : classify s a b = .spec) :
    isAnc s a = true ∧ isAnc s b = true ∧ 1 ≤ dist s a ∧ 1 ≤ dist s b := by
  have he := eventAt s a b
  rw [event_of_classify h] at he
  cases he with
  | spec hx hy _ => subst hx hy; simp [isAnc_append, dist_append]

theorem classify_dup_isAnc {s a b : Path} (h : classify s a b = .dup) :
    isAnc s a = true ∧ isAnc s b = true := by
  have he := eventAt s a b
  rw [event_of_classify h] at he
  cases he with
  | dup hx hy _ => subst hx hy; exact ⟨isAnc_append s _, isAnc_append s _⟩

/-- In a transfer exactly one child stays below the node, and "the left child
    is the conserved one" is what the evaluator tests with `comparable`. -/
theorem classify_hgt {s a b : Path} (h : classify s a b = .hgt) :
    (isAnc s a = true ∧ isAnc s b = false ∨ isAnc s a = false ∧ isAnc s b = true) ∧
      comparable s a = leftConserved s a := by
  have he := eventAt s a b
  rw [event_of_classify h] at he
  unfold leftConserved
  rw [descend_isSome]
  cases he with
  | hgtLeft hx hy _ => exact ⟨Or.inl ⟨hx, hy⟩, by simp [comparable, hx]⟩
  | hgtRight hx hx' hy => exact ⟨Or.inr ⟨hx, hy⟩, by simp [comparable, hx, hx']⟩

end SR.EventLog
