/-
  The plain-DTL instance of the label DP (`reconcile_thl`): unit labels, zero
  edge costs.  Here the generic evaluator cost `labCost` *is* the cost evaluator
  `recCost` of `Model/Rec.lean`, admissible labelled solutions are exactly the
  mappings of `Spec.allMappings`.
-/
import SRVerif.Proofs.LabelDPMain
import SRVerif.Proofs.Enum

namespace SR

open Cost Path

/-- Forget the syntenies of a solution. -/
def toLSol : Sol → LSol Unit
  | .leaf s _ => .leaf s ()
  | .node s _ l r => .node s () (toLSol l) (toLSol r)

theorem thl_slack : thlAlg.Slack 0 := by
  intro a lab ca lc; simp [thlAlg]

theorem annPlain_data (S : RTree) (o : OTree) : (annPlain S o).data = allSpecies S := by
  cases o <;> rfl

theorem annPlain_internal_spOk (S : RTree) (o : OTree)
    (hS : ∀ p ∈ leafSpecies o, S.isNode p = true) : SpOk thlAlg S (annPlain S o) := by
  induction o with
  | leaf sp f => exact hS sp (by simp [leafSpecies])
  | node l r ihl ihr =>
    refine ⟨?_, ihl (fun p hp => hS p (by simp [leafSpecies, hp])),
      ihr (fun p hp => hS p (by simp [leafSpecies, hp]))⟩
    intro s hs
    exact (RTree.mem_preorder_iff s S).mp hs

theorem plainSol_sp (o : OTree) (ls : LSol Unit) : (plainSol o ls).sp = ls.sp := by
  cases o <;> cases ls <;> rfl

theorem toLSol_sp (sol : Sol) : (toLSol sol).sp = sol.sp := by
  cases sol <;> rfl

theorem gl_zero (c : Costs) (s x y : Path) :
    gl c s x (.fin 0) (.fin 0) y (.fin 0) (.fin 0) = localRecCost c s x y := by
  rw [gl_general]
  cases hev : internalEvent s x y with
  | leaf => simp [localRecCost, hev]
  | invalid => simp [localRecCost, hev]
  | dup => simp [min_self]
  | hgt => simp
  | spec => simp

theorem labCost_thl (c : Costs) (S : RTree) (o : OTree) :
    ∀ ls, Adm thlAlg (annPlain S o) ls →
      labCost thlAlg c (annPlain S o) ls = recCost c o (plainSol o ls) := by
  induction o with
  | leaf sp f =>
    intro ls h
    obtain rfl := h.leaf_inv
    simp [annPlain, labCost, plainSol, recCost]
  | node l r ihl ihr =>
    intro ls h
    obtain ⟨s, lab, x, y, rfl, _, _, ax, ay⟩ := h.node_inv
    simp only [annPlain, labCost, plainSol, recCost_node, ihl x ax, ihr y ay, plainSol_sp, genLocal]
    congr 1
    exact gl_zero c s x.sp y.sp

theorem plainSol_mem_allMappings (S : RTree) (o : OTree) :
    ∀ ls, Adm thlAlg (annPlain S o) ls → plainSol o ls ∈ Spec.allMappings S o := by
  induction o with
  | leaf sp f =>
    intro ls h
    obtain rfl := h.leaf_inv
    simp [plainSol, Spec.allMappings]
  | node l r ihl ihr =>
    intro ls h
    obtain ⟨s, lab, x, y, rfl, hs, _, ax, ay⟩ := h.node_inv
    simp only [plainSol, Spec.allMappings, List.mem_flatMap, List.mem_map]
    exact ⟨_, ihl x ax, _, ihr y ay, s, hs, rfl⟩

theorem adm_toLSol (S : RTree) (o : OTree) :
    ∀ sol, sol ∈ Spec.allMappings S o →
      Adm thlAlg (annPlain S o) (toLSol sol) ∧ plainSol o (toLSol sol) = sol := by
  induction o with
  | leaf sp f =>
    intro sol h
    simp only [Spec.allMappings, List.mem_singleton] at h
    subst h
    simp [toLSol, annPlain, Adm, plainSol, thlAlg]
  | node l r ihl ihr =>
    intro sol h
    simp only [Spec.allMappings, List.mem_flatMap, List.mem_map] at h
    obtain ⟨ml, hml, mr, hmr, s, hs, rfl⟩ := h
    obtain ⟨al, el⟩ := ihl ml hml
    obtain ⟨ar, er⟩ := ihr mr hmr
    refine ⟨?_, ?_⟩
    · simp only [toLSol, annPlain, Adm]
      exact ⟨hs, by simp [thlAlg], al, ar⟩
    · simp [toLSol, plainSol, el, er]

theorem recCost_valid (c : Costs) (o : OTree) :
    ∀ sol, recCost c o sol ≠ .inf → Spec.validRec o sol = true := by
  induction o with
  | leaf sp f =>
    intro sol h
    cases sol with
    | node => simp [recCost] at h
    | leaf s g =>
      simp only [recCost] at h
      simp only [Spec.validRec]
      by_cases e : (s == sp) = true
      · exact e
      · simp [e] at h
  | node l r ihl ihr =>
    intro sol h
    cases sol with
    | leaf => simp [recCost] at h
    | node s g x y =>
      obtain ⟨h1, h3, h4⟩ := recCost_node_ne_inf h
      simp only [Spec.validRec, ihl x h3, ihr y h4, Bool.and_true, bne_iff_ne]
      intro e
      simp [localRecCost, e] at h1

end SR
