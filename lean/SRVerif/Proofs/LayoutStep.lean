/-
  One iteration of the gene loop of `_compute_branches` is its plan, run: `nodePlan` lists the
  branches the step of a node places (the chains of `_add_losses`, then the node's own branch),
  `PlanOf` is its view event by event, and `processGene` succeeds exactly when the event is valid
  and the plan can be run, and then it has run it (`processGene_iff`).
-/
import SRVerif.Proofs.LayoutRan
import SRVerif.Proofs.EventAt

namespace SR.Layout

open SR

theorem finish_plain (st : LState) (s : Path) (b : Branch) :
    modifySp (addBranch b) (modifySp (addAnchor b.key) st s) s = finishWith st s b [] := by
  rw [modifySp_modifySp]
  rfl

theorem removeAnchor_iff {st st' : LState} {s : Path} {k : Key} :
    removeAnchor st s k = .ok st' ↔
      k ∈ ancs st s ∧ modifySp (fun x => { x with anchors := x.anchors.erase k }) st s = st' := by
  unfold removeAnchor ancs
  cases hx : getSp st s with
  | none => simp
  | some x =>
    have hc : modifySp (fun y => { y with anchors := x.anchors.erase k }) st s =
        modifySp (fun y : SpState => { y with anchors := y.anchors.erase k }) st s :=
      modifySp_congr hx rfl
    by_cases hk : k ∈ x.anchors <;> simp [setRemove, hk, hc]

theorem ancs_modifySp_self {st : LState} {s : Path} {x : SpState} (f : SpState → SpState)
    (hx : getSp st s = some x) : ancs (modifySp f st s) s = (f x).anchors := by
  rw [ancs_modifySp, if_pos rfl, hx]

/-- `add`, the branch: placing a branch that consumes nothing. -/
theorem placed_plain {st st' : LState} {s : Path} (b : Branch) (hc : consumes b = []) (hs : s ∈ skeys st) :
    modifySp (addBranch b) (modifySp (addAnchor b.key) st s) s = st' ↔ Placed st (s, b) st' := by
  rw [finish_plain]
  simp only [Placed, hs, hc, Removable, true_and]
  exact eq_comm

/-- `add`, one `remove`, the branch: placing a branch that consumes one key. -/
theorem placed_one {st st' : LState} {s : Path} (b : Branch) (k1 : Key) (hc : consumes b = [k1])
    (hs : s ∈ skeys st) :
    (∃ st2, removeAnchor (modifySp (addAnchor b.key) st s) s k1 = .ok st2 ∧
      modifySp (addBranch b) st2 s = st') ↔ Placed st (s, b) st' := by
  have hP : Placed st (s, b) st' ↔ k1 ∈ setAdd (ancs st s) b.key ∧ finishWith st s b [k1] = st' := by
    unfold Placed
    simp only [hc]
    exact ⟨fun ⟨_, ⟨a, _⟩, c⟩ => ⟨a, c.symm⟩, fun ⟨a, c⟩ => ⟨hs, ⟨a, trivial⟩, c.symm⟩⟩
  obtain ⟨x, hx⟩ := getSp_some_of_mem hs
  simp only [hP, removeAnchor_iff, ancs_modifySp_self _ hx, ancs_of_getSp hx, modifySp_modifySp]
  constructor
  · rintro ⟨_, ⟨h1, rfl⟩, rfl⟩
    exact ⟨h1, by rw [modifySp_modifySp]; rfl⟩
  · rintro ⟨h1, rfl⟩
    exact ⟨_, ⟨h1, rfl⟩, by rw [modifySp_modifySp]; rfl⟩

/-- `add`, two `remove`s, the branch: placing a branch that consumes two keys. -/
theorem placed_two {st st' : LState} {s : Path} (b : Branch) (k1 k2 : Key) (hc : consumes b = [k1, k2])
    (hs : s ∈ skeys st) :
    (∃ st3, removeAnchor (modifySp (addAnchor b.key) st s) s k1 = .ok st3 ∧
      ∃ st4, removeAnchor st3 s k2 = .ok st4 ∧ modifySp (addBranch b) st4 s = st') ↔
    Placed st (s, b) st' := by
  have hP : Placed st (s, b) st' ↔ k1 ∈ setAdd (ancs st s) b.key ∧
      k2 ∈ (setAdd (ancs st s) b.key).erase k1 ∧ finishWith st s b [k1, k2] = st' := by
    unfold Placed
    simp only [hc]
    exact ⟨fun ⟨_, ⟨a, b, _⟩, c⟩ => ⟨a, b, c.symm⟩, fun ⟨a, b, c⟩ => ⟨hs, ⟨a, b, trivial⟩, c.symm⟩⟩
  obtain ⟨x, hx⟩ := getSp_some_of_mem hs
  simp only [hP, removeAnchor_iff, ancs_of_getSp hx]
  constructor
  · rintro ⟨_, ⟨h1, rfl⟩, _, ⟨h2, rfl⟩, rfl⟩
    rw [modifySp_modifySp, ancs_modifySp_self _ hx] at h2
    rw [ancs_modifySp_self _ hx] at h1
    exact ⟨h1, h2, by simp only [modifySp_modifySp]; rfl⟩
  · rintro ⟨h1, h2, rfl⟩
    refine ⟨_, ⟨by rw [ancs_modifySp_self _ hx]; exact h1, rfl⟩, _, ⟨?_, rfl⟩, ?_⟩
    · rw [modifySp_modifySp, ancs_modifySp_self _ hx]; exact h2
    · simp only [modifySp_modifySp]; rfl

/-- The chain of lineage `g` from species `a` up to its ancestor at depth `d`, and its top key. -/
def chainOf (g a : Path) (d : Nat) : List (Path × Branch) :=
  chainList g (.gene g) (a.take d) (a.drop d)

/-- The top key of `chainOf g a d`. -/
def topOf (g a : Path) (d : Nat) : Key := chainTop g (.gene g) (a.take d) (a.drop d)

theorem chainOf_up (g s : Path) (w : List Nat) :
    chainOf g (s ++ w) s.length = chainList g (.gene g) s w ∧
      topOf g (s ++ w) s.length = chainTop g (.gene g) s w := by
  simp [chainOf, topOf]

theorem chainOf_child (g s : Path) (x : Nat) (w : List Nat) :
    chainOf g (s ++ x :: w) (s.length + 1) = chainList g (.gene g) (s ++ [x]) w ∧
      topOf g (s ++ x :: w) (s.length + 1) = chainTop g (.gene g) (s ++ [x]) w := by
  have h := chainOf_up g (s ++ [x]) w
  simpa using h

/-- Two chains (children `c1` then `c2`, mapped to `a1`, `a2`) up to depth `d`, then the node's
    branch. -/
def twoChains (s p : Path) (kind : BKind) (d : Nat) (c1 : Nat) (a1 : Path) (c2 : Nat) (a2 : Path) :
    List (Path × Branch) :=
  chainOf (p ++ [c1]) a1 d ++ (chainOf (p ++ [c2]) a2 d ++
    [(s, ⟨.gene p, kind, some (topOf (p ++ [c1]) a1 d), some (topOf (p ++ [c2]) a2 d)⟩)])

/-- The chain of the conserved child `c` (mapped to `a`) of a transfer, then its branch,
    pointing to the other child `c'`. -/
def oneChain (s p : Path) (c c' : Nat) (a : Path) : List (Path × Branch) :=
  chainOf (p ++ [c]) a s.length ++
    [(s, ⟨.gene p, .hgt, some (topOf (p ++ [c]) a s.length), some (.gene (p ++ [c']))⟩)]

/-- The branches a step inserts: the chains of the children (a speciation stops them below `s`,
    a duplication and a transfer in `s`), then the node's own branch.  Nothing on an invalid event. -/
def nodePlan (s p : Path) : Sol → List (Path × Branch)
  | .leaf _ _ => [(s, ⟨.gene p, .leaf, none, none⟩)]
  | .node _ _ l r =>
    match internalEvent s l.sp r.sp with
    | .spec =>
      if Path.isAnc (s ++ [0]) r.sp then twoChains s p .spec (s.length + 1) 1 r.sp 0 l.sp
      else twoChains s p .spec (s.length + 1) 0 l.sp 1 r.sp
    | .dup => twoChains s p .dup s.length 0 l.sp 1 r.sp
    | .hgt => if Path.isAnc s l.sp then oneChain s p 0 1 l.sp else oneChain s p 1 0 r.sp
    | _ => []

/-- Child number `c` of an internal node with children `l`, `r` is mapped to the species `a`. -/
def IsChild (l r : Sol) (c : Nat) (a : Path) : Prop := (c = 0 ∧ a = l.sp) ∨ (c = 1 ∧ a = r.sp)

/-- Which child a transfer conserves. -/
theorem hgt_side (s : Path) (l r : Sol) : ∃ c c' a, IsChild l r c a ∧ c + c' = 1 ∧
    (c = 0 ↔ Path.isAnc s l.sp = true) := by
  by_cases hk : Path.isAnc s l.sp = true
  · exact ⟨0, 1, l.sp, .inl ⟨rfl, rfl⟩, rfl, by simp [hk]⟩
  · exact ⟨1, 0, r.sp, .inr ⟨rfl, rfl⟩, rfl, by simp [hk]⟩

/-- `nodePlan` event by event, with the chains in closed form.  A speciation runs the chain of
    the child below `s ++ [0]` first, a transfer only the chain of the conserved child `c`. -/
inductive PlanOf (s p : Path) : Sol → List (Path × Branch) → Prop
  | leaf (sp : Path) (f : List Nat) : PlanOf s p (.leaf sp f) [(s, ⟨.gene p, .leaf, none, none⟩)]
  | spec {sp : Path} {f : List Nat} {l r : Sol} {c1 c2 : Nat} {a1 a2 : Path} {x1 x2 : Nat}
      {w1 w2 : List Nat}
      (hE : internalEvent s l.sp r.sp = .spec) (h1 : IsChild l r c1 a1) (h2 : IsChild l r c2 a2)
      (hc : c1 ≠ c2) (hsw : c1 = 1 ↔ Path.isAnc (s ++ [0]) r.sp = true)
      (e1 : a1 = s ++ x1 :: w1) (e2 : a2 = s ++ x2 :: w2) (hx : x1 ≠ x2) :
      PlanOf s p (.node sp f l r)
        (chainList (p ++ [c1]) (.gene (p ++ [c1])) (s ++ [x1]) w1 ++
          (chainList (p ++ [c2]) (.gene (p ++ [c2])) (s ++ [x2]) w2 ++
            [(s, ⟨.gene p, .spec, some (chainTop (p ++ [c1]) (.gene (p ++ [c1])) (s ++ [x1]) w1),
              some (chainTop (p ++ [c2]) (.gene (p ++ [c2])) (s ++ [x2]) w2)⟩)]))
  | dup {sp : Path} {f : List Nat} {l r : Sol} {w1 w2 : List Nat}
      (hE : internalEvent s l.sp r.sp = .dup) (e1 : l.sp = s ++ w1) (e2 : r.sp = s ++ w2) :
      PlanOf s p (.node sp f l r)
        (chainList (p ++ [0]) (.gene (p ++ [0])) s w1 ++
          (chainList (p ++ [1]) (.gene (p ++ [1])) s w2 ++
            [(s, ⟨.gene p, .dup, some (chainTop (p ++ [0]) (.gene (p ++ [0])) s w1),
              some (chainTop (p ++ [1]) (.gene (p ++ [1])) s w2)⟩)]))
  | hgt {sp : Path} {f : List Nat} {l r : Sol} {c c' : Nat} {a : Path} {w : List Nat}
      (hE : internalEvent s l.sp r.sp = .hgt) (h1 : IsChild l r c a) (hc : c + c' = 1)
      (hkeep : c = 0 ↔ Path.isAnc s l.sp = true) (e1 : a = s ++ w) :
      PlanOf s p (.node sp f l r)
        (chainList (p ++ [c]) (.gene (p ++ [c])) s w ++
          [(s, ⟨.gene p, .hgt, some (chainTop (p ++ [c]) (.gene (p ++ [c])) s w),
            some (.gene (p ++ [c']))⟩)])
  | invalid {sp : Path} {f : List Nat} {l r : Sol} (hE : internalEvent s l.sp r.sp = .invalid) :
      PlanOf s p (.node sp f l r) []

theorem nodePlan_spec {s p sp : Path} {f : List Nat} {l r : Sol} {c1 c2 : Nat} {a1 a2 : Path}
    (hE : internalEvent s l.sp r.sp = .spec) (h1 : IsChild l r c1 a1) (h2 : IsChild l r c2 a2)
    (hc : c1 ≠ c2) (hsw : c1 = 1 ↔ Path.isAnc (s ++ [0]) r.sp = true) :
    nodePlan s p (.node sp f l r) = twoChains s p .spec (s.length + 1) c1 a1 c2 a2 := by
  rcases h1 with ⟨rfl, rfl⟩ | ⟨rfl, rfl⟩ <;> rcases h2 with ⟨rfl, rfl⟩ | ⟨rfl, rfl⟩
  · exact absurd rfl hc
  · have : Path.isAnc (s ++ [0]) r.sp = false :=
      Bool.eq_false_iff.2 fun h => absurd (hsw.2 h) (by simp)
    simp only [nodePlan, hE, this, Bool.false_eq_true, if_false]
  · simp only [nodePlan, hE, hsw.1 rfl, if_true]
  · exact absurd rfl hc

theorem nodePlan_hgt {s p sp : Path} {f : List Nat} {l r : Sol} {c c' : Nat} {a : Path}
    (hE : internalEvent s l.sp r.sp = .hgt) (h1 : IsChild l r c a) (hc : c + c' = 1)
    (hkeep : c = 0 ↔ Path.isAnc s l.sp = true) :
    nodePlan s p (.node sp f l r) = oneChain s p c c' a := by
  rcases h1 with ⟨rfl, rfl⟩ | ⟨rfl, rfl⟩
  · have : c' = 1 := by omega
    subst this
    simp only [nodePlan, hE, hkeep.1 rfl, if_true]
  · have : c' = 0 := by omega
    subst this
    have : Path.isAnc s l.sp = false :=
      Bool.eq_false_iff.2 fun h => absurd (hkeep.2 h) (by simp)
    simp only [nodePlan, hE, this, Bool.false_eq_true, if_false]

/-- `nodePlan` event by event: the event places the children's species below `s` (`eventAt`), which
    puts the chains in closed form.  The facts about plans are proved over `PlanOf`. -/
theorem planOf (s p : Path) (sub : Sol) : PlanOf s p sub (nodePlan s p sub) := by
  cases sub with
  | leaf sp f => exact .leaf sp f
  | node sp f l r =>
    have e := eventAt s l.sp r.sp
    cases hE : internalEvent s l.sp r.sp with
    | leaf => rw [hE] at e; cases e
    | invalid => simp only [nodePlan, hE]; exact .invalid hE
    | spec =>
      rw [hE] at e
      cases e with
      | @spec i j wa wb hx hy hij =>
        -- the chain of the child below `s ++ [0]` is run first
        by_cases hsw : Path.isAnc (s ++ [0]) r.sp = true
        · have hc : (1 : Nat) ≠ 0 := by simp
          have hsw' : (1 : Nat) = 1 ↔ Path.isAnc (s ++ [0]) r.sp = true := by simp [hsw]
          rw [nodePlan_spec hE (.inr ⟨rfl, rfl⟩) (.inl ⟨rfl, rfl⟩) hc hsw', twoChains, hx, hy,
            (chainOf_child ..).1, (chainOf_child ..).2, (chainOf_child ..).1, (chainOf_child ..).2]
          exact .spec hE (.inr ⟨rfl, rfl⟩) (.inl ⟨rfl, rfl⟩) hc hsw' hy hx hij.symm
        · have hc : (0 : Nat) ≠ 1 := by simp
          have hsw' : (0 : Nat) = 1 ↔ Path.isAnc (s ++ [0]) r.sp = true := by simp [hsw]
          rw [nodePlan_spec hE (.inl ⟨rfl, rfl⟩) (.inr ⟨rfl, rfl⟩) hc hsw', twoChains, hx, hy,
            (chainOf_child ..).1, (chainOf_child ..).2, (chainOf_child ..).1, (chainOf_child ..).2]
          exact .spec hE (.inl ⟨rfl, rfl⟩) (.inr ⟨rfl, rfl⟩) hc hsw' hx hy hij
    | dup =>
      rw [hE] at e
      cases e with
      | @dup wa wb hx hy _ =>
        simp only [nodePlan, hE, twoChains]
        rw [hx, hy, (chainOf_up ..).1, (chainOf_up ..).2, (chainOf_up ..).1, (chainOf_up ..).2]
        exact .dup hE hx hy
    | hgt =>
      obtain ⟨c, c', a, h1, hc, hkeep⟩ := hgt_side s l r
      have hsa : Path.isAnc s a = true := by
        rw [hE] at e
        rcases h1 with ⟨rfl, rfl⟩ | ⟨rfl, rfl⟩
        · exact hkeep.1 rfl
        · cases e with
          | hgtLeft hx _ _ => exact absurd (hkeep.2 hx) (by simp)
          | hgtRight _ _ hy => exact hy
      obtain ⟨w, hw⟩ := (Path.isAnc_iff_prefix s a).1 hsa
      rw [nodePlan_hgt hE h1 hc hkeep, oneChain, ← hw, (chainOf_up ..).1, (chainOf_up ..).2]
      exact .hgt hE h1 hc hkeep hw.symm

/-- A line of `processGene` that may raise, then the rest of the step. -/
theorem thenPair_ok {x : Except LErr (LState × Key)} {f : LState → Key → Except LErr LState}
    {r : LState} :
    (match x with
      | .error e => (.error e : Except LErr LState)
      | .ok (a, b) => f a b) = .ok r ↔ ∃ a b, x = .ok (a, b) ∧ f a b = .ok r := by
  cases x with
  | error e =>
    constructor
    · intro h; cases h
    · rintro ⟨_, _, h, _⟩; cases h
  | ok y =>
    obtain ⟨a, b⟩ := y
    exact ⟨fun h => ⟨a, b, rfl, h⟩, fun ⟨_, _, h, h'⟩ => by cases h; exact h'⟩

theorem then_ok {x : Except LErr LState} {f : LState → Except LErr LState} {r : LState} :
    (match x with
      | .error e => (.error e : Except LErr LState)
      | .ok a => f a) = .ok r ↔ ∃ a, x = .ok a ∧ f a = .ok r := by
  cases x with
  | error e =>
    constructor
    · intro h; cases h
    · rintro ⟨_, h, _⟩; cases h
  | ok y => exact ⟨fun h => ⟨y, rfl, h⟩, fun ⟨_, h, h'⟩ => by cases h; exact h'⟩

theorem processGene_spec {st : LState} {s p sp : Path} {f : List Nat} {l r : Sol} {c1 c2 : Nat}
    {a1 a2 : Path} (hE : internalEvent s l.sp r.sp = .spec) (h1 : IsChild l r c1 a1)
    (h2 : IsChild l r c2 a2) (hc : c1 ≠ c2) (hsw : c1 = 1 ↔ Path.isAnc (s ++ [0]) r.sp = true) :
    processGene st s p (.node sp f l r) =
      match addLosses st (p ++ [c1]) a1 (some s) with
      | .error e => .error e
      | .ok (st1, k1) =>
        match addLosses st1 (p ++ [c2]) a2 (some s) with
        | .error e => .error e
        | .ok (st2, k2) =>
          .ok (modifySp (addBranch ⟨.gene p, .spec, some k1, some k2⟩)
                (modifySp (addAnchor (.gene p)) st2 s) s) := by
  rcases h1 with ⟨rfl, rfl⟩ | ⟨rfl, rfl⟩ <;> rcases h2 with ⟨rfl, rfl⟩ | ⟨rfl, rfl⟩
  · exact absurd rfl hc
  · have : Path.isAnc (s ++ [0]) r.sp = false :=
      Bool.eq_false_iff.2 fun h => absurd (hsw.2 h) (by simp)
    simp only [processGene, hE, this]
    rfl
  · simp only [processGene, hE, hsw.1 rfl]
    rfl
  · exact absurd rfl hc

theorem processGene_dup {st : LState} {s p sp : Path} {f : List Nat} {l r : Sol}
    (hE : internalEvent s l.sp r.sp = .dup) :
    processGene st s p (.node sp f l r) =
      match addLosses st (p ++ [0]) l.sp (Path.up s) with
      | .error e => .error e
      | .ok (st1, k1) =>
        match addLosses st1 (p ++ [1]) r.sp (Path.up s) with
        | .error e => .error e
        | .ok (st2, k2) =>
          match removeAnchor (modifySp (addAnchor (.gene p)) st2 s) s k1 with
          | .error e => .error e
          | .ok st3 =>
            match removeAnchor st3 s k2 with
            | .error e => .error e
            | .ok st4 => .ok (modifySp (addBranch ⟨.gene p, .dup, some k1, some k2⟩) st4 s) := by
  simp only [processGene, hE]
  rfl

theorem processGene_hgt {st : LState} {s p sp : Path} {f : List Nat} {l r : Sol} {c c' : Nat}
    {a : Path} (hE : internalEvent s l.sp r.sp = .hgt) (h1 : IsChild l r c a) (hc : c + c' = 1)
    (hkeep : c = 0 ↔ Path.isAnc s l.sp = true) :
    processGene st s p (.node sp f l r) =
      match addLosses st (p ++ [c]) a (Path.up s) with
      | .error e => .error e
      | .ok (st1, k1) =>
        match removeAnchor (modifySp (addAnchor (.gene p)) st1 s) s k1 with
        | .error e => .error e
        | .ok st2 =>
          .ok (modifySp (addBranch ⟨.gene p, .hgt, some k1, some (.gene (p ++ [c']))⟩) st2 s) := by
  rcases h1 with ⟨rfl, rfl⟩ | ⟨rfl, rfl⟩
  · have : c' = 1 := by omega
    subst this
    simp only [processGene, hE, hkeep.1 rfl]
    rfl
  · have : c' = 0 := by omega
    subst this
    have : Path.isAnc s l.sp = false :=
      Bool.eq_false_iff.2 fun h => absurd (hkeep.2 h) (by simp)
    simp only [processGene, hE, this]
    rfl

/-- The step of the node does not raise on its event: a leaf, or an internal node whose event is
    not `invalid` (`nodePlan` is total and `[]` on an invalid event). -/
def Planned (s : Path) : Sol → Prop
  | .leaf _ _ => True
  | .node _ _ l r => internalEvent s l.sp r.sp ≠ .invalid

theorem processGene_iff {st st' : LState} {s p : Path} {sub : Sol} (hs : s ∈ skeys st) :
    processGene st s p sub = .ok st' ↔ Planned s sub ∧ Ran st (nodePlan s p sub) st' := by
  obtain ⟨pl, hpl⟩ : ∃ pl, nodePlan s p sub = pl := ⟨_, rfl⟩
  have hP : PlanOf s p sub pl := hpl ▸ planOf s p sub
  rw [hpl]
  cases hP with
  | leaf sp f =>
    simp only [processGene, Planned, true_and, Except.ok.injEq]
    rw [placed_plain (s := s) ⟨.gene p, .leaf, none, none⟩ rfl hs, ran_single]
  | invalid hE => simp [processGene, Planned, hE]
  -- in the other cases every line that may raise is read by `thenPair_ok` / `then_ok` and
  -- `addLosses_child` / `addLosses_up`; what is left are the lines that place the node's own branch
  | @spec sp f l r c1 c2 a1 a2 x1 x2 w1 w2 hE h1 h2 hc hsw e1 e2 _ =>
    have hpd : Planned s (.node sp f l r) := by simp [Planned, hE]
    rw [processGene_spec hE h1 h2 hc hsw, e1, e2]
    simp only [hpd, true_and, ran_append, ran_single, thenPair_ok, addLosses_child, Except.ok.injEq,
      and_assoc, exists_eq_left]
    refine exists_congr fun st1 => and_congr_right fun r1 => exists_congr fun st2 =>
      and_congr_right fun r2 => ?_
    exact placed_plain _ rfl (by rw [r2.did.keys, r1.did.keys]; exact hs)
  | @dup sp f l r w1 w2 hE e1 e2 =>
    have hpd : Planned s (.node sp f l r) := by simp [Planned, hE]
    rw [processGene_dup hE, e1, e2]
    simp only [hpd, true_and, ran_append, ran_single, thenPair_ok, then_ok, addLosses_up,
      Except.ok.injEq, and_assoc, exists_eq_left]
    refine exists_congr fun st1 => and_congr_right fun r1 => exists_congr fun st2 =>
      and_congr_right fun r2 => ?_
    exact placed_two ⟨.gene p, .dup, some _, some _⟩ _ _ rfl
      (by rw [r2.did.keys, r1.did.keys]; exact hs)
  | @hgt sp f l r c c' a w hE h1 hc hkeep e1 =>
    have hpd : Planned s (.node sp f l r) := by simp [Planned, hE]
    rw [processGene_hgt hE h1 hc hkeep, e1]
    simp only [hpd, true_and, ran_append, ran_single, thenPair_ok, then_ok, addLosses_up,
      Except.ok.injEq, and_assoc, exists_eq_left]
    refine exists_congr fun st1 => and_congr_right fun r1 => ?_
    exact placed_one ⟨.gene p, .hgt, some _, some _⟩ _ rfl (by rw [r1.did.keys]; exact hs)

end SR.Layout
