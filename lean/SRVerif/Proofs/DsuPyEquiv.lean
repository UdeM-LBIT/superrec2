/-
  The methods generated from `superrec2/utils/disjoint_set.py` (`Generated/DsuPy.lean`) compute
  what the model `Model/DisjointSet.lean` computes.  How these proofs depend on the printed text:
  head of `Proofs/PyRt.lean`.

  The statements are about `toGen d` (the generated object holding the data of
  the model structure `d`; `groups` is a Python int); those about `find`,
  `unite`, `to_list` and `binary` take `d` satisfying `DS.WF` and elements in
  range: there every `IndexError` branch is dead.  The fuel of the generated
  `find.rec_` suffices by the rank measure of `findAux_spec` (`find_rec_eq`), so
  `Diverged` is never returned; `groups - 1` on `Int` is the model's truncated
  subtraction because a well-formed state with a root has `groups ≥ 1`; the list
  handed to `_binary` is `Py.listOfSet ord reps`, a duplicate-free listing of the
  roots for EVERY set order `ord` (`listOfSet_listing`).
-/
import SRVerif.Generated.DsuPy
import SRVerif.Proofs.DisjointSetBinaryPerm
import SRVerif.Proofs.PyRt

namespace SR.DsuPyProofs
open SR SR.Py SR.DS SR.Gen.Dsu

/-- The generated object that holds the data of a model structure (the counter is a Python int). -/
def toGen (d : DS) : DisjointSet := { parent := d.parent, rank := d.rank, groups := (d.groups : Int) }

@[simp] theorem toGen_parent (d : DS) : (toGen d).parent = d.parent := rfl
@[simp] theorem toGen_rank (d : DS) : (toGen d).rank = d.rank := rfl
@[simp] theorem toGen_groups (d : DS) : (toGen d).groups = (d.groups : Int) := rfl

theorem toGen_setParent (d : DS) (e r : Nat) :
    ({ toGen d with parent := d.parent.set e r } : DisjointSet) = toGen (d.setParent e r) := rfl

theorem parent_get {d : DS} {e : Nat} (he : e < d.size) : d.parent[e]? = some (d.par e) := by
  have he' : e < d.parent.length := he
  simp [DS.par, List.getD_eq_getElem?_getD, List.getElem?_eq_getElem he']

theorem rank_get {d : DS} (hd : WF d) {e : Nat} (he : e < d.size) : d.rank[e]? = some (d.rk e) := by
  have he' : e < d.rank.length := by rw [hd.lenR]; exact he
  simp [DS.rk, List.getD_eq_getElem?_getD, List.getElem?_eq_getElem he']

theorem init_eq (n : Nat) : DisjointSet.__init__ n = .ok (toGen (DS.init n)) := by
  simp [DisjointSet.__init__, toGen, DS.init]

/-- `find`: with fuel `k + 1` the generated recursion computes what the model computes with fuel `k`,
    whenever `k` bounds the length of the walk to the root (rank argument of `findAux_spec`). -/
theorem find_rec_eq {d : DS} (hd : WF d) : ∀ (fuel e : Nat), e < d.size →
    d.size ≤ fuel + d.rk e + d.nroots →
    DisjointSet.find.rec_ (fuel + 1) (toGen d) e
      = .ok (toGen (findAux fuel d e).1, (findAux fuel d e).2) := by
  intro fuel
  induction fuel with
  | zero =>
    intro e he hf
    have hroot : d.par e = e := hd.root_of_rank_bound he (by omega)
    simp [DisjointSet.find.rec_, parent_get he, hroot, findAux]
  | succ fuel ih =>
    intro e he hf
    rw [DisjointSet.find.rec_]
    simp only [toGen_parent, parent_get he]
    by_cases hroot : d.par e = e
    · simp [hroot, findAux]
    · have h1 := hd.inc e hroot
      have hpe := hd.lt e he
      obtain ⟨_, hP, hW⟩ := findAux_spec hd fuel (d.par e) hpe (by omega)
      have he' : e < (findAux fuel d (d.par e)).1.parent.length := by
        have := hP.size; unfold DS.size at this he; omega
      simp only [hroot, if_false, ih (d.par e) hpe (by omega), findAux, toGen_parent,
        Py.setNat?_of_lt he']
      simp [toGen, DS.setParent, List.getElem?_set_self he']

theorem find_eq {d : DS} (hd : WF d) {e : Nat} (he : e < d.size) :
    DisjointSet.find (toGen d) e = .ok (toGen (d.find e).1, (d.find e).2) := by
  unfold DisjointSet.find DS.find
  exact find_rec_eq hd d.size e he (by omega)

theorem find_ok {n : Nat} {d : DS} (h : Ok n d) {e : Nat} (he : e < n) :
    DisjointSet.find (toGen d) e = .ok (toGen (d.find e).1, (d.find e).2) ∧
      Ok n (d.find e).1 ∧ (d.find e).2 < n :=
  ⟨find_eq h.1 (h.lt he), h.find he⟩

/-- `unite` from the two `find`s: the roots they return are in range of the structure they leave. -/
theorem unite_ok {n : Nat} {d : DS} (h : Ok n d) {a b : Nat} (ha : a < n) (hb : b < n) :
    DisjointSet.unite (toGen d) a b = .ok (toGen (d.unite a b).1, (d.unite a b).2) ∧
      Ok n (d.unite a b).1 := by
  refine ⟨?_, h.unite ha hb⟩
  obtain ⟨e1, o1, h1⟩ := find_ok h ha
  obtain ⟨e2, o2, h2⟩ := find_ok o1 hb
  have hg := o2.groups_pos h2
  unfold DisjointSet.unite DS.unite
  simp only [e1, e2]
  generalize ((d.find a).1.find b).1 = d2 at *
  generalize (d.find a).2 = ra at *
  generalize ((d.find a).1.find b).2 = rb at *
  have hla : ra < d2.size := o2.lt h1
  have hlb : rb < d2.size := o2.lt h2
  have hlar : ra < d2.rank.length := o2.1.lenR ▸ hla
  unfold DS.size at hla hlb
  have hcast : ((d2.groups : Int) - 1) = ((d2.groups - 1 : Nat) : Int) := by omega
  by_cases hab : ra = rb
  · simp [hab]
  · simp only [hab, if_false, toGen_rank, rank_get o2.1 hla, rank_get o2.1 hlb]
    by_cases hr1 : d2.rk ra = d2.rk rb
    · simp [hr1, Py.setNat?_of_lt hlar, Py.setNat?_of_lt hlb, toGen, hcast]
    · by_cases hr2 : d2.rk ra > d2.rk rb
      · simp [hr1, hr2, Py.setNat?_of_lt hlb, toGen, DS.setParent, hcast]
      · simp [hr1, hr2, Py.setNat?_of_lt hla, toGen, DS.setParent, hcast]

theorem unite_eq {d : DS} (hd : WF d) {a b : Nat} (ha : a < d.size) (hb : b < d.size) :
    DisjointSet.unite (toGen d) a b = .ok (toGen (d.unite a b).1, (d.unite a b).2) :=
  (unite_ok ⟨hd, rfl⟩ ha hb).1

theorem len_eq (d : DS) : DisjointSet.__len__ (toGen d) = .ok (d.groups : Int) := rfl

theorem toList_loop_eq {n : Nat} (is : List Nat) (d : DS) (result : List (List Nat)) (hd : Ok n d)
    (hlen : result.length = n) (hi : ∀ i ∈ is, i < n) :
    DisjointSet.to_list.loop1 is (toGen d, result)
      = .next (toGen (is.foldl toListStep (d, result)).1, (is.foldl toListStep (d, result)).2) := by
  refine Py.forLoop_foldl (fun s : DS × List (List Nat) => (toGen s.1, s.2))
    (fun l s => (Ok n s.1 ∧ s.2.length = n) ∧ ∀ i ∈ l, i < n)
    (fun s => by rw [DisjointSet.to_list.loop1]) (fun i l s h => ?_) is (d, result) ⟨⟨hd, hlen⟩, hi⟩
  obtain ⟨e, hk, hr⟩ := find_ok h.1.1 (h.2 i List.mem_cons_self)
  have hlt : (s.1.find i).2 < s.2.length := h.1.2 ▸ hr
  refine ⟨?_, ⟨hk, by simpa [toListStep] using h.1.2⟩, fun j hj => h.2 j (List.mem_cons_of_mem _ hj)⟩
  rw [DisjointSet.to_list.loop1]
  simp only [e, List.getElem?_eq_getElem hlt, Py.setNat?_of_lt hlt, toListStep,
    List.modify_eq_set_getElem _ hlt]

theorem to_list_eq {d : DS} (hd : WF d) :
    DisjointSet.to_list (toGen d) = .ok (toGen d.toList.1, d.toList.2) := by
  unfold DisjointSet.to_list DS.toList
  have hinit : (List.map (fun _ => ([] : List Nat)) (List.range (toGen d).parent.length))
      = List.replicate d.size [] := by
    simp [DS.size, List.map_const']
  simp only [hinit]
  rw [show (toGen d).parent.length = d.size from rfl,
    toList_loop_eq (List.range d.size) d _ ⟨hd, rfl⟩ (by simp) (fun i hi => List.mem_range.mp hi)]
  simp only
  congr 2
  apply List.filter_congr
  intro g _
  cases g <;> simp

theorem reps_loop_eq {n : Nat} (is : List Nat) (d : DS) (acc : List Nat) (hd : Ok n d)
    (hi : ∀ i ∈ is, i < n) :
    DisjointSet.binary.loop1 is (toGen d, acc)
      = .next (toGen (is.foldl repsStep (d, acc)).1, (is.foldl repsStep (d, acc)).2) := by
  refine Py.forLoop_foldl (fun s : DS × List Nat => (toGen s.1, s.2))
    (fun l s => Ok n s.1 ∧ ∀ i ∈ l, i < n) (fun s => by rw [DisjointSet.binary.loop1])
    (fun i l s h => ?_) is (d, acc) ⟨hd, hi⟩
  obtain ⟨e, hk, _⟩ := find_ok h.1 (h.2 i List.mem_cons_self)
  rw [DisjointSet.binary.loop1]
  simp only [e]
  exact ⟨rfl, hk, fun j hj => h.2 j (List.mem_cons_of_mem _ hj)⟩

/-- `_binary`: with more fuel than groups the generated recursion is the model's `binGo`. -/
theorem binary_rec_eq {n : Nat} : ∀ (gs : List Nat) (fuel : Nat) (p : DS) (f s : Option Nat),
    gs.length < fuel → Ok n p → (∀ g ∈ gs, g < n) → (∀ x ∈ f, x < n) → (∀ x ∈ s, x < n) →
    DisjointSet.binary._binary.rec_ fuel (toGen p) gs f s = .ok ((binGo gs p f s).map toGen)
  | _, 0, _, _, _, h, _, _, _, _ => absurd h (Nat.not_lt_zero _)
  | [], k + 1, p, f, s, _, _, _, _, _ => by
    rw [DisjointSet.binary._binary.rec_]
    cases f <;> cases s <;> simp [binGo]
  | g :: gs, k + 1, p, f, s, hk, hp, hgs, hf, hs => by
    have hg : g < n := hgs g List.mem_cons_self
    have ih := fun q f' s' (hq : Ok n q) => binary_rec_eq gs k q f' s' (by simpa using hk) hq
      (fun x hx => hgs x (List.mem_cons_of_mem _ hx))
    have hgo : ∀ x ∈ some g, x < n := by simp [hg]
    have hno : ∀ x ∈ (none : Option Nat), x < n := by simp
    rw [DisjointSet.binary._binary.rec_]
    cases f with
    | some f =>
      obtain ⟨e1, o1⟩ := unite_ok hp (hf f rfl) hg
      cases s with
      | some s =>
        obtain ⟨e2, o2⟩ := unite_ok hp (hs s rfl) hg
        simp [binGo, e1, e2, ih _ _ _ o1 hf hs, ih _ _ _ o2 hf hs]
      | none =>
        by_cases hgf : g > f <;>
          simp [binGo, hgf, e1, ih _ _ _ o1 hf hno, ih _ _ _ hp hf hgo]
    | none =>
      cases s with
      | some s =>
        obtain ⟨e2, o2⟩ := unite_ok hp (hs s rfl) hg
        by_cases hgs2 : g < s <;>
          simp [binGo, hgs2, e2, ih _ _ _ hp hgo hs, ih _ _ _ o2 hno hs]
      | none => simp [binGo, ih _ _ _ hp hgo hno, ih _ _ _ hp hno hgo]

/-- Under ANY iteration order, `list(set(find(i) for i in range(n)))` is a duplicate-free listing
    of the roots. -/
theorem listOfSet_listing {ord : List Nat → List Nat} (hord : Py.SetOrder ord) {d : DS} (hd : WF d) :
    Listing d (Py.listOfSet ord d.allReps.2) :=
  ⟨hord.listOfSet_nodup _, fun r => hord.mem_listOfSet.trans (mem_allReps hd r)⟩

theorem binary_eq {ord : List Nat → List Nat} (hord : Py.SetOrder ord) {d : DS} (hd : WF d) :
    DisjointSet.binary ord (toGen d)
      = .ok (toGen d.allReps.1, (binaryOrd d (Py.listOfSet ord d.allReps.2)).map toGen) := by
  obtain ⟨hP, hW, _⟩ := allReps_fold hd d.size (Nat.le_refl _)
  unfold DisjointSet.binary
  simp only [show (toGen d).parent.length = d.size from rfl,
    reps_loop_eq (List.range d.size) d [] ⟨hd, rfl⟩ (fun i hi => List.mem_range.mp hi),
    DisjointSet.binary._binary]
  rw [binary_rec_eq _ _ _ none none (Nat.lt_succ_self _) ⟨hW, hP.size⟩ ?_ (by simp) (by simp)]
  · rfl
  · exact fun g hg => (mem_roots.mp (((listOfSet_listing hord hd).mem g).mp hg)).1

end SR.DsuPyProofs
