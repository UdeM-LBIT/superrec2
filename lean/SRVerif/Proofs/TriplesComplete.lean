/-
  BUILD is complete: if some tree with distinct leaf names displays every
  triple, `tree_from_triples` returns a tree.  The equivalence of `separation` (read off that
  tree) contains BUILD's unions and separates two leaves `x`, `y`, so there are at least two
  blocks (`blocks_least`); every block misses `x` or `y`, so it is shorter and the fuel suffices.
-/
import SRVerif.Proofs.Triples

namespace SR.Tri

open SR SR.DS LTree Spec

theorem build_complete : ∀ (fuel : Nat) (l : List Nat) (trs : List Triple) (t : LTree),
    l.Nodup → l ≠ [] → l.length ≤ fuel → t.leaves.Nodup → (∀ x, x ∈ l → x ∈ t.leaves) →
    (∀ tr, tr ∈ trs → inside l tr = true ∧ displays t tr = true) →
    (build fuel l trs).isSome = true := by
  intro fuel
  induction fuel with
  | zero =>
    intro l trs t _ hne hlen _ _ _
    exact absurd (List.eq_nil_of_length_eq_zero (Nat.le_zero.mp hlen)) hne
  | succ fuel ih =>
    intro l trs t hl hne hlen ht hsub htrs
    match l, hl, hne, hlen, hsub, htrs with
    | [], _, hne, _, _, _ => exact absurd rfl hne
    | [a], _, _, _, _, _ => simp [build]
    | [a, b], _, _, _, _, _ => simp [build]
    | a :: b :: c :: rest, hl, _, hlen, hsub, htrs =>
      simp only [build]
      generalize hl' : a :: b :: c :: rest = l at *
      have hk : Known l trs := fun tr htr =>
        let h := (inside_iff l tr).mp (htrs tr htr).1; ⟨h.1, h.2.1⟩
      obtain ⟨R, r1, r2, r3, ⟨x, y, hx, hy, hxy⟩, r5⟩ :=
        separation t ht l (by rw [← hl']; simp) hl hsub
      have hR : ∀ tr, tr ∈ trs → R tr.1 tr.2.1 := fun tr htr =>
        have hin := (inside_iff l tr).mp (htrs tr htr).1
        r5 _ _ _ hin.1 hin.2.1 hin.2.2 ((displays_iff t tr).mp (htrs tr htr).2).2.2.2
      obtain ⟨_, q2, _, q4, qg⟩ := blocks_spec hl hk _ rfl
      -- `x` and `y` lie in two blocks
      have hgroups : ¬ (partitionOf l trs).groups ≤ 1 := by
        rw [qg]
        obtain ⟨Lx, hLx, hxL⟩ := (q2 x).mp hx
        obtain ⟨Ly, hLy, hyL⟩ := (q2 y).mp hy
        obtain ⟨gx, hgx, rfl⟩ := List.mem_map.mp hLx
        obtain ⟨gy, hgy, rfl⟩ := List.mem_map.mp hLy
        intro hle
        have : gx = gy := by
          match (partitionOf l trs).toList.2, hgx, hgy, hle with
          | [g], h1, h2, _ => rw [List.mem_singleton.mp h1, List.mem_singleton.mp h2]
          | _ :: _ :: _, _, _, hle => simp at hle
        subst this
        exact hxy (blocks_least hk r1 r2 r3 hR hgx hxL hyL)
      simp only [hgroups, if_false]
      have hsome : ∀ g, g ∈ (partitionOf l trs).toList.2 → ∃ u,
          build fuel (groupLeaves l g) (trs.filter (inside (groupLeaves l g))) = some u := by
        intro g hg
        obtain ⟨hnd, hne'⟩ := q4 g hg
        have hsubl : ∀ w, w ∈ groupLeaves l g → w ∈ l := fun w hw =>
          (q2 w).mpr ⟨_, List.mem_map.mpr ⟨g, hg, rfl⟩, hw⟩
        -- the block misses `x` or `y`, so it is shorter
        obtain ⟨z, hz, hzg⟩ : ∃ z, z ∈ l ∧ z ∉ groupLeaves l g := by
          by_cases hxg : x ∈ groupLeaves l g
          · exact ⟨y, hy, fun hyg => hxy (blocks_least hk r1 r2 r3 hR hg hxg hyg)⟩
          · exact ⟨x, hx, hxg⟩
        have hglen := List.Nodup.length_lt hnd hsubl hz hzg
        have := ih (groupLeaves l g) (trs.filter (inside (groupLeaves l g))) t hnd hne' (by omega) ht
          (fun w hw => hsub w (hsubl w hw))
          (fun tr htr => ⟨(List.mem_filter.mp htr).2, (htrs tr (List.mem_filter.mp htr).1).2⟩)
        exact Option.isSome_iff_exists.mp this
      obtain ⟨us, hus⟩ := List.exists_mapM_eq_some (f := fun g =>
          build fuel (groupLeaves l g) (trs.filter (inside (groupLeaves l g)))) hsome
      rw [hus]; rfl

theorem treeFromTriples_complete {l : List Nat} {trs : List Triple} {t : LTree}
    (hl : l.Nodup) (hne : l ≠ []) (ht : t.leaves.Nodup) (hsub : ∀ x, x ∈ l → x ∈ t.leaves)
    (htrs : ∀ tr, tr ∈ trs → inside l tr = true ∧ displays t tr = true) :
    (treeFromTriples l trs).isSome = true :=
  build_complete _ l trs t hl hne (Nat.le_refl _) ht hsub htrs

end SR.Tri
