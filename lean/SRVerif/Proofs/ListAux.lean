/-
  Lists, no model function: a set kept in insertion order (`addNew`), association lists read with `lookup` or `find?`
  by key, folds of `min`/`max` and folds keeping an invariant, `intercalate`, `idxOf` and `getD`, `mapM`, `countP` over
  `range`, `splitBy`, sorted lists, lists of representatives of an equivalence (`SR.ExactlyOnce`), an equivalence with
  two classes.  Each model's own functions are tied to these in the lowest proof module of that model (`SolverLists`
  for Model/Rec, LabelDP, Solvers).
  Also about `Except`: reading a specification `∃ r, f = .ok r ∧ P r`, "raises exactly when", and its decidable equality.
-/

namespace List

section addNew

variable {α : Type u} [BEq α] [LawfulBEq α] {l acc : List α} {x y : α}

/-- `s.add(x)` on a list standing for a set in insertion order. -/
def addNew (l : List α) (x : α) : List α := if x ∈ l then l else l ++ [x]

theorem addNew_of_mem (h : x ∈ l) : l.addNew x = l := if_pos h

theorem addNew_of_not_mem (h : x ∉ l) : l.addNew x = l ++ [x] := if_neg h

theorem mem_addNew : y ∈ l.addNew x ↔ y ∈ l ∨ y = x := by
  by_cases h : x ∈ l
  · rw [addNew_of_mem h]
    exact ⟨Or.inl, fun hy => hy.elim id (· ▸ h)⟩
  · rw [addNew_of_not_mem h, mem_append, mem_singleton]

theorem Nodup.addNew (h : l.Nodup) : (l.addNew x).Nodup := by
  by_cases hx : x ∈ l
  · rwa [addNew_of_mem hx]
  · rw [addNew_of_not_mem hx]
    exact nodup_append.mpr ⟨h, pairwise_singleton _ x, fun a ha b hb => by
      rw [mem_singleton.mp hb]
      exact fun e => hx (e ▸ ha)⟩

theorem mem_foldl_addNew : y ∈ l.foldl addNew acc ↔ y ∈ acc ∨ y ∈ l := by
  induction l generalizing acc with
  | nil => simp
  | cons a l ih => rw [foldl_cons, ih, mem_addNew, mem_cons, or_assoc]

theorem nodup_foldl_addNew (h : acc.Nodup) : (l.foldl addNew acc).Nodup := by
  induction l generalizing acc with
  | nil => exact h
  | cons a l ih => exact ih h.addNew

theorem foldl_addNew_eq_append_sublist : ∃ l', l.foldl addNew acc = acc ++ l' ∧ l' <+ l := by
  induction l generalizing acc with
  | nil => exact ⟨[], (append_nil acc).symm, .slnil⟩
  | cons a l ih =>
    by_cases ha : a ∈ acc
    · obtain ⟨l', h, hs⟩ := ih (acc := acc)
      exact ⟨l', by rw [foldl_cons, addNew_of_mem ha, h], hs.cons a⟩
    · obtain ⟨l', h, hs⟩ := ih (acc := acc ++ [a])
      exact ⟨a :: l', by rw [foldl_cons, addNew_of_not_mem ha, h, append_assoc, singleton_append],
        hs.cons_cons a⟩

theorem foldl_addNew_eq_self (h : ∀ x ∈ l, x ∈ acc) : l.foldl addNew acc = acc := by
  induction l with
  | nil => rfl
  | cons a l ih =>
    rw [foldl_cons, addNew_of_mem (h a mem_cons_self)]
    exact ih fun x hx => h x (mem_cons_of_mem a hx)

theorem foldl_addNew_eq_append_iff (h : acc.Nodup) :
    l.foldl addNew acc = acc ++ l ↔ (acc ++ l).Nodup := by
  refine ⟨fun e => e ▸ nodup_foldl_addNew h, fun hn => ?_⟩
  induction l generalizing acc with
  | nil => exact (append_nil acc).symm
  | cons a l ih =>
    have ha : a ∉ acc := fun ha => (nodup_append.mp hn).2.2 a ha a mem_cons_self rfl
    have hn' : (acc ++ [a] ++ l).Nodup := by rwa [append_assoc, singleton_append]
    rw [foldl_cons, addNew_of_not_mem ha, ih (nodup_append.mp hn').1 hn', append_assoc,
      singleton_append]

theorem foldl_addNew_eq_append (h : (acc ++ l).Nodup) : l.foldl addNew acc = acc ++ l :=
  (foldl_addNew_eq_append_iff (nodup_append.mp h).1).mpr h

theorem length_foldl_addNew_eq_iff (h : acc.Nodup) :
    (l.foldl addNew acc).length = acc.length + l.length ↔ (acc ++ l).Nodup := by
  refine ⟨fun e => ?_, fun hn => by rw [foldl_addNew_eq_append hn, length_append]⟩
  obtain ⟨l', h', hs⟩ := foldl_addNew_eq_append_sublist (l := l) (acc := acc)
  rw [h', length_append, Nat.add_left_cancel_iff] at e
  rw [← hs.eq_of_length e, ← h']
  exact nodup_foldl_addNew h

theorem mem_foldl_addNew_nil : y ∈ l.foldl addNew [] ↔ y ∈ l := by
  rw [mem_foldl_addNew, or_iff_right not_mem_nil]

theorem nodup_foldl_addNew_nil : (l.foldl addNew []).Nodup := nodup_foldl_addNew nodup_nil

theorem foldl_addNew_nil_eq_self_iff : l.foldl addNew [] = l ↔ l.Nodup := by
  simpa using foldl_addNew_eq_append_iff (l := l) nodup_nil

theorem length_foldl_addNew_nil_eq_iff : (l.foldl addNew []).length = l.length ↔ l.Nodup := by
  simpa using length_foldl_addNew_eq_iff (l := l) nodup_nil

end addNew


section lookup

variable {κ : Type u} {β : Type v} {γ : Type w} [BEq κ] [LawfulBEq κ]
  {l : List (κ × β)} {k : κ} {v : β}

theorem lookup_isSome_iff_mem_keys : (l.lookup k).isSome ↔ k ∈ l.map (·.1) := by
  simp only [lookup_isSome_iff, beq_iff_eq, mem_map, @eq_comm _ k]

theorem exists_lookup_iff_mem_keys : (∃ v, l.lookup k = some v) ↔ k ∈ l.map (·.1) :=
  Option.isSome_iff_exists.symm.trans lookup_isSome_iff_mem_keys

theorem lookup_eq_none_iff_not_mem_keys : l.lookup k = none ↔ k ∉ l.map (·.1) := by
  rw [← lookup_isSome_iff_mem_keys, Bool.not_eq_true, Option.isSome_eq_false_iff,
    Option.isNone_iff_eq_none]

theorem mem_of_lookup_eq_some (h : l.lookup k = some v) : (k, v) ∈ l := by
  obtain ⟨l₁, l₂, rfl, _⟩ := lookup_eq_some_iff.mp h
  exact mem_append_right l₁ mem_cons_self

theorem lookup_eq_some_iff_mem (hn : (l.map (·.1)).Nodup) : l.lookup k = some v ↔ (k, v) ∈ l := by
  refine ⟨mem_of_lookup_eq_some, fun h => ?_⟩
  obtain ⟨l₁, l₂, rfl⟩ := append_of_mem h
  refine lookup_eq_some_iff.mpr ⟨l₁, l₂, rfl, fun p hp => ?_⟩
  rw [map_append, map_cons, nodup_append] at hn
  exact bne_iff_ne.mpr fun e => hn.2.2 p.1 (mem_map_of_mem hp) k mem_cons_self e.symm

/-- The model's lookups test `key = query`, `List.lookup` tests `query == key`. -/
theorem lookup_cons_eq_ite [DecidableEq κ] {k' : κ} :
    ((k', v) :: l).lookup k = if k' = k then some v else l.lookup k := by
  rw [lookup_cons]
  by_cases e : k' = k
  · rw [if_pos e, beq_iff_eq.mpr e.symm]
  · rw [if_neg e, beq_eq_false_iff_ne.mpr fun e' => e e'.symm]

theorem lookup_map_snd (f : κ → β → γ) (l : List (κ × β)) (k : κ) :
    (l.map fun p => (p.1, f p.1 p.2)).lookup k = (l.lookup k).map (f k) := by
  induction l with
  | nil => rfl
  | cons a l ih =>
    rw [map_cons, lookup_cons, lookup_cons, ih]
    cases h : k == a.1
    · rfl
    · rw [eq_of_beq h]; rfl

omit [BEq κ] [LawfulBEq κ] in
/-- `d[k] = f d[k]` written as a `map` that touches the entries with key `k`. -/
theorem map_update_eq_map_snd [DecidableEq κ] (f : β → β) (l : List (κ × β)) (k : κ) :
    (l.map fun p => if p.1 = k then (k, f p.2) else p) =
      l.map fun p => (p.1, if p.1 = k then f p.2 else p.2) :=
  map_congr_left fun p _ => by
    by_cases e : p.1 = k
    · rw [if_pos e, if_pos e, e]
    · rw [if_neg e, if_neg e]

omit [BEq κ] [LawfulBEq κ] in
theorem keys_map_update [DecidableEq κ] (f : β → β) (l : List (κ × β)) (k : κ) :
    (l.map fun p => if p.1 = k then (k, f p.2) else p).map (·.1) = l.map (·.1) := by
  rw [map_update_eq_map_snd, map_map]; rfl

theorem lookup_filter_key (q : κ → Bool) (l : List (κ × β)) (k : κ) :
    (l.filter fun p => q p.1).lookup k = if q k then l.lookup k else none := by
  induction l with
  | nil => simp
  | cons a l ih =>
    obtain ⟨k', v⟩ := a
    rw [filter_cons]
    by_cases e : k = k'
    · subst e
      cases hq : q k
      · simp only [Bool.false_eq_true, if_false, ih, hq]
      · simp only [if_true, lookup_cons_self]
    · have e' : (k == k') = false := beq_eq_false_iff_ne.mpr e
      have h : ((k', v) :: l).lookup k = l.lookup k := by rw [lookup_cons, e']
      rw [h, ← ih]
      split
      · rw [lookup_cons, e']
      · rfl

end lookup


section findKey

variable {α : Type u} {κ : Type v} [BEq κ] [LawfulBEq κ] {f : α → κ} {l : List α} {a : α} {k : κ}

theorem key_eq_of_find?_eq_some (h : l.find? (fun b => f b == k) = some a) : f a = k :=
  beq_iff_eq.mp (find?_some (p := fun b => f b == k) h)

theorem find?_key_isSome_iff_mem_keys : (l.find? fun b => f b == k).isSome ↔ k ∈ l.map f := by
  simp only [find?_isSome, beq_iff_eq, mem_map]

theorem find?_key_eq_some_of_nodup (hn : (l.map f).Nodup) (h : a ∈ l) :
    l.find? (fun b => f b == f a) = some a := by
  induction l with
  | nil => cases h
  | cons b l ih =>
    rw [map_cons, nodup_cons] at hn
    rcases mem_cons.mp h with rfl | h
    · exact find?_cons_of_pos (beq_self_eq_true _)
    · rw [find?_cons_of_neg, ih hn.2 h]
      exact fun e => hn.1 (eq_of_beq e ▸ mem_map_of_mem h)

end findKey


theorem foldl_choice_spec {α : Type u} {R : α → α → Prop} {f : α → α → α}
    (hrefl : ∀ a, R a a) (htrans : ∀ {a b c}, R a b → R b c → R a c)
    (hf : ∀ a b, f a b = a ∨ f a b = b) (hl : ∀ a b, R (f a b) a) (hr : ∀ a b, R (f a b) b)
    (l : List α) (a : α) : l.foldl f a ∈ a :: l ∧ ∀ x ∈ a :: l, R (l.foldl f a) x := by
  induction l generalizing a with
  | nil => exact ⟨mem_cons_self, fun x hx => mem_singleton.mp hx ▸ hrefl a⟩
  | cons b l ih =>
    obtain ⟨h1, h2⟩ := ih (f a b)
    have h0 := h2 _ mem_cons_self
    refine ⟨?_, fun x hx => ?_⟩
    · rcases mem_cons.mp h1 with h | h
      · rw [foldl_cons, h]
        rcases hf a b with e | e
        · rw [e]; exact mem_cons_self
        · rw [e]; exact mem_cons_of_mem a mem_cons_self
      · exact mem_cons_of_mem a (mem_cons_of_mem b h)
    · rcases mem_cons.mp hx with rfl | hx
      · exact htrans h0 (hl x b)
      · rcases mem_cons.mp hx with rfl | hx
        · exact htrans h0 (hr a x)
        · exact h2 x (mem_cons_of_mem _ hx)

/-- A fold whose steps may fail keeps an invariant, and a family `M i` of properties of the
    state to which each step adds `P i a` accumulates the disjunction. -/
theorem foldlM_accum {σ α ε ι : Type} {f : σ → α → Except ε σ} {Inv : σ → Prop}
    {M : ι → σ → Prop} {P : ι → α → Prop}
    (hstep : ∀ g a g', Inv g → f g a = .ok g' → Inv g' ∧ ∀ i, M i g' ↔ M i g ∨ P i a) :
    ∀ (l : List α) (g g' : σ), Inv g → l.foldlM f g = .ok g' →
      Inv g' ∧ ∀ i, M i g' ↔ M i g ∨ ∃ a ∈ l, P i a := by
  intro l
  induction l with
  | nil =>
    intro g g' h e
    cases e
    simp [h]
  | cons a l ih =>
    intro g g' h e
    rw [List.foldlM_cons] at e
    cases h1 : f g a with
    | error _ => rw [h1] at e; cases e
    | ok g1 =>
      rw [h1] at e
      obtain ⟨hi, hm⟩ := hstep g a g1 h h1
      obtain ⟨hi', hm'⟩ := ih g1 g' hi e
      refine ⟨hi', fun i => ?_⟩
      rw [hm', hm]
      simp only [List.mem_cons, exists_eq_or_imp, or_assoc]

theorem foldl_accum {σ α ι : Type} {f : σ → α → σ} {Inv : σ → Prop}
    {M : ι → σ → Prop} {P : ι → α → Prop}
    (hstep : ∀ g a, Inv g → Inv (f g a) ∧ ∀ i, M i (f g a) ↔ M i g ∨ P i a) (l : List α) (g : σ)
    (h : Inv g) : Inv (l.foldl f g) ∧ ∀ i, M i (l.foldl f g) ↔ M i g ∨ ∃ a ∈ l, P i a :=
  foldlM_accum (ε := Empty) (f := fun g a => pure (f g a))
    (fun g a _ hg e => by cases e; exact hstep g a hg) l g _ h List.foldlM_pure

theorem foldl_min_spec {α : Type u} [Min α] [LE α] [Std.IsLinearOrder α] [Std.LawfulOrderMin α]
    (l : List α) (a : α) : l.foldl min a ∈ a :: l ∧ ∀ x ∈ a :: l, l.foldl min a ≤ x :=
  min?_eq_some_iff.mp min?_cons'

theorem foldl_max_spec {α : Type u} [Max α] [LE α] [Std.IsLinearOrder α] [Std.LawfulOrderMax α]
    (l : List α) (a : α) : l.foldl max a ∈ a :: l ∧ ∀ x ∈ a :: l, x ≤ l.foldl max a :=
  max?_eq_some_iff.mp max?_cons'


theorem eq_of_pairwise_of_mem_iff {α : Type u} {R : α → α → Prop} (hirr : ∀ a, ¬ R a a)
    (hasymm : ∀ a b, R a b → R b a → a = b) {l₁ l₂ : List α} (h₁ : l₁.Pairwise R)
    (h₂ : l₂.Pairwise R) (h : ∀ x, x ∈ l₁ ↔ x ∈ l₂) : l₁ = l₂ :=
  have nd {l : List α} (hl : l.Pairwise R) : l.Nodup := hl.imp (S := (· ≠ ·)) fun hab e => hirr _ (e ▸ hab)
  Perm.eq_of_pairwise (fun a b _ _ => hasymm a b) h₁ h₂ ((perm_ext_iff_of_nodup (nd h₁) (nd h₂)).mpr h)

theorem exists_mem_snoc {α : Type} {p : α → Prop} {l : List α} {a : α} :
    (∃ x ∈ l ++ [a], p x) ↔ (∃ x ∈ l, p x) ∨ p a := by
  simp [or_and_right, exists_or]

theorem forall_mem_snoc {α : Type} {p : α → Prop} {l : List α} {a : α} :
    (∀ x ∈ l ++ [a], p x) ↔ (∀ x ∈ l, p x) ∧ p a := by
  simp [or_imp, forall_and]

theorem mem_pairs {α β : Type} (l : List α) (l' : List β) (p : α × β) :
    p ∈ l.flatMap (fun x => l'.map (fun y => (x, y))) ↔ p.1 ∈ l ∧ p.2 ∈ l' := by
  simp only [List.mem_flatMap, List.mem_map]
  constructor
  · rintro ⟨x, hx, y, hy, rfl⟩; exact ⟨hx, hy⟩
  · rintro ⟨h1, h2⟩; exact ⟨p.1, h1, p.2, h2, rfl⟩

theorem mem_intercalate {α : Type u} {sep : List α} {ls : List (List α)} {c : α} :
    c ∈ intercalate sep ls ↔ (c ∈ sep ∧ 2 ≤ ls.length) ∨ ∃ l ∈ ls, c ∈ l := by
  induction ls with
  | nil => simp [intercalate]
  | cons x ls ih =>
    cases ls with
    | nil => simp [intercalate]
    | cons y r =>
      rw [intercalate_cons_cons, mem_append, mem_append, ih]
      constructor
      · rintro ((h | h) | ⟨h, _⟩ | ⟨l, hl, hc⟩)
        · exact .inr ⟨x, mem_cons_self, h⟩
        · exact .inl ⟨h, Nat.le_add_left 2 r.length⟩
        · exact .inl ⟨h, Nat.le_add_left 2 r.length⟩
        · exact .inr ⟨l, mem_cons_of_mem x hl, hc⟩
      · rintro (⟨h, _⟩ | ⟨l, hl, hc⟩)
        · exact .inl (.inr h)
        · rcases mem_cons.mp hl with rfl | hl
          · exact .inl (.inl hc)
          · exact .inr (.inr ⟨l, hl, hc⟩)

theorem filterMap_eq_map_of_forall {α β : Type} {F : α → Option β} {G : α → β} {l : List α}
    (h : ∀ x ∈ l, F x = some (G x)) : l.filterMap F = l.map G := by
  induction l with
  | nil => rfl
  | cons x l ih =>
    rw [List.filterMap_cons, h x List.mem_cons_self, List.map_cons,
      ih fun y hy => h y (List.mem_cons_of_mem _ hy)]

theorem sum_map_indicator {α : Type u} {P : α → Prop} [DecidablePred P] {f : α → Nat} {l : List α}
    (h : ∀ b ∈ l, f b = if P b then 1 else 0) : (l.map f).sum = (l.filter fun b => P b).length := by
  induction l with
  | nil => rfl
  | cons b l ih =>
    rw [map_cons, sum_cons, h b mem_cons_self, ih fun x hx => h x (mem_cons_of_mem b hx), filter_cons]
    by_cases hb : P b
    · rw [if_pos hb, if_pos (decide_eq_true hb), length_cons, Nat.add_comm]
    · rw [if_neg hb, if_neg (by simpa using hb), Nat.zero_add]

theorem countP_range_congr (p q : Nat → Bool) (n : Nat) (h : ∀ j, j < n → q j = p j) :
    (List.range n).countP q = (List.range n).countP p := by
  apply List.countP_congr
  intro x hx
  rw [h x (List.mem_range.mp hx)]

theorem countP_range_flip (p q : Nat → Bool) (n k : Nat) (hk : k < n) (hp : p k = true)
    (hq : q k = false) (h : ∀ j, j ≠ k → q j = p j) :
    (List.range n).countP q + 1 = (List.range n).countP p := by
  induction n with
  | zero => omega
  | succ n ih =>
    rw [List.range_succ, List.countP_append, List.countP_append]
    by_cases hkn : k = n
    · subst hkn
      have := countP_range_congr p q k (fun j hj => h j (by omega))
      simp [hp, hq, this]
    · have := ih (by omega)
      have hn := h n (fun h' => hkn h'.symm)
      simp only [List.countP_cons, List.countP_nil, hn]
      omega

theorem nodup_map_cons_append {α : Type u} {A B : List (List α)} {a b : α} (hA : A.Nodup)
    (hB : B.Nodup) (hab : a ≠ b) : (A.map (a :: ·) ++ B.map (b :: ·)).Nodup := by
  have hmap (c : α) {L : List (List α)} (h : L.Nodup) : (L.map (c :: ·)).Nodup :=
    Pairwise.map _ (fun _ _ hne heq => hne (cons.inj heq).2) h
  refine nodup_append.mpr ⟨hmap a hA, hmap b hB, fun u hu v hv e => ?_⟩
  obtain ⟨_, _, rfl⟩ := mem_map.mp hu
  obtain ⟨_, _, rfl⟩ := mem_map.mp hv
  exact hab (cons.inj e).1

theorem nodup_map_of_inj_on {α β : Type} (f : α → β) {l : List α} (h : l.Nodup)
    (hinj : ∀ a ∈ l, ∀ b ∈ l, f a = f b → a = b) : (l.map f).Nodup :=
  List.pairwise_map.2 (h.imp_of_mem fun ha hb hne e => hne (hinj _ ha _ hb e))

theorem nodup_keys_map {κ ν κ' ν' : Type} (key : κ → κ') (val : κ × ν → ν') {m : List (κ × ν)}
    (hn : (m.map (·.1)).Nodup) (hinj : ∀ x ∈ m, ∀ y ∈ m, key x.1 = key y.1 → x.1 = y.1) :
    ((m.map fun x => (key x.1, val x)).map (·.1)).Nodup :=
  List.pairwise_map.2 <| List.pairwise_map.2 <| (List.pairwise_map.1 hn).imp_of_mem
    fun hx hy hne e => hne (hinj _ hx _ hy e)

theorem eq_singleton_of_nodup {β : Type} {l : List β} {x : β} (hne : l ≠ []) (hnd : l.Nodup)
    (h : ∀ a ∈ l, a = x) : l = [x] := by
  match l, hne, hnd, h with
  | [a], _, _, h => rw [h a (by simp)]
  | a :: b :: rest, _, hnd, h =>
    exfalso
    have e1 := h a (by simp)
    have e2 := h b (by simp)
    rw [List.nodup_cons] at hnd
    exact hnd.1 (by rw [e1, ← e2]; simp)

theorem nodup_ite {p : Prop} [Decidable p] {L : List (List Bool)} (h : L.Nodup) :
    (if p then L else []).Nodup := by
  split
  · exact h
  · exact List.nodup_nil

theorem exists_map_eq_of_nodup : ∀ {gs : List Nat} {c : List Bool}, gs.Nodup → c.length = gs.length →
    ∃ κ : Nat → Bool, gs.map κ = c
  | [], [], _, _ => ⟨fun _ => false, rfl⟩
  | [], _ :: _, _, hl => absurd hl (Nat.succ_ne_zero _)
  | _ :: _, [], _, hl => absurd hl.symm (Nat.succ_ne_zero _)
  | g :: gs, b :: c, hn, hl => by
    obtain ⟨hg, hn'⟩ := List.nodup_cons.mp hn
    obtain ⟨κ, hκ⟩ := exists_map_eq_of_nodup hn' (Nat.succ.inj hl)
    refine ⟨fun x => if x = g then b else κ x, ?_⟩
    rw [List.map_cons, if_pos rfl, ← hκ]
    congr 1
    apply List.map_congr_left
    intro x hx
    rw [if_neg]
    rintro rfl
    exact hg hx

theorem exists_block_of_not_nodup (l : List Nat) (h : ¬ l.Nodup) :
    ∃ x l₁ m l₃, l = l₁ ++ (x :: m ++ [x]) ++ l₃ := by
  induction l with
  | nil => exact absurd List.nodup_nil h
  | cons a l ih =>
    by_cases ha : a ∈ l
    · obtain ⟨m, l₃, rfl⟩ := List.append_of_mem ha
      exact ⟨a, [], m, l₃, by simp⟩
    · obtain ⟨x, l₁, m, l₃, rfl⟩ := ih fun hn => h (List.nodup_cons.2 ⟨ha, hn⟩)
      exact ⟨x, a :: l₁, m, l₃, by simp⟩

theorem idxOf_lt_idxOf_iff {α : Type u} [BEq α] [LawfulBEq α] {as bs : List α} {w : α}
    (hw : w ∉ as) (u : α) : (as ++ w :: bs).idxOf u < (as ++ w :: bs).idxOf w ↔ u ∈ as := by
  rw [List.idxOf_append (a := w), if_neg hw, List.idxOf_cons_self, List.idxOf_append, Nat.zero_add]
  by_cases h : u ∈ as
  · rw [if_pos h]; exact ⟨fun _ => h, fun _ => List.idxOf_lt_length_of_mem h⟩
  · rw [if_neg h]
    exact ⟨fun hl => absurd hl (Nat.not_lt.2 (Nat.le_add_left _ _)), fun h' => absurd h' h⟩

theorem pairwise_idxOf_of_nodup {o : List Nat} (hn : o.Nodup) :
    o.Pairwise (fun a b => o.idxOf a < o.idxOf b) :=
  List.pairwise_iff_getElem.2 fun i j hi hj hij => by
    rw [hn.idxOf_getElem i hi, hn.idxOf_getElem j hj]
    exact hij

theorem modify_eq_set_getElem {β : Type} (l : List β) {k : Nat} (hk : k < l.length) (f : β → β) :
    l.modify k f = l.set k (f l[k]) := by
  apply List.ext_getElem?
  intro j
  rw [List.getElem?_modify, List.getElem?_set]
  by_cases hj : k = j
  · subst hj; simp [hk]
  · simp [hj]

theorem getD_set (l : List Nat) (e v j dflt : Nat) (he : e < l.length) :
    (l.set e v).getD j dflt = if j = e then v else l.getD j dflt := by
  simp only [List.getD_eq_getElem?_getD, List.getElem?_set]
  by_cases h : e = j
  · subst h; simp [he]
  · have : ¬ j = e := fun h' => h h'.symm
    simp [h, this]

theorem getD_idxOf {l : List Nat} {a : Nat} (h : a ∈ l) : l.getD (l.idxOf a) 0 = a := by
  have hlt : l.idxOf a < l.length := List.idxOf_lt_length_iff.mpr h
  rw [List.getD_eq_getElem?_getD, List.getElem?_eq_getElem hlt]
  simp [List.getElem_idxOf hlt]

theorem idxOf_getD {l : List Nat} (hl : l.Nodup) {i : Nat} (h : i < l.length) :
    l.idxOf (l.getD i 0) = i := by
  rw [List.getD_eq_getElem?_getD, List.getElem?_eq_getElem h]
  simp [hl.idxOf_getElem i h]

theorem getD_mem {l : List Nat} {i : Nat} (h : i < l.length) : l.getD i 0 ∈ l := by
  rw [List.getD_eq_getElem?_getD, List.getElem?_eq_getElem h]
  simp

theorem exists_mapM_eq_some {α β : Type} {f : α → Option β} : ∀ {as : List α},
    (∀ a, a ∈ as → ∃ b, f a = some b) → ∃ bs, as.mapM f = some bs := by
  intro as
  induction as with
  | nil => intro _; exact ⟨[], by simp⟩
  | cons a as ih =>
    intro h
    obtain ⟨b, hb⟩ := h a (by simp)
    obtain ⟨bs, hbs⟩ := ih (fun x hx => h x (by simp [hx]))
    exact ⟨b :: bs, by rw [List.mapM_cons]; simp [hb, hbs]⟩

theorem Nodup.length_lt {g l : List Nat} {z : Nat} (hg : g.Nodup) (hsub : ∀ x, x ∈ g → x ∈ l)
    (hz : z ∈ l) (hzg : z ∉ g) : g.length < l.length := by
  have hnd : (z :: g).Nodup := List.nodup_cons.mpr ⟨hzg, hg⟩
  have hsub' : (z :: g) ⊆ l := by
    intro x hx
    rcases List.mem_cons.mp hx with rfl | hx
    · exact hz
    · exact hsub x hx
  have := hnd.length_le_of_subset hsub'
  simp at this
  omega

/-! `List.splitBy` through its loop: whether the first two elements of a list share a group
    (`splitBy_cons_cons`), which is the step of `SR.SubseqProofs.lostGroups_eq`. -/
section
variable {α : Type} (r : α → α → Bool)

theorem splitBy_loop_acc (l : List α) : ∀ (a : α) (g : List α) (gs : List (List α)),
    List.splitBy.loop r l a g gs = gs.reverse ++ List.splitBy.loop r l a g [] := by
  induction l with
  | nil => intro a g gs; simp [List.splitBy.loop]
  | cons x xs ih =>
    intro a g gs
    unfold List.splitBy.loop
    cases r a x
    · simp only
      rw [ih x [] ((a :: g).reverse :: gs), ih x [] [(a :: g).reverse]]
      simp
    · simp only
      exact ih x (a :: g) gs

theorem splitBy_loop_group (l : List α) : ∀ (a : α),
    ∃ hd tl, ∀ g, List.splitBy.loop r l a g [] = (g.reverse ++ a :: hd) :: tl := by
  induction l with
  | nil => intro a; exact ⟨[], [], fun g => by simp [List.splitBy.loop]⟩
  | cons x xs ih =>
    intro a
    obtain ⟨hd, tl, h⟩ := ih x
    cases hr : r a x
    · refine ⟨[], (x :: hd) :: tl, fun g => ?_⟩
      unfold List.splitBy.loop
      simp only [hr]
      rw [splitBy_loop_acc, h []]
      simp
    · refine ⟨x :: hd, tl, fun g => ?_⟩
      unfold List.splitBy.loop
      simp only [hr]
      rw [h (a :: g)]
      simp

theorem splitBy_cons_cons (a b : α) (t : List α) :
    ∃ hd tl, List.splitBy r (b :: t) = (b :: hd) :: tl ∧
      List.splitBy r (a :: b :: t) =
        if r a b then (a :: b :: hd) :: tl else [a] :: (b :: hd) :: tl := by
  obtain ⟨hd, tl, h⟩ := splitBy_loop_group r t b
  refine ⟨hd, tl, ?_, ?_⟩
  · have := h []
    simpa [List.splitBy] using this
  · unfold List.splitBy List.splitBy.loop
    cases hr : r a b
    · simp only [hr]
      rw [splitBy_loop_acc, h []]
      simp
    · simp only [hr]
      rw [h [a]]
      simp
end

variable {β : Type u} {r : β → Nat} {L : List β}

theorem Pairwise.head?_le (hL : L.Pairwise (fun a b => r a ≤ r b)) {x y : β} (hx : x ∈ L.head?)
    (hy : y ∈ L) : r x ≤ r y := by
  cases L with
  | nil => cases hx
  | cons a L' =>
    cases hx
    rcases mem_cons.mp hy with rfl | hy
    · exact Nat.le_refl _
    · exact (pairwise_cons.mp hL).1 y hy

theorem Pairwise.le_getLast? (hL : L.Pairwise (fun a b => r a ≤ r b)) {x y : β}
    (hx : x ∈ L.getLast?) (hy : y ∈ L) : r y ≤ r x := by
  obtain ⟨L', rfl⟩ : ∃ L', L = L' ++ [x] := ⟨_, (getLast?_eq_some_iff.mp hx).choose_spec⟩
  rcases mem_append.mp hy with hy | hy
  · exact (pairwise_append.mp hL).2.2 y hy x (mem_singleton_self x)
  · rw [mem_singleton.mp hy]; exact Nat.le_refl _

end List

namespace Except

theorem of_spec {ε α : Type} {f : Except ε α} {P : α → Prop}
    (h : ∃ r, f = .ok r ∧ P r) {r : α} (hr : f = .ok r) : P r := by
  obtain ⟨r', h', hp⟩ := h
  cases h'.symm.trans hr
  exact hp

theorem error_iff_of_dichotomy {ε α : Type} {f : Except ε α} {P : Prop} {k : ε}
    (h1 : P → f = .error k) (h2 : ¬ P → ∃ a, f = .ok a) :
    ((∃ e, f = .error e) ↔ P) ∧ ∀ e, f = .error e → e = k := by
  by_cases hp : P
  · rw [h1 hp]
    exact ⟨⟨fun _ => hp, fun _ => ⟨k, rfl⟩⟩, fun e he => (Except.error.inj he).symm⟩
  · obtain ⟨a, ha⟩ := h2 hp
    rw [ha]
    exact ⟨⟨fun ⟨_, he⟩ => (nomatch he), fun h => absurd h hp⟩, fun _ he => (nomatch he)⟩

end Except

namespace SR.Ser

/-- For the test vectors that compare a result that may be an error with `.ok …` by `decide`
    (the `example`s of `Properties/C11.lean`, `C02Code.lean`, `C05AnyCodeSpfs.lean`, for instance). -/
instance instDecEqExcept {ε α : Type} [DecidableEq ε] [DecidableEq α] : DecidableEq (Except ε α)
  | .ok a, .ok b => if h : a = b then isTrue (h ▸ rfl) else isFalse (fun e => h (Except.ok.inj e))
  | .error a, .error b =>
    if h : a = b then isTrue (h ▸ rfl) else isFalse (fun e => h (Except.error.inj e))
  | .ok _, .error _ => isFalse (fun e => by cases e)
  | .error _, .ok _ => isFalse (fun e => by cases e)

end SR.Ser

namespace SR

theorem eq_not_of_iff {a b : Bool} (h : a = true ↔ b = false) : b = !a := by
  revert h; cases a <;> cases b <;> decide

theorem two_class_iff {n : Nat} {R : Nat → Nat → Prop}
    (hsymm : ∀ x y, x < n → y < n → R x y → R y x)
    (htrans : ∀ x y z, x < n → y < n → z < n → R x y → R y z → R x z)
    {u v : Nat} (hu : u < n) (hv : v < n) (hall : ∀ x, x < n → R x u ∨ R x v)
    {x y : Nat} (hx : x < n) (hy : y < n) : R x y ↔ (R x u ↔ R y u) := by
  constructor
  · intro hxy
    exact ⟨fun h => htrans y x u hy hx hu (hsymm x y hx hy hxy) h, fun h => htrans x y u hx hy hu hxy h⟩
  · intro hiff
    rcases hall x hx with h | h
    · exact htrans x u y hx hu hy h (hsymm y u hy hu (hiff.mp h))
    · rcases hall y hy with h' | h'
      · exact htrans x u y hx hu hy (hiff.mpr h') (hsymm y u hy hu h')
      · exact htrans x v y hx hv hy h (hsymm y v hy hv h')

theorem eq_of_rel_of_pairwise {β : Type} {R : β → β → Prop} (hsymm : ∀ {a b}, R a b → R b a)
    {l : List β} (hp : l.Pairwise (fun s s' => ¬ R s s')) {s s' : β} (hs : s ∈ l) (hs' : s' ∈ l)
    (he : R s s') : s = s' := by
  induction l with
  | nil => cases hs
  | cons x xs ih =>
    rw [List.pairwise_cons] at hp
    rcases List.mem_cons.mp hs with rfl | hs1 <;> rcases List.mem_cons.mp hs' with rfl | hs1'
    · rfl
    · exact absurd he (hp.1 _ hs1')
    · exact absurd (hsymm he) (hp.1 _ hs1)
    · exact ih hp.2 hs1 hs1'

theorem eq_of_nodup_map {α β : Type} (f : α → β) {l : List α} (h : (l.map f).Nodup) {a b : α}
    (ha : a ∈ l) (hb : b ∈ l) (hf : f a = f b) : a = b :=
  eq_of_rel_of_pairwise (R := fun a b => f a = f b) Eq.symm (List.pairwise_map.1 h) ha hb hf

theorem length_le_of_representatives {β : Type} [DecidableEq β] {R : β → β → Prop}
    (hsymm : ∀ x y, R x y → R y x) (htrans : ∀ x y z, R x y → R y z → R x z) :
    ∀ (l₁ l₂ : List β), l₁.Pairwise (fun x y => ¬ R x y) →
      (∀ x ∈ l₁, ∃ y ∈ l₂, R x y) → l₁.length ≤ l₂.length
  | [], _, _, _ => Nat.zero_le _
  | x :: l₁, l₂, hp, hm => by
    rw [List.pairwise_cons] at hp
    obtain ⟨y, hy, hxy⟩ := hm x (by simp)
    have ih := length_le_of_representatives hsymm htrans l₁ (l₂.erase y) hp.2 (by
      intro x' hx'
      obtain ⟨y', hy', hxy'⟩ := hm x' (by simp [hx'])
      refine ⟨y', (List.mem_erase_of_ne ?_).mpr hy', hxy'⟩
      rintro rfl
      exact hp.1 x' hx' (htrans _ _ _ hxy (hsymm _ _ hxy')))
    rw [List.length_erase_of_mem hy] at ih
    have := List.length_pos_of_mem hy
    simp only [List.length_cons]
    omega

/-- `l` lists the things satisfying `T` exactly once up to the equivalence `E` (`arrange` does so
    for the binary trees over given items, `binarize` for the refinements of a tree). -/
structure ExactlyOnce {β : Type} (E : β → β → Prop) (T : β → Prop) (l : List β) : Prop where
  sound : ∀ x ∈ l, T x
  irredundant : l.Pairwise (fun x y => ¬ E x y)
  complete : ∀ b, T b → ∃ x ∈ l, E x b

namespace ExactlyOnce

variable {β : Type} {E : β → β → Prop} {T : β → Prop} {l l' : List β}

theorem unique (h : ExactlyOnce E T l) (hsymm : ∀ {a b}, E a b → E b a)
    (htrans : ∀ {a b c}, E a b → E b c → E a c) {b : β} (hb : T b) :
    ∃ x ∈ l, E x b ∧ ∀ x' ∈ l, E x' b → x' = x := by
  obtain ⟨x, hx, he⟩ := h.complete b hb
  exact ⟨x, hx, he, fun x' hx' he' =>
    eq_of_rel_of_pairwise hsymm h.irredundant hx' hx (htrans he' (hsymm he))⟩

theorem length_eq [DecidableEq β] (h : ExactlyOnce E T l) (h' : ExactlyOnce E T l')
    (hsymm : ∀ a b, E a b → E b a) (htrans : ∀ a b c, E a b → E b c → E a c) :
    l.length = l'.length :=
  Nat.le_antisymm
    (length_le_of_representatives hsymm htrans l l' h.irredundant fun x hx =>
      (h'.complete x (h.sound x hx)).imp fun _ hy => ⟨hy.1, hsymm _ _ hy.2⟩)
    (length_le_of_representatives hsymm htrans l' l h'.irredundant fun x hx =>
      (h.complete x (h'.sound x hx)).imp fun _ hy => ⟨hy.1, hsymm _ _ hy.2⟩)

end ExactlyOnce

end SR
