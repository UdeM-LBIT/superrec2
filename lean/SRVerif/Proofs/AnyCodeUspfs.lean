/-
  `_uspfs` (`Model/UspfsCode.lean`) under `RetentionPolicy.ANY` against the same model under
  `RetentionPolicy.ALL`.  Both tables hold, at every object node, the row `rowOf` of their
  policy (`codeTable_holds`); the role entries are offered THE SAME candidates in the two
  runs (they depend on the VALUES of the children's cells only), so the cells are related and
  ANY decodes a subset of what ALL decodes, non-empty together.
-/
import SRVerif.Proofs.AnyCodeEntry
import SRVerif.Proofs.UspfsCodeDecode
import Batteries.Tactic.PermuteGoals

namespace SR.UspfsCode

open SR Cost Path AnyCode

theorem offered_congr (c : Costs) (S : RTree) {rowA rowL : Row}
    (h : ∀ x k, Cell.value .min (rowA x k) = Cell.value .min (rowL x k))
    (s : Path) (ll li : ExtInt) (k : Kind) (ρ : RoleId) :
    offered c S rowA s ll li k ρ = offered c S rowL s ll li k ρ := by
  funext x
  unfold offered
  rw [h x .lca, h x .inh]

theorem role_inv (pol : Retain) (c : Costs) (S : RTree) (row : Row) (s : Path)
    (rootSet childSet : List Nat) (k : Kind) (ρ : RoleId) :
    Entry.Inv .min pol
      ((levelOrder S).flatMap (offered c S row s (edgeDists c rootSet childSet).1
        (edgeDists c rootSet childSet).2 k ρ))
      (((childSub pol c S row s rootSet childSet).get k).get ρ) := by
  rw [childSub_get]
  exact Entry.inv_fresh .min pol _

theorem role_anySub (c : Costs) (S : RTree) {rowA rowL : Row}
    (h : ∀ x k, Cell.value .min (rowA x k) = Cell.value .min (rowL x k))
    (s : Path) (rootSet childSet : List Nat) (k : Kind) (ρ : RoleId) :
    AnySub .min (((childSub .any c S rowA s rootSet childSet).get k).get ρ)
      (((childSub .all c S rowL s rootSet childSet).get k).get ρ) := by
  have iA := role_inv .any c S rowA s rootSet childSet k ρ
  have iL := role_inv .all c S rowL s rootSet childSet k ρ
  rw [offered_congr c S h] at iA
  exact iA.anySub iL (BRel.refl _)

theorem entryBatch_bRel (c : Costs) {a a' b b' : Choices}
    (h0 : ∀ ρ, AnySub .min (a.get ρ) (a'.get ρ)) (h1 : ∀ ρ, AnySub .min (b.get ρ) (b'.get ρ)) :
    BRel (entryBatch c a b) (entryBatch c a' b') := by
  rw [entryBatch_eq, entryBatch_eq]
  exact BRel.flatMap _ _ _ fun ev _ => cands_bRel (combine_anySub (h0 _) (h1 _) _
    (fun x y => ev.1.toExt + x + y) Prod.mk fun _ _ _ _ => rfl)

theorem rowOf_rel (c : Costs) (S : RTree) : ∀ (t : ATree UnAnn) (s : Path) (k : Kind),
    AnyCode.CellRel .min (rowOf .any c S t s k) (rowOf .all c S t s k) := by
  intro t
  induction t with
  | leaf a sp =>
    intro s k
    simp only [rowOf]
    split
    · exact cellRel_update .none (BRel.refl _)
    · exact .none
  | node a l r ihl ihr =>
    intro s k
    simp only [rowOf]
    split
    · apply cellRel_update .none
      unfold nodeBatch
      exact entryBatch_bRel c
        (fun ρ => role_anySub c S (fun x k => (ihl x k).value) s _ _ k ρ)
        (fun ρ => role_anySub c S (fun x k => (ihr x k).value) s _ _ k ρ)
    · exact .none

theorem decode_sub (c : Costs) (S : RTree) (TA TL : Table) : ∀ (t : ATree UnAnn) (v : Path),
    Holds .any c S TA t v → Holds .all c S TL t v →
    ∀ s k anc, ∀ sol ∈ decode TA t v s k anc, sol ∈ decode TL t v s k anc := by
  intro t
  induction t with
  | leaf a sp =>
    intro v hA hL s k anc sol hsol
    simp only [decode] at hsol ⊢
    rw [hL.root s k, ← (rowOf_rel c S _ s k).value, ← hA.root s k]
    exact hsol
  | node a l r ihl ihr =>
    intro v hA hL s k anc sol hsol
    simp only [decode, List.mem_flatMap, List.mem_map] at hsol ⊢
    obtain ⟨info, hi, ml, hml, mr, hmr, rfl⟩ := hsol
    refine ⟨info, ?_, ml, ihl _ hA.left hL.left _ _ _ ml hml, mr, ihr _ hA.right hL.right _ _ _ mr hmr,
      rfl⟩
    rw [hA.root s k] at hi
    rw [hL.root s k]
    exact (rowOf_rel c S _ s k).infos_sub info hi

theorem cellAt_ne_none_of_decode (T : Table) (t : ATree UnAnn) (v s : Path) (k : Kind)
    (anc : List Nat) (h : decode T t v s k anc ≠ []) : cellAt T v s k ≠ none := by
  intro hn
  apply h
  cases t with
  | leaf a sp => simp [decode, hn, Cell.value, ExtInt.isInfinite]
  | node a l r => simp [decode, hn, Cell.infos]

theorem offered_prov (c : Costs) (S : RTree) (row : Row) (s : Path) (ll li : ExtInt) (k : Kind)
    (ρ : RoleId) :
    ∀ cnd ∈ (levelOrder S).flatMap (offered c S row s ll li k ρ), ∃ x kc, cnd.info = some (x, kc) ∧
      (cnd.value ≠ .posInf → row x kc ≠ none) := by
  intro cnd h
  obtain ⟨x, kc, b, _, _, rfl⟩ := mem_offeredAll.mp h
  refine ⟨x, kc, rfl, fun hne hn => hne ?_⟩
  simp [cand, hn, Cell.value]
  cases b <;> rfl

theorem nodeBatch_prov (pol : Retain) (c : Costs) (S : RTree) (a la ra : UnAnn) (rowL rowR : Row)
    (s : Path) (k : Kind) :
    ∀ x ∈ nodeBatch pol c S a la ra rowL rowR s k, ∃ t, x.info = some t ∧
      (x.value ≠ .posInf → rowL t.1.1 t.1.2 ≠ none ∧ rowR t.2.1 t.2.2 ≠ none) := by
  intro x hx
  rw [nodeBatch, entryBatch_eq] at hx
  obtain ⟨ev, _, h⟩ := List.mem_flatMap.mp hx
  obtain ⟨t, ht, rfl⟩ := List.mem_map.mp h
  obtain ⟨t0, t1, rfl, c0, hc0, c1, hc1, hi0, hi1, hv⟩ :=
    combine_prov (role_inv pol c S rowL s a.lcaSet la.lcaSet k ev.2.1)
      (role_inv pol c S rowR s a.lcaSet ra.lcaSet k ev.2.2) (evComb ev.1.toExt)
      (fun a b => ev.1.toExt + a + b) Prod.mk (fun _ _ _ _ => rfl) t ht
  refine ⟨_, rfl, fun hne => ?_⟩
  rw [show ({ value := _, info := some (t0, t1) } : Cand CAsg).value = _ from hv] at hne
  obtain ⟨hne1, hB⟩ := AnyCode.add_ne_posInf hne
  obtain ⟨x0, k0, hx0, hf0⟩ := offered_prov c S rowL s _ _ k _ c0 hc0
  obtain ⟨x1, k1, hx1, hf1⟩ := offered_prov c S rowR s _ _ k _ c1 hc1
  rw [hi0] at hx0; rw [hi1] at hx1
  cases hx0; cases hx1
  exact ⟨hf0 (AnyCode.add_ne_posInf hne1).2, hf1 hB⟩

theorem decode_ne_nil (pol : Retain) (hp : pol ≠ .none) (c : Costs) (S : RTree) (T : Table) :
    ∀ (t : ATree UnAnn) (v : Path), Holds pol c S T t v →
    ∀ s k anc, cellAt T v s k ≠ none → decode T t v s k anc ≠ [] := by
  intro t
  induction t with
  | leaf a sp =>
    intro v hT s k anc hs
    have hcell := hT.root s k
    simp only [rowOf] at hcell
    split at hcell
    · rw [Cell.update_leaf] at hcell
      simp [decode, hcell, Cell.value, ExtInt.isInfinite]
    · exact absurd hcell hs
  | node a l r ihl ihr =>
    intro v hT s k anc hs
    have hcell := hT.root s k
    simp only [rowOf] at hcell
    split at hcell
    swap
    · exact absurd hcell hs
    obtain ⟨t, ht, h0, h1⟩ := update_tag hp hcell hs (nodeBatch_prov pol c S a l.data r.data _ _ s k)
    rw [← hT.left.root] at h0
    rw [← hT.right.root] at h1
    obtain ⟨ml, hml⟩ := List.exists_mem_of_ne_nil _ (ihl _ hT.left _ _ (content a k anc) h0)
    obtain ⟨mr, hmr⟩ := List.exists_mem_of_ne_nil _ (ihr _ hT.right _ _ (content a k anc) h1)
    apply List.ne_nil_of_mem (a := Sol.node s (content a k anc) ml mr)
    simp only [decode, List.mem_flatMap, List.mem_map]
    exact ⟨t, ht, ml, hml, mr, hmr, rfl⟩

theorem decodings (c : Costs) (S : RTree) (TA TL : Table) (t : ATree UnAnn) (v : Path)
    (hA : Holds .any c S TA t v) (hL : Holds .all c S TL t v) (s : Path) (k : Kind) (anc : List Nat) :
    (∀ sol ∈ decode TA t v s k anc, sol ∈ decode TL t v s k anc) ∧
    (decode TL t v s k anc ≠ [] → decode TA t v s k anc ≠ []) := by
  refine ⟨decode_sub c S _ _ t v hA hL s k anc, fun h =>
    decode_ne_nil .any (by simp) c S _ t v hA s k anc fun hn =>
      cellAt_ne_none_of_decode _ _ _ _ _ _ h ?_⟩
  rw [hA.root] at hn
  rw [hL.root]
  exact (rowOf_rel c S t s k).isNone.mp hn

theorem resultEntry_inv (pol : Retain) (c : Costs) (S : RTree) (base : Bool) (o : OTree) :
    Entry.Inv .min pol
      (outCands (fun out => Cost.toExt (totalCost c .unordered o out)) (levelOrder S)
        (decodeRoot pol c S base o))
      (resultEntry pol c S base o) := by
  rw [resultEntry_eq]
  exact Entry.inv_fresh .min pol _

theorem resultEntry_rel (c : Costs) (S : RTree) (base : Bool) (o : OTree) :
    (uspfsCodePol .any c S base o).length ≤ 1 ∧
    (uspfsCodePol .any c S base o = [] ↔ uspfsCodePol .all c S base o = []) ∧
    ((∀ s ∈ levelOrder S, ∀ x ∈ decodeRoot .all c S base o s, ∀ y ∈ decodeRoot .all c S base o s,
        totalCost c .unordered o x = totalCost c .unordered o y) →
      (resultEntry .any c S base o).value = (resultEntry .all c S base o).value ∧
      ∀ sol ∈ uspfsCodePol .any c S base o, sol ∈ uspfsCodePol .all c S base o) :=
  result_rel (totalCost c .unordered o) (levelOrder S) _ _
    (fun s _ => decodings c S _ _ _ [] (codeTable_holds .any c S base o)
      (codeTable_holds .all c S base o) s .lca _)
    _ _ (resultEntry_inv .any c S base o) (resultEntry_inv .all c S base o)

end SR.UspfsCode
