/-
  `find` as a function (`rep`) and `to_list()`: its closed form (`toList_eq`) and the facts
  that make it "the list of classes" (`IsClassList`, `toList_isClassList`).
-/
import SRVerif.Proofs.DisjointSet

namespace SR.DS

/-- The representative `find i` returns.  "Same class" is `Same d x y` on the parent pointers
    (Proofs/DisjointSet), `rep d x = rep d y` from here on (`same_iff_rep`), and
    `SR.C20.sameClass`, which unfolds to the latter, in the statements of Properties/C20Binary. -/
def rep (d : DS) (i : Nat) : Nat := (d.find i).2

theorem rep_ge {d : DS} {x : Nat} (h : d.size ≤ x) : rep d x = x := by
  have hp := par_ge d h
  unfold rep find
  cases d.size <;> simp [findAux, hp]

theorem rep_rootOf_all {d : DS} (hd : WF d) (x : Nat) : RootOf d.par x (rep d x) := by
  by_cases hx : x < d.size
  · exact (find_spec hd hx).1
  · rw [rep_ge (by omega)]; exact RootOf.root (par_ge d (by omega))

theorem rep_pres {d d' : DS} (hd : WF d) (hd' : WF d') (hP : Pres d d') {i : Nat} :
    rep d' i = rep d i :=
  RootOf.det ((hP.root _ _).mp (rep_rootOf_all hd' i)) (rep_rootOf_all hd i)

theorem rep_eq_of_rootOf {d : DS} (hd : WF d) {x r : Nat} (h : RootOf d.par x r) :
    rep d x = r := RootOf.det (rep_rootOf_all hd x) h

theorem rep_lt {d : DS} (hd : WF d) {x : Nat} (hx : x < d.size) : rep d x < d.size :=
  (rep_rootOf_all hd x).lt hd hx

theorem rep_self_iff {d : DS} (hd : WF d) {r : Nat} : rep d r = r ↔ d.par r = r := by
  constructor
  · intro h; have := (rep_rootOf_all hd r).isRoot; rwa [h] at this
  · intro h; exact rep_eq_of_rootOf hd (RootOf.root h)

/-- The members of the class of root `r` among the first `k` elements. -/
def cls (d : DS) (k r : Nat) : List Nat := (List.range k).filter (fun i => rep d i = r)

theorem mem_cls {d : DS} {k r x : Nat} : x ∈ cls d k r ↔ x < k ∧ rep d x = r := by
  simp [cls]

theorem cls_succ (d : DS) (k r : Nat) :
    cls d (k + 1) r = cls d k r ++ (if rep d k = r then [k] else []) := by
  unfold cls
  rw [List.range_succ, List.filter_append]
  by_cases h : rep d k = r <;> simp [h]

theorem toList_fold {d : DS} (hd : WF d) : ∀ k, k ≤ d.size →
    Pres d ((List.range k).foldl toListStep (d, List.replicate d.size [])).1 ∧
    WF ((List.range k).foldl toListStep (d, List.replicate d.size [])).1 ∧
    ((List.range k).foldl toListStep (d, List.replicate d.size [])).2
      = (List.range d.size).map (cls d k) := by
  intro k
  induction k with
  | zero =>
    intro _
    refine ⟨Pres.refl d, hd, ?_⟩
    apply List.ext_getElem?
    intro j
    by_cases hj : j < d.size
    · simp [hj, cls]
    · simp [hj]
  | succ k ih =>
    intro hk
    obtain ⟨hP, hW, hres⟩ := ih (by omega)
    rw [List.range_succ, List.foldl_append, List.foldl_cons, List.foldl_nil]
    generalize (List.range k).foldl toListStep (d, List.replicate d.size []) = p at hP hW hres
    have hk' : k < p.1.size := by rw [hP.size]; omega
    obtain ⟨_, hP2, hW2⟩ := find_spec hW hk'
    have hrep : (p.1.find k).2 = rep d k := rep_pres hd hW hP
    refine ⟨hP.trans hP2, hW2, ?_⟩
    show p.2.modify (p.1.find k).2 (· ++ [k]) = _
    rw [hrep, hres]
    apply List.ext_getElem?
    intro j
    rw [List.getElem?_modify]
    by_cases hj : j < d.size
    · simp only [List.getElem?_map, List.getElem?_range hj, Option.map_some, cls_succ]
      by_cases h : rep d k = j <;> simp [h]
    · simp [hj]

theorem toList_eq {d : DS} (hd : WF d) :
    Pres d d.toList.1 ∧ WF d.toList.1 ∧
    d.toList.2 = ((List.range d.size).map (cls d d.size)).filter (fun g => !g.isEmpty) := by
  obtain ⟨hP, hW, hres⟩ := toList_fold hd d.size (Nat.le_refl _)
  exact ⟨hP, hW, by simp only [toList, hres]⟩

theorem cls_nonempty_iff {d : DS} (hd : WF d) {r : Nat} (hr : r < d.size) :
    (!(cls d d.size r).isEmpty) = true ↔ d.par r = r := by
  rw [← rep_self_iff hd]
  constructor
  · intro h
    cases hc : cls d d.size r with
    | nil => simp [hc] at h
    | cons x xs =>
      have hx : x ∈ cls d d.size r := by rw [hc]; simp
      obtain ⟨hx1, hx2⟩ := mem_cls.mp hx
      have hroot := (rep_rootOf_all hd x).isRoot
      rw [hx2] at hroot
      exact rep_eq_of_rootOf hd (RootOf.root hroot)
  · intro h
    have : r ∈ cls d d.size r := mem_cls.mpr ⟨hr, h⟩
    cases hc : cls d d.size r with
    | nil => rw [hc] at this; cases this
    | cons x xs => simp

/-- What it means for `gs` to be the list of the classes of `d`. -/
structure IsClassList (d : DS) (gs : List (List Nat)) : Prop where
  /-- every group is the full class of some root -/
  isClass : ∀ g, g ∈ gs → ∃ r, r < d.size ∧ d.par r = r ∧ ∀ x, x ∈ g ↔ x < d.size ∧ RootOf d.par x r
  /-- every element is listed -/
  cover : ∀ x, x < d.size → ∃ g, g ∈ gs ∧ x ∈ g
  /-- members ascending (so no repetition inside a group) -/
  sorted : ∀ g, g ∈ gs → g.Pairwise (· < ·)
  /-- distinct positions hold disjoint groups: each class is listed once -/
  disjoint : gs.Pairwise (fun g h => ∀ x, x ∈ g → x ∉ h)
  /-- as many groups as roots -/
  length : gs.length = d.nroots

theorem IsClassList.ne {d : DS} {gs : List (List Nat)} (h : IsClassList d gs) {g : List Nat}
    (hg : g ∈ gs) : g ≠ [] := by
  obtain ⟨r, hr, hroot, hm⟩ := h.isClass g hg
  exact List.ne_nil_of_mem ((hm r).mpr ⟨hr, RootOf.root hroot⟩)

theorem IsClassList.same_iff {d : DS} {gs : List (List Nat)} (h : IsClassList d gs) {g : List Nat}
    (hg : g ∈ gs) {i j : Nat} (hi : i ∈ g) (hj : j < d.size) : j ∈ g ↔ Same d i j := by
  obtain ⟨r, _, _, hm⟩ := h.isClass g hg
  have hir := ((hm i).mp hi).2
  rw [hm j]
  exact ⟨fun hjr => ⟨r, hir, hjr.2⟩, fun ⟨_, h1, h2⟩ => ⟨hj, RootOf.det h1 hir ▸ h2⟩⟩

theorem toList_isClassList {d : DS} (hd : WF d) : IsClassList d d.toList.2 := by
  obtain ⟨_, _, hres⟩ := toList_eq hd
  rw [hres]
  have hmem : ∀ r, r < d.size → ∀ x, x ∈ cls d d.size r ↔ x < d.size ∧ RootOf d.par x r := by
    intro r _ x
    rw [mem_cls]
    constructor
    · rintro ⟨hx, h⟩; exact ⟨hx, h ▸ rep_rootOf_all hd x⟩
    · rintro ⟨hx, h⟩; exact ⟨hx, rep_eq_of_rootOf hd h⟩
  refine ⟨?_, ?_, ?_, ?_, ?_⟩
  · intro g hg
    simp only [List.mem_filter, List.mem_map, List.mem_range] at hg
    obtain ⟨⟨r, hr, rfl⟩, hne⟩ := hg
    exact ⟨r, hr, (cls_nonempty_iff hd hr).mp hne, hmem r hr⟩
  · intro x hx
    have hr := rep_lt hd hx
    have hxin : x ∈ cls d d.size (rep d x) := mem_cls.mpr ⟨hx, rfl⟩
    refine ⟨cls d d.size (rep d x), ?_, hxin⟩
    simp only [List.mem_filter, List.mem_map, List.mem_range]
    exact ⟨⟨_, hr, rfl⟩, (cls_nonempty_iff hd hr).mpr (rep_rootOf_all hd x).isRoot⟩
  · intro g hg
    simp only [List.mem_filter, List.mem_map, List.mem_range] at hg
    obtain ⟨⟨r, _, rfl⟩, _⟩ := hg
    exact List.Pairwise.filter _ List.pairwise_lt_range
  · apply List.Pairwise.filter
    rw [List.pairwise_map]
    refine List.Pairwise.imp ?_ (List.pairwise_lt_range (n := d.size))
    intro r r' hlt x hx hx'
    have h1 := (mem_cls.mp hx).2
    have h2 := (mem_cls.mp hx').2
    omega
  · rw [← List.countP_eq_length_filter, List.countP_map]
    unfold nroots
    apply List.countP_range_congr
    intro r hr
    exact Bool.eq_iff_iff.mpr ((cls_nonempty_iff hd hr).trans decide_eq_true_iff.symm)

end SR.DS
