/-
  The outer loops of `_spfs`: one result entry receives `Candidate(output.cost(), output)` for
  every output decoded over all root orderings and root species; the root orderings are those
  of `toposort_all(_make_prec_graph(leaf_syntenies))` (C19).
-/
import SRVerif.Proofs.SpfsCodeDecode
import SRVerif.Proofs.ToposortPrec
import SRVerif.Proofs.RootOrders

namespace SR.SpfsCode

open Cost Path

/-- All the candidates the loops of `_spfs` offer to the result entry, in order. -/
def allOutputs (c : Costs) (S : RTree) (base : Bool) (ret : Retain) (o : OTree)
    (orders : List (List Nat)) : List (Cand Sol) :=
  orders.flatMap fun order =>
    (levelorder S).flatMap fun rootSp =>
      outputs c o order (computeTable c S base ret order true o) rootSp

theorem results_eq (c : Costs) (S : RTree) (base : Bool) (ret : Retain) (o : OTree)
    (orders : List (List Nat)) :
    results c S base ret o orders =
      (Entry.init .min ret).update (allOutputs c S base ret o orders) := by
  unfold results allOutputs
  simp only [Entry.foldl_update_flatMap]

/-- The outputs decoded over all root orderings and root species. -/
def decodedAll (c : Costs) (S : RTree) (base : Bool) (o : OTree) (orders : List (List Nat)) :
    List Sol :=
  orders.flatMap fun order => (levelorder S).flatMap fun rootSp =>
    decodeTable order (computeTable c S base .all order true o) rootSp (subseqComplete order)

theorem results_all (c : Costs) (S : RTree) (base : Bool) (o : OTree) (orders : List (List Nat)) :
    results c S base .all o orders =
      (Entry.init .min .all).update ((decodedAll c S base o orders).map fun out =>
        (⟨(totalCost c .ordered o out).toExt, some out⟩ : Cand Sol)) := by
  rw [results_eq]
  simp only [allOutputs, outputs, decodedAll, List.map_flatMap]

theorem mem_decodedAll (c : Costs) (S : RTree) (base : Bool) (o : OTree) (orders : List (List Nat))
    (hS : ∀ p ∈ leafSpecies o, S.isNode p = true) (hlv : ∀ order ∈ orders, LeavesOk order o)
    (sol : Sol) :
    sol ∈ decodedAll c S base o orders ↔
      sol ∈ orders.flatMap fun order =>
        (spfsCellsFor c S base true o order).flatMap fun d => d.sols.map (ordSol order) := by
  rw [decodedAll, List.mem_flatMap, List.mem_flatMap]
  refine exists_congr fun order => and_congr_right fun ho => ?_
  exact mem_flatMap_decode (ordAlg c) c S (annOrd S base order true o) (subseqComplete order)
    (mem_levelorder S) (table_rel c S base order o hS (hlv order ho) true true).node
    (decode_rel c S base order o hS (hlv order ho) true · (subseqComplete order)) sol

/-- `toposort_all(_make_prec_graph(leaf_syntenies))` raises nothing and enumerates exactly the
    root orders of the specification-level model (`rootOrders`), each once. -/
theorem rootOrderings_none (l r : OTree) (hne : ∀ f ∈ leafSyntenies (.node l r), f ≠ []) :
    ∃ os, rootOrderings (.node l r) none = .ok os ∧ os.Nodup ∧
      ∀ order, order ∈ os ↔ order ∈ rootOrders (.node l r) none := by
  obtain ⟨g, os, hg, h, hn, hm⟩ := Toposort.precOrders_spec hne
  refine ⟨os, by simp only [rootOrderings, hg, h], hn, ?_⟩
  intro order
  rw [hm order]
  simp only [rootOrders, List.mem_filter, List.all_eq_true, isSublist_iff_sublist]
  constructor
  · rintro ⟨hnd, hmem, hsub⟩
    refine ⟨mem_permutations_of_perm _ _ ?_, hsub⟩
    apply (List.perm_ext_iff_of_nodup hnd (nodup_dedup _)).mpr
    intro v
    rw [hmem v]
    exact (mem_families _ v).symm
  · rintro ⟨hperm, hsub⟩
    have hp := perm_of_mem_permutations _ _ hperm
    refine ⟨hp.nodup_iff.mpr (nodup_dedup _), ?_, hsub⟩
    intro v
    rw [hp.mem_iff]
    exact mem_families _ v

end SR.SpfsCode
