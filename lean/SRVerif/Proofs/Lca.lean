/-
  `LowestCommonAncestor` computes the path operations: the sparse table over
  the Euler tour never compares two distinct nodes, and the query between the
  extreme first occurrences returns the longest common prefix.  At the end the
  other instance of the range-minimum theorems: a comparison that never raises,
  ordering by a key (`cmpOK_key`; `cmpOK_total` for `key = id`).
-/
import SRVerif.Proofs.LcaRmq
import SRVerif.Proofs.LcaTour
import SRVerif.Proofs.ListAux
import Mathlib.Data.Nat.Basic

namespace SR.Lca

open Path

theorem eulerTour_getElem? (t : RTree) (k : Nat) (e : TourEntry) :
    (eulerTour t)[k]? = some e ↔ ∃ p, (tourPaths t)[k]? = some p ∧ e = entry p := by
  rw [eulerTour_eq]
  simp only [List.getElem?_map, Option.map_eq_some_iff]
  constructor
  · rintro ⟨p, hp, rfl⟩
    exact ⟨p, hp, rfl⟩
  · rintro ⟨p, hp, rfl⟩
    exact ⟨p, hp, rfl⟩

theorem isMinAt_entry {t : RTree} {i w : Nat} {m : TourEntry}
    (h : IsMinAt Prod.fst (eulerTour t) i w m) :
    ∃ p, m = entry p ∧ IsMinAt List.length (tourPaths t) i w p := by
  obtain ⟨⟨k, h1, h2, h3⟩, hmin⟩ := h
  obtain ⟨p, hp, rfl⟩ := (eulerTour_getElem? t k m).1 h3
  refine ⟨p, rfl, ⟨k, h1, h2, hp⟩, ?_⟩
  intro k' e hk1 hk2 he
  have := hmin k' (entry e) hk1 hk2 ((eulerTour_getElem? t k' _).2 ⟨e, he, rfl⟩)
  simpa [entry] using this

theorem min_is_lcp {T : List Path} (hT : Inv T) {x y : Nat} {u v m : Path} (hxy : x ≤ y)
    (hu : T[x]? = some u) (hv : T[y]? = some v)
    (hm : IsMinAt List.length T x (y + 1 - x) m) : m = lcp u v := by
  obtain ⟨⟨z, hz1, hz2, hz3⟩, hall⟩ := hT x y u v hxy hu hv
  obtain ⟨⟨k, hk1, hk2, hk3⟩, hmin⟩ := hm
  have hy : x + (y + 1 - x) = y + 1 := Nat.add_sub_cancel' (Nat.le_succ_of_le hxy)
  rw [hy] at hk2
  have hpre : lcp u v <+: m := hall k m hk1 (Nat.le_of_lt_succ hk2) hk3
  have hlen : m.length ≤ (lcp u v).length := hmin z _ hz1 (by rw [hy]; exact Nat.lt_succ_of_le hz2) hz3
  exact (hpre.eq_of_length_le hlen).symm

theorem min_paths_eq {T : List Path} (hT : Inv T) {i w : Nat} {u v : Path}
    (hu : IsMinAt List.length T i w u) (hv : IsMinAt List.length T i w v) : u = v := by
  obtain ⟨⟨ku, hu1, hu2, hu3⟩, humin⟩ := hu
  obtain ⟨⟨kv, hv1, hv2, hv3⟩, hvmin⟩ := hv
  have key : ∀ (x y : Nat) (a b : Path), x ≤ y → i ≤ x → y < i + w → T[x]? = some a →
      T[y]? = some b → (∀ k e, i ≤ k → k < i + w → T[k]? = some e → a.length ≤ e.length) →
      (∀ k e, i ≤ k → k < i + w → T[k]? = some e → b.length ≤ e.length) → a = b := by
    intro x y a b hxy hx hy ha hb hamin hbmin
    obtain ⟨⟨z, hz1, hz2, hz3⟩, _⟩ := hT x y a b hxy ha hb
    have hiz := Nat.le_trans hx hz1
    have hzw := Nat.lt_of_le_of_lt hz2 hy
    have h1 := hamin z _ hiz hzw hz3
    have h2 := hbmin z _ hiz hzw hz3
    have e1 := (lcp_prefix_left a b).eq_of_length_le h1
    have e2 := (lcp_prefix_right a b).eq_of_length_le h2
    rw [← e1, e2]
  rcases Nat.le_total ku kv with h | h
  · exact key ku kv u v h hu1 hv2 hu3 hv3 humin hvmin
  · exact (key kv ku v u h hv1 hu2 hv3 hu3 hvmin humin).symm

theorem cmpOK_tour (t : RTree) : CmpOK Prod.fst (eulerTour t) entryLt where
  ne a b h := by
    have : b.1 ≠ a.1 := Ne.symm h
    simp [entryLt, this]
  eqmin i w a b ha hb := by
    obtain ⟨u, rfl, hu⟩ := isMinAt_entry ha
    obtain ⟨v, rfl, hv⟩ := isMinAt_entry hb
    have := min_paths_eq (tourPaths_inv t) hu hv
    subst this
    simp [entryLt]

theorem eulerTour_ne_nil (t : RTree) : eulerTour t ≠ [] := by
  rw [eulerTour_eq]
  cases t with
  | node cs => simp [tourPaths]

theorem init_ok (t : RTree) :
    ∃ tbl, init t = .ok ⟨eulerTour t, tbl⟩ ∧ TableOK Prod.fst (eulerTour t) tbl := by
  obtain ⟨tbl, h1, h2⟩ := build_ok (cmpOK_tour t) (eulerTour_ne_nil t)
  exact ⟨tbl, by simp [init, h1], h2⟩

theorem firstIdxFrom_ok (p : Path) : ∀ (es : List TourEntry) (n : Nat), (∃ e ∈ es, e.2 = p) →
    ∃ k, firstIdxFrom p es n = .ok (n + k) ∧ ∃ e, es[k]? = some e ∧ e.2 = p
  | [], n, h => by simp at h
  | e :: es, n, h => by
    by_cases he : e.2 = p
    · exact ⟨0, by simp [firstIdxFrom, he], e, by simp, he⟩
    · have : ∃ e ∈ es, e.2 = p := by
        obtain ⟨e', he', hp⟩ := h
        simp only [List.mem_cons] at he'
        rcases he' with rfl | he'
        · exact absurd hp he
        · exact ⟨e', he', hp⟩
      obtain ⟨k, hk, e', he1, he2⟩ := firstIdxFrom_ok p es (n + 1) this
      refine ⟨k + 1, ?_, e', by simpa using he1, he2⟩
      simp only [firstIdxFrom, he, if_false, hk]
      rw [Nat.add_assoc, Nat.add_comm 1]

theorem firstIdx_ok {t : RTree} {p : Path} (h : t.isNode p = true) :
    ∃ k, firstIdx (eulerTour t) p = .ok k ∧ (tourPaths t)[k]? = some p := by
  have hmem : ∃ e ∈ eulerTour t, e.2 = p := by
    refine ⟨entry p, ?_, rfl⟩
    rw [eulerTour_eq]
    exact List.mem_map.2 ⟨p, mem_tourPaths_of_isNode p t h, rfl⟩
  obtain ⟨k, hk, e, he1, he2⟩ := firstIdxFrom_ok p (eulerTour t) 0 hmem
  refine ⟨k, by simpa [firstIdx] using hk, ?_⟩
  obtain ⟨q, hq, rfl⟩ := (eulerTour_getElem? t k e).1 he1
  simp only [entry] at he2
  rw [hq, he2]

theorem call_ok (t : RTree) {tbl : List (List (Option TourEntry))}
    (ht : TableOK Prod.fst (eulerTour t) tbl) (p0 : Path) (rest : List Path)
    (hn : ∀ x ∈ p0 :: rest, t.isNode x = true) :
    State.call ⟨eulerTour t, tbl⟩ (p0 :: rest) = .ok (rest.foldl lcp p0) := by
  obtain ⟨i0, hi0, hT0⟩ := firstIdx_ok (hn p0 (by simp))
  obtain ⟨is, his, hfw, hbw⟩ := mapE_ok_mem (f := firstIdx (eulerTour t))
    (P := fun x k => (tourPaths t)[k]? = some x) rest (by
      intro x hx
      exact firstIdx_ok (hn x (by simp [hx])))
  -- every index points at an argument, every argument has an index
  have hidx : ∀ k ∈ i0 :: is, ∃ x ∈ p0 :: rest, (tourPaths t)[k]? = some x :=
    List.forall_mem_cons.2 ⟨⟨p0, List.mem_cons_self, hT0⟩, fun k hk =>
      (hfw k hk).imp fun x h => ⟨List.mem_cons_of_mem _ h.1, h.2⟩⟩
  have harg : ∀ x ∈ p0 :: rest, ∃ k ∈ i0 :: is, (tourPaths t)[k]? = some x :=
    List.forall_mem_cons.2 ⟨⟨i0, List.mem_cons_self, hT0⟩, fun x hx =>
      (hbw x hx).imp fun k h => ⟨List.mem_cons_of_mem _ h.1, h.2⟩⟩
  obtain ⟨hminmem, hminle⟩ := List.foldl_min_spec is i0
  obtain ⟨hmaxmem, hmaxle⟩ := List.foldl_max_spec is i0
  obtain ⟨pa, hpa, hTa⟩ := hidx _ hminmem
  obtain ⟨pb, hpb, hTb⟩ := hidx _ hmaxmem
  have hle : is.foldl min i0 ≤ is.foldl max i0 :=
    Nat.le_trans (hminle i0 List.mem_cons_self) (hmaxle i0 List.mem_cons_self)
  have hstop : is.foldl max i0 < (eulerTour t).length := by
    rw [eulerTour_eq, List.length_map]
    exact (List.getElem?_eq_some_iff.1 hTb).1
  obtain ⟨m, hq, hm⟩ := query_ok (cmpOK_tour t) ht
    (start := is.foldl min i0) (stop := is.foldl max i0 + 1) (by omega) (by omega)
  obtain ⟨w, rfl, hw⟩ := isMinAt_entry hm
  have hwl : w = lcp pa pb := min_is_lcp (tourPaths_inv t) hle hTa hTb hw
  -- the lcp of the two extreme arguments is the lcp of all of them
  have hall : lcp pa pb = rest.foldl lcp p0 := by
    have h1 : lcp pa pb <+: rest.foldl lcp p0 := by
      apply prefix_foldl_lcp
      intro x hx
      obtain ⟨k, hk, hTk⟩ := harg x hx
      exact ((tourPaths_inv t) _ _ pa pb hle hTa hTb).2 k x (hminle k hk) (hmaxle k hk) hTk
    exact h1.eq_of_length_le
      (prefix_lcp (foldl_lcp_prefix rest p0 pa hpa) (foldl_lcp_prefix rest p0 pb hpb)).length_le
  simp only [State.call, hi0, his, hq, entry, hwl, hall]

theorem level_ok (t : RTree) {tbl : List (List (Option TourEntry))} {p : Path}
    (h : t.isNode p = true) : State.level ⟨eulerTour t, tbl⟩ p = .ok p.length := by
  obtain ⟨k, hk, hT⟩ := firstIdx_ok h
  have := (eulerTour_getElem? t k (entry p)).2 ⟨p, hT, rfl⟩
  simp [State.level, hk, this, entry]

theorem isAncestorOf_ok (t : RTree) {tbl : List (List (Option TourEntry))}
    (ht : TableOK Prod.fst (eulerTour t) tbl) {p q : Path}
    (hp : t.isNode p = true) (hq : t.isNode q = true) :
    State.isAncestorOf ⟨eulerTour t, tbl⟩ p q = .ok (isAnc p q) := by
  have hc := call_ok t ht p [q] (by simp [hp, hq])
  simp only [List.foldl_cons, List.foldl_nil] at hc
  simp only [State.isAncestorOf, hc]
  congr 1
  rw [Bool.eq_iff_iff, beq_iff_eq, lcp_eq_left_iff, isAnc_iff_prefix]

theorem isStrictAncestorOf_ok (t : RTree) {tbl : List (List (Option TourEntry))}
    (ht : TableOK Prod.fst (eulerTour t) tbl) {p q : Path}
    (hp : t.isNode p = true) (hq : t.isNode q = true) :
    State.isStrictAncestorOf ⟨eulerTour t, tbl⟩ p q = .ok (isStrictAnc p q) := by
  have hc := call_ok t ht p [q] (by simp [hp, hq])
  simp only [List.foldl_cons, List.foldl_nil] at hc
  simp only [State.isStrictAncestorOf, hc, isStrictAnc]
  congr 2
  rw [Bool.eq_iff_iff, beq_iff_eq, lcp_eq_left_iff, isAnc_iff_prefix]

theorem isComparable_ok (t : RTree) {tbl : List (List (Option TourEntry))}
    (ht : TableOK Prod.fst (eulerTour t) tbl) {p q : Path}
    (hp : t.isNode p = true) (hq : t.isNode q = true) :
    State.isComparable ⟨eulerTour t, tbl⟩ p q = .ok (comparable p q) := by
  simp only [State.isComparable, isAncestorOf_ok t ht hp hq, isAncestorOf_ok t ht hq hp,
    comparable]
  cases isAnc p q <;> simp

theorem distance_ok (t : RTree) {tbl : List (List (Option TourEntry))}
    (ht : TableOK Prod.fst (eulerTour t) tbl) {p q : Path}
    (hp : t.isNode p = true) (hq : t.isNode q = true) :
    State.distance ⟨eulerTour t, tbl⟩ p q = .ok (dist p q : Int) := by
  have hc := call_ok t ht p [q] (by simp [hp, hq])
  simp only [List.foldl_cons, List.foldl_nil] at hc
  simp only [State.distance, level_ok t hp, level_ok t hq, hc, level_ok t (RTree.isNode_of_prefix _ p t (lcp_prefix_left p q) hp), dist]
  congr 1
  have h1 := (lcp_prefix_left p q).length_le
  have h2 := (lcp_prefix_right p q).length_le
  omega

theorem cmpOK_key {α κ : Type} [LinearOrder κ] (key : α → κ) (lt : α → α → Bool)
    (hlt : ∀ a b, lt a b = decide (key a < key b)) (data : List α) :
    CmpOK key data (totalLt lt) where
  ne a b _ := by simp [totalLt, hlt]
  eqmin i w a b ha hb := by
    have h1 : key a ≤ key b :=
      ha.2 _ b hb.1.choose_spec.1 hb.1.choose_spec.2.1 hb.1.choose_spec.2.2
    simp [totalLt, hlt, not_lt.2 h1]

theorem cmpOK_total {α : Type} [LinearOrder α] (data : List α) :
    CmpOK id data (totalLt (fun a b : α => decide (a < b))) :=
  cmpOK_key id _ (fun _ _ => rfl) data

end SR.Lca
