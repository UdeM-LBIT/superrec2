/-
  Invariant `Inv` of `Entry.update` over the list of candidates offered so far,
  with the facts on `better` and `insert` it rests on, and `update` over
  appended and batched candidate lists (`update_append`, `foldl_update`), its policies and its
  value (`DP.merge_update`, `DP.retain_update`, `DP.value_update`); at the end which
  batches reach a cell (`C16.writes`, `C16.cell_fold`) and the candidates of `combine`.
  The file starts with the order facts on `ExtInt` that `better` needs.
-/
import SRVerif.Model.Entry
import SRVerif.Proofs.ListAux

namespace SR

namespace ExtInt

theorem lt_irrefl (a : ExtInt) : lt a a = false := by
  cases a <;> simp [lt]

theorem lt_trans {a b c : ExtInt} (h1 : lt a b = true) (h2 : lt b c = true) : lt a c = true := by
  cases a <;> cases b <;> cases c <;> simp_all [lt] <;> omega

theorem lt_asymm {a b : ExtInt} (h : lt a b = true) : lt b a = false := by
  cases h' : lt b a
  · rfl
  · exact absurd (lt_trans h h') (by rw [lt_irrefl]; simp)

theorem trichotomy (a b : ExtInt) : a = b ∨ lt a b = true ∨ lt b a = true := by
  cases a <;> cases b <;> simp [lt] <;> omega

theorem not_lt_posInf (a : ExtInt) : lt posInf a = false := by
  cases a <;> simp [lt]

theorem not_lt_negInf (a : ExtInt) : lt a negInf = false := by
  cases a <;> simp [lt]

theorem lt_of_lt_of_not_lt {a b c : ExtInt} (h1 : lt a b = true) (h2 : lt c b = false) :
    lt a c = true := by
  rcases trichotomy b c with rfl | h | h
  · exact h1
  · exact lt_trans h1 h
  · rw [h] at h2; cases h2

theorem not_lt_of_not_lt_of_not_lt {a b c : ExtInt} (h1 : lt b a = false) (h2 : lt c b = false) :
    lt c a = false := by
  cases h : lt c a
  · rfl
  · rw [lt_of_lt_of_not_lt h h1] at h2; cases h2

theorem not_lt_posInf_iff {a : ExtInt} : ExtInt.lt a .posInf = false ↔ a = .posInf := by
  cases a <;> simp [ExtInt.lt]

end ExtInt

namespace Entry

variable {τ : Type} [DecidableEq τ]

/-- The value a default-initialised entry starts from: the worst one for its merge policy. -/
def sentinel (m : Merge) : ExtInt := if m = .min then .posInf else .negInf

/-- What an entry must satisfy after having been offered exactly the
    candidates `cs` (`optimalS`: no better than the sentinel it started from). -/
structure Inv (m : Merge) (r : Retain) (cs : List (Cand τ)) (e : Entry τ) : Prop where
  merge : e.merge = m
  retain : e.retain = r
  attained : e.value = sentinel m ∨ ∃ c ∈ cs, c.value = e.value
  optimal : ∀ c ∈ cs, better m e.value c.value = false
  optimalS : better m e.value (sentinel m) = false
  nodup : e.infos.Nodup
  all : r = .all → ∀ t, t ∈ e.infos ↔ ∃ c ∈ cs, c.info = some t ∧ c.value = e.value
  any1 : r = .any → e.infos.length ≤ 1
  anySound : r = .any → ∀ t ∈ e.infos, ∃ c ∈ cs, c.info = some t ∧ c.value = e.value
  anyComplete : r = .any → (∃ c ∈ cs, c.info.isSome ∧ c.value = e.value) → e.infos ≠ []
  none : r = .none → e.infos = []

theorem better_irrefl (m : Merge) (v : ExtInt) : better m v v = false := by
  cases m <;> simp [better, ExtInt.lt_irrefl]

theorem better_asymm {m : Merge} {a b : ExtInt} (h : better m a b = true) : better m b a = false := by
  cases m <;> simp_all [better] <;> exact ExtInt.lt_asymm h

theorem better_mono {m : Merge} {cur v w : ExtInt} (h : better m cur v = true)
    (hw : better m cur w = false) : better m v w = false := by
  cases m <;> simp_all [better]
  · cases hv : ExtInt.lt w v
    · rfl
    · have := ExtInt.lt_trans hv h; simp_all
  · cases hv : ExtInt.lt v w
    · rfl
    · have := ExtInt.lt_trans h hv; simp_all

theorem better_total {m : Merge} {a b : ExtInt} (h1 : a ≠ b) (h2 : better m a b = false) :
    better m b a = true := by
  cases m <;> simp_all [better]
  · rcases ExtInt.trichotomy a b with h | h | h <;> simp_all
  · rcases ExtInt.trichotomy a b with h | h | h <;> simp_all

omit [DecidableEq τ] in
theorem inv_init (m : Merge) (r : Retain) : Inv m r ([] : List (Cand τ)) (init m r) := by
  refine ⟨rfl, rfl, Or.inl ?_, ?_, ?_, ?_, ?_, ?_, ?_, ?_, ?_⟩
  all_goals simp [init, sentinel, better_irrefl]

theorem mem_insert {t u : τ} {l : List τ} : u ∈ insert t l ↔ u = t ∨ u ∈ l :=
  List.mem_addNew.trans or_comm

theorem nodup_insert {t : τ} {l : List τ} (h : l.Nodup) : (insert t l).Nodup :=
  h.addNew

theorem update1_eq (e : Entry τ) (c : Cand τ) :
    update1 e c =
      if e.value = c.value then
        { e with infos := match c.info with
            | some t =>
              if e.retain = .all ∨ (e.retain = .any ∧ e.infos = []) then insert t e.infos else e.infos
            | none => e.infos }
      else if better e.merge e.value c.value then
        { e with value := c.value, infos := match c.info with
            | some t => if e.retain = .none then [] else [t]
            | none => [] }
      else e := by
  unfold update1
  cases c.info with
  | none => rfl
  | some t =>
    obtain ⟨v, l, m, r⟩ := e
    cases r
    · simp
    · by_cases hl : l = [] <;> simp [hl]
    · simp

theorem insert_ne_nil {t : τ} {l : List τ} : insert t l ≠ [] :=
  fun h => List.not_mem_nil (h ▸ mem_insert.mpr (.inl rfl))

theorem merge_update1 (e : Entry τ) (c : Cand τ) : (update1 e c).merge = e.merge := by
  simp only [update1_eq, apply_ite Entry.merge, ite_self]

theorem retain_update1 (e : Entry τ) (c : Cand τ) : (update1 e c).retain = e.retain := by
  simp only [update1_eq, apply_ite Entry.retain, ite_self]

theorem value_update1 (e : Entry τ) (c : Cand τ) :
    (update1 e c).value = if better e.merge e.value c.value then c.value else e.value := by
  simp only [update1_eq, apply_ite Entry.value]
  split
  · next h => rw [h, better_irrefl]; rfl
  · rfl

omit [DecidableEq τ] in
theorem Inv.snoc_same {m : Merge} {r : Retain} {cs : List (Cand τ)} {e : Entry τ}
    (h : Inv m r cs e) {c : Cand τ} (hb : better m e.value c.value = false)
    (hc : c.value = e.value → c.info = Option.none) : Inv m r (cs ++ [c]) e := by
  obtain ⟨hm, hr, hatt, hopt, hoptS, hnd, hall, hany1, hanyS, hanyC, hnone⟩ := h
  have hw : ∀ q : Option τ → Prop, ¬ q .none →
      ((∃ c' ∈ cs ++ [c], q c'.info ∧ c'.value = e.value) ↔
        ∃ c' ∈ cs, q c'.info ∧ c'.value = e.value) :=
    fun q hq => List.exists_mem_snoc.trans (or_iff_left fun ⟨h1, h2⟩ => hq (hc h2 ▸ h1))
  exact ⟨hm, hr, hatt.imp_right fun ⟨c', h, hv⟩ => ⟨c', List.mem_append_left _ h, hv⟩,
    List.forall_mem_snoc.mpr ⟨hopt, hb⟩, hoptS, hnd,
    fun hra t => (hall hra t).trans (hw (· = some t) nofun).symm,
    hany1,
    fun hra t ht => (hw (· = some t) nofun).mpr (hanyS hra t ht),
    fun hra hex => hanyC hra ((hw (·.isSome) nofun).mp hex),
    hnone⟩

theorem inv_step {m : Merge} {r : Retain} {cs : List (Cand τ)} {e : Entry τ}
    (h : Inv m r cs e) (c : Cand τ) : Inv m r (cs ++ [c]) (update1 e c) := by
  have hm := h.merge
  have hr := h.retain
  subst hm hr
  rw [update1_eq]
  split
  · next heq =>
    have hb : better e.merge e.value c.value = false := heq ▸ better_irrefl _ _
    cases hci : c.info with
    | none => exact h.snoc_same hb fun _ => hci
    | some t =>
      obtain ⟨-, -, -, hopt, hoptS, hnd, hall, hany1, hanyS, hanyC, hnone⟩ := h
      -- the tags attaining the value are the former ones and `t`
      have hw : ∀ u, (∃ c' ∈ cs ++ [c], c'.info = some u ∧ c'.value = e.value) ↔
          (∃ c' ∈ cs, c'.info = some u ∧ c'.value = e.value) ∨ u = t := fun u => by
        rw [List.exists_mem_snoc, hci, heq, Option.some.injEq, and_iff_left rfl, eq_comm]
      dsimp only
      split
      · next hk =>
        refine ⟨rfl, rfl, .inr ⟨c, by simp, heq.symm⟩, List.forall_mem_snoc.mpr ⟨hopt, hb⟩, hoptS,
          nodup_insert hnd, fun hra u => ?_, fun hra => ?_, fun hra u hu => ?_, fun _ _ => ?_,
          fun hrn => ?_⟩
        · exact mem_insert.trans (or_comm.trans ((or_congr_left (hall hra u)).trans (hw u).symm))
        · have hl : e.infos = [] := by simpa [hra] using hk
          simp [hl, insert]
        · exact (hw u).mpr ((mem_insert.mp hu).symm.imp_left (hanyS hra u))
        · exact insert_ne_nil
        · simp [hrn] at hk
      · next hk =>
        rw [not_or, not_and] at hk
        exact ⟨rfl, rfl, .inr ⟨c, by simp, heq.symm⟩, List.forall_mem_snoc.mpr ⟨hopt, hb⟩, hoptS, hnd,
          fun hra => absurd hra hk.1, hany1, fun hra u hu => (hw u).mpr (.inl (hanyS hra u hu)),
          fun hra _ => hk.2 hra, hnone⟩
  · next hne =>
    split
    · next hb =>
      obtain ⟨-, -, -, hopt, hoptS, -, -, -, -, -, -⟩ := h
      -- no earlier candidate has the new value
      have hold : ∀ q : Option τ → Prop,
          (∃ c' ∈ cs ++ [c], q c'.info ∧ c'.value = c.value) ↔ q c.info := fun q => by
        rw [List.exists_mem_snoc, and_iff_left rfl]
        refine or_iff_right fun ⟨c', hc', _, hv⟩ => ?_
        rw [← hv, hopt c' hc'] at hb
        exact Bool.false_ne_true hb
      refine ⟨rfl, rfl, .inr ⟨c, by simp, rfl⟩,
        List.forall_mem_snoc.mpr ⟨fun c' hc' => better_mono hb (hopt c' hc'), better_irrefl _ _⟩,
        better_mono hb hoptS, ?_, fun hra u => Iff.trans ?_ (hold (· = some u)).symm, fun _ => ?_,
        fun hra u hu => (hold (· = some u)).mpr ?_, fun hra hex => ?_, fun hrn => ?_⟩
      -- what is left says that the new tags are those of `c`, or none under `Retain.none`
      case refine_1 => cases c.info <;> simp <;> split <;> simp
      case refine_2 => cases c.info <;> simp [hra, eq_comm]
      case refine_3 => cases c.info <;> simp <;> split <;> simp
      case refine_4 => revert hu; cases c.info <;> simp [hra, eq_comm]
      case refine_5 => have := (hold (·.isSome)).mp hex; revert this; cases c.info <;> simp [hra]
      case refine_6 => cases c.info <;> simp [hrn]
    · next hb =>
      rw [Bool.not_eq_true] at hb
      exact h.snoc_same hb fun hv => absurd hv.symm hne

theorem inv_update {m : Merge} {r : Retain} {pre : List (Cand τ)} {e : Entry τ}
    (h : Inv m r pre e) (cs : List (Cand τ)) : Inv m r (pre ++ cs) (update e cs) := by
  induction cs generalizing pre e with
  | nil => simpa [update] using h
  | cons c cs ih =>
    have := ih (inv_step h c)
    simpa [update, List.append_assoc] using this

theorem inv_fresh (m : Merge) (r : Retain) (cs : List (Cand τ)) :
    Inv m r cs (update (init m r) cs) :=
  inv_update (inv_init m r) cs

omit [DecidableEq τ] in
theorem Inv.value_posInf {r : Retain} {cs : List (Cand τ)} {e : Entry τ} (h : Inv .min r cs e)
    (he : e.value = .posInf) : ∀ c ∈ cs, c.value = .posInf := fun c hc => by
  have := h.optimal c hc
  rw [he] at this
  exact ExtInt.not_lt_posInf_iff.mp this

theorem Inv.sound {m : Merge} {r : Retain} {cs : List (Cand τ)} {e : Entry τ} (h : Inv m r cs e) :
    ∀ t ∈ e.infos, ∃ c ∈ cs, c.info = some t ∧ c.value = e.value := by
  intro t ht
  cases r with
  | none => rw [h.none rfl] at ht; cases ht
  | any => exact h.anySound rfl t ht
  | all => exact (h.all rfl t).mp ht

theorem Inv.nonempty_of_tagged {r : Retain} {cs : List (Cand τ)} {e : Entry τ}
    (h : Inv .min r cs e) (hr : r ≠ .none) (htag : ∀ c ∈ cs, c.info.isSome) (hne : cs ≠ []) :
    e.infos ≠ [] := by
  have hatt : ∃ c ∈ cs, c.value = e.value := by
    rcases h.attained with h' | h'
    · obtain ⟨c, hc⟩ := List.exists_mem_of_ne_nil _ hne
      exact ⟨c, hc, (h.value_posInf h' c hc).trans h'.symm⟩
    · exact h'
  obtain ⟨c, hc, hv⟩ := hatt
  have hs := htag c hc
  cases r with
  | none => exact absurd rfl hr
  | any => exact h.anyComplete rfl ⟨c, hc, hs, hv⟩
  | all =>
    obtain ⟨t, ht⟩ := Option.isSome_iff_exists.mp hs
    intro hnil
    have := (h.all rfl t).mpr ⟨c, hc, ht, hv⟩
    rw [hnil] at this; cases this

theorem Inv.infos_nil_iff {r : Retain} {cs : List (Cand τ)} {e : Entry τ}
    (h : Inv .min r cs e) (hr : r ≠ .none) (htag : ∀ c ∈ cs, c.info.isSome) :
    e.infos = [] ↔ cs = [] := by
  constructor
  · intro hi
    by_cases hc : cs = []
    · exact hc
    · exact absurd hi (Inv.nonempty_of_tagged h hr htag hc)
  · intro hc
    cases hi : e.infos with
    | nil => rfl
    | cons t ts =>
      obtain ⟨c, hc', _⟩ := Inv.sound h t (by rw [hi]; simp)
      rw [hc] at hc'; cases hc'

theorem Inv.exists_tag {r : Retain} {cs : List (Cand τ)} {e : Entry τ} (h : Inv .min r cs e)
    (hr : r ≠ .none) (htag : ∀ c ∈ cs, c.info.isSome) {c0 : Cand τ} (hc0 : c0 ∈ cs)
    (hf : c0.value.isInfinite = false) :
    ∃ t ∈ e.infos, ∃ c ∈ cs, c.info = some t ∧ c.value ≠ .posInf := by
  have hne : e.value ≠ .posInf := by
    intro he
    rw [h.value_posInf he c0 hc0] at hf
    cases hf
  obtain ⟨t, ht⟩ := List.exists_mem_of_ne_nil _
    (Inv.nonempty_of_tagged h hr htag (List.ne_nil_of_mem hc0))
  obtain ⟨c, hc, hi, hv⟩ := Inv.sound h t ht
  exact ⟨t, ht, c, hc, hi, by rw [hv]; exact hne⟩

theorem update_append (e : Entry τ) (a b : List (Cand τ)) :
    update (update e a) b = update e (a ++ b) := by
  simp [update, List.foldl_append]

theorem foldl_update_flatMap {α : Type} (g : α → List (Cand τ)) (xs : List α)
    (e : Entry τ) : xs.foldl (fun res x => res.update (g x)) e = e.update (xs.flatMap g) := by
  induction xs generalizing e with
  | nil => simp [update]
  | cons x xs ih => simp [ih, update_append]

theorem foldl_update (e : Entry τ) (bs : List (List (Cand τ))) :
    bs.foldl update e = update e bs.flatten :=
  (foldl_update_flatMap id bs e).trans (by rw [List.flatMap_id])

end Entry

namespace DP

open SR.Entry (better)

variable {τ : Type} [DecidableEq τ]

theorem merge_update (e : Entry τ) (cs : List (Cand τ)) : (Entry.update e cs).merge = e.merge := by
  induction cs generalizing e with
  | nil => rfl
  | cons c cs ih => exact (ih _).trans (Entry.merge_update1 e c)

theorem retain_update (e : Entry τ) (cs : List (Cand τ)) : (Entry.update e cs).retain = e.retain := by
  induction cs generalizing e with
  | nil => rfl
  | cons c cs ih => exact (ih _).trans (Entry.retain_update1 e c)

theorem value_update (e : Entry τ) (cs : List (Cand τ)) :
    (Entry.update e cs).value =
      cs.foldl (fun v c => if better e.merge v c.value then c.value else v) e.value := by
  induction cs generalizing e with
  | nil => rfl
  | cons c cs ih =>
    refine (ih _).trans ?_
    rw [Entry.merge_update1, Entry.value_update1]
    rfl

end DP

/-! Which batches reach a cell; the candidates `Entry.combine` forms, and its invariant
    (vocabulary of property C16). -/
namespace C16

open SR.Entry

variable {τ : Type} [DecidableEq τ]

/-- Does a batch instantiate the cell behind a proxy? -/
def writes (batch : List (Cand τ)) : Bool := batch.any (fun x => !x.value.isInfinite)

omit [DecidableEq τ] in
theorem mem_written_flatten {bs : List (List (Cand τ))} {c : Cand τ}
    (h : c ∈ (bs.filter writes).flatten) : c ∈ bs.flatten := by
  obtain ⟨b, hb, hc⟩ := List.mem_flatten.mp h
  exact List.mem_flatten.mpr ⟨b, (List.mem_filter.mp hb).1, hc⟩

theorem cell_fold (m : Merge) (r : Retain) (c : Cell τ) (bs : List (List (Cand τ))) :
    bs.foldl (Cell.update m r) c =
      if bs.filter writes = [] then c
      else some (Entry.update (c.getD (Entry.init m r)) (bs.filter writes).flatten) := by
  induction bs generalizing c with
  | nil => simp
  | cons b bs ih =>
    rw [List.foldl_cons, ih, List.filter_cons]
    by_cases hb : writes b = true
    · have hu : Cell.update m r c b = some (Entry.update (c.getD (Entry.init m r)) b) := if_pos hb
      rw [hu, if_pos hb, if_neg (List.cons_ne_nil _ _), List.flatten_cons, ← Entry.update_append,
        Option.getD_some]
      split
      · next h => rw [h]; rfl
      · rfl
    · have hu : Cell.update m r c b = c := if_neg hb
      rw [hu, if_neg hb]

/-- The candidates formed by `combine`: one per pair of retained tags. -/
def pairCands {σ : Type} (a b : Entry τ) (f : ExtInt → τ → ExtInt → τ → Cand σ) : List (Cand σ) :=
  (a.infos.flatMap (fun x => b.infos.map (fun y => (x, y)))).map
    (fun p => f a.value p.1 b.value p.2)

theorem mem_pairCands {σ : Type} (a b : Entry τ) (f : ExtInt → τ → ExtInt → τ → Cand σ)
    (c : Cand σ) :
    c ∈ pairCands a b f ↔ ∃ x ∈ a.infos, ∃ y ∈ b.infos, c = f a.value x b.value y := by
  unfold pairCands
  simp only [List.mem_map, List.mem_pairs]
  constructor
  · rintro ⟨⟨x, y⟩, ⟨hx, hy⟩, rfl⟩
    exact ⟨x, hx, y, hy, rfl⟩
  · rintro ⟨x, hx, y, hy, rfl⟩
    exact ⟨(x, y), ⟨hx, hy⟩, rfl⟩

theorem exists_mem_pairCands {σ : Type} (a b : Entry τ) (f : ExtInt → τ → ExtInt → τ → Cand σ)
    (P : Cand σ → Prop) :
    (∃ c ∈ pairCands a b f, P c) ↔ ∃ x ∈ a.infos, ∃ y ∈ b.infos, P (f a.value x b.value y) := by
  constructor
  · rintro ⟨c, hc, hp⟩
    obtain ⟨x, hx, y, hy, rfl⟩ := (mem_pairCands a b f c).mp hc
    exact ⟨x, hx, y, hy, hp⟩
  · rintro ⟨x, hx, y, hy, hp⟩
    exact ⟨_, (mem_pairCands a b f _).mpr ⟨x, hx, y, hy, rfl⟩, hp⟩

omit [DecidableEq τ] in
theorem combine_inv {σ : Type} [DecidableEq σ] (a b : Entry τ)
    (f : ExtInt → τ → ExtInt → τ → Cand σ) :
    Inv a.merge a.retain (pairCands a b f) (Entry.combine a b f) :=
  inv_fresh a.merge a.retain _

end C16

end SR
