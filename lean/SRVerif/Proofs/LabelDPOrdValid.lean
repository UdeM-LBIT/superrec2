/-
  What makes the ordered solver's output well formed (C04, ordered clauses).  Root orders
  (`rootOrders`): without a prescribed root order every enumerated order is duplicate-free and has
  every (non-empty) leaf synteny as a subsequence (`rootOrders_ok`); the species the annotation
  allows are nodes of the species tree.  Labels of decoded solutions: the leaf
  syntenies are the input's and each child synteny is a subsequence of its parent's.
-/
import SRVerif.Proofs.LabelDPOrd
import SRVerif.Proofs.LcaMapOpt
import SRVerif.Proofs.SolverLists

namespace SR

open Cost Path SubseqSpec SubseqProofs

theorem leavesOk_of_all (order : List Nat) (o : OTree)
    (h : ∀ f ∈ leafSyntenies o, f ≠ [] ∧ f.Sublist order) : LeavesOk order o := by
  induction o with
  | leaf sp f => exact h f (by simp [leafSyntenies])
  | node l r ihl ihr =>
    exact ⟨ihl (fun f hf => h f (by simp [leafSyntenies, hf])),
      ihr (fun f hf => h f (by simp [leafSyntenies, hf]))⟩

theorem rootOrders_ok (o : OTree) (hne : ∀ f ∈ leafSyntenies o, f ≠ []) :
    ∀ order ∈ rootOrders o none, order.Nodup ∧ LeavesOk order o := by
  intro order h
  simp only [rootOrders, List.mem_filter, List.all_eq_true] at h
  obtain ⟨hp, hs⟩ := h
  refine ⟨(perm_of_mem_permutations _ _ hp).nodup_iff.mpr (nodup_dedup _), leavesOk_of_all order o ?_⟩
  intro f hf
  exact ⟨hne f hf, isSublist_iff_sublist.mp (hs f hf)⟩

theorem spOk_annOrd (c : Costs) (S : RTree) (base : Bool) (order : List Nat) (o : OTree)
    (hS : ∀ p ∈ leafSpecies o, S.isNode p = true) :
    ∀ isRoot, SpOk (ordAlg c) S (annOrd S base order isRoot o) := by
  induction o with
  | leaf sp f => intro _; exact hS sp (by simp [leafSpecies])
  | node l r ihl ihr =>
    intro isRoot
    exact ⟨isNode_of_mem_allowed S base (.node l r) hS,
      ihl (fun p hp => hS p (by simp [leafSpecies, hp])) false,
      ihr (fun p hp => hS p (by simp [leafSpecies, hp])) false⟩

theorem contained_half {mc m : Nat} (h : Contained mc m) : Contained (mc / 2) (m / 2) := by
  intro i hi
  rw [← Nat.testBit_succ] at hi ⊢
  exact h _ hi

theorem contained_bit0 {mc m : Nat} (h : Contained mc m) (h1 : mc % 2 = 1) : m % 2 = 1 := by
  have := h 0 (by rw [Nat.testBit_zero]; simpa using h1)
  rw [Nat.testBit_zero] at this
  simpa using this

theorem contained_zero {mc : Nat} (h : Contained mc 0) : mc = 0 :=
  Decidable.byContradiction fun hc => ne_zero_of_contained hc h rfl

theorem sublist_of_contained (order : List Nat) : ∀ mc m : Nat, Contained mc m →
    m < 2 ^ order.length →
    ∃ a b, subseqFromMask mc order = some a ∧ subseqFromMask m order = some b ∧ a.Sublist b := by
  induction order with
  | nil =>
    intro mc m hc hm
    have hm0 : m = 0 := by simp at hm; exact hm
    subst hm0
    rw [contained_zero hc]
    exact ⟨[], [], subseqFromMask_zero _, subseqFromMask_zero _, List.Sublist.refl _⟩
  | cons p ps ih =>
    intro mc m hc hm
    have hm' : m / 2 < 2 ^ ps.length := by
      rw [List.length_cons, Nat.pow_succ] at hm; omega
    obtain ⟨a, b, ha, hb, hab⟩ := ih (mc / 2) (m / 2) (contained_half hc) hm'
    rw [subseqFromMask_cons, subseqFromMask_cons, ha, hb]
    refine ⟨_, _, rfl, rfl, ?_⟩
    by_cases h1 : mc % 2 = 1
    · have h2 := contained_bit0 hc h1
      simp only [h1, h2, if_true]
      exact hab.cons_cons p
    · by_cases h2 : m % 2 = 1
      · simp only [h1, h2, if_true, if_false]
        exact hab.cons p
      · simp only [h1, h2, if_false]
        exact hab

/-- A finite edge forces the child mask into the parent's (`contained_of_genLocal_fin`),
    and contained masks decode to subsequences. -/
theorem validOrdLabels_of_finite (c : Costs) (S : RTree) (base : Bool) (order : List Nat) (o : OTree)
    (hlv : LeavesOk order o) :
    ∀ (isRoot : Bool) (ls : LSol Nat), Adm (ordAlg c) (annOrd S base order isRoot o) ls → NZ ls →
      labCost (ordAlg c) c (annOrd S base order isRoot o) ls ≠ .inf →
      Spec.validOrdLabels o (ordSol order ls) = true := by
  induction o with
  | leaf sp f =>
    intro isRoot ls h _ _
    obtain rfl := h.leaf_inv
    simp only [ordSol, Spec.validOrdLabels, ordAlg, roundtrip_seq order f hlv.2, Option.getD_some,
      beq_self_eq_true]
  | node l r ihl ihr =>
    intro isRoot ls h hnz hfin
    have hfit := fits_of_adm c S base order (.node l r) isRoot _ h
    obtain ⟨s, m, x, y, rfl, _, _, ax, ay⟩ := h.node_inv
    simp only [NZ] at hnz
    simp only [Fits] at hfit
    obtain ⟨hg, hxf, hyf⟩ := labCost_node_ne_inf hfin
    obtain ⟨hcl, hcr⟩ := contained_of_genLocal_fin hg
    obtain ⟨a, b, ha, hb, hab⟩ := sublist_of_contained order x.lab m (hcl hnz.2.1.lab_ne) hfit.1
    obtain ⟨a', b', ha', hb', hab'⟩ := sublist_of_contained order y.lab m (hcr hnz.2.2.lab_ne) hfit.1
    rw [hb] at hb'; injection hb' with hb'; subst hb'
    simp only [ordSol, Spec.validOrdLabels, ordSol_fam, ha, hb, ha', Option.getD_some,
      isSublist_iff_sublist.mpr hab, isSublist_iff_sublist.mpr hab',
      ihl hlv.1 false x ax hnz.2.1 hxf, ihr hlv.2 false y ay hnz.2.2 hyf, Bool.and_self]

end SR
