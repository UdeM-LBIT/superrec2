/-
  A history of operations on a table is one `Ext` step (`run_ext`).  Then what single operations
  return on the classes of chains the table theorems speak of: entry methods through a complete
  chain (`withCell_valid`, `withCell_invalid`), `keys()` below a proper prefix (`keysAt_dict_eq`,
  `keysAt_list`, `step_keys_at`), writes (`step_write`).
-/
import SRVerif.Proofs.TableStep

namespace SR.DP

variable {τ : Type} [DecidableEq τ]

namespace Table

theorem run_cons [Min τ] (t : Table τ) (op : Op τ) (ops : List (Op τ)) :
    t.run (op :: ops) = (((t.step op).1.run ops).1, (t.step op).2 :: ((t.step op).1.run ops).2) := rfl

theorem run_append [Min τ] (t : Table τ) (ops ops' : List (Op τ)) :
    t.run (ops ++ ops') = (((t.run ops).1.run ops').1, (t.run ops).2 ++ ((t.run ops).1.run ops').2) := by
  induction ops generalizing t with
  | nil => simp [run]
  | cons op ops ih =>
    simp only [List.cons_append, run_cons, ih]

theorem run_length [Min τ] (t : Table τ) (ops : List (Op τ)) : (t.run ops).2.length = ops.length := by
  induction ops generalizing t with
  | nil => rfl
  | cons op ops ih => simp [run_cons, ih]

/-- A history is one big step: shape and policies stay, each cell receives, in order, the
    batches the history offers to it (nothing else in the history matters to it), and the dictionary
    keys created lie on the paths the operations mention. -/
theorem run_ext [Min τ] (t : Table τ) (ops : List (Op τ)) :
    Ext (ops.flatMap (opVisits t.dims))
      (fun a c => (ops.filterMap (writesTo t.dims a)).foldl (Cell.update t.merge t.retain) c)
      t (t.run ops).1 := by
  induction ops generalizing t with
  | nil => exact ExtP.refl _ t
  | cons op ops ih =>
    have h := step_ext t op
    have h' := ih (t.step op).1
    rw [h.dims, h.merge, h.retain] at h'
    refine (h.comp h').congr fun a c => ?_
    simp only [List.filterMap_cons, opCell]
    cases writesTo t.dims a op <;> rfl

omit [DecidableEq τ] in
theorem walk_cells (t : Table τ) (ks : List Key) : (t.walk ks).1.cells = t.cells := rfl
omit [DecidableEq τ] in
theorem walk_dims (t : Table τ) (ks : List Key) : (t.walk ks).1.dims = t.dims := rfl
omit [DecidableEq τ] in
theorem walk_merge (t : Table τ) (ks : List Key) : (t.walk ks).1.merge = t.merge := rfl

omit [DecidableEq τ] in
theorem withCell_valid (t : Table τ) (ks a : List Key) (hne : ks ≠ []) (hlen : ks.length = t.dims.length)
    (ha : addr t.dims ks = .ok a) (e : PyErr) (k : Table τ → Cell τ → Out τ) :
    t.withCell ks e k = (((t.walk ks.dropLast).1.walk ks).1,
      k ((t.walk ks.dropLast).1.walk ks).1 (getCell t.cells a)) := by
  unfold withCell
  rw [index_valid t ks a hne hlen ha]
  simp only [getReal_eq, walk_dims, walk_cells, ha, Except.map]

omit [DecidableEq τ] in
theorem withCell_invalid (t : Table τ) (ks : List Key) (hne : ks ≠ []) (hlen : ks.length = t.dims.length)
    (e' : PyErr) (ha : addr t.dims ks = .error e') (e : PyErr) (k : Table τ → Cell τ → Out τ) :
    (t.withCell ks e k).2 = .err e' := by
  unfold withCell
  rcases index_complete t ks hne hlen with ⟨a', _, hi⟩ | ⟨e'', he, hi⟩
  · simp only [hi, getReal_eq, walk_dims, ha, Except.map]
  · rw [hi]
    rw [ha] at he
    injection he with he
    subst he
    rfl

omit [DecidableEq τ] in
/-- `keys()` below a prefix that leads to a dictionary: the keys created so far under that
    prefix, in creation order (the walk of the prefix itself creates none of them). -/
theorem keysAt_dict_eq (t : Table τ) (pre a : List Key) (ha : addr t.dims pre = .ok a)
    (hd : t.dims[pre.length]? = some .dict) :
    (t.keysAt pre).2 = .ok (t.touched.filterMap (keySel a)) := by
  rw [keysAt_eq]
  simp only [ha, hd]
  obtain ⟨l0, hl0, hv⟩ := (walk_ext t pre).touched
  have : l0.filterMap (keySel a) = [] := by
    rw [List.filterMap_eq_nil_iff]
    intro p hp
    have h1 := visited_length_le _ _ _ (hv p hp)
    have h3 := (addr_length _ _ _ ha).1
    exact if_neg fun h => by omega
  rw [hl0, List.filterMap_append, this, List.append_nil]

omit [DecidableEq τ] in
theorem keysAt_list (t : Table τ) (pre a : List Key) (n : Nat) (ha : addr t.dims pre = .ok a)
    (hd : t.dims[pre.length]? = some (.list n)) :
    (t.keysAt pre).2 = .ok ((List.range n).map (fun i => Key.int (i : Nat))) := by
  rw [keysAt_eq]
  simp only [ha, hd]

theorem step_keys_at [Min τ] (T : Table τ) (pre l : List Key) (hs : pre.length < T.dims.length)
    (h : (T.keysAt pre).2 = .ok l) :
    (T.step (.keys pre)).2 = .keys l ∧ (T.step (.iter pre)).2 = .keys l
      ∧ ∀ k, (T.step (.contains pre k)).2 = .bool (decide (k ∈ l)) := by
  simp only [step, index_short T pre hs]
  cases hk : T.keysAt pre with
  | mk t2 r =>
    rw [hk] at h
    cases h
    exact ⟨rfl, rfl, fun _ => rfl⟩

theorem updateAt_touched (t : Table τ) (key p : List Key) (b : List (Cand τ))
    (hfin : b.any (fun x => !x.value.isInfinite) = true) (hp : p ∈ visited t.dims key) :
    p ∈ (t.updateAt key b).1.touched := by
  have h := (walk_touched t key p).mpr (Or.inr hp)
  rw [updateAt_eq t key b hfin]
  cases addr t.dims key <;> exact h

theorem updateAt_ok (t : Table τ) (key a : List Key) (b : List (Cand τ))
    (ha : addr t.dims key = .ok a) : (t.updateAt key b).2 = .ok () := by
  by_cases hfin : b.any (fun x => !x.value.isInfinite) = true
  · rw [updateAt_eq t key b hfin, ha]
  · unfold updateAt; rw [if_neg hfin]

/-- An operation that offers the batch `b` to the cell `a` is `EntryProxy.update` of `b` through a
    complete valid chain of keys for `a`, on a table reached by reading accesses only. -/
theorem step_write [Min τ] (T : Table τ) (op : Op τ) (a : List Key) (b : List (Cand τ))
    (hw : writesTo T.dims a op = some b) :
    ∃ ks ∈ opPaths op, ∃ t1, addr T.dims ks = .ok a ∧ ks.length = T.dims.length ∧
      ExtP (visited T.dims ks) T t1 ∧
      T.step op = ((t1.updateAt ks b).1,
        match (t1.updateAt ks b).2 with | .error e => .err e | .ok _ => .unit) := by
  cases op with
  | set pre k c =>
    simp only [writesTo] at hw
    split at hw
    · next hc =>
      obtain ⟨hl, ha⟩ := hc
      cases hw
      have hl' : pre.length + 1 = T.dims.length := by simpa using hl
      refine ⟨pre ++ [k], by simp [opPaths], T, (isAddr_iff _ _ _).mp ha, hl, ExtP.refl _ _, ?_⟩
      simp only [step, index_short T pre (by omega), setitem, if_pos hl']
      cases T.updateAt (pre ++ [k]) [c] with
      | mk t2 r => cases r <;> rfl
    · cases hw
  | update ks bb =>
    simp only [writesTo] at hw
    split at hw
    · next hc =>
      obtain ⟨hne, hl, ha⟩ := hc
      cases hw
      have ha' := (isAddr_iff _ _ _).mp ha
      have hi := index_valid T ks a hne hl ha'
      refine ⟨ks, by simp [opPaths], _, ha', hl, (ExtP.refl _ T).index (fun _ h => h) hi, ?_⟩
      simp only [step, hi]
      cases (T.walk ks.dropLast).1.updateAt ks b with
      | mk t2 r => cases r <;> rfl
    · cases hw
  | _ => simp [writesTo] at hw

end Table

end SR.DP
