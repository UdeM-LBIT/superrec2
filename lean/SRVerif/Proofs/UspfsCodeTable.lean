/-
  The threaded table of `_compute_uspfs_table`: after the post-order loop the entry at (object
  node, species, kind) is `rowOf` of the subtree at that node, for every node and every
  retention policy.  Needs only that `allowed_species` hands out pairwise distinct species for
  one node (`AllowedNodup`), i.e. that every entry is written by ONE `update(…)` batch.
  (`rowOf` / `Holds` / `computeTable_ok` are for uspfs what `RowSpec` / `Rows` / `process_rec` are
  for thl: the policy-independent recurrence first; agreement with the label DP, under ALL, is
  `rowOf_rowOk` in `Proofs/UspfsCodeCell.lean`.)
-/
import SRVerif.Proofs.UspfsCodeCell

namespace SR.UspfsCode

open SR

theorem cellAt_tupdate (pol : Retain) (T : Table) (v s : Path) (k : Kind) (batch : List (Cand CAsg))
    (v' s' : Path) (k' : Kind) :
    cellAt (tupdate pol T v s k batch) v' s' k' =
      if (v', s', k') = (v, s, k) then Cell.update .min pol (cellAt T v s k) batch
      else cellAt T v' s' k' := by
  unfold tupdate
  cases h : Cell.update .min pol (cellAt T v s k) batch with
  | some e =>
    unfold cellAt
    simp only [List.lookup_cons_eq_ite, eq_comm (a := (v, s, k))]
  | none =>
    by_cases hk : (v', s', k') = (v, s, k)
    · rw [if_pos hk]
      simp only [Prod.mk.injEq] at hk
      obtain ⟨rfl, rfl, rfl⟩ := hk
      unfold Cell.update at h
      split at h
      · cases h
      · exact h
    · rw [if_neg hk]

theorem cellAt_computeEntry (pol : Retain) (c : Costs) (S : RTree) (s v : Path)
    (rootSet lSet rSet : List Nat) (T : Table) (v' s' : Path) (k' : Kind) :
    cellAt (computeEntry pol c S s v rootSet lSet rSet T) v' s' k' =
      if v' = v ∧ s' = s then
        Cell.update .min pol (cellAt T v s k')
          (entryBatch c ((childSub pol c S (cellAt T (v ++ [0])) s rootSet lSet).get k')
            ((childSub pol c S (cellAt T (v ++ [1])) s rootSet rSet).get k'))
      else cellAt T v' s' k' := by
  simp only [computeEntry, List.foldl_cons, List.foldl_nil, cellAt_tupdate, Prod.mk.injEq]
  by_cases h : v' = v ∧ s' = s
  · obtain ⟨rfl, rfl⟩ := h
    cases k' <;> simp
  · rw [if_neg h]
    have h1 : ¬ (v' = v ∧ s' = s ∧ k' = Kind.inh) := fun hh => h ⟨hh.1, hh.2.1⟩
    have h2 : ¬ (v' = v ∧ s' = s ∧ k' = Kind.lca) := fun hh => h ⟨hh.1, hh.2.1⟩
    rw [if_neg h1, if_neg h2]

/-- The loop over `allowed_species(…)` for one object node `v`, from a table whose rows of the two
    children are `rowL`, `rowR` and whose row `v` is empty at the (distinct) species `al`: no cell
    outside `v` × `al` changes, and each cell `(v, s)`, `s ∈ al`, is a fresh cell that received
    `nodeBatch`. -/
theorem cellAt_allowed (pol : Retain) (c : Costs) (S : RTree) (v : Path) (a la ra : UnAnn)
    (rowL rowR : Row) :
    ∀ (al : List Path) (T : Table), al.Nodup →
      cellAt T (v ++ [0]) = rowL → cellAt T (v ++ [1]) = rowR →
      (∀ s ∈ al, ∀ k, cellAt T v s k = none) →
      let T' := al.foldl (fun T s => computeEntry pol c S s v a.lcaSet la.lcaSet ra.lcaSet T) T
      (∀ v' s' k', (v' ≠ v ∨ s' ∉ al) → cellAt T' v' s' k' = cellAt T v' s' k') ∧
      (∀ s' ∈ al, ∀ k', cellAt T' v s' k' =
        Cell.update .min pol none (nodeBatch pol c S a la ra rowL rowR s' k')) := by
  intro al
  induction al with
  | nil => intro T _ _ _ _; simp
  | cons s rest ih =>
    intro T hnd hL hR hfresh
    rw [List.nodup_cons] at hnd
    let T1 := computeEntry pol c S s v a.lcaSet la.lcaSet ra.lcaSet T
    have hL1 : cellAt T1 (v ++ [0]) = rowL := by
      funext s' k'
      rw [cellAt_computeEntry, if_neg (fun h => Path.snoc_ne_self v 0 h.1), hL]
    have hR1 : cellAt T1 (v ++ [1]) = rowR := by
      funext s' k'
      rw [cellAt_computeEntry, if_neg (fun h => Path.snoc_ne_self v 1 h.1), hR]
    have hfresh1 : ∀ s' ∈ rest, ∀ k, cellAt T1 v s' k = none := by
      intro s' hs' k
      rw [cellAt_computeEntry, if_neg, hfresh s' (List.mem_cons_of_mem _ hs') k]
      rintro ⟨_, rfl⟩; exact hnd.1 hs'
    have := ih T1 hnd.2 hL1 hR1 hfresh1
    simp only [List.foldl_cons]
    refine ⟨?_, ?_⟩
    · intro v' s' k' h
      rw [this.1 v' s' k' (by
        rcases h with h | h
        · exact Or.inl h
        · exact Or.inr (fun hh => h (List.mem_cons_of_mem _ hh)))]
      rw [cellAt_computeEntry, if_neg]
      rintro ⟨rfl, rfl⟩
      rcases h with h | h
      · exact h rfl
      · exact h (List.mem_cons_self ..)
    · intro s' hs' k'
      rcases List.mem_cons.mp hs' with rfl | hs'
      · rw [this.1 v s' k' (Or.inr hnd.1), cellAt_computeEntry, if_pos ⟨rfl, rfl⟩,
          hfresh s' (List.mem_cons_self ..) k', hL, hR]
        rfl
      · exact this.2 s' hs' k'

/-- The subtree at a path (`none` outside the tree); object nodes are named by their paths. -/
def subAt : ATree UnAnn → Path → Option (ATree UnAnn)
  | t, [] => some t
  | .leaf _ _, _ :: _ => none
  | .node _ l r, i :: q => if i = 0 then subAt l q else if i = 1 then subAt r q else none

theorem subAt_nil (t : ATree UnAnn) : subAt t [] = some t := by cases t <;> rfl

theorem subAt_node_cons {a : UnAnn} {l r tq : ATree UnAnn} {i : Nat} {q : Path} :
    subAt (.node a l r) (i :: q) = some tq ↔
      (i = 0 ∧ subAt l q = some tq) ∨ (i = 1 ∧ subAt r q = some tq) := by
  simp only [subAt]
  by_cases h0 : i = 0
  · simp [h0]
  · by_cases h1 : i = 1 <;> simp [h0, h1]

/-- `allowed_species` hands out pairwise distinct species for each object node. -/
def AllowedNodup : ATree UnAnn → Prop
  | .leaf _ _ => True
  | .node a l r => a.allowed.Nodup ∧ AllowedNodup l ∧ AllowedNodup r

/-- A table whose rows are `rowOf` at every node of the subtree `t` hanging at `v`. -/
def Holds (pol : Retain) (c : Costs) (S : RTree) (T : Table) (t : ATree UnAnn) (v : Path) : Prop :=
  ∀ q tq, subAt t q = some tq → ∀ s k, cellAt T (v ++ q) s k = rowOf pol c S tq s k

theorem Holds.root {pol : Retain} {c : Costs} {S : RTree} {T : Table} {t : ATree UnAnn} {v : Path}
    (h : Holds pol c S T t v) (s : Path) (k : Kind) : cellAt T v s k = rowOf pol c S t s k := by
  have := h [] t (subAt_nil t) s k
  rwa [List.append_nil] at this

theorem Holds.left {pol : Retain} {c : Costs} {S : RTree} {T : Table} {a : UnAnn}
    {l r : ATree UnAnn} {v : Path} (h : Holds pol c S T (.node a l r) v) :
    Holds pol c S T l (v ++ [0]) := by
  intro q tq hq s k
  rw [List.append_assoc]
  exact h (0 :: q) tq (by simpa [subAt] using hq) s k

theorem Holds.right {pol : Retain} {c : Costs} {S : RTree} {T : Table} {a : UnAnn}
    {l r : ATree UnAnn} {v : Path} (h : Holds pol c S T (.node a l r) v) :
    Holds pol c S T r (v ++ [1]) := by
  intro q tq hq s k
  rw [List.append_assoc]
  exact h (1 :: q) tq (by simpa [subAt] using hq) s k

theorem computeTable_ok (pol : Retain) (c : Costs) (S : RTree) :
    ∀ (t : ATree UnAnn) (v : Path) (T : Table), AllowedNodup t →
      (∀ v' s k, v <+: v' → cellAt T v' s k = none) →
      (∀ v' s k, ¬ v <+: v' → cellAt (computeTable pol c S t v T) v' s k = cellAt T v' s k) ∧
      Holds pol c S (computeTable pol c S t v T) t v := by
  intro t
  induction t with
  | leaf a sp =>
    intro v T _ hfresh
    simp only [computeTable]
    refine ⟨?_, ?_⟩
    · intro v' s k hv'
      rw [cellAt_tupdate, if_neg]
      intro h
      simp only [Prod.mk.injEq] at h
      exact hv' (h.1 ▸ List.prefix_refl _)
    · intro q tq hq s k
      cases q with
      | cons _ _ => simp [subAt] at hq
      | nil =>
        simp only [subAt_nil, Option.some.injEq] at hq
        subst hq
        rw [List.append_nil, cellAt_tupdate, hfresh v sp .lca (List.prefix_refl _)]
        simp only [rowOf, Prod.mk.injEq, true_and]
        by_cases h : s = sp ∧ k = .lca
        · rw [if_pos h, if_pos h]
        · rw [if_neg h, if_neg h]; exact hfresh v s k (List.prefix_refl _)
  | node a l r ihl ihr =>
    intro v T hnd hfresh
    obtain ⟨hnda, hndl, hndr⟩ := hnd
    simp only [computeTable]
    have hfreshL : ∀ v' s k, (v ++ [0]) <+: v' → cellAt T v' s k = none :=
      fun v' s k h => hfresh v' s k (Path.prefix_of_snoc_prefix h)
    obtain ⟨frame1, ok1⟩ := ihl (v ++ [0]) T hndl hfreshL
    have hfreshR : ∀ v' s k, (v ++ [1]) <+: v' →
        cellAt (computeTable pol c S l (v ++ [0]) T) v' s k = none := by
      intro v' s k h
      rw [frame1 v' s k]
      · exact hfresh v' s k (Path.prefix_of_snoc_prefix h)
      · exact Path.not_snoc_prefix_of_snoc_prefix (by decide) h
    obtain ⟨frame2, ok2⟩ := ihr (v ++ [1]) _ hndr hfreshR
    -- the rows of the children in the table handed to the loop over the species
    have hrowL : cellAt (computeTable pol c S r (v ++ [1]) (computeTable pol c S l (v ++ [0]) T))
        (v ++ [0]) = rowOf pol c S l := by
      funext s k
      rw [frame2 _ s k (Path.not_snoc_prefix_of_snoc_prefix (by decide) (List.prefix_refl _))]
      exact ok1.root s k
    have hrowR : cellAt (computeTable pol c S r (v ++ [1]) (computeTable pol c S l (v ++ [0]) T))
        (v ++ [1]) = rowOf pol c S r := by
      funext s k
      exact ok2.root s k
    have hfreshV : ∀ s k, cellAt (computeTable pol c S r (v ++ [1])
        (computeTable pol c S l (v ++ [0]) T)) v s k = none := by
      intro s k
      rw [frame2 v s k (Path.not_snoc_prefix_self v 1), frame1 v s k (Path.not_snoc_prefix_self v 0)]
      exact hfresh v s k (List.prefix_refl _)
    obtain ⟨frame3, ok3⟩ := cellAt_allowed pol c S v a l.data r.data _ _ a.allowed _ hnda hrowL hrowR
      (fun s _ k => hfreshV s k)
    refine ⟨?_, ?_⟩
    · intro v' s k hv'
      have hne : v' ≠ v := fun h => hv' (h ▸ List.prefix_refl _)
      rw [frame3 v' s k (Or.inl hne), frame2 v' s k (fun h => hv' (Path.prefix_of_snoc_prefix h)),
        frame1 v' s k (fun h => hv' (Path.prefix_of_snoc_prefix h))]
    · intro q tq hq s k
      cases q with
      | nil =>
        simp only [subAt_nil, Option.some.injEq] at hq
        subst hq
        rw [List.append_nil]
        simp only [rowOf]
        by_cases hs : s ∈ a.allowed
        · rw [if_pos hs]; exact ok3 s hs k
        · rw [if_neg hs, frame3 v s k (Or.inr hs)]; exact hfreshV s k
      | cons i q =>
        have hne : v ++ i :: q ≠ v := by
          intro h; have := congrArg List.length h; simp at this
        rw [frame3 _ s k (Or.inl hne)]
        rcases subAt_node_cons.mp hq with ⟨rfl, hq⟩ | ⟨rfl, hq⟩
        · rw [frame2 _ s k (Path.not_snoc_prefix_sibling (by decide))]
          have := ok1 q tq hq s k
          rwa [List.append_assoc] at this
        · have := ok2 q tq hq s k
          rwa [List.append_assoc] at this

end SR.UspfsCode
