/-
  C10 "single family": when every leaf carries the same single family the label part of the
  ordered DP degenerates.  There is one root order, every admissible labelling of finite cost
  carries the mask 1 everywhere (`allOne_of_fits_nz`), on such labellings the edge charges vanish,
  so the ordered and the plain algebra simulate each other (`sim_annOrd_annP`, `sim_annP_annOrd`),
  and the evaluator counts no segmental loss (`labelingCost_allOne`).
-/
import SRVerif.Proofs.C10Base
import SRVerif.Proofs.LabelDPOrd

namespace SR.C10

open Cost Path

/-- `∀ g ∈ leafSyntenies o, g = [f]` (`singleFam_iff`) in the shape the inductions over `o` use. -/
def SingleFam (f : Nat) : OTree → Prop
  | .leaf _ g => g = [f]
  | .node l r => SingleFam f l ∧ SingleFam f r

theorem singleFam_iff (f : Nat) (o : OTree) :
    SingleFam f o ↔ ∀ g ∈ leafSyntenies o, g = [f] := by
  induction o with
  | leaf sp g => simp [SingleFam, leafSyntenies]
  | node l r ihl ihr =>
    simp only [SingleFam, leafSyntenies, List.mem_append, ihl, ihr]
    constructor
    · rintro ⟨h1, h2⟩ g (hg | hg)
      · exact h1 g hg
      · exact h2 g hg
    · intro h; exact ⟨fun g hg => h g (Or.inl hg), fun g hg => h g (Or.inr hg)⟩

theorem leafSyntenies_ne_nil (o : OTree) : leafSyntenies o ≠ [] := by
  induction o with
  | leaf sp g => simp [leafSyntenies]
  | node l r ihl _ => simp [leafSyntenies, ihl]

theorem dedup_const (f : Nat) (l : List Nat) (hne : l ≠ []) (h : ∀ x ∈ l, x = f) :
    dedup l = [f] := by
  obtain ⟨a, l, rfl⟩ := List.exists_cons_of_ne_nil hne
  obtain rfl := h a List.mem_cons_self
  exact List.foldl_addNew_eq_self fun x hx => List.mem_singleton.mpr (h x (List.mem_cons_of_mem _ hx))

theorem families_single {f : Nat} {o : OTree} (h : SingleFam f o) : families o = [f] := by
  rw [singleFam_iff] at h
  unfold families
  apply dedup_const
  · obtain ⟨g, hg⟩ := List.exists_mem_of_ne_nil _ (leafSyntenies_ne_nil o)
    intro e
    have : f ∈ (leafSyntenies o).flatten :=
      List.mem_flatten.mpr ⟨g, hg, by rw [h g hg]; simp⟩
    rw [e] at this; cases this
  · intro x hx
    obtain ⟨g, hg, hxg⟩ := List.mem_flatten.mp hx
    rw [h g hg] at hxg
    simpa using hxg

theorem rootOrders_single {f : Nat} {o : OTree} (h : SingleFam f o) : rootOrders o none = [[f]] := by
  simp only [rootOrders, families_single h]
  have hp : permutations [f] = [[f]] := rfl
  rw [hp]
  rw [singleFam_iff] at h
  have : (leafSyntenies o).all (fun s => isSublist s [f]) = true := by
    rw [List.all_eq_true]
    intro g hg
    rw [h g hg]
    simp [isSublist]
  simp [List.filter, this]

theorem leavesOk_single {f : Nat} {o : OTree} (h : SingleFam f o) : LeavesOk [f] o := by
  induction o with
  | leaf sp g => simp only [SingleFam] at h; subst h; exact ⟨by simp, List.Sublist.refl _⟩
  | node l r ihl ihr => exact ⟨ihl h.1, ihr h.2⟩

theorem segDist_one (e : Bool) : subseqSegmentDist 1 1 e = 0 := by cases e <;> decide +kernel

theorem ord_conserv_one (c : Costs) (a ca : OrdAnn) : (ordAlg c).conserv a 1 ca 1 = .fin 0 := by
  simp [ordAlg, segDist_one]

theorem ord_segment_one (c : Costs) (a ca : OrdAnn) : (ordAlg c).segment a 1 ca 1 = .fin 0 := by
  simp [ordAlg, segDist_one]

theorem allOne_of_fits_nz : ∀ (ls : LSol Nat), Fits 1 ls → NZ ls → ls.All (· = 1) := by
  intro ls
  induction ls with
  | leaf s m => intro hf hn; simp only [Fits, NZ, LSol.All] at *; omega
  | node s m l r ihl ihr =>
    intro hf hn
    simp only [Fits, NZ] at hf hn
    exact ⟨by omega, ihl hf.2.1 hn.2.1, ihr hf.2.2 hn.2.2⟩

theorem internalEvent_cases (s a b : Path) (h : internalEvent s a b ≠ .invalid) :
    internalEvent s a b = .spec ∨ internalEvent s a b = .dup ∨ internalEvent s a b = .hgt := by
  have h' := eventAt s a b
  generalize internalEvent s a b = e at h h' ⊢
  cases h' <;> simp at h ⊢

theorem localOrdLosses_one {ev : Event} (k : Bool) (h : ev = .spec ∨ ev = .dup ∨ ev = .hgt) :
    localOrdLosses ev k 1 1 1 = some 0 := by
  cases k <;> rcases h with rfl | rfl | rfl <;>
    simp only [localOrdLosses, segDist_one, Bool.not_true, Bool.not_false] <;>
    rfl

theorem ordLossesM_allOne : ∀ (ls : LSol Nat), ls.All (· = 1) → ls.Valid → ordLossesM ls = some 0 := by
  intro ls
  induction ls with
  | leaf s m => intro _ _; rfl
  | node s m l r ihl ihr =>
    intro h hv
    simp only [LSol.All] at h
    simp only [LSol.Valid] at hv
    obtain ⟨rfl, hl, hr⟩ := h
    simp only [ordLossesM, ihl hl hv.2.1, ihr hr hv.2.2, hl.lab, hr.lab,
      localOrdLosses_one _ (internalEvent_cases s l.sp r.sp hv.1)]

theorem mask_single (f : Nat) : maskFromSubseq [f] [f] = 1 := by simp [maskFromSubseq]

theorem sim_annOrd_annP (c : Costs) (S : RTree) (base : Bool) (order : List Nat)
    {al : OTree → List Path} (hal : ∀ o', ∀ s ∈ alB S base o', s ∈ al o') (o : OTree) : ∀ isRoot,
    Sim (ordAlg c) thlAlg (fun _ => ()) (· = 1) (annOrd S base order isRoot o) (annP al o) := by
  induction o with
  | leaf sp f => intro isRoot; exact .leaf _ _ sp rfl
  | node l r ihl ihr =>
    intro isRoot
    refine .node (hal _) (fun _ _ _ => List.mem_singleton.mpr rfl) ?_ ?_ (ihl false) (ihr false) <;>
    · rintro x y rfl rfl
      exact ⟨(ord_conserv_one c _ _).symm, (ord_segment_one c _ _).symm⟩

theorem sim_annP_annOrd (c : Costs) (S : RTree) (base : Bool) {f : Nat}
    {al : OTree → List Path} (hal : ∀ o', ∀ s ∈ al o', s ∈ alB S base o') {o : OTree}
    (hsf : SingleFam f o) : ∀ isRoot,
    Sim thlAlg (ordAlg c) (fun _ => 1) (fun _ => True) (annP al o) (annOrd S base [f] isRoot o) := by
  induction o with
  | leaf sp g =>
    intro isRoot
    simp only [SingleFam] at hsf
    subst hsf
    exact .leaf _ _ sp (mask_single f).symm
  | node l r ihl ihr =>
    intro isRoot
    refine .node (hal _) (fun _ _ _ => ?_) ?_ ?_ (ihl hsf.1 false) (ihr hsf.2 false)
    · cases isRoot <;> simp [ordAlg]
    all_goals
      intro x y _ _
      exact ⟨ord_conserv_one c _ _, ord_segment_one c _ _⟩

theorem labelingCost_allOne (c : Costs) (S : RTree) (base : Bool) {f : Nat} {o : OTree}
    {ls : LSol Nat} (adm : Adm (ordAlg c) (annOrd S base [f] true o) ls) (hall : ls.All (· = 1))
    (hfin : labCost (ordAlg c) c (annOrd S base [f] true o) ls ≠ .inf) :
    labelingCost c .ordered (ordSol [f] ls) = some 0 := by
  have hfam : (ordSol [f] ls).fam = [f] := by
    rw [ordSol_fam, hall.lab]
    simp [subseqFromMask]
  simp only [labelingCost, hfam]
  rw [ordLosses_ordSol (by simp) ls _ (fits_of_adm c S base [f] o true ls adm)
      (by rw [hall.lab]; rfl),
    ordLossesM_allOne ls hall (valid_of_labCost_fin _ c _ ls hfin)]
  simp

end SR.C10
