/-
  Order of the branches inside one species: whenever `_compute_branches`
  succeeds, the children of every duplication branch and the kept child of
  every transfer branch are keys of EARLIER branches of the same species —
  this is what `_layout_branches` needs to find `layout["branches"][k]["rect"]`.
  Hypothesis-free: a fact about runs (`Ran.ord`: `anchor_nodes.remove(k)` only succeeds on keys
  of branches already present) and about the plan (`nodePlan_asks`).
-/
import SRVerif.Proofs.BranchesPlan

namespace SR.Layout

open SR

/-- What `_layout_branches` looks up for a branch among the keys `ks` of the
    branches laid out so far. -/
def BNeeds (b : Branch) (ks : List Key) : Prop :=
  match b.kind with
  | .dup => ∃ k1 k2, b.left = some k1 ∧ b.right = some k2 ∧ k1 ∈ ks ∧ k2 ∈ ks
  | .hgt => ∃ k1, b.left = some k1 ∧ k1 ∈ ks
  | _ => True

/-- Every branch finds what it looks up among the keys of the branches before it. -/
def Ordered (l : List Branch) : Prop := ∀ pre b post, l = pre ++ b :: post → BNeeds b (keysOf pre)

theorem Ordered.nil : Ordered [] := by
  intro pre b post h
  cases pre <;> cases h

theorem Ordered.snoc {l : List Branch} {b : Branch} (h : Ordered l) (hb : BNeeds b (keysOf l)) :
    Ordered (l ++ [b]) := by
  intro pre x post e
  rcases List.eq_nil_or_concat post with rfl | ⟨post', y, rfl⟩
  · have := List.append_inj' e rfl
    obtain ⟨rfl, hx⟩ := this
    cases hx
    exact hb
  · rw [List.concat_eq_append, ← List.cons_append, ← List.append_assoc] at e
    have := List.append_inj' e rfl
    exact h pre x post' this.1

/-- Anchors are keys: every anchor of a species is the key of one of its branches. -/
def AK (st : LState) : Prop := ∀ t k, k ∈ ancs st t → k ∈ keysOf (brs st t)

/-- The branch list of every species is `Ordered` (a property of states, not Lean's `Ord`). -/
def Ord (st : LState) : Prop := ∀ t, Ordered (brs st t)

theorem Did.ak {st st' : LState} {pl : List (Path × Branch)} (d : Did st st' pl) (h : AK st) :
    AK st' := by
  intro t k hk
  rw [d.brs, keysOf_append, List.mem_append]
  rcases d.ancs t k hk with h1 | h1
  · exact Or.inl (h t k h1)
  · exact Or.inr h1

/-- What `BNeeds` asks of a branch is what it consumes, and it does not consume itself. -/
def Asks (b : Branch) : Prop :=
  b.key ∉ consumes b ∧ ∀ ks, (∀ k ∈ consumes b, k ∈ ks) → BNeeds b ks

/-- `remove` succeeded on every key a placed branch consumes, so the key was an anchor, hence the
    key of an earlier branch of the species. -/
theorem Ran.ord {st st' : LState} {pl : List (Path × Branch)} (h : Ran st pl st')
    (hasks : ∀ e ∈ pl, Asks e.2) (hak : AK st) (hord : Ord st) : AK st' ∧ Ord st' := by
  induction pl generalizing st with
  | nil => cases h; exact ⟨hak, hord⟩
  | cons e pl ih =>
    obtain ⟨st1, h1, h2⟩ := h
    have d := (ran_single.2 h1).did
    refine ih h2 (fun x hx => hasks x (List.mem_cons_of_mem _ hx)) (d.ak hak) fun t => ?_
    rw [d.brs t, planAt_cons]
    by_cases he : e.1 = t
    · subst he
      simp only [if_true, planAt_nil]
      obtain ⟨hself, hneeds⟩ := hasks e (List.mem_cons_self ..)
      refine (hord _).snoc (hneeds _ fun k hk => hak _ k ?_)
      rcases mem_setAdd.1 (h1.2.1.mem k hk) with hk' | rfl
      · exact hk'
      · exact absurd hk hself
    · simpa [he] using hord t

theorem nodePlan_asks (s p : Path) (sub : Sol) : ∀ e ∈ nodePlan s p sub, Asks e.2 := by
  by_cases hv : Planned s sub
  case neg => rw [planOf_invalid (planOf s p sub) hv]; simp
  obtain ⟨pl', nb, hpl, hloss, hkey, _, hlin, hdup, hhgt⟩ := planOf_own (planOf s p sub) hv
  rw [hpl]
  intro e he
  rcases List.mem_append.1 he with he | he
  · have hk := hloss e he
    exact ⟨by simp [loss_consumes hk], fun ks _ => by simp [BNeeds, hk]⟩
  · simp only [List.mem_singleton] at he
    subst he
    refine ⟨fun hk => ?_, fun ks hks => ?_⟩
    · obtain ⟨j, _, _, hj, _⟩ := hlin _ hk
      rw [hkey] at hj
      have := congrArg List.length hj
      simp [Key.lin] at this
    · unfold BNeeds
      split
      · rename_i hk
        have hk : nb.kind = .dup := hk
        obtain ⟨k1, e1⟩ := Option.isSome_iff_exists.1 (hdup hk).1
        obtain ⟨k2, e2⟩ := Option.isSome_iff_exists.1 (hdup hk).2
        have hc : consumes nb = [k1, k2] := by simp [consumes, hk, e1, e2]
        rw [hc] at hks
        exact ⟨k1, k2, e1, e2, hks k1 (by simp), hks k2 (by simp)⟩
      · rename_i hk
        have hk : nb.kind = .hgt := hk
        obtain ⟨k1, e1⟩ := Option.isSome_iff_exists.1 (hhgt hk)
        have hc : consumes nb = [k1] := by simp [consumes, hk, e1]
        rw [hc] at hks
        exact ⟨k1, e1, hks k1 (by simp)⟩
      · trivial

theorem computeBranches_ord {S : RTree} {sol : Sol} {st : LState}
    (h : computeBranches S sol = .ok st) : AK st ∧ Ord st := by
  refine (computeBranches_ran h).ord (fun e he => ?_)
    (fun t k hk => by simp [ancs_initSt] at hk)
    (fun t => by rw [brs_initSt]; exact Ordered.nil)
  obtain ⟨g, _, _, he⟩ := mem_fullPlan.1 he
  exact nodePlan_asks _ _ _ e he

end SR.Layout
