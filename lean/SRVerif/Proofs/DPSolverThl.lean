/-
  `reconcile_thl` as a label-DP solver: one table, unit labels, every root cell; the candidates
  are the mappings over `S` of finite evaluated cost.
-/
import SRVerif.Proofs.DPSolver
import SRVerif.Proofs.LabelDPThl
import SRVerif.Proofs.LcaMapOpt

namespace SR

open Cost

abbrev thlD (S : RTree) (o : OTree) : DPSolver (List Path) Unit Unit :=
  { A := thlAlg, idx := [()], tree := fun _ => annPlain S o, root := fun _ _ => true,
    dec := fun _ => plainSol o }

variable (c : Costs) (S : RTree) (o : OTree)

theorem thlD_cells (keep : Bool) : (thlD S o).cells c S keep () = thlCells c S keep o :=
  List.filter_true _

theorem thl_eq : thl c S o = rankByCost c .plain o ((thlD S o).cands c S) := by
  simp [thl, DPSolver.cands, thlD_cells]

theorem thlD_tableMin : (thlD S o).tableMin c S = thlTableMin c S o := by
  simp [DPSolver.tableMin, thlD_cells, thlTableMin]

theorem thlD_spOk (hS : ∀ p ∈ leafSpecies o, S.isNode p = true) :
    ∀ i ∈ (thlD S o).idx, SpOk (thlD S o).A S ((thlD S o).tree i) :=
  fun _ _ => annPlain_internal_spOk S o hS

theorem thlD_bridge : ∀ k, (thlD S o).Cand c k →
    totalCost c .plain o ((thlD S o).out k) = (thlD S o).lc c k :=
  fun k h => (totalCost_plain c o _).trans (labCost_thl c S o k.2 h.2.1).symm

theorem thlD_cand_iff (σ : Sol) : (∃ k, (thlD S o).Cand c k ∧ (thlD S o).out k = σ) ↔
    σ ∈ Spec.allMappings S o ∧ recCost c o σ ≠ .inf := by
  constructor
  · rintro ⟨k, ⟨_, adm, _, hfin⟩, rfl⟩
    exact ⟨plainSol_mem_allMappings S o k.2 adm, by rw [← labCost_thl c S o k.2 adm]; exact hfin⟩
  · rintro ⟨hm, hfin⟩
    obtain ⟨adm, e⟩ := adm_toLSol S o σ hm
    exact ⟨((), toLSol σ), ⟨List.mem_singleton.mpr rfl, adm, rfl,
      by rw [labCost_thl c S o _ adm, e]; exact hfin⟩, e⟩

/-- Hence, by `thlD_cand_iff`, `thl` has a candidate on every input whose leaf species are in `S`. -/
theorem thlD_lca (hS : ∀ p ∈ leafSpecies o, S.isNode p = true) :
    lcaSol o ∈ Spec.allMappings S o ∧ Spec.validRec o (lcaSol o) = true ∧
      recCost c o (lcaSol o) ≠ .inf := by
  have hgen := (mem_generateAll o (lcaSol o)).mp (lcaSol_mem_generateAll o)
  obtain ⟨n, hn⟩ := totalCost_lcaSol_fin c o
  exact ⟨mem_allMappings_of_valid S o (lcaSol o) hS hgen.1 hgen.2, hgen.1,
    by rw [← totalCost_plain, hn]; simp⟩

/-- The slack of `thlAlg` is 0 (`thl_slack`); the coherence clause is written as `DPSolver.exact`
    yields it (`C01Thl.lean` writes `c.spe ≤ …`, the same up to reduction). -/
theorem thl_exact (hb : S.isBinary = true) (hS : ∀ p ∈ leafSpecies o, S.isNode p = true) :
    Exact (c.spe + 0 ≤ c.dup + 2 * c.floss) (thl c S o) (totalCost c .plain o)
      (thlD S o).out ((thlD S o).Cand c) ((thlD S o).lc c) :=
  thl_eq c S o ▸ (thlD S o).exact c S thl_slack hb (thlD_spOk S o hS) (thlD_bridge c S o)

end SR
