/-
  C12 ∘ C08: name trees of the command-line model (`SR.Ser.NT`: name, colour, children)
  against the coded trees of the refinement model (`SR.Bin.NTree` / `BinT`: leaf ids,
  annotation codes).  A `Dec` says what the codes stand for; the empty annotation `none` is
  the unnamed, uncoloured node (a freshly created `Tree()`); no injectivity is asked.
  For `b ∈ binarize t` the decoded trees satisfy `IsRefinement (decN d t) (decB d b)`, which
  with `givenOf` is all that `CliRefineCompose` uses of this file: nothing about codes.
-/
import SRVerif.Proofs.CliRefineTree
import SRVerif.Proofs.BinarizeTree

namespace SR.Cli

open SR.Ser SR.Bin

/-- Meaning of the codes of a `Bin.NTree`: name and colour of a leaf id, of an annotation. -/
structure Dec where
  leaf : Nat → String × Option String
  ann : Nat → String × Option String

namespace Dec

/-- `none` is the annotation of a freshly created node: no name, no colour. -/
def annOf (d : Dec) : Option Nat → String × Option String
  | none => ("", none)
  | some k => d.ann k

def ln (d : Dec) (i : Nat) : String := (d.leaf i).1

def an (d : Dec) (a : Option Nat) : String := (d.annOf a).1

theorem an_none (d : Dec) : d.an none = "" := rfl

end Dec

mutual
  /-- A coded multifurcating tree as a name tree. -/
  def decN (d : Dec) : NTree → NT
    | .leaf i => .node (d.leaf i).1 (d.leaf i).2 []
    | .node a cs => .node (d.annOf a).1 (d.annOf a).2 (decNL d cs)
  def decNL (d : Dec) : List NTree → List NT
    | [] => []
    | c :: cs => decN d c :: decNL d cs
end

/-- A coded binary tree as a name tree. -/
def decB (d : Dec) : BinT → NT
  | .leaf i => .node (d.leaf i).1 (d.leaf i).2 []
  | .node a l r => .node (d.annOf a).1 (d.annOf a).2 [decB d l, decB d r]

/-- A node (clade, name) of a coded tree, decoded. -/
def Dec.leafNode (d : Dec) (i : Nat) : List String × String := ([d.ln i], d.ln i)
def Dec.innerNode (d : Dec) (c : List Nat × Option Nat) : List String × String :=
  (c.1.map d.ln, d.an c.2)

def Dec.lc (d : Dec) (i : Nat) : Option String := (d.leaf i).2
def Dec.ac (d : Dec) (a : Option Nat) : Option String := (d.annOf a).2

def Dec.leafCol (d : Dec) (i : Nat) : List String × Option String := ([d.ln i], d.lc i)
def Dec.innerCol (d : Dec) (c : List Nat × Option Nat) : List String × Option String :=
  (c.1.map d.ln, d.ac c.2)

mutual
  theorem lvs_decN (d : Dec) : ∀ t : NTree, t.WF = true → lvs (decN d t) = t.leaves.map d.ln
    | .leaf i, _ => rfl
    | .node a [], h => by simp [NTree.WF] at h
    | .node a (c :: cs), h => by
      rw [NTree.WF, Bool.and_eq_true] at h
      have := lvsL_decNL d (c :: cs) h.2
      simp only [decNL] at this
      simp only [decN, decNL, lvs, NTree.leaves, this]
  theorem lvsL_decNL (d : Dec) : ∀ cs : List NTree, NTree.WFList cs = true →
      lvsL (decNL d cs) = (NTree.leavesList cs).map d.ln
    | [], _ => rfl
    | c :: cs, h => by
      rw [NTree.WFList, Bool.and_eq_true] at h
      simp only [decNL, lvsL, NTree.leavesList, List.map_append, lvs_decN d c h.1,
        lvsL_decNL d cs h.2]
end

section
variable {γ : Type} (f : String × Option String → γ) (d : Dec)

/-- A leaf id, an `inner` node (leaf ids below, annotation) of a coded tree, decoded. -/
def Dec.leafG (i : Nat) : List String × γ := ([d.ln i], f (d.leaf i))
def Dec.innerG (c : List Nat × Option Nat) : List String × γ := (c.1.map d.ln, f (d.annOf c.2))

theorem cg_decN_node (a : Option Nat) (cs : List NTree) (h : (NTree.node a cs).WF = true) :
    cg f (decN d (.node a cs)) = d.innerG f (NTree.leavesList cs, a) :: cgL f (decNL d cs) := by
  have hl := lvs_decN d (.node a cs) h
  simp only [decN] at hl
  simp only [decN, cg, hl, NTree.leaves, Dec.innerG]

mutual
  theorem mem_cg_decN : ∀ (t : NTree), t.WF = true → ∀ (x : List String × γ),
      x ∈ cg f (decN d t) ↔ x ∈ t.leaves.map (d.leafG f) ++ t.inner.map (d.innerG f)
    | .leaf i, _, x => by
      simp [decN, cg, lvs, cgL, NTree.leaves, NTree.inner, Dec.leafG, Dec.ln]
    | .node a cs, h, x => by
      rw [cg_decN_node f d a cs h, List.mem_cons]
      rw [NTree.WF, Bool.and_eq_true] at h
      simp only [mem_cgL_decNL cs h.2, NTree.leaves, NTree.inner, List.map_cons, List.mem_append,
        List.mem_cons]
      exact or_left_comm
  theorem mem_cgL_decNL : ∀ (cs : List NTree), NTree.WFList cs = true → ∀ (x : List String × γ),
      x ∈ cgL f (decNL d cs) ↔
        x ∈ (NTree.leavesList cs).map (d.leafG f) ++ (NTree.innerList cs).map (d.innerG f)
    | [], _, x => by simp [decNL, cgL, NTree.leavesList, NTree.innerList]
    | c :: cs, h, x => by
      rw [NTree.WFList, Bool.and_eq_true] at h
      simp only [decNL, cgL, NTree.leavesList, NTree.innerList, List.map_append, List.mem_append,
        mem_cg_decN c h.1, mem_cgL_decNL cs h.2]
      exact or_or_or_comm
end

end

theorem mem_map_eq {α β : Type} {f : α → β} {l : List α} {b : β} :
    b ∈ l.map f ↔ ∃ a ∈ l, b = f a := by
  simp only [List.mem_map, eq_comm]

theorem mem_cnL_decNL (d : Dec) : ∀ (cs : List NTree), NTree.WFList cs = true →
      ∀ (x : List String × String),
      x ∈ cnL (decNL d cs) ↔
        (∃ i ∈ NTree.leavesList cs, x = d.leafNode i) ∨ (∃ c ∈ NTree.innerList cs, x = d.innerNode c) := by
  intro cs h x
  rw [cnL_eq_cgL, mem_cgL_decNL Prod.fst d cs h, List.mem_append, mem_map_eq, mem_map_eq]
  rfl

theorem mem_ccL_decNL (d : Dec) : ∀ (cs : List NTree), NTree.WFList cs = true →
      ∀ (x : List String × Option String),
      x ∈ ccL (decNL d cs) ↔
        (∃ i ∈ NTree.leavesList cs, x = d.leafCol i) ∨ (∃ c ∈ NTree.innerList cs, x = d.innerCol c) := by
  intro cs h x
  rw [ccL_eq_cgL, mem_cgL_decNL Prod.snd d cs h, List.mem_append, mem_map_eq, mem_map_eq]
  rfl

theorem decB_eq_decN (d : Dec) : ∀ b : BinT, decB d b = decN d b.toN
  | .leaf i => rfl
  | .node a l r => by
    simp only [decB, BinT.toN, decN, decNL, decB_eq_decN d l, decB_eq_decN d r]

theorem lvs_decB (d : Dec) (b : BinT) : lvs (decB d b) = b.leaves.map d.ln := by
  rw [decB_eq_decN, lvs_decN d _ b.WF_toN, b.leaves_toN]

theorem mem_cg_decB {γ : Type} (f : String × Option String → γ) (d : Dec) (b : BinT)
    (x : List String × γ) :
    x ∈ cg f (decB d b) ↔ x ∈ b.leaves.map (d.leafG f) ++ b.inner.map (d.innerG f) := by
  rw [decB_eq_decN, mem_cg_decN f d _ b.WF_toN, b.leaves_toN, b.inner_toN]

theorem isBin_decB (d : Dec) : ∀ b : BinT, isBin (decB d b) = true
  | .leaf i => rfl
  | .node a l r => by simp [decB, isBin, isBinL, isBin_decB d l, isBin_decB d r]

theorem names_decB_node (d : Dec) (a : Option Nat) (l r : BinT) :
    (decB d (.node a l r)).names = d.an a :: ((decB d l).names ++ (decB d r).names) := by
  rw [decB, names_node]
  simp only [cnL, names_eq_cn, List.append_nil, List.map_append]
  rfl

section
variable (d : Dec)

/-- The names that are given (neither empty nor `NoName`), in pre-order. -/
def given (t : NT) : List String := t.names.filter (fun nm => !isUnnamed nm)

/-- Filter of the given names: `given t` is `givenOf t.names` by definition (`given_eq`); this
    form is for name lists that are not yet known to be those of a tree. -/
def givenOf (l : List String) : List String := l.filter (fun nm => !isUnnamed nm)

theorem givenOf_append (l l' : List String) : givenOf (l ++ l') = givenOf l ++ givenOf l' :=
  List.filter_append ..

theorem given_eq (t : NT) : given t = givenOf t.names := rfl

theorem given_decB_node (a : Option Nat) (l r : BinT) :
    given (decB d (.node a l r)) =
      givenOf [d.an a] ++ (given (decB d l) ++ given (decB d r)) := by
  rw [given_eq, names_decB_node, given_eq, given_eq, ← givenOf_append, ← givenOf_append]
  rfl

theorem given_subst (s : BTree BinT) :
    given (decB d (subst s)) = s.items.flatMap (fun b => given (decB d b)) := by
  induction s with
  | item b => simp [subst, BTree.items]
  | node l r ihl ihr =>
    rw [subst, given_decB_node, ihl, ihr, Dec.an_none]
    simp [BTree.items, givenOf, isUnnamed]

def givenL (cs : List NTree) : List String := givenOf ((cnL (decNL d cs)).map (·.2))

theorem givenL_cons (c : NTree) (cs : List NTree) :
    givenL d (c :: cs) = given (decN d c) ++ givenL d cs := by
  simp only [givenL, decNL, cnL, List.map_append, givenOf_append, given_eq, names_eq_cn]

theorem given_decN_node (a : Option Nat) (cs : List NTree) :
    given (decN d (.node a cs)) = givenOf [d.an a] ++ givenL d cs := by
  rw [given_eq, decN, names_node, givenL, ← givenOf_append]
  rfl

mutual
  theorem binarize_given : ∀ (t : NTree), t.WF = true → ∀ b ∈ binarize t,
      (given (decB d b)).Perm (given (decN d t))
    | .leaf i, _, b, hb => by
      rw [binarize, List.mem_singleton] at hb
      subst hb
      exact List.Perm.refl _
    | .node a cs, hwf, b, hb => by
      rw [NTree.WF, Bool.and_eq_true, decide_eq_true_eq] at hwf
      obtain ⟨descs, hd, s, hs, rfl⟩ := mem_binarize_node.mp hb
      have hL := binarizeChildren_given cs hwf.2 descs hd
      have hlen := (binarizeChildren_sound cs hwf.2 descs hd).1
      have hp := items_arrange hs
      obtain ⟨l, r, rfl⟩ := BTree.eq_node_of_two_le s (by rw [hp.length_eq, hlen]; exact hwf.1)
      have h1 : given (decB d ((subst (.node l r)).setAnn a)) =
          givenOf [d.an a] ++ (BTree.node l r).items.flatMap (fun b => given (decB d b)) := by
        rw [subst, BinT.setAnn, given_decB_node, given_subst, given_subst]
        simp [BTree.items]
      rw [h1, given_decN_node]
      exact ((hp.flatMap_right _).trans hL).append_left _
  theorem binarizeChildren_given : ∀ (cs : List NTree), NTree.WFList cs = true →
      ∀ descs ∈ binarizeChildren cs,
      (descs.flatMap (fun b => given (decB d b))).Perm (givenL d cs)
    | [], _, descs, hd => by
      rw [mem_binarizeChildren_nil] at hd
      subst hd
      exact List.Perm.refl _
    | c :: cs, hwf, descs, hd => by
      rw [NTree.WFList, Bool.and_eq_true] at hwf
      obtain ⟨b, ds, rfl, hb, hds⟩ := mem_binarizeChildren_cons.mp hd
      rw [List.flatMap_cons, givenL_cons]
      exact (binarize_given c hwf.1 b hb).append (binarizeChildren_given cs hwf.2 ds hds)
end

end

/-- `b` is a binary refinement of the name tree `t`; `f` picks the part of the label spoken
    of, `f ("", none)` being the blank label of a new node.  This is all the composition with
    `label_internal` uses of `binarize`; codes do not occur in it. -/
structure IsRefinement (t b : NT) : Prop where
  binary : isBin b = true
  leaves : (lvs b).Perm (lvs t)
  given : (given b).Perm (given t)
  keeps : ∀ {γ : Type} (f : String × Option String → γ), ∀ x ∈ cg f t,
    ∃ y ∈ cg f b, y.1.Perm x.1 ∧ y.2 = x.2
  from_input : ∀ {γ : Type} (f : String × Option String → γ), ∀ y ∈ cg f b, y.2 ≠ f ("", none) →
    ∃ x ∈ cg f t, y.1.Perm x.1 ∧ y.2 = x.2

theorem binarize_isRefinement (d : Dec) {t : NTree} (hwf : t.WF = true) {b : BinT}
    (hb : b ∈ binarize t) : IsRefinement (decN d t) (decB d b) := by
  obtain ⟨h1, h2, h3⟩ := binarize_sound t hwf b hb
  refine ⟨isBin_decB d b, ?_, binarize_given d t hwf b hb, fun f x hx => ?_, fun f y hy hn => ?_⟩
  · rw [lvs_decB, lvs_decN d t hwf]
    exact h1.map _
  · simp only [mem_cg_decN f d t hwf, mem_cg_decB, List.mem_append, List.mem_map] at hx ⊢
    rcases hx with ⟨i, hi, rfl⟩ | ⟨c, hc, rfl⟩
    · exact ⟨_, Or.inl ⟨i, h1.mem_iff.mpr hi, rfl⟩, List.Perm.refl _, rfl⟩
    · obtain ⟨c', hc', hp, ha⟩ := h2 c hc
      exact ⟨_, Or.inr ⟨c', hc', rfl⟩, hp.map _, congrArg (fun a => f (d.annOf a)) ha⟩
  · -- a node that carries a label is not a new one (those carry the empty annotation's)
    simp only [mem_cg_decN f d t hwf, mem_cg_decB, List.mem_append, List.mem_map] at hy ⊢
    rcases hy with ⟨i, hi, rfl⟩ | ⟨c', hc', rfl⟩
    · exact ⟨_, Or.inl ⟨i, h1.mem_iff.mp hi, rfl⟩, List.Perm.refl _, rfl⟩
    · obtain ⟨c, hc, hp, ha⟩ := h3 c' hc' fun h => hn (congrArg (fun a => f (d.annOf a)) h)
      exact ⟨_, Or.inr ⟨c, hc, rfl⟩, hp.map _, congrArg (fun a => f (d.annOf a)) ha⟩

end SR.Cli
