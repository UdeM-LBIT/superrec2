/-
  The table of the code-structured model (`SpfsCode.computeTable`) against the label-DP table at
  bitmask labels, object node by object node: same keys, same values (`table_rel`).

  Guards: the leaf species are nodes of `S` (the loops of `_compute_spfs_entry` run over the
  species of the tree), and every leaf synteny is a non-empty subsequence of the root order
  (`LeavesOk`: no empty mask is ever formed, so that `subseq_segment_dist(…, edges=False)` is
  never `-1` where the code multiplies it by the segmental loss cost).
-/
import SRVerif.Proofs.SpfsCodeRoles
import SRVerif.Proofs.LabelDPOrdValid

namespace SR.SpfsCode

open Cost Path SubseqSpec

theorem isNode_of_mem_postorderList : ∀ (cs : List RTree) (k : Nat) (p : Path),
      p ∈ RTree.postorderList cs k → ∃ i q c, p = (k + i) :: q ∧ cs[i]? = some c ∧ c.isNode q = true :=
  RTree.isNode_of_mem_postorderList

variable (c : Costs) (S : RTree) (base : Bool) (order : List Nat)

/-- The `OrdAnn` that `annOrd` puts on an internal object node (`annOrd_node`). -/
def nodeAnn (isRoot : Bool) (l r : OTree) : OrdAnn :=
  { isRoot := isRoot, leafMask := 0,
    allowed := if base then [(lcaSol (.node l r)).sp] else (allSpecies S).reverse,
    nfam := order.length }

theorem annOrd_node (isRoot : Bool) (l r : OTree) :
    annOrd S base order isRoot (.node l r) =
      .node (nodeAnn S base order isRoot l r) (annOrd S base order false l)
        (annOrd S base order false r) := rfl

theorem mem_allowed (isRoot : Bool) (l r : OTree) (s : Path) :
    s ∈ allowedSpecies S base (.node l r) ↔
      s ∈ (ordAlg c).allowed (nodeAnn S base order isRoot l r) := by
  cases base
  · simp only [allowedSpecies, ordAlg, nodeAnn, Bool.false_eq_true, if_false, List.mem_reverse,
      allSpecies, RTree.mem_postorder_iff, RTree.mem_preorder_iff]
  · simp [allowedSpecies, ordAlg, nodeAnn]

theorem syntenies_eq (isRoot : Bool) (l r : OTree) :
    allowedSyntenies order isRoot = (ordAlg c).labs (nodeAnn S base order isRoot l r) := by
  cases isRoot <;> rfl

theorem mem_mkCells {s : Path} {m : Nat} {cell : Cell CAsg} {cc : TCell} :
    cc ∈ mkCells s m cell ↔ ∃ e, cell = some e ∧ cc = ⟨s, m, e⟩ := by
  cases cell <;> simp [mkCells]

theorem computeTable_leaf (ret : Retain) (isRoot : Bool) (sp : Path) (f : List Nat) :
    computeTable c S base ret order isRoot (.leaf sp f) =
      .leaf [⟨sp, maskFromSubseq f order,
        { value := .fin 0, infos := [], merge := .min, retain := ret }⟩] := by
  simp only [computeTable, Cell.update_leaf, mkCells]

theorem computeTable_node (ret : Retain) (isRoot : Bool) (l r : OTree) :
    computeTable c S base ret order isRoot (.node l r) =
      .node
        ((allowedSpecies S base (.node l r)).flatMap fun rootSp =>
          (allowedSyntenies order isRoot).flatMap fun rootSyn =>
            mkCells rootSp rootSyn
              (computeEntry c S ret rootSp rootSyn
                (computeTable c S base ret order false l).cells
                (computeTable c S base ret order false r).cells))
        (computeTable c S base ret order false l) (computeTable c S base ret order false r) := rfl

theorem mem_cells_node (ret : Retain) (isRoot : Bool) (l r : OTree) (cc : TCell) :
    cc ∈ (computeTable c S base ret order isRoot (.node l r)).cells ↔
      cc.sp ∈ allowedSpecies S base (.node l r) ∧ cc.syn ∈ allowedSyntenies order isRoot ∧
      computeEntry c S ret cc.sp cc.syn (computeTable c S base ret order false l).cells
        (computeTable c S base ret order false r).cells = some cc.entry := by
  rw [computeTable_node]
  simp only [Tab.cells, List.mem_flatMap, mem_mkCells]
  constructor
  · rintro ⟨s, hs, m, hm, e, he, rfl⟩; exact ⟨hs, hm, he⟩
  · rintro ⟨hs, hm, he⟩; exact ⟨cc.sp, hs, cc.syn, hm, cc.entry, he, rfl⟩

theorem lookup_some {cells : List TCell} {s : Path} {m : Nat} {e : Entry CAsg}
    (h : lookup cells s m = some e) : ∃ cc ∈ cells, cc.sp = s ∧ cc.syn = m ∧ cc.entry = e := by
  unfold lookup at h
  obtain ⟨cc, hf, rfl⟩ := Option.map_eq_some_iff.mp h
  have hp := List.find?_some hf
  simp only [Bool.and_eq_true, beq_iff_eq] at hp
  exact ⟨cc, List.mem_of_find?_eq_some hf, hp.1, hp.2, rfl⟩

theorem lookup_none {cells : List TCell} {s : Path} {m : Nat}
    (h : lookup cells s m = none) : ∀ cc ∈ cells, ¬ (cc.sp = s ∧ cc.syn = m) := by
  unfold lookup at h
  rw [Option.map_eq_none_iff] at h
  intro cc hcc ⟨h1, h2⟩
  have := List.find?_eq_none.mp h cc hcc
  simp [h1, h2] at this

theorem lookup_node (ret : Retain) (isRoot : Bool) (l r : OTree) (s : Path) (m : Nat) :
    lookup (computeTable c S base ret order isRoot (.node l r)).cells s m =
      if s ∈ allowedSpecies S base (.node l r) ∧ m ∈ allowedSyntenies order isRoot then
        computeEntry c S ret s m (computeTable c S base ret order false l).cells
          (computeTable c S base ret order false r).cells
      else none := by
  cases h : lookup (computeTable c S base ret order isRoot (.node l r)).cells s m with
  | some e =>
    obtain ⟨cc, hcc, rfl, rfl, rfl⟩ := lookup_some h
    obtain ⟨hs, hm, he⟩ := (mem_cells_node c S base order ret isRoot l r cc).mp hcc
    rw [if_pos ⟨hs, hm⟩, he]
  | none =>
    by_cases hk : s ∈ allowedSpecies S base (.node l r) ∧ m ∈ allowedSyntenies order isRoot
    · rw [if_pos hk]
      cases he : computeEntry c S ret s m (computeTable c S base ret order false l).cells
          (computeTable c S base ret order false r).cells with
      | none => rfl
      | some e =>
        exact absurd ⟨rfl, rfl⟩ (lookup_none h ⟨s, m, e⟩
          ((mem_cells_node c S base order ret isRoot l r _).mpr ⟨hk.1, hk.2, he⟩))
    · rw [if_neg hk]

theorem table_rel (o : OTree) (hS : ∀ p ∈ leafSpecies o, S.isNode p = true)
    (hlv : LeavesOk order o) (keep : Bool) : ∀ isRoot : Bool,
    CellsRel S (computeTable c S base .all order isRoot o).cells
      (dpTable (ordAlg c) c S keep (annOrd S base order isRoot o)) := by
  induction o with
  | leaf sp f =>
    intro isRoot
    have hmask : maskFromSubseq f order ≠ 0 := SubseqProofs.mask_ne_zero order f hlv.1 hlv.2
    rw [computeTable_leaf, Tab.cells]
    refine ⟨?_, ?_, ?_, ?_, ?_, fun _ h1 _ h2 h => cellTag_inj _ c S keep _ h1 h2 h⟩
    · intro cc hcc
      simp only [List.mem_singleton] at hcc
      subst hcc
      exact ⟨_, mem_dpTable_leaf.mpr rfl, rfl, rfl, rfl⟩
    · intro d hd
      rw [annOrd, mem_dpTable_leaf] at hd
      subst hd
      exact ⟨_, List.mem_singleton.mpr rfl, rfl, rfl, rfl⟩
    · intro d hd; exact dp_finite _ _ _ _ _ hd
    · intro d hd
      rw [annOrd, mem_dpTable_leaf] at hd
      subst hd; exact hmask
    · exact fun d hd => dp_isNode c S keep _ (spOk_annOrd c S base order _ hS isRoot) hd
  | node l r ihl ihr =>
    intro isRoot
    have hSl : ∀ p ∈ leafSpecies l, S.isNode p = true := fun p hp => hS p (by simp [leafSpecies, hp])
    have hSr : ∀ p ∈ leafSpecies r, S.isNode p = true := fun p hp => hS p (by simp [leafSpecies, hp])
    have hL := ihl hSl hlv.1 false
    have hR := ihr hSr hlv.2 false
    have hrel := fun s m => computeEntry_rel c S keep (nodeAnn S base order isRoot l r)
      (annOrd S base order false l).data (annOrd S base order false r).data s m hL hR
    rw [annOrd_node]
    refine ⟨?_, ?_, ?_, ?_, ?_, fun _ h1 _ h2 h => cellTag_inj _ c S keep _ h1 h2 h⟩
    · intro cc hcc
      obtain ⟨hs, hm, he⟩ := (mem_cells_node c S base order .all isRoot l r cc).mp hcc
      obtain ⟨d, hd, hv, _⟩ := (hrel _ _).of_some he
      have p := entry_eq_some _ _ _ _ _ _ _ _ _ _ hd
      exact ⟨d, mem_dpTable_node.mpr ⟨cc.sp, (mem_allowed c S base order isRoot l r _).mp hs,
        cc.syn, by rw [← syntenies_eq c S base order isRoot l r]; exact hm, hd⟩, p.1.symm, p.2.1.symm, hv⟩
    · intro d hd
      obtain ⟨s, hs, m, hm, he⟩ := mem_dpTable_node.mp hd
      have p := entry_eq_some _ _ _ _ _ _ _ _ _ _ he
      obtain ⟨e, hce, hv, _⟩ := (hrel s m).present d he
      exact ⟨⟨s, m, e⟩, (mem_cells_node c S base order .all isRoot l r _).mpr
        ⟨(mem_allowed c S base order isRoot l r _).mpr hs,
         by rw [syntenies_eq c S base order isRoot l r]; exact hm, hce⟩, p.1.symm, p.2.1.symm, hv⟩
    · intro d hd; exact dp_finite _ _ _ _ _ hd
    · intro d hd
      obtain ⟨s, hs, m, hm, he⟩ := mem_dpTable_node.mp hd
      have p := entry_eq_some _ _ _ _ _ _ _ _ _ _ he
      -- the value is attained through a cell of the left child, of non-empty mask (induction) and
      -- offered at a finite edge cost: its mask is contained in `m`, so `m` is not empty
      obtain ⟨t0, t1, hp⟩ := best_attained _ _ _ _ _ _ _ _ _ _ p.2.2.2.1
      obtain ⟨ev, _, dl, hdl, dr, _, v0, v1, h0, _, _, _, hv⟩ := entry_attained _ _ _ _ _ _ _ _ _ _ hp
      have hfin := p.2.2.2.1
      rw [hv] at hfin
      have hv0 : v0 ≠ .inf := (add_ne_inf (add_ne_inf hfin).1).2
      rw [p.2.1]
      rcases ord_costs (c := c) (a := nodeAnn S base order isRoot l r)
          (ca := (annOrd S base order false l).data) (m := m) (hL.nz dl hdl) with
        ⟨hcont, _⟩ | ⟨_, hcv, hsv, _⟩
      · exact ne_zero_of_contained (hL.nz dl hdl) hcont
      · simp only [roleVal, hcv, hsv] at h0
        exact absurd (rv_inf h0) hv0
    · rw [← annOrd_node]
      exact fun d hd => dp_isNode c S keep _ (spOk_annOrd c S base order _ hS isRoot) hd

end SR.SpfsCode
