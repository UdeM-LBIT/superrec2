/-
  The unordered solvers (`uspfs`, base and extended) as a label-DP solver: one table, kind
  labels, the root cells of kind LCA.  The bridge to the evaluator is
  `C03.uspfsD_bridge` (`Properties/C03Kinds.lean`, from `faithful_root`); `C03.uspfsD_spOk`
  stands in `Properties/C03Dp.lean`.
-/
import SRVerif.Proofs.DPSolver
import SRVerif.Proofs.LabelDPUn

namespace SR

open Cost

abbrev uspfsD (c : Costs) (S : RTree) (base : Bool) (o : OTree) : DPSolver UnAnn Kind Unit :=
  { A := unAlg c, idx := [()], tree := fun _ => annUn S base o [] o, root := fun _ l => l == .lca,
    dec := fun _ => unSol (annUn S base o [] o) (annUn S base o [] o).data.lcaSet }

variable (c : Costs) (S : RTree) (base : Bool) (o : OTree)

theorem uspfsD_cells (keep : Bool) :
    (uspfsD c S base o).cells c S keep () = uspfsCells c S base keep o := rfl

theorem uspfs_eq : uspfs c S base o =
    rankByCost c .unordered o ((uspfsD c S base o).cands c S) := by
  simp [uspfs, DPSolver.cands, uspfsD_cells]

theorem uspfsD_tableMin : (uspfsD c S base o).tableMin c S = uspfsTableMin c S base o := by
  simp [DPSolver.tableMin, uspfsD_cells, uspfsTableMin]

end SR
