/-
  Unordered super-reconciliation: canonical labellings versus kind labellings.

  A *canonical* labelling (`Spec.canonicalUn`) gives every internal node either its
  required content or, below the root, its parent's content plus its own gains — the two
  choices `_compute_uspfs_entry` searches.  `kindAt` reads the kinds off a solution: for a
  canonical valid solution they are admissible, decode back to it through `decodeAt` and have
  no forbidden edge (LCA → INHERIT with `lcaSet parent ⊆ lcaSet child`) (`adm_kindAt`,
  `kindAt_spec`).  The converse is `canonicalUn_decodeAt` (Proofs/UnContentDecode.lean).
-/
import SRVerif.Proofs.UnContentDecode
import SRVerif.Proofs.Enum

namespace SR

open Path Cost

/-- The kinds of a labelled solution, read off by position: LCA where the node holds its required
    content, INHERIT elsewhere (leaves are LCA). -/
def kindAt (whole : OTree) : Path → Sol → LSol Kind
  | _, .leaf s _ => .leaf s .lca
  | p, .node s f l r =>
    .node s (if f = sortNat (Spec.requiredContent whole p) then .lca else .inh)
      (kindAt whole (p ++ [0]) l) (kindAt whole (p ++ [1]) r)

theorem kindAt_sp (whole : OTree) (p : Path) (sol : Sol) : (kindAt whole p sol).sp = sol.sp := by
  cases sol <;> rfl

/-- The species a solver may use at the internal nodes: nodes of `S` (extended), the LCA mapping
    (base).  The oracle's side says the same through the lists `Spec.speciesSpace`
    (`Spec.SpeciesOk`; the two are equivalent, `Spec.speciesOk_iff_spAllowed`); this is the form
    without lists, in which `C03.CanonSol` speaks of the solver. -/
def spAllowed (S : RTree) (base : Bool) : OTree → Sol → Prop
  | .node ol or, .node s _ l r =>
    (if base then s = (lcaSol (.node ol or)).sp else S.isNode s = true) ∧
      spAllowed S base ol l ∧ spAllowed S base or r
  | _, _ => True

theorem adm_kindAt (c : Costs) (S : RTree) (base : Bool) (whole : OTree) :
    ∀ (sub : OTree) (sol : Sol), Spec.validRec sub sol = true → ∀ p, spAllowed S base sub sol →
      Adm (unAlg c) (annUn S base whole p sub) (kindAt whole p sol) :=
  Spec.validRec_induction (fun _ _ _ _ _ => ⟨rfl, rfl⟩) fun l r s f x y _ _ _ ihl ihr p hs => by
    rw [annUn_node]
    refine ⟨(annUn_allowed (c := c) S base whole p l r s).mpr hs.1, ?_, ihl _ hs.2.1, ihr _ hs.2.2⟩
    simp only [unAlg]
    split <;> simp

/-- One edge of the kinds of a canonical labelling: its DP charge is finite.  On the forbidden edge
    the INHERIT child's content would be its required content (`contentAt_inh_eq_lca`), which
    `kindAt` reads as LCA. -/
theorem conserv_kindAt_ne_inf (c : Costs) {whole : OTree} {p : Path} {i : Nat} {a ca : UnAnn}
    (ea : a.lcaSet = sortNat (Spec.requiredContent whole p))
    (eca : ca.lcaSet = sortNat (Spec.requiredContent whole (p ++ [i]))) (f : List Nat) (z : Sol)
    (hcz : Spec.canonicalUn whole (p ++ [i]) f z = true) :
    (unAlg c).conserv a (if f = sortNat (Spec.requiredContent whole p) then .lca else .inh) ca
      (kindAt whole (p ++ [i]) z).lab ≠ .inf := by
  intro h
  obtain ⟨hk, hkc, hs⟩ := conserv_eq_inf h
  cases z with
  | leaf => cases hkc
  | node sz fz zl zr =>
    have hf : f = sortNat (Spec.requiredContent whole p) := by
      by_cases hf : f = sortNat (Spec.requiredContent whole p)
      · exact hf
      · rw [if_neg hf] at hk; cases hk
    have hfz : fz ≠ sortNat (Spec.requiredContent whole (p ++ [i])) := by
      intro e
      simp only [kindAt, LSol.lab, e, if_true] at hkc
      cases hkc
    simp only [Spec.canonicalUn, Bool.and_eq_true, Bool.or_eq_true, beq_iff_eq] at hcz
    rw [ea, eca, subsetB_eq_true_iff] at hs
    refine hfz (((hcz.1.1.resolve_left hfz).2.trans ?_).trans
      (contentAt_inh_eq_lca (anc := []) (anc' := []) fun x hx =>
        mem_sortNat_iff.mp (hs x (mem_sortNat_iff.mpr hx))))
    rw [hf]
    rfl

theorem kindAt_spec (c : Costs) (S : RTree) (base : Bool) (whole : OTree) :
    ∀ (sub : OTree) (p : Path) (anc : List Nat) (sol : Sol), IsSub whole p sub →
      Spec.validUnLabels whole p sub sol = true → Spec.canonicalUn whole p anc sol = true →
      decodeAt whole p anc (kindAt whole p sol) = sol ∧
      EdgesFinite c (annUn S base whole p sub) (kindAt whole p sol) := by
  intro sub
  induction sub with
  | leaf sp f0 =>
    intro p anc sol hsub hv _
    cases sol with
    | node => simp [Spec.validUnLabels] at hv
    | leaf s g =>
      simp only [Spec.validUnLabels, beq_iff_eq] at hv
      exact ⟨congrArg (Sol.leaf s) ((requiredContent_leaf hsub).trans hv.symm), trivial⟩
  | node l r ihl ihr =>
    intro p anc sol hsub hv hc
    obtain ⟨hl, hr⟩ := isSub_child hsub
    cases sol with
    | leaf => simp [Spec.validUnLabels] at hv
    | node s f x y =>
      simp only [Spec.validUnLabels, Bool.and_eq_true] at hv
      simp only [Spec.canonicalUn, Bool.and_eq_true, Bool.or_eq_true, beq_iff_eq] at hc
      have ea := lcaSet_eq_required S base whole _ p hsub
      obtain ⟨dx, ex⟩ := ihl _ f x hl hv.1.2 hc.1.2
      obtain ⟨dy, ey⟩ := ihr _ f y hr hv.2 hc.2
      have hf : contentAt whole p anc
          (if f = sortNat (Spec.requiredContent whole p) then .lca else .inh) = f := by
        split
        · next h => exact h.symm
        · next h => exact (hc.1.1.resolve_left h).2.symm
      rw [annUn_node]
      refine ⟨?_, conserv_kindAt_ne_inf c ea (lcaSet_eq_required S base whole _ _ hl) f x hc.1.2,
        conserv_kindAt_ne_inf c ea (lcaSet_eq_required S base whole _ _ hr) f y hc.2, ex, ey⟩
      simp only [kindAt, decodeAt]
      rw [hf, dx, dy]

end SR
