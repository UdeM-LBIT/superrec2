/-
  The evaluator's event at `(s, x, y)` is determined by the prefix relations between `s`, `x`, `y`
  (`EventAt`, `eventAt`).
-/
import SRVerif.Proofs.Paths
import SRVerif.Model.Rec

namespace SR

open Path

theorem internalEvent_below (s a b : Path) :
    internalEvent s (s ++ a) (s ++ b) =
      match a, b with
      | i :: _, j :: _ => if i = j then .dup else .spec
      | _, _ => .dup := by
  unfold internalEvent
  simp only [isStrictAnc_self_append, isAnc_append, Bool.or_self, Bool.false_eq_true, if_false,
    Bool.and_self, if_true, lcp_append_append, comparable, isAnc_append_append]
  cases a with
  | nil => simp [lcp, isAnc]
  | cons i a =>
    cases b with
    | nil => simp [lcp, isAnc]
    | cons j b =>
      by_cases h : i = j
      · subst h; simp [lcp]
      · have h' : ¬ j = i := fun e => h e.symm
        simp [lcp, isAnc, h, h']

theorem internalEvent_spec_of_children {s x y : Path} {i j : Nat}
    (hx : isAnc (s ++ [i]) x = true) (hy : isAnc (s ++ [j]) y = true) (hij : i ≠ j) :
    internalEvent s x y = .spec := by
  obtain ⟨a, rfl⟩ := isAnc_iff_append.mp hx
  obtain ⟨b, rfl⟩ := isAnc_iff_append.mp hy
  simp only [List.append_assoc, List.singleton_append]
  rw [internalEvent_below]; simp [hij]

theorem internalEvent_hgt_left {s x y : Path} (hx : isAnc s x = true) (hy : isAnc s y = false)
    (hy' : isAnc y s = false) : internalEvent s x y = .hgt := by
  obtain ⟨a, rfl⟩ := isAnc_iff_append.mp hx
  have h1 := isStrictAnc_self_append s a
  have h2 : isStrictAnc y s = false := by simp [isStrictAnc, hy']
  unfold internalEvent
  simp [h1, h2, isAnc_append, hy]

theorem internalEvent_hgt_right {s x y : Path} (hx : isAnc s x = false) (hx' : isAnc x s = false)
    (hy : isAnc s y = true) : internalEvent s x y = .hgt := by
  obtain ⟨b, rfl⟩ := isAnc_iff_append.mp hy
  have h1 := isStrictAnc_self_append s b
  have h2 : isStrictAnc x s = false := by simp [isStrictAnc, hx']
  unfold internalEvent
  simp [h1, h2, isAnc_append, hx]

theorem internalEvent_ne_invalid_iff (s a b : Path) :
    internalEvent s a b ≠ .invalid ↔
      isStrictAnc a s = false ∧ isStrictAnc b s = false ∧
        (isAnc s a = true ∨ isAnc s b = true) := by
  unfold internalEvent
  -- a fact about five truth values
  generalize (s == lcp a b && !comparable a b) = k
  generalize isStrictAnc a s = p
  generalize isStrictAnc b s = q
  generalize isAnc s a = r
  generalize isAnc s b = t
  revert k p q r t
  decide

/-- How the evaluator's event at `(s, x, y)` arises from the positions of `x` and `y` relative
    to `s`.  The cases exclude each other, so `eventAt` can be read in both directions: proofs
    about an event split on it (`generalize internalEvent s x y = e at h ⊢; cases h`) instead of
    unfolding `internalEvent`. -/
inductive EventAt (s x y : Path) : Event → Prop
  | spec {i j : Nat} {a b : Path} (hx : x = s ++ i :: a) (hy : y = s ++ j :: b) (hij : i ≠ j) :
      EventAt s x y .spec
  | dup {a b : Path} (hx : x = s ++ a) (hy : y = s ++ b)
      (h : ∀ i j a' b', a = i :: a' → b = j :: b' → i = j) : EventAt s x y .dup
  | hgtLeft (hx : isAnc s x = true) (hy : isAnc s y = false) (hy' : isAnc y s = false) :
      EventAt s x y .hgt
  | hgtRight (hx : isAnc s x = false) (hx' : isAnc x s = false) (hy : isAnc s y = true) :
      EventAt s x y .hgt
  | invalid (h : isStrictAnc x s = true ∨ isStrictAnc y s = true ∨
      (isAnc s x = false ∧ isAnc s y = false)) : EventAt s x y .invalid

theorem eventAt (s x y : Path) : EventAt s x y (internalEvent s x y) := by
  by_cases hval : internalEvent s x y = .invalid
  · rw [hval]
    refine .invalid ?_
    have := fun h => (internalEvent_ne_invalid_iff s x y).mpr h hval
    revert this
    cases isStrictAnc x s <;> cases isStrictAnc y s <;> cases isAnc s x <;> cases isAnc s y <;> simp
  · obtain ⟨h1, h2, h3⟩ := (internalEvent_ne_invalid_iff s x y).mp hval
    -- not strictly above `s` and not below it: incomparable with it
    have sep : ∀ {z : Path}, isStrictAnc z s = false → isAnc s z = false → isAnc z s = false := by
      intro z hz hsz
      cases hzs : isAnc z s
      · rfl
      · have : isStrictAnc z s = true :=
          (isStrictAnc_iff z s).mpr ⟨hzs, fun e => by rw [e, isAnc_refl] at hsz; cases hsz⟩
        rw [this] at hz; cases hz
    cases hx : isAnc s x <;> cases hy : isAnc s y
    · simp [hx, hy] at h3
    · rw [internalEvent_hgt_right hx (sep h1 hx) hy]; exact .hgtRight hx (sep h1 hx) hy
    · rw [internalEvent_hgt_left hx hy (sep h2 hy)]; exact .hgtLeft hx hy (sep h2 hy)
    · obtain ⟨a, rfl⟩ := isAnc_iff_append.mp hx
      obtain ⟨b, rfl⟩ := isAnc_iff_append.mp hy
      rw [internalEvent_below]
      match a, b with
      | [], _ => exact .dup rfl rfl (by intros; contradiction)
      | _ :: _, [] => exact .dup rfl rfl (by intros; contradiction)
      | i :: a, j :: b =>
        by_cases h : i = j
        · simp only [if_pos h]; exact .dup rfl rfl (by rintro _ _ _ _ ⟨⟩ ⟨⟩; exact h)
        · simp only [if_neg h]; exact .spec rfl rfl h

theorem internalEvent_hgt_sides {s a b : Path} (h : internalEvent s a b = .hgt) :
    isAnc s a = !isAnc s b ∧ comparable s a = isAnc s a ∧ comparable s b = isAnc s b := by
  have e := eventAt s a b
  rw [h] at e
  cases e with
  | hgtLeft hx hy hy' => simp [comparable, hx, hy, hy']
  | hgtRight hx hx' hy => simp [comparable, hx, hx', hy]

/-- The speciation test of `node_event` on a node whose children are below it. -/
def specCond (s a b : Path) : Bool := s == Path.lcp a b && !Path.comparable a b

theorem internalEvent_of_isAnc {s a b : Path} (ha : Path.isAnc s a = true)
    (hb : Path.isAnc s b = true) :
    internalEvent s a b = (if specCond s a b then .spec else .dup) := by
  unfold internalEvent
  simp only [Path.isStrictAnc_false_of_isAnc ha, Path.isStrictAnc_false_of_isAnc hb, ha, hb,
    Bool.or_self, Bool.false_eq_true, if_false, Bool.and_self, if_true, specCond]
  rfl

end SR
