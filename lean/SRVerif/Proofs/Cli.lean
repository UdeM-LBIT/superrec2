/-
  C12: `label_internal`.  The `while` loop never exhausts its fuel; a trace of
  the pass (`labelGoI`: final name and, for a new name, its index) carries the
  invariants from which `C12_label` is read off.  First: `Aligned R l l'` (the two
  lists have the same length and are related by `R` position by position) with its
  lemmas, and the string facts about `mkName` (`prefix ++ k`: injective in `k`, never
  empty or `NoName`).
-/
import SRVerif.Model.Cli
import SRVerif.Proofs.SerializeMap
import Std.Data.String.ToNat

namespace SR.Cli

open SR.Ser

/-- Element-wise relation between two lists of the same length. -/
inductive Aligned {α β : Type} (R : α → β → Prop) : List α → List β → Prop where
  | nil : Aligned R [] []
  | cons {a b l₁ l₂} : R a b → Aligned R l₁ l₂ → Aligned R (a :: l₁) (b :: l₂)

theorem Aligned.append {α β : Type} {R : α → β → Prop} {a : List α} {a' : List β}
    (h : Aligned R a a') {b : List α} {b' : List β} (h' : Aligned R b b') :
    Aligned R (a ++ b) (a' ++ b') := by
  induction h with
  | nil => exact h'
  | cons hr _ ih => exact Aligned.cons hr ih

theorem Aligned.of_append {α β : Type} {R : α → β → Prop} :
    ∀ {a : List α} {a' : List β} {b : List α} {b' : List β}, a.length = a'.length →
      Aligned R (a ++ b) (a' ++ b') → Aligned R a a' ∧ Aligned R b b'
  | [], [], _, _, _, h => ⟨Aligned.nil, h⟩
  | [], _ :: _, _, _, hl, _ => by simp at hl
  | _ :: _, [], _, _, hl, _ => by simp at hl
  | x :: a, y :: a', b, b', hl, h => by
    cases h with
    | cons hr hrest =>
      have := Aligned.of_append (a := a) (a' := a') (by simpa using hl) hrest
      exact ⟨Aligned.cons hr this.1, this.2⟩

theorem Aligned.map {α β γ δ : Type} {R : α → β → Prop} {S : γ → δ → Prop} (f : α → γ) (g : β → δ)
    (hRS : ∀ x y, R x y → S (f x) (g y)) {l : List α} {l' : List β} (h : Aligned R l l') :
    Aligned S (l.map f) (l'.map g) := by
  induction h with
  | nil => exact Aligned.nil
  | cons hr _ ih => exact Aligned.cons (hRS _ _ hr) ih

theorem Aligned.imp_mem {α β : Type} {R S : α → β → Prop}
    {l : List α} {l' : List β} (h : Aligned R l l') (hRS : ∀ x ∈ l, ∀ y, R x y → S x y) :
    Aligned S l l' := by
  induction h with
  | nil => exact Aligned.nil
  | cons hr _ ih =>
    exact Aligned.cons (hRS _ List.mem_cons_self _ hr)
      (ih fun x hx y => hRS x (List.mem_cons_of_mem _ hx) y)

theorem Aligned.imp {α β : Type} {R S : α → β → Prop} (hRS : ∀ x y, R x y → S x y)
    {l : List α} {l' : List β} (h : Aligned R l l') : Aligned S l l' :=
  h.imp_mem fun x _ y => hRS x y

theorem Aligned.exists_right {α β : Type} {R : α → β → Prop} {l : List α} {l' : List β}
    (h : Aligned R l l') {x : α} (hx : x ∈ l) : ∃ y ∈ l', R x y := by
  induction h with
  | nil => cases hx
  | cons hr _ ih =>
    rcases List.mem_cons.mp hx with rfl | hx
    · exact ⟨_, List.mem_cons_self, hr⟩
    · obtain ⟨y, hy, h⟩ := ih hx
      exact ⟨y, List.mem_cons_of_mem _ hy, h⟩

theorem Aligned.exists_left {α β : Type} {R : α → β → Prop} {l : List α} {l' : List β}
    (h : Aligned R l l') {y : β} (hy : y ∈ l') : ∃ x ∈ l, R x y := by
  induction h with
  | nil => cases hy
  | cons hr _ ih =>
    rcases List.mem_cons.mp hy with rfl | hy
    · exact ⟨_, List.mem_cons_self, hr⟩
    · obtain ⟨x, hx, h⟩ := ih hy
      exact ⟨x, List.mem_cons_of_mem _ hx, h⟩

theorem Aligned.getElem {α β : Type} {R : α → β → Prop} {l : List α} {l' : List β}
    (h : Aligned R l l') : ∀ (i : Nat) (hi : i < l.length) (hi' : i < l'.length), R l[i] l'[i] := by
  induction h with
  | nil => intro i hi; cases hi
  | cons hr _ ih =>
    intro i hi hi'
    cases i with
    | zero => exact hr
    | succ i => exact ih i (Nat.lt_of_succ_lt_succ hi) (Nat.lt_of_succ_lt_succ hi')

theorem Aligned.length_eq {α β : Type} {R : α → β → Prop} {l : List α} {l' : List β}
    (h : Aligned R l l') : l.length = l'.length := by
  induction h with
  | nil => rfl
  | cons _ _ ih => simp [ih]

theorem Aligned.trans {α β γ : Type} {R : α → β → Prop} {S : β → γ → Prop} {T : α → γ → Prop}
    (hT : ∀ x y z, R x y → S y z → T x z) {l : List α} {l' : List β}
    (h : Aligned R l l') : ∀ {l'' : List γ}, Aligned S l' l'' → Aligned T l l'' := by
  induction h with
  | nil => intro l'' h2; cases h2; exact Aligned.nil
  | cons hr _ ih =>
    intro l'' h2
    cases h2 with
    | cons hs hrest => exact Aligned.cons (hT _ _ _ hr hs) (ih hrest)

theorem Aligned.map_eq {α β γ : Type} {f : α → γ} {g : β → γ} {l : List α} {l' : List β}
    (h : Aligned (fun x y => g y = f x) l l') : l'.map g = l.map f := by
  induction h with
  | nil => rfl
  | cons hr _ ih => simp [hr, ih]

theorem mkName_inj {pfx : String} {a b : Nat} (h : mkName pfx a = mkName pfx b) : a = b := by
  unfold mkName at h
  have h' : Nat.repr a = Nat.repr b := (String.append_right_inj pfx).1 h
  exact Nat.repr_inj.1 h'

theorem mkName_ne_empty (pfx : String) (k : Nat) : mkName pfx k ≠ "" := by
  unfold mkName
  intro h
  have := (String.append_eq_empty_iff.1 h).2
  exact Nat.repr_ne_empty this

theorem toList_mkName (pfx : String) (k : Nat) :
    (mkName pfx k).toList = pfx.toList ++ Nat.toDigits 10 k := by
  unfold mkName
  rw [String.toList_append]
  congr 1
  exact Nat.toList_repr

/-- `prefix ++ k` is neither empty nor `NoName`, whatever the prefix: it ends with a digit. -/
theorem isUnnamed_mkName (pfx : String) (k : Nat) : isUnnamed (mkName pfx k) = false := by
  have h2 : mkName pfx k ≠ "NoName" := fun h => by
    have ht := congrArg String.toList h
    rw [toList_mkName] at ht
    have hl : (Nat.toDigits 10 k).getLast?.or pfx.toList.getLast? = some 'e' := by
      rw [← List.getLast?_append, ht]; decide
    rcases Option.or_eq_some_iff.1 hl with hl | ⟨hl, _⟩
    · exact absurd (Nat.isDigit_of_mem_toDigits (by decide) (by decide) (List.mem_of_getLast? hl))
        (by decide)
    · exact Nat.toDigits_ne_nil (List.getLast?_eq_none_iff.1 hl)
  simp [isUnnamed, mkName_ne_empty, h2]

theorem safeStr_mkName {pfx : String} (hp : pfx.toList.all NT.safeChar = true) (k : Nat) :
    NT.safeStr (mkName pfx k) = true := by
  have hne : Nat.toDigits 10 k ≠ [] := Nat.toDigits_ne_nil
  simp only [NT.safeStr, toList_mkName, Bool.and_eq_true, Bool.not_eq_true', List.all_append,
    List.isEmpty_eq_false_iff, ne_eq, List.append_eq_nil_iff, not_and]
  refine ⟨fun _ => hne, hp, ?_⟩
  rw [List.all_eq_true]
  intro c hc
  have := Nat.isDigit_of_mem_toDigits (by decide) (by decide) hc
  simp [NT.safeChar, Char.isAlphanum, this]

section
variable {pfx : String} {names : List String}

theorem findFree_inv : ∀ fuel next,
    next ≤ findFree pfx names fuel next
    ∧ (∀ j, next ≤ j → j < findFree pfx names fuel next → mkName pfx j ∈ names)
    ∧ (mkName pfx (findFree pfx names fuel next) ∉ names
        ∨ findFree pfx names fuel next = next + fuel)
  | 0, next => ⟨Nat.le_refl _, fun j h1 h2 => by simp only [findFree] at h2; omega, Or.inr rfl⟩
  | f + 1, next => by
    simp only [findFree]
    split
    · rename_i hc
      obtain ⟨h1, h2, h3⟩ := findFree_inv f (next + 1)
      refine ⟨by omega, fun j hj1 hj2 => ?_, h3.imp_right (by omega)⟩
      by_cases hj : j = next
      · subst hj; simpa using hc
      · exact h2 j (by omega) hj2
    · rename_i hc
      exact ⟨Nat.le_refl _, fun j h1 h2 => by omega, Or.inl (by simpa using hc)⟩

/-- Pigeonhole: the candidate names `mkName pfx j` are pairwise distinct, so more fuel than
    there are names is enough. -/
theorem findFree_free {fuel : Nat} (h : names.length < fuel) (next : Nat) :
    mkName pfx (findFree pfx names fuel next) ∉ names := by
  obtain ⟨_, hskip, h1 | h1⟩ := findFree_inv (pfx := pfx) (names := names) fuel next
  · exact h1
  · exfalso
    have hsub : (List.range' next fuel).map (mkName pfx) ⊆ names := by
      intro x hx
      obtain ⟨j, hj, rfl⟩ := List.mem_map.1 hx
      rw [List.mem_range'_1] at hj
      exact hskip j hj.1 (by omega)
    have hnd : ((List.range' next fuel).map (mkName pfx)).Nodup :=
      List.nodup_map_of_inj_on _ (List.nodup_range' 1) (fun a _ b _ h => mkName_inj h)
    have := List.Nodup.length_le_of_subset hnd hsub
    simp at this
    omega

theorem findFree_spec {next k : Nat} (h : findFree pfx names (names.length + 1) next = k) :
    next ≤ k ∧ mkName pfx k ∉ names ∧ ∀ j, next ≤ j → j < k → mkName pfx j ∈ names := by
  subst h
  exact ⟨(findFree_inv _ _).1, findFree_free (Nat.lt_succ_self _) next, (findFree_inv _ _).2.1⟩

end

/-- The pass, recording for every visited node its final name and the index it received. -/
def labelGoI (pfx : String) : List String → List String → Nat → List (String × Option Nat)
  | _, [], _ => []
  | done, nm :: todo, next =>
    if isUnnamed nm then
      let all := done ++ nm :: todo
      let k := findFree pfx all (all.length + 1) next
      (mkName pfx k, some k) :: labelGoI pfx (done ++ [mkName pfx k]) todo k
    else
      (nm, none) :: labelGoI pfx (done ++ [nm]) todo next

def idxs (out : List (String × Option Nat)) : List Nat := out.filterMap (·.2)

@[simp] theorem idxs_nil : idxs [] = [] := rfl
@[simp] theorem idxs_cons_some (a : String) (k : Nat) (r : List (String × Option Nat)) :
    idxs ((a, some k) :: r) = k :: idxs r := rfl
@[simp] theorem idxs_cons_none (a : String) (r : List (String × Option Nat)) :
    idxs ((a, none) :: r) = idxs r := rfl

theorem labelGo_eq (pfx : String) : ∀ todo done next,
    labelGo pfx done todo next = done ++ (labelGoI pfx done todo next).map (·.1)
  | [], done, next => by simp [labelGo, labelGoI]
  | nm :: todo, done, next => by
    simp only [labelGo, labelGoI]
    split <;> simp [labelGo_eq pfx todo]

/-- A given name is kept; an unnamed node receives `prefix ++ index`. -/
def Rel (pfx : String) (nm : String) (y : String × Option Nat) : Prop :=
  if isUnnamed nm then ∃ k, y = (mkName pfx k, some k) else y = (nm, none)

theorem labelGoI_rel (pfx : String) : ∀ todo done next,
    Aligned (Rel pfx) todo (labelGoI pfx done todo next)
  | [], _, _ => by simp only [labelGoI]; exact Aligned.nil
  | nm :: todo, done, next => by
    simp only [labelGoI]
    split <;> exact Aligned.cons (by simp [Rel, *]) (labelGoI_rel pfx todo _ _)

/-- The invariant of the pass, for an index `k` handed out while `todo` is processed after
    `done`, starting the search at `next`: `k` is at least `next`; its name is no name of the
    tree as it stands (a generated name is never one of the unnamed placeholders, so the names
    given meanwhile change nothing); and every index between `next` and `k` was passed over
    for a reason — its name is in the tree as it stands, or it was itself handed out. -/
theorem labelGoI_idx (pfx : String) : ∀ todo done next k, k ∈ idxs (labelGoI pfx done todo next) →
    next ≤ k ∧ mkName pfx k ∉ done ++ todo
    ∧ ∀ j, next ≤ j → j < k →
        mkName pfx j ∈ done ++ todo ∨ j ∈ idxs (labelGoI pfx done todo next)
  | [], _, _, k, hk => by simp [labelGoI] at hk
  | nm :: todo, done, next, k, hk => by
    simp only [labelGoI] at hk ⊢
    split at hk
    · rename_i hu
      simp only [hu, if_true]
      generalize hk0 : findFree pfx (done ++ nm :: todo) ((done ++ nm :: todo).length + 1) next = k0
        at hk ⊢
      obtain ⟨hge, hfree, hskip⟩ := findFree_spec hk0
      rw [idxs_cons_some, List.mem_cons] at hk
      rcases hk with rfl | hk
      · exact ⟨hge, hfree, fun j h1 h2 => Or.inl (hskip j h1 h2)⟩
      · obtain ⟨h1, h2, h4⟩ := labelGoI_idx pfx todo (done ++ [mkName pfx k0]) k0 k hk
        simp only [List.append_assoc, List.mem_append, List.mem_cons,
          List.not_mem_nil, or_false, not_or] at h2 h4 ⊢
        refine ⟨Nat.le_trans hge h1, ⟨h2.1, fun he => ?_, h2.2.2⟩, fun j hj1 hj2 => ?_⟩
        · rw [← he, isUnnamed_mkName] at hu; cases hu
        · by_cases hjk : j < k0
          · exact .inl (by simpa using hskip j hj1 hjk)
          · rcases h4 j (by omega) hj2 with (h | h | h) | h
            · exact .inl (.inl h)
            · exact .inr (mkName_inj h ▸ List.mem_cons_self)
            · exact .inl (.inr (.inr h))
            · exact .inr (List.mem_cons_of_mem _ h)
    · rename_i hu
      simp only [hu, Bool.false_eq_true, ↓reduceIte, idxs_cons_none] at hk ⊢
      have := labelGoI_idx pfx todo (done ++ [nm]) next k hk
      rwa [List.append_assoc] at this

theorem labelGoI_pairwise (pfx : String) : ∀ todo done next,
    (idxs (labelGoI pfx done todo next)).Pairwise (· < ·)
  | [], _, _ => by simp [labelGoI]
  | nm :: todo, done, next => by
    simp only [labelGoI]
    split
    · simp only [idxs_cons_some, List.pairwise_cons]
      refine ⟨fun k hk => ?_, labelGoI_pairwise pfx todo _ _⟩
      obtain ⟨h1, h2, _⟩ := labelGoI_idx pfx todo _ _ k hk
      have : k ≠ findFree pfx (done ++ nm :: todo) ((done ++ nm :: todo).length + 1) next :=
        fun he => h2 (by simp [he])
      omega
    · simp only [idxs_cons_none]
      exact labelGoI_pairwise pfx todo _ _

theorem Rel.cases {pfx nm : String} {y : String × Option Nat} (h : Rel pfx nm y) :
    (isUnnamed nm = true ∧ ∃ k, y = (mkName pfx k, some k)) ∨ (isUnnamed nm = false ∧ y = (nm, none)) := by
  cases hu : isUnnamed nm with
  | true => exact Or.inl ⟨rfl, by simpa [Rel, hu] using h⟩
  | false => exact Or.inr ⟨rfl, by simpa [Rel, hu] using h⟩

/-- The relation is `Rel` with the index forgotten and a fact `P` about it kept; `LabRel pfx l`
    (`CliRefineTree`) is its instance `P k := mkName pfx k ∉ l`. -/
theorem aligned_of_trace {pfx : String} {P : Nat → Prop} {l : List String}
    {out : List (String × Option Nat)} (h : Aligned (Rel pfx) l out) (hP : ∀ k ∈ idxs out, P k) :
    Aligned (fun nm nm' => (isUnnamed nm = false → nm' = nm) ∧
      (isUnnamed nm = true → ∃ k, nm' = mkName pfx k ∧ P k)) l (out.map (·.1)) := by
  induction h with
  | nil => exact Aligned.nil
  | cons hr _ ih =>
    rcases hr.cases with ⟨hu, k, rfl⟩ | ⟨hu, rfl⟩
    · exact Aligned.cons ⟨fun h => by simp [hu] at h, fun _ => ⟨k, rfl, hP k (by simp)⟩⟩
        (ih fun k' hk' => hP k' (by simp [hk']))
    · exact Aligned.cons ⟨fun _ => rfl, fun h => by simp [hu] at h⟩
        (ih fun k' hk' => hP k' (by simpa using hk'))

theorem mem_of_rel {pfx : String} {l : List String} {out : List (String × Option Nat)}
    (hR : Aligned (Rel pfx) l out) {x : String} (hx : x ∈ out.map (·.1)) :
    (x ∈ l ∧ isUnnamed x = false) ∨ ∃ k ∈ idxs out, x = mkName pfx k := by
  obtain ⟨nm, hnm, h1, h2⟩ :=
    (aligned_of_trace (P := (· ∈ idxs out)) hR fun _ h => h).exists_left hx
  cases hu : isUnnamed nm with
  | false => rw [h1 hu]; exact Or.inl ⟨hnm, hu⟩
  | true => obtain ⟨k, rfl, hk⟩ := h2 hu; exact Or.inr ⟨k, hk, rfl⟩

theorem nodup_of_rel {pfx : String} {l : List String} {out : List (String × Option Nat)}
    (hR : Aligned (Rel pfx) l out)
    (hg : (l.filter (fun nm => !isUnnamed nm)).Nodup)
    (hi : (idxs out).Nodup)
    (hn : ∀ k ∈ idxs out, mkName pfx k ∉ l) :
    (out.map (·.1)).Nodup := by
  induction hR with
  | nil => simp
  | @cons nm y l' out' h hrest ih =>
    rw [List.map_cons, List.nodup_cons]
    rcases h.cases with ⟨hu, k, rfl⟩ | ⟨hu, rfl⟩
    · rw [idxs_cons_some, List.nodup_cons] at hi
      simp only [List.filter_cons, hu, Bool.not_true, Bool.false_eq_true, if_false] at hg
      refine ⟨fun hx => ?_, ih hg hi.2 fun k' hk' hm' =>
        hn k' (List.mem_cons_of_mem _ hk') (List.mem_cons_of_mem _ hm')⟩
      rcases mem_of_rel hrest hx with ⟨h1, _⟩ | ⟨k', hk', he⟩
      · exact hn k List.mem_cons_self (List.mem_cons_of_mem _ h1)
      · exact hi.1 (mkName_inj he ▸ hk')
    · rw [idxs_cons_none] at hi hn
      simp only [List.filter_cons, hu, Bool.not_false, if_true, List.nodup_cons] at hg
      refine ⟨fun hx => ?_, ih hg.2 hi fun k' hk' hm' =>
        hn k' hk' (List.mem_cons_of_mem _ hm')⟩
      rcases mem_of_rel hrest hx with ⟨h1, h2⟩ | ⟨k', hk', he⟩
      · exact hg.1 (List.mem_filter.2 ⟨h1, by simp [h2]⟩)
      · exact hn k' hk' (he ▸ List.mem_cons_self)

/-- The trace of `label_internal` on a sequence of names. -/
def labelTrace (pfx : String) (l : List String) : List (String × Option Nat) :=
  labelGoI pfx [] l 0

theorem labelNames_eq (pfx : String) (l : List String) :
    labelNames pfx l = (labelTrace pfx l).map (·.1) := by
  simp [labelNames, labelTrace, labelGo_eq]

theorem labelNames_length (pfx : String) (l : List String) :
    (labelNames pfx l).length = l.length := by
  rw [labelNames_eq, List.length_map]
  exact (labelGoI_rel pfx l [] 0).length_eq.symm

theorem mem_labelNames {pfx : String} {l : List String} {x : String} (hx : x ∈ labelNames pfx l) :
    (x ∈ l ∧ isUnnamed x = false) ∨ ∃ k, x = mkName pfx k := by
  rw [labelNames_eq] at hx
  exact (mem_of_rel (labelGoI_rel pfx l [] 0) hx).imp_right fun ⟨k, _, h⟩ => ⟨k, h⟩

theorem labelNames_named (pfx : String) (l : List String) :
    ∀ x ∈ labelNames pfx l, isUnnamed x = false := by
  intro x hx
  rcases mem_labelNames hx with ⟨_, hu⟩ | ⟨k, rfl⟩
  · exact hu
  · exact isUnnamed_mkName pfx k

theorem labelNames_nodup (pfx : String) (l : List String)
    (hg : (l.filter (fun nm => !isUnnamed nm)).Nodup) : (labelNames pfx l).Nodup := by
  have h2 : Aligned (Rel pfx) l (labelTrace pfx l) := labelGoI_rel pfx l [] 0
  have hnd : (idxs (labelTrace pfx l)).Nodup :=
    (labelGoI_pairwise pfx l [] 0).imp (fun h => Nat.ne_of_lt h)
  exact labelNames_eq pfx l ▸
    nodup_of_rel h2 hg hnd fun k hk => (labelGoI_idx pfx l [] 0 k hk).2.1

end SR.Cli
