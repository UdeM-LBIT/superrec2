/-
  The cross-species references of the branches (`left` / `right` of loss and
  speciation branches, `right` of transfer branches) after `_compute_branches`
  on a valid reconciliation in a binary species tree: the referenced key is the
  key of a branch of the expected child species and is still one of its
  anchors at the end — what `tikz.render` looks up in `X_layout.anchors[...]`.
-/
import SRVerif.Proofs.LayoutPass

namespace SR.Layout

open SR

/-- What the drawing needs to know about the branches a step inserts. -/
structure NodeW (s p : Path) (sub : Sol) (pl : List (Path × Branch)) : Prop where
  loss : ∀ e ∈ pl, e.2.kind = .loss → Path.isAnc s e.1 = true ∧ ∃ j kk,
    e.2.left = (if j = 0 then some kk else none) ∧ e.2.right = (if j = 1 then some kk else none) ∧
    Top pl p sub kk (e.1 ++ [j])
  spec : ∀ e ∈ pl, e.2.kind = .spec → e.1 = s ∧ ∃ k1 k2, e.2.left = some k1 ∧ e.2.right = some k2 ∧
    Top pl p sub k1 (s ++ [0]) ∧ Top pl p sub k2 (s ++ [1])

theorem lossW_node {s p : Path} {sub : Sol} {plA plB : List (Path × Branch)} {nb : Branch}
    {iA iB : Nat} {aA aB : Path} (hA : LossW plA (p ++ [iA]) aA s) (hB : LossW plB (p ++ [iB]) aB s)
    (cA : plA ≠ [] → childSp sub iA = some aA) (cB : plB ≠ [] → childSp sub iB = some aB)
    (hnb : nb.kind ≠ .loss) :
    ∀ e ∈ plA ++ (plB ++ [(s, nb)]), e.2.kind = .loss → Path.isAnc s e.1 = true ∧ ∃ j kk,
      e.2.left = (if j = 0 then some kk else none) ∧ e.2.right = (if j = 1 then some kk else none) ∧
      Top (plA ++ (plB ++ [(s, nb)])) p sub kk (e.1 ++ [j]) := by
  intro e he hk
  simp only [List.mem_append, List.mem_singleton] at he
  rcases he with he | he | rfl
  · obtain ⟨_, h1, j, kk, hl, hr, ht⟩ := hA e he
    exact ⟨h1, j, kk, hl, hr, iA, aA, cA (List.ne_nil_of_mem he),
      ht.mono (fun x hx => List.mem_append_left _ hx)⟩
  · obtain ⟨_, h1, j, kk, hl, hr, ht⟩ := hB e he
    exact ⟨h1, j, kk, hl, hr, iB, aB, cB (List.ne_nil_of_mem he),
      ht.mono (fun x hx => List.mem_append_right _ (List.mem_append_left _ hx))⟩
  · exact absurd hk hnb

theorem lossW_nil (g a s : Path) : LossW [] g a s := by intro e he; cases he

/-- A speciation: chain `A` of the child below `s ++ [0]`, chain `B` of the child below `s ++ [1]`. -/
theorem spec_wired {s p sp : Path} {f : List Nat} {l r : Sol} {cA cB : Nat} {aA aB : Path}
    {wA wB : List Nat} (hcA : IsChild l r cA aA) (hcB : IsChild l r cB aB) (hA : aA = s ++ 0 :: wA)
    (hB : aB = s ++ 1 :: wB) :
    NodeW s p (.node sp f l r)
      (chainList (p ++ [cA]) (.gene (p ++ [cA])) (s ++ [0]) wA ++
        (chainList (p ++ [cB]) (.gene (p ++ [cB])) (s ++ [1]) wB ++
          [(s, ⟨.gene p, .spec, some (chainTop (p ++ [cA]) (.gene (p ++ [cA])) (s ++ [0]) wA),
            some (chainTop (p ++ [cB]) (.gene (p ++ [cB])) (s ++ [1]) wB)⟩)])) := by
  obtain ⟨lA, tA⟩ := chain_wired (p ++ [cA]) (s ++ [0]) wA (s := s) (List.prefix_append _ _)
  obtain ⟨lB, tB⟩ := chain_wired (p ++ [cB]) (s ++ [1]) wB (s := s) (List.prefix_append _ _)
  rw [← List.append_cons s 0 wA, ← hA] at lA tA
  rw [← List.append_cons s 1 wB, ← hB] at lB tB
  refine ⟨lossW_node lA lB (fun _ => hcA.childSp) (fun _ => hcB.childSp) (by simp), ?_⟩
  intro e he hk'
  simp only [List.mem_append, List.mem_singleton] at he
  rcases he with he | he | rfl
  · rw [(lA e he).1] at hk'; cases hk'
  · rw [(lB e he).1] at hk'; cases hk'
  · exact ⟨rfl, _, _, rfl, rfl,
      ⟨cA, aA, hcA.childSp, tA.mono fun z hz => List.mem_append_left _ hz⟩,
      ⟨cB, aB, hcB.childSp,
        tB.mono fun z hz => List.mem_append_right _ (List.mem_append_left _ hz)⟩⟩

/-- The plan of a node, in a species tree where the children's species hang
    below child `0` or `1` of every species above them. -/
theorem planOf_wired {s p sp : Path} {f : List Nat} {l r : Sol} {pl : List (Path × Branch)}
    (hP : PlanOf s p (.node sp f l r) pl)
    (hbin : ∀ x w, (l.sp = s ++ x :: w ∨ r.sp = s ++ x :: w) → x = 0 ∨ x = 1) :
    NodeW s p (.node sp f l r) pl := by
  have upChain : ∀ (c : Nat) (w : List Nat),
      LossW (chainList (p ++ [c]) (.gene (p ++ [c])) s w) (p ++ [c]) (s ++ w) s :=
    fun c w => (chain_wired (p ++ [c]) s w (List.prefix_refl _)).1
  cases hP with
  | invalid => exact ⟨fun _ he => absurd he (List.not_mem_nil), fun _ he => absurd he (List.not_mem_nil)⟩
  | @spec _ _ _ _ c1 c2 a1 a2 x1 x2 w1 w2 hE h1 h2 hc hsw e1 e2 hx =>
    -- the first chain is the one below `s ++ [0]`
    have hb : ∀ {c a x w}, IsChild l r c a → a = s ++ x :: w → x = 0 ∨ x = 1 := by
      intro c a x w h e
      rcases h with ⟨_, rfl⟩ | ⟨_, rfl⟩
      · exact hbin x w (.inl e)
      · exact hbin x w (.inr e)
    have h0 : x1 = 0 := by
      rcases h1 with ⟨rfl, rfl⟩ | ⟨rfl, rfl⟩
      · have h2' : a2 = r.sp := by
          rcases h2 with ⟨rfl, _⟩ | ⟨_, h⟩
          · exact absurd rfl hc
          · exact h
        have : ¬ Path.isAnc (s ++ [0]) r.sp = true := fun h => absurd (hsw.2 h) (by simp)
        rw [← h2', e2, Path.isAnc_snoc_cons, decide_eq_true_eq] at this
        have := hb h2 e2
        have := hb (.inl ⟨rfl, rfl⟩) e1
        omega
      · have := hsw.1 rfl
        rw [e1, Path.isAnc_snoc_cons, decide_eq_true_eq] at this
        exact this.symm
    have h1' : x2 = 1 := by
      have := hb h2 e2
      omega
    subst h0 h1'
    exact spec_wired h1 h2 e1 e2
  | @dup _ _ _ _ w1 w2 hE e1 e2 =>
    have lA := upChain 0 w1
    have lB := upChain 1 w2
    rw [← e1] at lA
    rw [← e2] at lB
    refine ⟨lossW_node lA lB (fun _ => rfl) (fun _ => rfl) (by simp), ?_⟩
    intro e he hk'
    simp only [List.mem_append, List.mem_singleton] at he
    rcases he with he | he | rfl
    · rw [(lA e he).1] at hk'; cases hk'
    · rw [(lB e he).1] at hk'; cases hk'
    · cases hk'
  | @hgt _ _ _ _ c c' a w hE h1 _ hkeep e1 =>
    have wA := upChain c w
    rw [← e1] at wA
    refine ⟨?_, ?_⟩
    · exact lossW_node (sub := .node sp f l r)
        (nb := ⟨.gene p, .hgt, _, some (.gene (p ++ [c']))⟩)
        wA (lossW_nil (p ++ [c']) a s) (fun _ => h1.childSp) (fun h => absurd rfl h) (by simp)
    · intro e he hk'
      simp only [List.mem_append, List.mem_singleton] at he
      rcases he with he | rfl
      · rw [(wA e he).1] at hk'; cases hk'
      · cases hk'

/-- What `tikz.render` needs to find in the final state. -/
structure Wiring (S : RTree) (sol : Sol) (st : LState) : Prop where
  loss : ∀ t b, b ∈ brs st t → b.kind = .loss → ∃ j kk, (j = 0 ∨ j = 1) ∧
    S.isNode (t ++ [j]) = true ∧
    b.left = (if j = 0 then some kk else none) ∧ b.right = (if j = 1 then some kk else none) ∧
    kk ∈ keysOf (brs st (t ++ [j])) ∧ kk ∈ ancs st (t ++ [j])
  spec : ∀ t b, b ∈ brs st t → b.kind = .spec → ∃ k1 k2, b.left = some k1 ∧ b.right = some k2 ∧
    S.isNode (t ++ [0]) = true ∧ S.isNode (t ++ [1]) = true ∧
    k1 ∈ keysOf (brs st (t ++ [0])) ∧ k1 ∈ ancs st (t ++ [0]) ∧
    k2 ∈ keysOf (brs st (t ++ [1])) ∧ k2 ∈ ancs st (t ++ [1])
  hgt : ∀ t b, b ∈ brs st t → b.kind = .hgt → ∃ g sub, b.right = some (.gene g) ∧
    subAt sol g = some sub ∧ Key.gene g ∈ keysOf (brs st sub.sp) ∧ Key.gene g ∈ ancs st sub.sp

/-- A transfer branch points to the transferred child, which is a branch and still an anchor of the
    species it is mapped to: it sits outside the node's species, so nothing consumes its key.
    Binarity plays no part. -/
theorem computeBranches_wiring_hgt {S : RTree} {sol : Sol} {st : LState} (hgood : Good S sol)
    (h : computeBranches S sol = .ok st) :
    ∀ t b, b ∈ brs st t → b.kind = .hgt → ∃ g sub, b.right = some (.gene g) ∧
      subAt sol g = some sub ∧ Key.gene g ∈ keysOf (brs st sub.sp) ∧ Key.gene g ∈ ancs st sub.sp := by
  have inv := computeBranches_pinv h
  have typ := computeBranches_typed h
  have done : ∀ q subq, subAt sol q = some subq → .gene q ∈ keysOf (brs st subq.sp) :=
    fun _ _ hq => computeBranches_done hgood h hq
  intro t b hbt hk
  obtain ⟨p, sub, hsub, h1 | ⟨_, ht, hkey, hnb⟩⟩ := typ t b hbt
  · rw [h1.1] at hk; cases hk
  · cases sub with
    | leaf s f => simp only [NodeBranch] at hnb; rw [hnb] at hk; cases hk
    | node s f l r =>
      obtain ⟨hl, hr⟩ := subAt_child hsub
      have hnb' : NodeBranch s p (.node s f l r) b := hnb
      simp only [NodeBranch] at hnb'
      cases hE : internalEvent s l.sp r.sp with
      | leaf => simp only [hE] at hnb'
      | invalid => simp only [hE] at hnb'
      | spec => simp only [hE] at hnb'; rw [hnb'] at hk; cases hk
      | dup => simp only [hE] at hnb'; rw [hnb'] at hk; cases hk
      | hgt =>
        simp only [hE] at hnb'
        obtain ⟨_, k1, _, hside⟩ := hnb'
        rcases hside with ⟨hkeep, _, hright⟩ | ⟨hkeep, _, hright⟩
        · refine ⟨p ++ [1], r, hright, hr, done _ _ hr, ?_⟩
          apply not_consumed typ inv hsub (i := 1) rfl _ (done _ _ hr)
          intro e
          apply (ev_hgt hE).1
          refine ⟨hkeep, ?_⟩
          rw [e]; exact Path.isAnc_refl _
        · refine ⟨p ++ [0], l, hright, hl, done _ _ hl, ?_⟩
          apply not_consumed typ inv hsub (i := 0) rfl _ (done _ _ hl)
          intro e
          rw [e] at hkeep
          simp only [Sol.sp, Path.isAnc_refl] at hkeep
          cases hkeep

theorem computeBranches_wiring {S : RTree} {sol : Sol} {st : LState} (hgood : Good S sol)
    (hbin : S.isBinary = true) (h : computeBranches S sol = .ok st) : Wiring S sol st := by
  have inv := computeBranches_pinv h
  have typ := computeBranches_typed h
  have done : ∀ q subq, subAt sol q = some subq → .gene q ∈ keysOf (brs st subq.sp) :=
    fun _ _ hq => computeBranches_done hgood h hq
  -- a branch of the state comes from the step of a node with a valid event
  have origin : ∀ t b, b ∈ brs st t → b.kind = .loss ∨ b.kind = .spec →
      ∃ p sp f l r pl, subAt sol p = some (.node sp f l r) ∧ (t, b) ∈ pl ∧
        NodeW sp p (.node sp f l r) pl ∧ (∀ e ∈ pl, e.2 ∈ brs st e.1) := by
    intro t b hbt hkind
    obtain ⟨p, sub, hq, hL, he⟩ := (mem_brs_iff h).1 hbt
    have hin : ∀ e ∈ nodePlan sub.sp p sub, e.2 ∈ brs st e.1 :=
      fun e he' => (mem_brs_iff h).2 ⟨p, sub, hq, hL, he'⟩
    cases sub with
    | leaf s f =>
      simp only [nodePlan, List.mem_singleton, Prod.mk.injEq] at he
      obtain ⟨_, rfl⟩ := he
      rcases hkind with h | h <;> cases h
    | node s f l r =>
      obtain ⟨hl, hr⟩ := subAt_child hq
      have hnl := (hgood _ _ hl).1
      have hnr := (hgood _ _ hr).1
      have nw := planOf_wired (planOf s p (.node s f l r)) (by
        intro x w hx
        rcases hx with hx | hx
        · exact (RTree.child_of_isNode hbin (hx ▸ hnl)).1
        · exact (RTree.child_of_isNode hbin (hx ▸ hnr)).1)
      exact ⟨p, s, f, l, r, _, hq, he, nw, hin⟩
  -- a `Top` key is a key of its species and still an anchor there
  have top : ∀ p sp f l r pl kk c, subAt sol p = some (.node sp f l r) →
      (∀ e ∈ pl, e.2 ∈ brs st e.1) → Top pl p (.node sp f l r) kk c → c ≠ sp →
      S.isNode c = true ∧ kk ∈ keysOf (brs st c) ∧ kk ∈ ancs st c := by
    intro p sp f l r pl kk c hp hin ⟨i, a, hc, hlin, hpre, halt⟩ hne
    obtain ⟨ch, hch, rfl⟩ := childSp_subAt hp hc
    have hnode : S.isNode c = true := RTree.isNode_of_prefix _ _ S hpre (hgood _ _ hch).1
    have hkey : kk ∈ keysOf (brs st c) := by
      rcases halt with ⟨rfl, rfl⟩ | ⟨b', hb', rfl⟩
      · exact done _ _ hch
      · simp only [keysOf, List.mem_map]
        exact ⟨b', hin _ hb', rfl⟩
    exact ⟨hnode, hkey, not_consumed typ inv hp hlin hne hkey⟩
  refine ⟨?_, ?_, computeBranches_wiring_hgt hgood h⟩
  · intro t b hbt hk
    obtain ⟨p, sp, f, l, r, pl, hp, hmem, nw, hin⟩ := origin t b hbt (Or.inl hk)
    obtain ⟨hanc, j, kk, hl, hr, ht⟩ := nw.loss _ hmem hk
    have hne : t ++ [j] ≠ sp := by
      intro e
      have := Path.length_le_of_isAnc hanc
      rw [← e] at this
      simp at this
      omega
    obtain ⟨hnode, hkey, hanch⟩ := top p sp f l r pl kk _ hp hin ht hne
    exact ⟨j, kk, RTree.isBinary_child t S j hbin hnode, hnode, hl, hr, hkey, hanch⟩
  · intro t b hbt hk
    obtain ⟨p, sp, f, l, r, pl, hp, hmem, nw, hin⟩ := origin t b hbt (Or.inr hk)
    obtain ⟨rfl, k1, k2, hl, hr, t1, t2⟩ := nw.spec _ hmem hk
    obtain ⟨n1, a1, b1⟩ := top p _ f l r pl k1 _ hp hin t1 (by simp)
    obtain ⟨n2, a2, b2⟩ := top p _ f l r pl k2 _ hp hin t2 (by simp)
    exact ⟨k1, k2, hl, hr, n1, n2, a1, b1, a2, b2⟩

end SR.Layout
