/-
  Optima of a cost function over a validity predicate, and their transport along maps of
  solutions.  Stated for an arbitrary predicate `V` and cost, so that the same lemmas serve
  `Spec.validSol` (all modes), the enumerator's characterisation (`validRec ∧ plainLabels`),
  the THL solver's (`validRec ∧ ∈ allMappings S`) and the label solvers' exactness theorems.
  `C09.IsOptimal`, `C09.IsMinCost`: the instances at `Spec.validSol` and `totalCost`, in which C08
  and C09 are stated.  `Spec.sameMapping` (same species mapping) is here because the predicates
  `V` of the base variants speak through it.
-/
import SRVerif.Model.Rec
import SRVerif.Spec.Opt
import SRVerif.Proofs.Cost
import Mathlib.Data.List.Nodup

namespace SR

/-- `sol` is valid and no valid solution is cheaper. -/
def IsOptimalFor (V : Sol → Prop) (cost : Sol → Cost) (sol : Sol) : Prop :=
  V sol ∧ ∀ sol', V sol' → Cost.le (cost sol) (cost sol') = true

/-- `m` is the minimum of `cost` over the valid solutions (`inf` if there is none). -/
def IsMinCostFor (V : Sol → Prop) (cost : Sol → Cost) (m : Cost) : Prop :=
  (∀ sol, V sol → Cost.le m (cost sol) = true) ∧ (m = .inf ∨ ∃ sol, V sol ∧ cost sol = m)

theorem IsMinCostFor.unique {V : Sol → Prop} {cost : Sol → Cost} {m m' : Cost}
    (h : IsMinCostFor V cost m) (h' : IsMinCostFor V cost m') : m = m' := by
  apply Cost.le_antisymm
  · rcases h'.2 with e | ⟨s, hs, e⟩
    · rw [e]; exact Cost.le_inf _
    · rw [← e]; exact h.1 s hs
  · rcases h.2 with e | ⟨s, hs, e⟩
    · rw [e]; exact Cost.le_inf _
    · rw [← e]; exact h'.1 s hs

theorem isMinCostFor_minList {V : Sol → Prop} {cost : Sol → Cost} (L : List Sol)
    (hL : ∀ s, s ∈ L ↔ V s) : IsMinCostFor V cost (Cost.minList (L.map cost)) := by
  constructor
  · intro sol hs
    exact Cost.minList_le (List.mem_map.mpr ⟨sol, (hL sol).mpr hs, rfl⟩)
  · rcases Cost.minList_mem_or_inf (L.map cost) with e | hm
    · exact Or.inl e
    · obtain ⟨s, hs, e⟩ := List.mem_map.mp hm
      exact Or.inr ⟨s, (hL s).mp hs, e⟩

theorem IsOptimalFor.isMin {V : Sol → Prop} {cost : Sol → Cost} {sol : Sol}
    (h : IsOptimalFor V cost sol) : IsMinCostFor V cost (cost sol) :=
  ⟨h.2, Or.inr ⟨sol, h.1, rfl⟩⟩

/-- Transport of the minimum along two cost-non-increasing maps between the
    valid solutions of two inputs. -/
theorem isMinCostFor_transport {V V' : Sol → Prop} {cost cost' : Sol → Cost} (f g : Sol → Sol)
    (hf : ∀ s, V s → V' (f s) ∧ Cost.le (cost' (f s)) (cost s) = true)
    (hg : ∀ s, V' s → V (g s) ∧ Cost.le (cost (g s)) (cost' s) = true)
    (m : Cost) : IsMinCostFor V cost m ↔ IsMinCostFor V' cost' m := by
  have key : ∀ {W W' : Sol → Prop} {k k' : Sol → Cost} (f g : Sol → Sol),
      (∀ s, W s → W' (f s) ∧ Cost.le (k' (f s)) (k s) = true) →
      (∀ s, W' s → W (g s) ∧ Cost.le (k (g s)) (k' s) = true) →
      IsMinCostFor W k m → IsMinCostFor W' k' m := by
    intro W W' k k' f g hf hg ⟨h1, h2⟩
    constructor
    · intro s' hs'
      exact Cost.le_trans (h1 _ (hg s' hs').1) (hg s' hs').2
    · rcases h2 with e | ⟨s, hs, e⟩
      · exact Or.inl e
      · refine Or.inr ⟨f s, (hf s hs).1, ?_⟩
        apply Cost.le_antisymm
        · rw [← e]; exact (hf s hs).2
        · exact Cost.le_trans (h1 _ (hg _ (hf s hs).1).1) (hg _ (hf s hs).1).2
  exact ⟨key f g hf hg, key g f hg hf⟩

theorem isOptimalFor_embed {V V' : Sol → Prop} {cost cost' : Sol → Cost} (f g : Sol → Sol)
    (hv : ∀ s, V' (f s) ↔ V s) (hc : ∀ s, cost' (f s) = cost s)
    (hg : ∀ s, V' s → V (g s) ∧ Cost.le (cost (g s)) (cost' s) = true)
    (sol : Sol) : IsOptimalFor V cost sol ↔ IsOptimalFor V' cost' (f sol) := by
  constructor
  · rintro ⟨h1, h2⟩
    refine ⟨(hv sol).mpr h1, fun sol' h' => ?_⟩
    rw [hc]
    exact Cost.le_trans (h2 _ (hg sol' h').1) (hg sol' h').2
  · rintro ⟨h1, h2⟩
    refine ⟨(hv sol).mp h1, fun sol' h' => ?_⟩
    have := h2 (f sol') ((hv sol').mpr h')
    rwa [hc, hc] at this

theorem retract_of_rightInv {V V' : Sol → Prop} {cost cost' : Sol → Cost} {f g : Sol → Sol}
    (hv : ∀ s, V' (f s) ↔ V s) (hc : ∀ s, cost' (f s) = cost s) (hfg : ∀ s, f (g s) = s) :
    ∀ s, V' s → V (g s) ∧ Cost.le (cost (g s)) (cost' s) = true := by
  intro s hs
  refine ⟨(hv (g s)).mp (by rw [hfg]; exact hs), ?_⟩
  rw [← hc (g s), hfg]
  exact Cost.le_refl _

theorem transport_embed {V V' : Sol → Prop} {cost cost' : Sol → Cost} (f g : Sol → Sol)
    (hv : ∀ s, V' (f s) ↔ V s) (hc : ∀ s, cost' (f s) = cost s)
    (hg : ∀ s, V' s → V (g s) ∧ Cost.le (cost (g s)) (cost' s) = true) :
    (∀ sol, IsOptimalFor V cost sol ↔ IsOptimalFor V' cost' (f sol)) ∧
    (∀ m, IsMinCostFor V cost m ↔ IsMinCostFor V' cost' m) :=
  ⟨isOptimalFor_embed f g hv hc hg, isMinCostFor_transport f g
    (fun s hs => ⟨(hv s).mpr hs, by rw [hc]; exact Cost.le_refl _⟩) hg⟩

/-- Finite optima only depend on how the cost orders the solutions and on which costs are
    finite. -/
theorem exact_same_order {V P : Sol → Prop} {cost cost' : Sol → Cost} {L L' : List Sol}
    (hL : ∀ s, s ∈ L ↔ IsOptimalFor V cost s ∧ cost s ≠ .inf ∧ P s)
    (hL' : ∀ s, s ∈ L' ↔ IsOptimalFor V cost' s ∧ cost' s ≠ .inf ∧ P s)
    (hle : ∀ s s', Cost.le (cost' s) (cost' s') = Cost.le (cost s) (cost s'))
    (hfin : ∀ s, cost' s ≠ .inf ↔ cost s ≠ .inf) (s : Sol) : s ∈ L' ↔ s ∈ L := by
  simp only [hL, hL', IsOptimalFor, hle, hfin]

theorem IsOptimalFor.cost_eq {V : Sol → Prop} {cost : Sol → Cost} {a b : Sol}
    (ha : IsOptimalFor V cost a) (hb : IsOptimalFor V cost b) : cost a = cost b :=
  Cost.le_antisymm (ha.2 b hb.1) (hb.2 a ha.1)

theorem emb_transfer {V V' : Sol → Prop} {cost cost' : Sol → Cost} {L L' : List Sol}
    {P P' : Sol → Prop} (f g : Sol → Sol)
    (hL : ∀ s, s ∈ L ↔ IsOptimalFor V cost s ∧ cost s ≠ .inf ∧ P s)
    (hL' : ∀ s, s ∈ L' ↔ IsOptimalFor V' cost' s ∧ cost' s ≠ .inf ∧ P' s)
    (hv : ∀ s, V' (f s) ↔ V s) (hc : ∀ s, cost' (f s) = cost s) (hP : ∀ s, P' (f s) ↔ P s)
    (hg : ∀ s, V' s → V (g s) ∧ Cost.le (cost (g s)) (cost' s) = true) :
    (∀ s, s ∈ L ↔ f s ∈ L') ∧
    (∀ s ∈ L, ∀ s' ∈ L', cost' s' = cost s) ∧
    (∀ s' ∈ L', f (g s') = s' → g s' ∈ L) := by
  have hiff : ∀ s, s ∈ L ↔ f s ∈ L' := by
    intro s
    rw [hL, hL', hc, hP, isOptimalFor_embed f g hv hc hg]
  refine ⟨hiff, ?_, ?_⟩
  · intro s hs s' hs'
    rw [← hc s]
    exact IsOptimalFor.cost_eq ((hL' s').mp hs').1 ((hL' _).mp ((hiff s).mp hs)).1
  · intro s' hs' e
    rw [hiff, e]; exact hs'

theorem perm_of_back {L L' : List Sol} {f g : Sol → Sol} (hnd : L.Nodup) (hnd' : L'.Nodup)
    (hfg : ∀ s, f (g s) = s) (hgf : ∀ s, g (f s) = s) (hiff : ∀ s, s ∈ L ↔ f s ∈ L') :
    L'.Perm (L.map f) := by
  have hinj : Function.Injective f := fun a b e => by rw [← hgf a, ← hgf b, e]
  refine (List.perm_ext_iff_of_nodup hnd' (hnd.map hinj)).mpr fun s' => ?_
  rw [List.mem_map]
  exact ⟨fun hs' => ⟨g s', (hiff _).mpr (by rw [hfg]; exact hs'), hfg s'⟩,
    fun ⟨s, hs, e⟩ => e ▸ (hiff s).mp hs⟩

theorem image_of_retract {L L' : List Sol} (f g : Sol → Sol) (hiff : ∀ s, s ∈ L ↔ f s ∈ L')
    (hret : ∀ s' ∈ L', f (g s') = s') (s' : Sol) : s' ∈ L' ↔ ∃ s ∈ L, f s = s' := by
  constructor
  · intro hs'
    exact ⟨g s', (hiff _).mpr (by rw [hret s' hs']; exact hs'), hret s' hs'⟩
  · rintro ⟨s, hs, rfl⟩
    exact (hiff s).mp hs

/-- Costs are natural numbers or `inf`, so every cost function has a minimum over every
    predicate: the least finite cost of a valid solution, or `inf` if there is none. -/
theorem IsMinCostFor.exists (V : Sol → Prop) (cost : Sol → Cost) : ∃ m, IsMinCostFor V cost m := by
  by_cases hex : ∃ n s, V s ∧ cost s = .fin n
  · obtain ⟨n, hn⟩ := hex
    induction n using Nat.strongRecOn with
    | ind n ih =>
      by_cases hlt : ∃ k, k < n ∧ ∃ s, V s ∧ cost s = .fin k
      · obtain ⟨k, hk, hs⟩ := hlt
        exact ih k hk hs
      · obtain ⟨s, hs, hc⟩ := hn
        refine ⟨.fin n, fun s' hs' => ?_, Or.inr ⟨s, hs, hc⟩⟩
        cases hc' : cost s' with
        | inf => exact Cost.le_inf _
        | fin k =>
          have : ¬ k < n := fun hk => hlt ⟨k, hk, s', hs', hc'⟩
          simp only [Cost.le, Cost.lt, Bool.not_eq_true', decide_eq_false_iff_not]
          exact this
  · refine ⟨.inf, fun s hs => ?_, Or.inl rfl⟩
    cases hc : cost s with
    | inf => exact Cost.le_refl _
    | fin k => exact absurd ⟨k, s, hs, hc⟩ hex

theorem isOptimalFor_cofinal {V W : Sol → Prop} {cost : Sol → Cost} (hWV : ∀ s, W s → V s)
    (hcof : ∀ s, V s → cost s ≠ .inf → ∃ s', W s' ∧ Cost.le (cost s') (cost s) = true)
    {s : Sol} (hW : W s) : IsOptimalFor W cost s ↔ IsOptimalFor V cost s := by
  refine ⟨fun h => ⟨hWV s hW, fun s' hs' => Cost.le_of_ne_inf fun hfin => ?_⟩,
    fun h => ⟨hW, fun s' hs' => h.2 s' (hWV s' hs')⟩⟩
  obtain ⟨s'', hs'', hle⟩ := hcof s' hs' hfin
  exact Cost.le_trans (h.2 s'' hs'') hle

/-- A list that holds exactly the finite optima is non-empty as soon as one valid solution has
    finite cost: costs are well-ordered.  (`∧ True`: the slot `P` of `exact_same_order` and
    `emb_transfer`, empty for a solver whose decoder adds nothing, as `mem_spfs_iff` states it.) -/
theorem exact_ne_nil {V : Sol → Prop} {cost : Sol → Cost} {L : List Sol}
    (hL : ∀ s, s ∈ L ↔ IsOptimalFor V cost s ∧ cost s ≠ .inf ∧ True) {s : Sol} (hs : V s)
    (hfin : cost s ≠ .inf) : L ≠ [] := by
  obtain ⟨m, hm, hatt⟩ := IsMinCostFor.exists V cost
  have hmf : m ≠ .inf := fun e =>
    hfin (Cost.le_antisymm (Cost.le_inf _) (e ▸ hm s hs))
  obtain ⟨s₀, hs₀, e⟩ := hatt.resolve_left hmf
  exact List.ne_nil_of_mem ((hL s₀).mpr ⟨⟨hs₀, fun s' h' => e ▸ hm s' h'⟩, e ▸ hmf, trivial⟩)

end SR

namespace SR.Spec

/-- Same shape and same species at every node (syntenies ignored). -/
def sameMapping : Sol → Sol → Bool
  | .leaf s _, .leaf s' _ => s == s'
  | .node s _ l r, .node s' _ l' r' => s == s' && sameMapping l l' && sameMapping r r'
  | _, _ => false

end SR.Spec

namespace SR.C09

open SR

/-- `sol` is a valid solution of `o` (mode `mode`) of minimum evaluated cost. -/
def IsOptimal (c : Costs) (mode : LabelMode) (o : OTree) : Sol → Prop :=
  IsOptimalFor (fun s => Spec.validSol mode o s = true) (totalCost c mode o)

/-- `m` is the minimum evaluated cost over the valid solutions of `o`. -/
def IsMinCost (c : Costs) (mode : LabelMode) (o : OTree) : Cost → Prop :=
  IsMinCostFor (fun s => Spec.validSol mode o s = true) (totalCost c mode o)

end SR.C09
