/-
  C19: `_make_prec_graph`.  The graph built from the leaf syntenies has the
  families as vertices and the consecutive pairs as edges; its topological
  orderings are the duplicate-free arrangements of the families containing
  every leaf synteny as a subsequence.  Edges are spoken of through `Arc` of `Spec/FindCycle.lean`.
-/
import SRVerif.Proofs.ToposortAlg
import SRVerif.Spec.FindCycle

namespace SR.Toposort

/-- `zip(s[0:-1], s[1:])`. -/
def pairs (s : List Nat) : List (Nat × Nat) := s.dropLast.zip s.tail

@[simp] theorem pairs_nil : pairs [] = [] := rfl
@[simp] theorem pairs_single (a : Nat) : pairs [a] = [] := rfl
@[simp] theorem pairs_cons_cons (a b : Nat) (t : List Nat) :
    pairs (a :: b :: t) = (a, b) :: pairs (b :: t) := by simp [pairs]

theorem mem_iff_pairs_or_last : ∀ (s : List Nat) (v : Nat),
    v ∈ s ↔ (∃ p ∈ pairs s, p.1 = v) ∨ s.getLast? = some v
  | [], v => by simp
  | [a], v => by simp [eq_comm]
  | a :: b :: t, v => by
    rw [List.mem_cons, mem_iff_pairs_or_last (b :: t) v, pairs_cons_cons]
    simp only [List.mem_cons, exists_eq_or_imp, List.getLast?_cons_cons, or_assoc, @eq_comm _ v a]

theorem forall_pairs_iff_isChain (R : Nat → Nat → Prop) : ∀ s : List Nat,
    (∀ p ∈ pairs s, R p.1 p.2) ↔ s.IsChain R
  | [] => by simp
  | [_] => by simp
  | a :: b :: t => by
    rw [pairs_cons_cons, List.forall_mem_cons, List.isChain_cons_cons,
      forall_pairs_iff_isChain R (b :: t)]

/-- By uniqueness of sorted listings: two listings of the same elements by increasing position
    coincide. -/
theorem sublist_of_pairwise_idx {o s : List Nat} (hn : o.Nodup) (hs : ∀ x ∈ s, x ∈ o)
    (hp : s.Pairwise (fun a b => o.idxOf a < o.idxOf b)) : s.Sublist o := by
  have hsn : s.Nodup := hp.imp fun {a b} h (e : a = b) => Nat.lt_irrefl _ (e ▸ h)
  obtain ⟨l, hl, hlo⟩ := List.subperm_of_subset hsn hs
  exact hl.eq_of_pairwise (fun a b _ _ h1 h2 => absurd h1 (Nat.lt_asymm h2))
    ((List.pairwise_idxOf_of_nodup hn).sublist hlo) hp ▸ hlo

theorem pairs_ordered_iff_sublist {o s : List Nat} (hn : o.Nodup) (hs : ∀ x ∈ s, x ∈ o) :
    (∀ p ∈ pairs s, o.idxOf p.1 < o.idxOf p.2) ↔ s.Sublist o := by
  have : Trans (fun a b => o.idxOf a < o.idxOf b) (fun a b => o.idxOf a < o.idxOf b)
      (fun a b => o.idxOf a < o.idxOf b) := ⟨Nat.lt_trans⟩
  rw [forall_pairs_iff_isChain (fun a b => o.idxOf a < o.idxOf b), List.isChain_iff_pairwise]
  exact ⟨sublist_of_pairwise_idx hn hs, fun h => (List.pairwise_idxOf_of_nodup hn).sublist h⟩

/-- `WF` without "every successor is a key": what `_make_prec_graph` keeps true while keys are
    still being added. -/
def DictOfSets (g : Graph) : Prop := (keys g).Nodup ∧ ∀ p ∈ g, p.2.Nodup

theorem mem_setAdd (s : List Nat) (b v : Nat) : v ∈ setAdd s b ↔ v ∈ s ∨ v = b :=
  List.mem_addNew

theorem nodup_setAdd (s : List Nat) (b : Nat) (hs : s.Nodup) : (setAdd s b).Nodup :=
  hs.addNew

theorem keys_ensureKey (g : Graph) (a : Nat) : keys (ensureKey g a) = setAdd (keys g) a := by
  unfold ensureKey setAdd
  split <;> simp [keys]

theorem mem_ensureKey {g : Graph} {a : Nat} {p : Nat × List Nat} :
    p ∈ ensureKey g a ↔ p ∈ g ∨ (a ∉ keys g ∧ p = (a, [])) := by
  unfold ensureKey
  split <;> simp [*]

theorem dictOfSets_ensureKey {g : Graph} (a : Nat) (h : DictOfSets g) : DictOfSets (ensureKey g a) := by
  refine ⟨keys_ensureKey g a ▸ nodup_setAdd _ a h.1, fun p hp => ?_⟩
  rcases mem_ensureKey.1 hp with hp | ⟨_, rfl⟩
  · exact h.2 p hp
  · exact List.nodup_nil

theorem arc_ensureKey (g : Graph) (a u v : Nat) : Arc (ensureKey g a) u v ↔ Arc g u v := by
  constructor
  · rintro ⟨p, hp, h1, h2⟩
    rcases mem_ensureKey.1 hp with hp | ⟨_, rfl⟩
    · exact ⟨p, hp, h1, h2⟩
    · exact absurd h2 List.not_mem_nil
  · rintro ⟨p, hp, h⟩
    exact ⟨p, mem_ensureKey.2 (Or.inl hp), h⟩

theorem addSucc_eq (g : Graph) (a b : Nat) :
    addSucc g a b = g.map fun p => (p.1, if p.1 = a then setAdd p.2 b else p.2) := by
  apply List.map_congr_left
  intro p _
  split <;> rfl

theorem keys_addSucc (g : Graph) (a b : Nat) : keys (addSucc g a b) = keys g := by
  simp [keys, addSucc_eq]

theorem dictOfSets_addSucc {g : Graph} (a b : Nat) (h : DictOfSets g) : DictOfSets (addSucc g a b) := by
  refine ⟨keys_addSucc g a b ▸ h.1, fun q hq => ?_⟩
  rw [addSucc_eq, List.mem_map] at hq
  obtain ⟨p, hp, rfl⟩ := hq
  dsimp only
  split
  · exact nodup_setAdd _ _ (h.2 p hp)
  · exact h.2 p hp

theorem arc_addSucc {g : Graph} {a : Nat} (b u v : Nat) (ha : a ∈ keys g) :
    Arc (addSucc g a b) u v ↔ Arc g u v ∨ (u = a ∧ v = b) := by
  simp only [Arc, addSucc_eq, List.mem_map, exists_exists_and_eq_and]
  constructor
  · rintro ⟨p, hp, h1, h2⟩
    split at h2
    · rename_i e
      rcases (mem_setAdd _ _ _).1 h2 with h | h
      · exact Or.inl ⟨p, hp, h1, h⟩
      · exact Or.inr ⟨h1 ▸ e, h⟩
    · exact Or.inl ⟨p, hp, h1, h2⟩
  · rintro (⟨p, hp, h1, h2⟩ | ⟨rfl, rfl⟩)
    · refine ⟨p, hp, h1, ?_⟩
      split
      · exact (mem_setAdd _ _ _).2 (Or.inl h2)
      · exact h2
    · obtain ⟨p, hp, e⟩ := List.mem_map.1 ha
      exact ⟨p, hp, e, by rw [if_pos e]; exact (mem_setAdd _ _ _).2 (Or.inr rfl)⟩

theorem addEdge_spec {g : Graph} (e : Nat × Nat) (h : DictOfSets g) :
    DictOfSets (addEdge g e) ∧ (∀ v, v ∈ keys (addEdge g e) ↔ v ∈ keys g ∨ v = e.1) ∧
    ∀ p : Nat × Nat, Arc (addEdge g e) p.1 p.2 ↔ Arc g p.1 p.2 ∨ p = e := by
  have hk : e.1 ∈ keys (ensureKey g e.1) := by
    rw [keys_ensureKey, mem_setAdd]
    exact Or.inr rfl
  refine ⟨dictOfSets_addSucc _ _ (dictOfSets_ensureKey _ h), fun v => ?_, fun p => ?_⟩
  · rw [addEdge, keys_addSucc, keys_ensureKey, mem_setAdd]
  · rw [addEdge, arc_addSucc _ _ _ hk, arc_ensureKey, Prod.ext_iff]

theorem precOne_eq (g : Graph) (s : List Nat) :
    precOne g s = match s.getLast? with
      | none => .error .indexError
      | some l => .ok (ensureKey ((pairs s).foldl addEdge g) l) := rfl

theorem precOne_spec {g g' : Graph} {s : List Nat} (h : DictOfSets g) (hs : precOne g s = .ok g') :
    DictOfSets g' ∧ (∀ v, v ∈ keys g' ↔ v ∈ keys g ∨ v ∈ s) ∧
    ∀ p : Nat × Nat, Arc g' p.1 p.2 ↔ Arc g p.1 p.2 ∨ p ∈ pairs s := by
  rw [precOne_eq] at hs
  cases hl : s.getLast? with
  | none => rw [hl] at hs; cases hs
  | some l =>
    rw [hl] at hs
    cases hs
    have hk := List.foldl_accum (f := addEdge) (Inv := DictOfSets) (M := fun v g => v ∈ keys g) (P := fun v p => v = p.1)
      (fun g e hg => ⟨(addEdge_spec e hg).1, (addEdge_spec e hg).2.1⟩) (pairs s) g h
    have hE := List.foldl_accum (f := addEdge) (Inv := DictOfSets) (M := fun (p : Nat × Nat) g => Arc g p.1 p.2)
      (P := fun p e => p = e)
      (fun g e hg => ⟨(addEdge_spec e hg).1, (addEdge_spec e hg).2.2⟩) (pairs s) g h
    refine ⟨dictOfSets_ensureKey l hk.1, fun v => ?_, fun p => ?_⟩
    · rw [keys_ensureKey, mem_setAdd, hk.2 v, mem_iff_pairs_or_last s v, hl]
      simp only [Option.some.injEq, or_assoc, eq_comm]
    · rw [arc_ensureKey, hE.2 p]
      simp only [exists_eq_right']

theorem precFold_spec {syns : List (List Nat)} {g0 g : Graph} (h0 : DictOfSets g0)
    (h : syns.foldlM precOne g0 = .ok g) :
    DictOfSets g ∧ (∀ v, v ∈ keys g ↔ v ∈ keys g0 ∨ ∃ s ∈ syns, v ∈ s) ∧
    ∀ p : Nat × Nat, Arc g p.1 p.2 ↔ Arc g0 p.1 p.2 ∨ ∃ s ∈ syns, p ∈ pairs s :=
  have hk := List.foldlM_accum (Inv := DictOfSets) (M := fun v g => v ∈ keys g) (P := fun v s => v ∈ s)
    (fun _ _ _ hg e => ⟨(precOne_spec hg e).1, (precOne_spec hg e).2.1⟩) syns g0 g h0 h
  have hE := List.foldlM_accum (Inv := DictOfSets) (M := fun (p : Nat × Nat) g => Arc g p.1 p.2) (P := fun p s => p ∈ pairs s)
    (fun _ _ _ hg e => ⟨(precOne_spec hg e).1, (precOne_spec hg e).2.2⟩) syns g0 g h0 h
  ⟨hk.1, hk.2, hE.2⟩

theorem precFold_total : ∀ (syns : List (List Nat)) (g0 : Graph),
    (∃ g, syns.foldlM precOne g0 = .ok g) ↔ ∀ s ∈ syns, s ≠ [] := by
  intro syns
  induction syns with
  | nil => intro g0; simp [pure, Except.pure]
  | cons s syns ih =>
    intro g0
    rw [List.foldlM_cons, List.forall_mem_cons, precOne_eq]
    cases hl : s.getLast? with
    | none => simp [List.getLast?_eq_none_iff.1 hl, bind, Except.bind]
    | some l =>
      have : s ≠ [] := fun e => by simp [e] at hl
      simp only [this, ne_eq, not_false_eq_true, true_and, bind, Except.bind]
      exact ih _

theorem precGraph_total (syns : List (List Nat)) :
    (∃ g, precGraph syns = .ok g) ↔ ∀ s ∈ syns, s ≠ [] :=
  precFold_total syns []

theorem precGraph_spec {syns : List (List Nat)} {g : Graph} (h : precGraph syns = .ok g) :
    WF g ∧ (∀ v, v ∈ keys g ↔ ∃ s ∈ syns, v ∈ s) ∧
    (∀ u v, Arc g u v ↔ ∃ s ∈ syns, (u, v) ∈ pairs s) := by
  obtain ⟨hg, hk, hE⟩ := precFold_spec (g0 := []) ⟨List.nodup_nil, fun _ hp => absurd hp List.not_mem_nil⟩ h
  have hk' : ∀ v, v ∈ keys g ↔ ∃ s ∈ syns, v ∈ s := by
    intro v; rw [hk v]; simp [keys]
  have hE' : ∀ u v, Arc g u v ↔ ∃ s ∈ syns, (u, v) ∈ pairs s := by
    intro u v; rw [hE (u, v)]; simp [Arc]
  refine ⟨⟨hg.1, fun p hp => ⟨hg.2 p hp, ?_⟩⟩, hk', hE'⟩
  intro v hv
  obtain ⟨s, hs, hp⟩ := (hE' p.1 v).1 ⟨p, hp, rfl, hv⟩
  exact (hk' v).2 ⟨s, hs, List.mem_of_mem_tail (List.of_mem_zip hp).2⟩

theorem precGraph_isTopo {syns : List (List Nat)} {g : Graph} (h : precGraph syns = .ok g)
    (o : List Nat) :
    IsTopo g o ↔ o.Nodup ∧ (∀ v, v ∈ o ↔ ∃ s ∈ syns, v ∈ s) ∧ ∀ s ∈ syns, s.Sublist o := by
  obtain ⟨_, hk, hE⟩ := precGraph_spec h
  constructor
  · rintro ⟨h1, h2, h3, h4⟩
    have hmem : ∀ v, v ∈ o ↔ ∃ s ∈ syns, v ∈ s := fun v =>
      ⟨fun hv => (hk v).1 (h2 v hv), fun hv => h3 v ((hk v).2 hv)⟩
    refine ⟨h1, hmem, ?_⟩
    intro s hs
    apply (pairs_ordered_iff_sublist h1 (fun x hx => (hmem x).2 ⟨s, hs, hx⟩)).1
    intro p hp
    obtain ⟨q, hq, e1, e2⟩ := (hE p.1 p.2).2 ⟨s, hs, hp⟩
    rw [← e1]
    exact h4 q hq p.2 e2
  · rintro ⟨h1, hmem, hsub⟩
    refine ⟨h1, fun v hv => (hk v).2 ((hmem v).1 hv), fun v hv => (hmem v).2 ((hk v).1 hv), ?_⟩
    intro q hq v hv
    obtain ⟨s, hs, hp⟩ := (hE q.1 v).1 ⟨q, hq, rfl, hv⟩
    exact (pairs_ordered_iff_sublist h1 (fun x hx => (hmem x).2 ⟨s, hs, hx⟩)).2 (hsub s hs) (q.1, v) hp

/-- `toposort_all(_make_prec_graph(syns))`, the composition the ordered solver calls: all a user
    outside this file needs of the precedence graph and of `toposort_all`. -/
theorem precOrders_spec {syns : List (List Nat)} (hne : ∀ s ∈ syns, s ≠ []) :
    ∃ g os, precGraph syns = .ok g ∧ toposortAll g = .ok os ∧ os.Nodup ∧
      ∀ o, o ∈ os ↔
        (o.Nodup ∧ (∀ v, v ∈ o ↔ ∃ s ∈ syns, v ∈ s) ∧ ∀ s ∈ syns, s.Sublist o) := by
  obtain ⟨g, hg⟩ := (precGraph_total syns).2 hne
  obtain ⟨os, h, hn, hm⟩ := toposortAll_spec (precGraph_spec hg).1
  exact ⟨g, os, hg, h, hn, fun o => (hm o).trans (precGraph_isTopo hg o)⟩

end SR.Toposort
