/-
  What the label solvers `spfs` / `uspfs` look at beyond cost and validity, under the maps of the
  C09 presentations (fields `lca` and `canon` of `Transfer`, `Present.lean`): the LCA mapping
  commutes with the induced maps and `sameMapping` is invariant, so the side condition of the
  base solvers is transported; `Spec.canonicalUn` is invariant too — under a flip the required
  content and the gains move with the positions (`Path.flipPos`).
-/
import SRVerif.Proofs.SwapObj
import SRVerif.Proofs.Outgroup
import SRVerif.Proofs.Optima
import SRVerif.Proofs.UnContent

namespace SR

open Path Spec

theorem lcaSol_flip : ∀ (o : OTree) (F : Path → Bool), lcaSol (o.flip F) = (lcaSol o).flip F := by
  intro o
  induction o with
  | leaf sp f => intro F; rfl
  | node l r ihl ihr =>
    intro F
    cases hF : F []
    · simp only [OTree.flip_node_false hF, lcaSol, Sol.flip_node_false hF, ihl, ihr, Sol.flip_sp]
    · simp only [OTree.flip_node_true hF, lcaSol, Sol.flip_node_true hF, ihl, ihr, Sol.flip_sp]
      rw [Path.lcp_comm]

theorem sameMapping_flip : ∀ (a b : Sol) (F : Path → Bool),
    sameMapping (a.flip F) (b.flip F) = sameMapping a b := by
  intro a
  induction a with
  | leaf s g =>
    intro b F
    cases b <;> cases hF : F [] <;>
      simp only [Sol.flip, hF, Bool.false_eq_true, if_false, if_true, sameMapping]
  | node s g l r ihl ihr =>
    intro b F
    cases b with
    | leaf s' g' =>
      cases hF : F [] <;>
        simp only [Sol.flip, hF, Bool.false_eq_true, if_false, if_true, sameMapping]
    | node s' g' l' r' =>
      cases hF : F []
      · simp only [Sol.flip_node_false hF, sameMapping, ihl, ihr]
      · simp only [Sol.flip_node_true hF, sameMapping, ihl, ihr]
        ac_rfl

theorem lcaSol_mapSp {φ : Path → Path} (h : PathEmb φ) : ∀ o : OTree,
    lcaSol (o.mapSp φ) = (lcaSol o).mapSp φ := by
  intro o
  induction o with
  | leaf sp f => rfl
  | node l r ihl ihr => simp only [OTree.mapSp, lcaSol, Sol.mapSp, ihl, ihr, Sol.mapSp_sp, h.lcp]

theorem sameMapping_mapSp {φ : Path → Path} (h : PathEmb φ) : ∀ a b : Sol,
    sameMapping (a.mapSp φ) (b.mapSp φ) = sameMapping a b := by
  intro a
  induction a with
  | leaf s g => intro b; cases b <;> simp only [Sol.mapSp, sameMapping, h.beq]
  | node s g l r ihl ihr =>
    intro b
    cases b with
    | leaf s' g' => rfl
    | node s' g' l' r' => simp only [Sol.mapSp, sameMapping, h.beq, ihl, ihr]

theorem og_unog_of_sameMapping : ∀ a b : Sol, sameMapping a (b.mapSp Path.og) = true →
    (a.mapSp Path.unog).mapSp Path.og = a := by
  intro a
  induction a with
  | leaf s g =>
    intro b h
    cases b with
    | node => simp [Sol.mapSp, sameMapping] at h
    | leaf s' g' =>
      simp only [Sol.mapSp, sameMapping, beq_iff_eq] at h
      subst h
      rfl
  | node s g l r ihl ihr =>
    intro b h
    cases b with
    | leaf => simp [Sol.mapSp, sameMapping] at h
    | node s' g' l' r' =>
      simp only [Sol.mapSp, sameMapping, Bool.and_eq_true, beq_iff_eq] at h
      obtain ⟨⟨rfl, hl⟩, hr⟩ := h
      simp only [Sol.mapSp, ihl l' hl, ihr r' hr]
      rfl

theorem requiredContent_mapSp (φ : Path → Path) (o : OTree) (p : Path) :
    requiredContent (o.mapSp φ) p = requiredContent o p := by
  simp [requiredContent, allowedContent_mapSp, leafPaths_mapSp]

theorem canonicalUn_mapSp (φ : Path → Path) (o : OTree) : ∀ (σ : Sol) (p : Path) (parent : List Nat),
    canonicalUn (o.mapSp φ) p parent (σ.mapSp φ) = canonicalUn o p parent σ := by
  intro σ
  induction σ with
  | leaf s g => intro p parent; rfl
  | node s g l r ihl ihr =>
    intro p parent
    simp only [Sol.mapSp, canonicalUn, requiredContent_mapSp, gainsAt_mapSp, ihl, ihr]

theorem mem_requiredContent_flip (o : OTree) (F : Path → Bool) (p : Path) (x : Nat) :
    x ∈ requiredContent (o.flip F) (Path.flipPos F p) ↔ x ∈ requiredContent o p := by
  simp only [requiredContent, List.mem_filter, mem_allowedContent_flip, List.any_eq_true,
    Bool.and_eq_true, List.contains_iff_mem, Prod.exists, mem_leafPaths_flip]
  constructor
  · rintro ⟨ha, q', fam, ⟨q, hq, rfl⟩, hanc, hx⟩
    rw [(Path.flipPos_emb F).isAnc] at hanc
    exact ⟨ha, q, fam, hq, hanc, hx⟩
  · rintro ⟨ha, q, fam, hq, hanc, hx⟩
    exact ⟨ha, _, fam, ⟨q, hq, rfl⟩, by rw [(Path.flipPos_emb F).isAnc]; exact hanc, hx⟩

theorem sortNat_required_flip (o : OTree) (F : Path → Bool) (p : Path) :
    sortNat (requiredContent (o.flip F) (Path.flipPos F p)) = sortNat (requiredContent o p) :=
  sortNat_congr (nodup_requiredContent _ _) (nodup_requiredContent _ _)
    (mem_requiredContent_flip o F p)

theorem sortNat_inherit_flip (o : OTree) (F : Path → Bool) (p : Path) (parent : List Nat) :
    sortNat (dedup (parent ++ gainsAt (o.flip F) (Path.flipPos F p))) =
      sortNat (dedup (parent ++ gainsAt o p)) :=
  sortNat_congr (nodup_dedup _) (nodup_dedup _) (fun x => by
    simp only [mem_dedup, List.mem_append, mem_gainsAt_flip])

theorem flipPos_isEmpty (F : Path → Bool) (p : Path) : (Path.flipPos F p).isEmpty = p.isEmpty := by
  cases p <;> rfl

theorem canonicalUn_flip (whole : OTree) (G : Path → Bool) : ∀ (σ : Sol) (p : Path) (parent : List Nat),
    canonicalUn (whole.flip G) (Path.flipPos G p) parent (σ.flip (fun q => G (p ++ q))) =
      canonicalUn whole p parent σ := by
  intro σ
  induction σ with
  | leaf s g => intro p parent; rfl
  | node s g l r ihl ihr =>
    intro p parent
    have il := ihl (p ++ [0]) g
    have ir := ihr (p ++ [1]) g
    rw [Path.flipPos_append] at il ir
    simp only [List.append_assoc, List.singleton_append] at il ir
    cases hG : G p
    · have hF : (fun q => G (p ++ q)) [] = false := by simp only [List.append_nil, hG]
      simp only [hG, Bool.false_eq_true, if_false] at il ir
      simp only [Sol.flip_node_false (F := fun q => G (p ++ q)) hF, canonicalUn,
        sortNat_required_flip, sortNat_inherit_flip, flipPos_isEmpty, il, ir]
    · have hF : (fun q => G (p ++ q)) [] = true := by simp only [List.append_nil, hG]
      have s0 : Path.swapNat 0 1 0 = 1 := rfl
      have s1 : Path.swapNat 0 1 1 = 0 := rfl
      simp only [hG, if_true, s0, s1] at il ir
      simp only [Sol.flip_node_true (F := fun q => G (p ++ q)) hF, canonicalUn,
        sortNat_required_flip, sortNat_inherit_flip, flipPos_isEmpty, il, ir]
      ac_rfl

end SR
