/-
  Simulation between annotated trees.  Each comparison of C10 sends the labellings one solver
  ranges over to labellings of another: the same masks or kinds from a base variant to the
  extended one (`map id`), the species mapping alone to the plain model (`map fun _ => ()`), the
  mask 1 or the kind LCA everywhere back (`map fun _ => 1`, `map fun _ => .lca`).
  `Sim A B f P t u` says node by node what makes such a map `LSol.map f` keep
  admissibility and the generic cost on labellings with labels in `P` (`Sim.transfer`); the
  instances are in `C10Base.lean`, `C10Single.lean`, `C10SingleUn.lean`.
-/
import SRVerif.Proofs.LabelDPThl

namespace SR.LSol

variable {Lab : Type}

/-- The labelling that carries `x` everywhere; the proofs write it `map fun _ => x`. -/
def lift (x : Lab) : LSol Unit → LSol Lab
  | .leaf s _ => .leaf s x
  | .node s _ l r => .node s x (lift x l) (lift x r)

@[simp] theorem lift_sp (x : Lab) (ls : LSol Unit) : (lift x ls).sp = ls.sp := by cases ls <;> rfl

variable {Lab' : Type}

/-- Relabel along `f`; `map fun _ => ()` is the species mapping of a labelled solution. -/
def map (f : Lab → Lab') : LSol Lab → LSol Lab'
  | .leaf s x => .leaf s (f x)
  | .node s x l r => .node s (f x) (map f l) (map f r)

@[simp] theorem map_sp (f : Lab → Lab') (ls : LSol Lab) : (ls.map f).sp = ls.sp := by
  cases ls <;> rfl

@[simp] theorem map_lab (f : Lab → Lab') (ls : LSol Lab) : (ls.map f).lab = f ls.lab := by
  cases ls <;> rfl

theorem map_id (ls : LSol Lab) : ls.map id = ls := by
  induction ls with
  | leaf s x => rfl
  | node s x l r ihl ihr => simp [map, ihl, ihr]

def All (P : Lab → Prop) : LSol Lab → Prop
  | .leaf _ m => P m
  | .node _ m l r => P m ∧ All P l ∧ All P r

theorem All.lab {P : Lab → Prop} {ls : LSol Lab} (h : All P ls) : P ls.lab := by
  cases ls with
  | leaf => exact h
  | node => exact h.1

theorem all_true (ls : LSol Lab) : ls.All fun _ => True := by
  induction ls with
  | leaf s x => trivial
  | node s x l r ihl ihr => exact ⟨trivial, ihl, ihr⟩

end SR.LSol

namespace SR.C10

open Cost Path

theorem ATree.data_node {α : Type} (a : α) (l r : ATree α) : (ATree.node a l r).data = a := rfl
theorem ATree.data_leaf {α : Type} (a : α) (sp : Path) : (ATree.leaf a sp).data = a := rfl

section Sim

variable {α β LA LB : Type}

def EdgeEq (A : LabelAlg α LA) (B : LabelAlg β LB) (f : LA → LB) (P : LA → Prop)
    (a ca : α) (b cb : β) : Prop :=
  ∀ x y, P x → P y → B.conserv b (f x) cb (f y) = A.conserv a x ca y ∧
    B.segment b (f x) cb (f y) = A.segment a x ca y

/-- `B` on `u` simulates `A` on `t` along `f`, for labellings with labels in `P`: same shape and
    leaves, `B` allows what `A` allows (species, and labels through `f`) and charges the same. -/
inductive Sim (A : LabelAlg α LA) (B : LabelAlg β LB) (f : LA → LB) (P : LA → Prop) :
    ATree α → ATree β → Prop
  | leaf (a : α) (b : β) (sp : Path) : f (A.leafLab a) = B.leafLab b →
      Sim A B f P (.leaf a sp) (.leaf b sp)
  | node {a : α} {b : β} {l r : ATree α} {l' r' : ATree β} :
      (∀ s ∈ A.allowed a, s ∈ B.allowed b) → (∀ x ∈ A.labs a, P x → f x ∈ B.labs b) →
      EdgeEq A B f P a l.data b l'.data → EdgeEq A B f P a r.data b r'.data →
      Sim A B f P l l' → Sim A B f P r r' → Sim A B f P (.node a l r) (.node b l' r')

variable {A : LabelAlg α LA} {B : LabelAlg β LB} {f : LA → LB} {P : LA → Prop}
  {t : ATree α} {u : ATree β}

theorem Sim.transfer (c : Costs) (h : Sim A B f P t u) : ∀ ls, Adm A t ls → ls.All P →
    Adm B u (ls.map f) ∧ labCost B c u (ls.map f) = labCost A c t ls := by
  induction h with
  | leaf a b sp hl =>
    intro ls adm _
    obtain rfl := adm.leaf_inv
    exact ⟨⟨rfl, hl⟩, rfl⟩
  | node hal hlabs hl hr _ _ ihl ihr =>
    intro ls adm hP
    obtain ⟨s, x, y, z, rfl, hs, hx, ay, az⟩ := adm.node_inv
    obtain ⟨px, py, pz⟩ := hP
    obtain ⟨ay', cy⟩ := ihl y ay py
    obtain ⟨az', cz⟩ := ihr z az pz
    refine ⟨⟨hal s hs, hlabs x hx px, ay', az'⟩, ?_⟩
    simp only [LSol.map, labCost, genLocal, LSol.map_sp, LSol.map_lab, cy, cz,
      hl x y.lab px py.lab, hr x z.lab px pz.lab]

theorem Sim.transfer_id {B : LabelAlg β LA} {u : ATree β} (c : Costs)
    (h : Sim A B id (fun _ => True) t u) (ls : LSol LA) (adm : Adm A t ls) :
    Adm B u ls ∧ labCost B c u ls = labCost A c t ls := by
  have := h.transfer c ls adm ls.all_true
  rwa [LSol.map_id] at this

end Sim

/-! `annOrd` and `annUn` allow the same species at the root of a subtree `o'` (`alB`): all of `S`
  (extended variants) or the LCA image alone (base variants).  The plain tree `annP al o` with
  arbitrary allowed lists is the common target: `al := fun _ => allSpecies S` is `annPlain`, and
  with `al o' := [(lcaSol o').sp]` only the LCA mapping is admissible. -/

def alB (S : RTree) (base : Bool) (o : OTree) : List Path :=
  if base then [(lcaSol o).sp] else (allSpecies S).reverse

def annP (al : OTree → List Path) : OTree → ATree (List Path)
  | .leaf sp f => .leaf (al (.leaf sp f)) sp
  | .node l r => .node (al (.node l r)) (annP al l) (annP al r)

theorem annPlain_eq (S : RTree) (o : OTree) : annPlain S o = annP (fun _ => allSpecies S) o := by
  induction o with
  | leaf sp f => rfl
  | node l r ihl ihr => simp only [annPlain, annP, ihl, ihr]

theorem adm_annP_lca (o : OTree) (ls : LSol Unit) :
    Adm thlAlg (annP (fun o' => [(lcaSol o').sp]) o) ls ↔ ls = toLSol (lcaSol o) := by
  induction o generalizing ls with
  | leaf sp f =>
    constructor
    · intro h; exact h.leaf_inv
    · rintro rfl; exact ⟨rfl, rfl⟩
  | node l r ihl ihr =>
    constructor
    · intro h
      obtain ⟨s, u, x, y, rfl, hs, _, ax, ay⟩ := h.node_inv
      rw [(ihl x).mp ax, (ihr y).mp ay, List.mem_singleton.mp hs]
      rfl
    · rintro rfl
      exact ⟨List.mem_singleton.mpr rfl, List.mem_singleton.mpr rfl, (ihl _).mpr rfl, (ihr _).mpr rfl⟩

theorem labCost_annP (c : Costs) (al al' : OTree → List Path) (o : OTree) : ∀ ls : LSol Unit,
    labCost thlAlg c (annP al o) ls = labCost thlAlg c (annP al' o) ls := by
  induction o with
  | leaf sp f => intro ls; cases ls <;> rfl
  | node l r ihl ihr =>
    intro ls
    cases ls with
    | leaf => rfl
    | node s u x y => simp only [annP, labCost, ihl x, ihr y]; rfl

end SR.C10
