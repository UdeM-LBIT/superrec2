/-
  C12 (bridge, names): from `label_internal` to `Naming.Ok`, the interface hypothesis of the
  cost-line theorems.  The CLI runs `label_internal` on the input before solving; the pass keeps
  shape and colours, and the labelled tree is the coloured embedded tree of its own names and
  colours, so what holds of its nodes (unique, safe names; safe colours) holds of its name and
  colour functions on the paths of its shape — the clauses of `Naming.Ok` and `Colouring.Ok`.
-/
import SRVerif.Proofs.SolOutputColour
import SRVerif.Proofs.Cli

namespace SR.SolOut

open SR SR.Ser SR.Cli

/-- A node as path and colour: what `label_internal` leaves untouched. -/
def tagCol (x : Path × NT) : Path × Option String := (x.1, x.2.color)

mutual
  theorem setNames_keeps : ∀ (t : NT) (l : List String),
      shapeNT (setNames t l).1 = shapeNT t ∧ (setNames t l).1.pre.map tagCol = t.pre.map tagCol
    | .node n c cs, [] => by simp only [setNames, and_self]
    | .node n c cs, x :: r => by
      have h := setNamesL_keeps cs r
      simp only [setNames, shapeNT, NT.pre, List.map_cons, h.1, h.2 0]
      exact ⟨trivial, rfl⟩
  theorem setNamesL_keeps : ∀ (cs : List NT) (l : List String),
      shapeL (setNamesL cs l).1 = shapeL cs ∧
      ∀ k, (NT.preL (setNamesL cs l).1 k).map tagCol = (NT.preL cs k).map tagCol
    | [], l => by simp only [setNamesL, and_self, implies_true]
    | c :: cs, l => by
      have h1 := setNames_keeps c l
      have h2 := setNamesL_keeps cs (setNames c l).2
      refine ⟨by simp only [setNamesL, shapeL, h1.1, h2.1], fun k => ?_⟩
      simp only [setNamesL, NT.preL, List.map_append, List.map_map, h2.2 (k + 1)]
      congr 1
      have e : (tagCol ∘ fun x : Path × NT => (k :: x.1, x.2))
          = (fun y : Path × Option String => (k :: y.1, y.2)) ∘ tagCol := rfl
      rw [e, ← List.map_map, h1.2, List.map_map]
end

theorem shape_labelTree (pfx : String) (t : NT) : shapeNT (labelTree pfx t) = shapeNT t :=
  (setNames_keeps t _).1

theorem colours_labelTree (pfx : String) (t : NT) :
    (labelTree pfx t).pre.map tagCol = t.pre.map tagCol := (setNames_keeps t _).2

/-- The two clauses of `Naming.Ok` for one tree and its own name function. -/
theorem naming_of_tree {t : NT} (hu : t.UniqueNames) (hs : ∀ x ∈ t.names, NT.safeStr x = true) :
    (∀ p ∈ (shapeNT t).preorder, ∀ q ∈ (shapeNT t).preorder, nameFn t p = nameFn t q → p = q) ∧
    (∀ p ∈ (shapeNT t).preorder, NT.safeStr (nameFn t p) = true) :=
  ⟨(uniqueNames_ntOfC_iff _ (colFn t) _).mp (by rw [ntOfC_self]; exact hu),
   (forall_pre_self (fun n _ => NT.safeStr n = true) t).mp fun _ hx => hs _ (List.mem_map_of_mem hx)⟩

/-- The form of the two clauses of `Colouring.Ok`. -/
theorem colSafe_self {t : NT} (h : ∀ x ∈ t.pre, ∀ c, x.2.color = some c → NT.safeStr c = true) :
    ∀ p ∈ (shapeNT t).preorder, ∀ c, colFn t p = some c → NT.safeStr c = true :=
  (forall_pre_self (fun _ k => ∀ c, k = some c → NT.safeStr c = true) t).mp h

theorem labelNames_safe {pfx : String} (hp : pfx.toList.all NT.safeChar = true) (l : List String)
    (hs : ∀ x ∈ l, isUnnamed x = false → NT.safeStr x = true) :
    ∀ x ∈ labelNames pfx l, NT.safeStr x = true := by
  intro x hx
  rcases mem_labelNames hx with ⟨hm, hu⟩ | ⟨k, rfl⟩
  · exact hs x hm hu
  · exact safeStr_mkName hp k

theorem labelTree_self (pfx : String) (t : NT) :
    ntOfC (nameFn (labelTree pfx t)) (colFn (labelTree pfx t)) (shapeNT t) = labelTree pfx t := by
  rw [← shape_labelTree pfx t, ntOfC_self]

theorem colSafe_labelTree (pfx : String) {t : NT}
    (h : ∀ x ∈ t.pre, ∀ c, x.2.color = some c → NT.safeStr c = true) :
    ∀ p ∈ (shapeNT t).preorder, ∀ c, colFn (labelTree pfx t) p = some c → NT.safeStr c = true := by
  have e := fun l => List.forall_mem_map (f := tagCol) (l := l)
    (P := fun y => ∀ c, y.2 = some c → NT.safeStr c = true)
  have := colSafe_self ((e _).mp (colours_labelTree pfx t ▸ (e _).mpr h))
  rwa [shape_labelTree] at this

end SR.SolOut
