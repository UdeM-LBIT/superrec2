/-
  Greedy wrapping keeps the words in order (`wrap_flatten`) and every line with more than one word
  within the width (`wrap_width`); `balanced_wrap` returns a greedy wrapping at some positive
  width not above the requested one, with the same number of lines (`balancedWrap_spec`); joining the lines' texts by spaces gives
  the text of all the words (`lineText_join`).  At the end: wrapping a text (`balancedWrapText`)
  only rearranges its characters and adds those of the separator.
-/
import SRVerif.Proofs.TikzJoin
import SRVerif.Proofs.ListAux

namespace SR.Tikz

theorem lineLen_cons_cons (w v : Word) (r : Line) :
    lineLen (w :: v :: r) = w.length + 1 + lineLen (v :: r) := rfl

theorem lineLen_snoc (w : Word) (l : Line) (v : Word) :
    lineLen (w :: l ++ [v]) = lineLen (w :: l) + 1 + v.length := by
  induction l generalizing w with
  | nil => simp [lineLen]
  | cons x r ih =>
    rw [List.cons_append, List.cons_append, lineLen_cons_cons, lineLen_cons_cons,
      ← List.cons_append, ih x]
    omega

theorem wrapFrom_flatten (width : Nat) (ws : List Word) (first : Word) (acc : List Word) (len : Nat) :
    (wrapFrom width first acc len ws).flatten = first :: acc.reverse ++ ws := by
  induction ws generalizing first acc len with
  | nil => simp [wrapFrom]
  | cons w r ih =>
    simp only [wrapFrom]
    split
    · rw [ih]; simp
    · rw [List.flatten_cons, ih]; simp

theorem wrap_flatten (width : Nat) (ws : List Word) : (wrap width ws).flatten = ws := by
  cases ws with
  | nil => rfl
  | cons w r => simp [wrap, wrapFrom_flatten]

theorem wrapFrom_ne_nil (width : Nat) (ws : List Word) (first : Word) (acc : List Word) (len : Nat) :
    ∀ l ∈ wrapFrom width first acc len ws, l ≠ [] := by
  induction ws generalizing first acc len with
  | nil => simp [wrapFrom]
  | cons w r ih =>
    simp only [wrapFrom]
    split
    · exact ih _ _ _
    · intro l hl
      rcases List.mem_cons.1 hl with h | h
      · simp [h]
      · exact ih _ _ _ l h

theorem wrap_ne_nil (width : Nat) (ws : List Word) : ∀ l ∈ wrap width ws, l ≠ [] := by
  cases ws with
  | nil => simp [wrap]
  | cons w r => exact wrapFrom_ne_nil width r w [] _

theorem wrapFrom_width (width : Nat) (ws : List Word) (first : Word) (acc : List Word) (len : Nat)
    (hlen : len = lineLen (first :: acc.reverse)) (hfit : len ≤ width ∨ acc = []) :
    ∀ l ∈ wrapFrom width first acc len ws, lineLen l ≤ width ∨ l.length = 1 := by
  induction ws generalizing first acc len with
  | nil =>
    intro l hl
    simp only [wrapFrom, List.mem_singleton] at hl
    subst hl
    rcases hfit with h | h
    · left; omega
    · right; simp [h]
  | cons w r ih =>
    simp only [wrapFrom]
    split
    · rename_i hle
      apply ih
      · rw [List.reverse_cons, ← List.cons_append, lineLen_snoc, ← hlen]
      · left; exact hle
    · intro l hl
      rcases List.mem_cons.1 hl with h | h
      · subst h
        rcases hfit with h' | h'
        · left; omega
        · right; simp [h']
      · exact ih w [] w.length (by simp [lineLen]) (Or.inr rfl) l h

theorem wrap_width (width : Nat) (ws : List Word) :
    ∀ l ∈ wrap width ws, lineLen l ≤ width ∨ l.length = 1 := by
  cases ws with
  | nil => simp [wrap]
  | cons w r => exact wrapFrom_width width r w [] _ (by simp [lineLen]) (Or.inr rfl)

theorem bwLoop_spec (ws : List Word) (count W : Nat) (cur : Nat) (best : List Line) (bad : Nat)
    (hcur : cur ≤ W)
    (hbest : ∃ w', 0 < w' ∧ w' ≤ W ∧ best = wrap w' ws ∧ best.length = count) :
    ∃ w', 0 < w' ∧ w' ≤ W ∧ bwLoop ws count cur best bad = wrap w' ws ∧
      (bwLoop ws count cur best bad).length = count := by
  induction cur generalizing best bad with
  | zero => simpa [bwLoop] using hbest
  | succ w ih =>
    simp only [bwLoop]
    split
    · exact hbest
    · rename_i hw
      split
      · exact hbest
      · rename_i hc
        split
        · exact ih _ _ (by omega) ⟨w, by omega, by omega, rfl, by simpa using hc⟩
        · exact ih _ _ (by omega) hbest

theorem balancedWrap_spec (width : Nat) (ws : List Word) (ls : List Line)
    (h : balancedWrap width ws = some ls) :
    ∃ w', 0 < w' ∧ w' ≤ width ∧ ls = wrap w' ws ∧ ls.length = (wrap width ws).length := by
  simp only [balancedWrap] at h
  split at h
  · cases h
  · rename_i hw
    simp only [Option.some.injEq] at h
    subst h
    exact bwLoop_spec ws _ width width _ _ (Nat.le_refl _)
      ⟨width, by omega, Nat.le_refl _, rfl, rfl⟩

theorem balancedWrap_isSome (width : Nat) (ws : List Word) (h : 0 < width) :
    (balancedWrap width ws).isSome = true := by
  simp [balancedWrap]; omega

theorem lineText_length (l : Line) : (lineText l).length = lineLen l := by
  induction l with
  | nil => rfl
  | cons w r ih =>
    cases r with
    | nil => simp [lineText, List.intercalate, lineLen]
    | cons v t =>
      have : lineText (w :: v :: t) = w ++ ' ' :: lineText (v :: t) := by
        simp [lineText, List.intercalate, List.intersperse]
      rw [this, lineLen_cons_cons, ← ih]
      simp; omega

theorem lineText_join (ls : List Line) (h : ∀ l ∈ ls, l ≠ []) :
    List.intercalate [' '] (ls.map lineText) = lineText ls.flatten := by
  induction ls with
  | nil => rfl
  | cons l r ih =>
    have ihr := ih (fun x hx => h x (List.mem_cons_of_mem _ hx))
    cases r with
    | nil => simp [List.intercalate]
    | cons l2 r2 =>
      have hl : l ≠ [] := h l (by simp)
      have hl2 : l2 ≠ [] := h l2 (by simp)
      rw [List.map_cons, List.map_cons, List.intercalate_cons_cons, ← List.map_cons, ihr]
      have hne : (l2 :: r2).flatten ≠ [] := by
        cases l2 with
        | nil => exact absurd rfl hl2
        | cons a b => simp
      rw [List.flatten_cons]
      exact (intercalate_append [' '] hl hne).symm

theorem splitSpaces_ne_nil (s : Str) : splitSpaces s ≠ [] := by
  induction s with
  | nil => simp [splitSpaces]
  | cons c r ih =>
    simp only [splitSpaces]
    split
    · simp
    · split <;> simp

theorem lineText_splitSpaces (s : Str) : lineText (splitSpaces s) = s := by
  induction s with
  | nil => rfl
  | cons c r ih =>
    simp only [splitSpaces]
    split
    · rename_i hc
      cases hs : splitSpaces r with
      | nil => exact absurd hs (splitSpaces_ne_nil r)
      | cons w ws =>
        rw [hs] at ih
        simp only [lineText] at ih ⊢
        rw [List.intercalate_cons_cons, ih, hc]; rfl
    · cases hs : splitSpaces r with
      | nil => exact absurd hs (splitSpaces_ne_nil r)
      | cons w ws =>
        rw [hs] at ih
        simp only [lineText] at ih ⊢
        cases ws with
        | nil => simp [List.intercalate] at ih ⊢; exact ih
        | cons v vs =>
          rw [List.intercalate_cons_cons] at ih ⊢
          simp [← ih]

theorem balancedWrapText_chars {sep text out : Str} {w : Nat}
    (h : balancedWrapText sep w text = some out) : ∀ c ∈ out, c ∈ sep ∨ c ∈ text := by
  intro c hc
  unfold balancedWrapText at h
  split at h
  · simp only [Option.some.injEq] at h; subst h; cases hc
  · simp only [Option.map_eq_some_iff] at h
    obtain ⟨ls, hls, rfl⟩ := h
    obtain ⟨w', _, _, rfl, _⟩ := balancedWrap_spec w _ ls hls
    rcases List.mem_intercalate.mp hc with ⟨h, _⟩ | ⟨x, hx, hcx⟩
    · exact Or.inl h
    · -- the lines, joined by spaces, are the text again
      obtain ⟨line, hline, rfl⟩ := List.mem_map.1 hx
      right
      rw [← lineText_splitSpaces text, ← wrap_flatten w' (splitSpaces text),
        ← lineText_join _ (wrap_ne_nil w' _)]
      exact List.mem_intercalate.mpr (.inr ⟨_, List.mem_map_of_mem hline, hcx⟩)

theorem balancedWrapText_braceFree {sep text out : Str} {w : Nat} (hs : braceFree sep = true)
    (ht : braceFree text = true) (h : balancedWrapText sep w text = some out) :
    braceFree out = true := by
  simp only [braceFree, List.all_eq_true] at hs ht ⊢
  intro c hc
  rcases balancedWrapText_chars h c hc with h' | h'
  · exact hs c h'
  · exact ht c h'

end SR.Tikz
