/-
  Lemmas on the table model (`Model/Table.lean`): what walking a path, indexing
  and each kind of access do to the state of a table.  Addresses: `visited` (the dictionary keys a
  walk reads), `isAddr`.  Every effect on the state is stated as `Ext P F t t'` (cells transformed
  by `F`, dictionary keys added from `P`; `ExtP` when no cell changes); indexing by its loop
  invariant `IndexInv`.
-/
import SRVerif.Model.Table
import SRVerif.Proofs.ListAux

namespace SR.DP

theorem touch_eq_addNew : touch = List.addNew := rfl

theorem getCell_eq_lookup {τ : Type} (cells : List (List Key × Entry τ)) (a : List Key) :
    getCell cells a = cells.lookup a := by
  induction cells with
  | nil => rfl
  | cons p cells ih =>
    rw [List.lookup_cons_eq_ite, ← ih, getCell, getCell, List.find?_cons]
    by_cases e : p.1 = a
    · rw [decide_eq_true e, if_pos e]; rfl
    · rw [decide_eq_false e, if_neg e]

variable {τ : Type}

theorem getCell_putCell (cells : List (List Key × Entry τ)) (a b : List Key) (e : Entry τ) :
    getCell (putCell cells a e) b = if b = a then some e else getCell cells b := by
  rw [getCell_eq_lookup, getCell_eq_lookup, putCell, List.lookup_cons_eq_ite,
    List.lookup_filter_key (fun k => !decide (k = a))]
  by_cases h : b = a
  · rw [if_pos h, if_pos h.symm]
  · rw [if_neg h, if_neg (Ne.symm h), if_pos (by simpa using h)]

/-- The dictionary keys a walk along `ks` reads. -/
def visited (ds : List Dim) (ks : List Key) : List (List Key) := (resolveFrom ds ks []).1

theorem resolveFrom_append (ds : List Dim) (ks ks2 pre : List Key) :
    resolveFrom ds (ks ++ ks2) pre =
      match (resolveFrom ds ks pre).2 with
      | .error e => ((resolveFrom ds ks pre).1, .error e)
      | .ok a =>
        ((resolveFrom ds ks pre).1 ++ (resolveFrom (ds.drop ks.length) ks2 a).1,
          (resolveFrom (ds.drop ks.length) ks2 a).2) := by
  induction ks generalizing ds pre with
  | nil => simp [resolveFrom]
  | cons k ks ih =>
    cases ds with
    | nil => simp [resolveFrom]
    | cons d ds =>
      simp only [List.cons_append, resolveFrom, List.length_cons, List.drop_succ_cons]
      cases normKey d k with
      | error e => rfl
      | ok k' =>
        simp only [ih]
        cases (resolveFrom ds ks (pre ++ [k'])).2 <;> split <;> rfl

theorem resolveFrom_ok (ds : List Dim) (ks pre a : List Key)
    (h : (resolveFrom ds ks pre).2 = .ok a) :
    ∃ s, a = pre ++ s ∧ s.length = ks.length ∧ ks.length ≤ ds.length := by
  induction ks generalizing ds pre with
  | nil => exact ⟨[], by simpa [resolveFrom, eq_comm] using h, rfl, Nat.zero_le _⟩
  | cons k ks ih =>
    cases ds with
    | nil => simp [resolveFrom] at h
    | cons d ds =>
      simp only [resolveFrom] at h
      cases hn : normKey d k with
      | error e => simp [hn] at h
      | ok k' =>
        simp only [hn] at h
        obtain ⟨s, rfl, hs, hl⟩ := ih ds _ h
        exact ⟨k' :: s, by rw [List.append_assoc]; rfl, congrArg (· + 1) hs, Nat.succ_le_succ hl⟩

theorem mem_resolveFrom_fst (ds : List Dim) (ks pre p : List Key) :
    p ∈ (resolveFrom ds ks pre).1 ↔
      ∃ n, n < ks.length ∧ ds[n]? = some .dict ∧ (resolveFrom ds (ks.take (n + 1)) pre).2 = .ok p := by
  induction ks generalizing ds pre with
  | nil => simp [resolveFrom]
  | cons k ks ih =>
    cases ds with
    | nil => simp [resolveFrom]
    | cons d ds =>
      simp only [resolveFrom, List.take_succ_cons]
      cases hn : normKey d k with
      | error e => simp
      | ok k' =>
        have hif : p ∈ (if d = .dict then (pre ++ [k']) :: (resolveFrom ds ks (pre ++ [k'])).1
              else (resolveFrom ds ks (pre ++ [k'])).1) ↔
            (d = .dict ∧ pre ++ [k'] = p) ∨ p ∈ (resolveFrom ds ks (pre ++ [k'])).1 := by
          by_cases hd : d = .dict
          · rw [if_pos hd, List.mem_cons]
            exact or_congr_left ⟨fun h => ⟨hd, h.symm⟩, fun h => h.2.symm⟩
          · rw [if_neg hd]
            exact (or_iff_right fun h => hd h.1).symm
        rw [hif, ih]
        constructor
        · rintro (⟨hd, hp⟩ | ⟨n, h1, h2, h3⟩)
          · exact ⟨0, Nat.succ_pos _, congrArg some hd, by simp [resolveFrom, hp]⟩
          · exact ⟨n + 1, Nat.succ_lt_succ h1, h2, h3⟩
        · rintro ⟨n, h1, h2, h3⟩
          cases n with
          | zero => exact .inl ⟨Option.some.inj h2, by simpa [resolveFrom] using h3⟩
          | succ n => exact .inr ⟨n, Nat.lt_of_succ_lt_succ h1, h2, h3⟩

theorem visited_prefix (ds : List Dim) (ks ks2 : List Key) :
    ∀ p ∈ visited ds ks, p ∈ visited ds (ks ++ ks2) := by
  intro p hp
  rw [visited, resolveFrom_append]
  split
  · exact hp
  · exact List.mem_append_left _ hp

theorem addr_prefix_ok (ds : List Dim) (ks ks2 a : List Key) (h : addr ds (ks ++ ks2) = .ok a) :
    ∃ a', addr ds ks = .ok a' := by
  rw [addr, resolveFrom_append] at h
  cases h' : (resolveFrom ds ks []).2 with
  | error e => rw [h'] at h; cases h
  | ok a' => exact ⟨a', h'⟩

theorem addr_prefix_err (ds : List Dim) (ks ks2 : List Key) (e : PyErr) (h : addr ds ks = .error e) :
    addr ds (ks ++ ks2) = .error e := by
  rw [addr] at h
  rw [addr, resolveFrom_append, h]

theorem addr_length (ds : List Dim) (ks a : List Key) (h : addr ds ks = .ok a) :
    a.length = ks.length ∧ ks.length ≤ ds.length := by
  obtain ⟨s, rfl, hs, hl⟩ := resolveFrom_ok ds ks [] a h
  exact ⟨hs, hl⟩

theorem addr_take (ds : List Dim) (ks a : List Key) (n : Nat) (h : addr ds ks = .ok a) (hn : n ≤ ks.length) :
    addr ds (ks.take n) = .ok (a.take n) := by
  rw [addr, ← List.take_append_drop n ks, resolveFrom_append] at h
  cases h1 : (resolveFrom ds (ks.take n) []).2 with
  | error e => rw [h1] at h; cases h
  | ok a1 =>
    rw [h1] at h
    obtain ⟨s1, rfl, hs1, -⟩ := resolveFrom_ok _ _ _ _ h1
    obtain ⟨s, rfl, -, -⟩ := resolveFrom_ok _ _ _ _ h
    rw [List.length_take, Nat.min_eq_left hn] at hs1
    rw [addr, h1, ← hs1, List.take_left']
    rfl

theorem mem_visited (ds : List Dim) (ks p : List Key) :
    p ∈ visited ds ks ↔
      ∃ n, n < ks.length ∧ ds[n]? = some .dict ∧ addr ds (ks.take (n + 1)) = .ok p :=
  mem_resolveFrom_fst ds ks [] p

theorem visited_length_le (ds : List Dim) (ks p : List Key) (hp : p ∈ visited ds ks) : p.length ≤ ks.length := by
  obtain ⟨n, hn, _, ha⟩ := (mem_visited ds ks p).1 hp
  have := (addr_length ds _ p ha).1
  simp at this
  omega

/-- Is `a` the normalised address of the raw path `ks`? -/
def isAddr (ds : List Dim) (ks a : List Key) : Bool :=
  match addr ds ks with
  | .ok a' => decide (a' = a)
  | .error _ => false

theorem isAddr_iff (ds : List Dim) (ks a : List Key) : isAddr ds ks a = true ↔ addr ds ks = .ok a := by
  unfold isAddr
  cases h : addr ds ks with
  | error e => simp
  | ok a' =>
    simp only [decide_eq_true_eq]
    constructor
    · intro h'; rw [h']
    · intro h'; injection h'

/-- `t'` is `t` where each cell `a` has been transformed by `F a` and where dictionary keys taken
    from `P` have been created (appended, in some order). -/
structure Ext (P : List (List Key)) (F : List Key → Cell τ → Cell τ) (t t' : Table τ) : Prop where
  dims : t'.dims = t.dims
  merge : t'.merge = t.merge
  retain : t'.retain = t.retain
  cells : ∀ a, getCell t'.cells a = F a (getCell t.cells a)
  touched : ∃ l, t'.touched = t.touched ++ l ∧ ∀ p ∈ l, p ∈ P

/-- Nothing written. -/
abbrev ExtP (P : List (List Key)) (t t' : Table τ) : Prop := Ext P (fun _ c => c) t t'

theorem ExtP.refl (P : List (List Key)) (t : Table τ) : ExtP P t t :=
  ⟨rfl, rfl, rfl, fun _ => rfl, [], by simp, by simp⟩

theorem Ext.mono {P Q : List (List Key)} {F : List Key → Cell τ → Cell τ} {t t' : Table τ}
    (h : Ext P F t t') (hPQ : ∀ p ∈ P, p ∈ Q) : Ext Q F t t' := by
  obtain ⟨h1, h2, h3, h4, l, h5, h6⟩ := h
  exact ⟨h1, h2, h3, h4, l, h5, fun p hp => hPQ p (h6 p hp)⟩

theorem Ext.congr {P : List (List Key)} {F G : List Key → Cell τ → Cell τ} {t t' : Table τ}
    (h : Ext P F t t') (hFG : ∀ a c, F a c = G a c) : Ext P G t t' := by
  obtain ⟨h1, h2, h3, h4, h5⟩ := h
  exact ⟨h1, h2, h3, fun a => by rw [h4, hFG], h5⟩

/-- `Ext` composes: the keys created add up, the cell transformers compose.  This is what lets a
    whole history be treated as one step (`Table.run_ext`). -/
theorem Ext.comp {P Q : List (List Key)} {F G : List Key → Cell τ → Cell τ} {t t1 t2 : Table τ}
    (h : Ext P F t t1) (h' : Ext Q G t1 t2) : Ext (P ++ Q) (fun a c => G a (F a c)) t t2 := by
  obtain ⟨h1, h2, h3, h4, l, h5, h6⟩ := h
  obtain ⟨g1, g2, g3, g4, l', g5, g6⟩ := h'
  refine ⟨g1.trans h1, g2.trans h2, g3.trans h3, fun a => by rw [g4, h4], l ++ l',
    by rw [g5, h5, List.append_assoc], fun p hp => List.mem_append.mpr ?_⟩
  exact (List.mem_append.mp hp).imp (h6 p) (g6 p)

/-- A step that writes nothing, then any step, within the same `P` (the general composition is
    `Ext.comp`). -/
theorem Ext.trans {P : List (List Key)} {F : List Key → Cell τ → Cell τ} {t t1 t2 : Table τ}
    (h : ExtP P t t1) (h' : Ext P F t1 t2) : Ext P F t t2 :=
  (h.comp h').mono fun _ hp => (List.mem_append.mp hp).elim id id

theorem foldl_touch (tch vis : List (List Key)) :
    ∃ l, vis.foldl touch tch = tch ++ l ∧ ∀ p ∈ l, p ∈ vis :=
  let ⟨l, h, hs⟩ := List.foldl_addNew_eq_append_sublist (l := vis) (acc := tch)
  ⟨l, h, fun _ hp => hs.subset hp⟩

theorem mem_foldl_touch (tch vis : List (List Key)) (p : List Key) :
    p ∈ vis.foldl touch tch ↔ p ∈ tch ∨ p ∈ vis :=
  List.mem_foldl_addNew

theorem nodup_foldl_touch (tch vis : List (List Key)) (h : tch.Nodup) : (vis.foldl touch tch).Nodup :=
  List.nodup_foldl_addNew h

namespace Table

theorem walk_snd (t : Table τ) (ks : List Key) : (t.walk ks).2 = addr t.dims ks := rfl

theorem walk_ext (t : Table τ) (ks : List Key) : ExtP (visited t.dims ks) t (t.walk ks).1 := by
  refine ⟨rfl, rfl, rfl, fun _ => rfl, ?_⟩
  exact foldl_touch t.touched (visited t.dims ks)

theorem walk_touched (t : Table τ) (ks : List Key) (p : List Key) :
    p ∈ (t.walk ks).1.touched ↔ p ∈ t.touched ∨ p ∈ visited t.dims ks :=
  mem_foldl_touch t.touched (visited t.dims ks) p

/-- The selection `keys()` makes among the existing dictionary keys, below the normalised prefix `a`. -/
def keySel (a : List Key) (p : List Key) : Option Key :=
  if p.length = a.length + 1 ∧ p.take a.length = a then p.getLast? else none

theorem mem_keysFilter (L : List (List Key)) (a : List Key) (k : Key) :
    k ∈ L.filterMap (keySel a) ↔ a ++ [k] ∈ L := by
  simp only [List.mem_filterMap, keySel]
  constructor
  · rintro ⟨p, hp, h⟩
    split at h
    · rename_i hc
      obtain ⟨hl, ht⟩ := hc
      have hne : p ≠ [] := by intro h0; subst h0; simp at hl
      have hk : p.getLast hne = k := by
        rw [List.getLast?_eq_some_getLast hne] at h
        injection h
      have : p = a ++ [k] := by
        rw [← List.dropLast_concat_getLast hne, hk, List.dropLast_eq_take, hl]
        simp [ht]
      rw [← this]; exact hp
    · simp at h
  · intro h
    exact ⟨a ++ [k], h, by simp⟩

/- `getReal`, `keysAt` and `updateAt` walk the path and then look at the address reached:
    their results in terms of `walk` and `addr`. -/
theorem getReal_eq (t : Table τ) (key : List Key) :
    t.getReal key = ((t.walk key).1, (addr t.dims key).map (getCell t.cells)) := by
  unfold getReal; dsimp only [walk, addr]
  cases (resolveFrom t.dims key []).2 <;> rfl

theorem keysAt_eq (t : Table τ) (pre : List Key) :
    t.keysAt pre = ((t.walk pre).1,
      match addr t.dims pre with
      | .error e => .error e
      | .ok a =>
        match t.dims[pre.length]? with
        | none => .error .attributeError
        | some (.list n) => .ok ((List.range n).map (fun i => Key.int (i : Nat)))
        | some .dict => .ok ((t.walk pre).1.touched.filterMap (keySel a))) := by
  unfold keysAt; dsimp only [walk, addr]
  cases (resolveFrom t.dims pre []).2 with
  | error e => rfl
  | ok a =>
    dsimp only
    cases t.dims[pre.length]? with
    | none => rfl
    | some d => cases d <;> rfl

variable [DecidableEq τ] in
theorem updateAt_eq (t : Table τ) (key : List Key) (b : List (Cand τ))
    (hfin : b.any (fun x => !x.value.isInfinite) = true) :
    t.updateAt key b =
      match addr t.dims key with
      | .error e => ((t.walk key).1, .error e)
      | .ok a =>
        ({ (t.walk key).1 with
            cells := putCell t.cells a
              (Entry.update ((getCell t.cells a).getD (Entry.init t.merge t.retain)) b) }, .ok ()) := by
  unfold updateAt; rw [if_pos hfin]; dsimp only [walk, addr]
  cases (resolveFrom t.dims key []).2 <;> rfl

theorem getReal_ext (t : Table τ) (key : List Key) : ExtP (visited t.dims key) t (t.getReal key).1 := by
  rw [getReal_eq]; exact walk_ext t key

theorem keysAt_ext (t : Table τ) (pre : List Key) : ExtP (visited t.dims pre) t (t.keysAt pre).1 := by
  rw [keysAt_eq]; exact walk_ext t pre

variable [DecidableEq τ] in
theorem updateAt_ext (t : Table τ) (key : List Key) (b : List (Cand τ)) :
    Ext (visited t.dims key)
      (fun a c => if isAddr t.dims key a then Cell.update t.merge t.retain c b else c)
      t (t.updateAt key b).1 := by
  by_cases hfin : b.any (fun x => !x.value.isInfinite) = true
  · obtain ⟨h1, hm, hr, -, ht⟩ := walk_ext t key
    rw [updateAt_eq t key b hfin]
    cases ha : addr t.dims key with
    | error e =>
      refine ⟨h1, hm, hr, fun a => ?_, ht⟩
      simp [isAddr, ha, walk]
    | ok a0 =>
      refine ⟨h1, hm, hr, fun a => ?_, ht⟩
      simp only [getCell_putCell, isAddr, ha, decide_eq_true_eq, Cell.update, hfin, if_true,
        eq_comm (a := a0)]
      split
      · next h => rw [h]
      · rfl
  · unfold updateAt
    rw [if_neg hfin]
    refine ⟨rfl, rfl, rfl, fun a => ?_, [], by simp, by simp⟩
    simp [Cell.update, hfin]

/-- One `[k]` of a chain `t[k1]…[kn]`: the body of the fold that `Table.index` is (`index_eq`); an
    exception stops the chain. -/
def indexStep (st : Table τ × Except PyErr Ref) (k : Key) : Table τ × Except PyErr Ref :=
  match st with
  | (t, .ok r) => getitem t r k
  | (t, .error e) => (t, .error e)

theorem index_eq (t : Table τ) (ks : List Key) : t.index ks = ks.foldl indexStep (t, .ok (.proxy [])) := rfl

/-- What `t[k1]…[kn]` has done to the table and what it denotes, as an invariant of the loop over
    the keys (`index_spec`). -/
def IndexInv (t : Table τ) (ks : List Key) (st : Table τ × Except PyErr Ref) : Prop :=
  (ks.length < t.dims.length → st = (t, .ok (.proxy ks)))
    ∧ ExtP (visited t.dims ks) t st.1
    ∧ (∀ key, st.2 = .ok (.entry key) → key = ks ∧ ks ≠ [] ∧ ks.length = t.dims.length)
    ∧ (∀ p, st.2 = .ok (.proxy p) → p = ks ∧ ¬ (ks ≠ [] ∧ ks.length = t.dims.length))

theorem IndexInv.step {t : Table τ} {ks : List Key} {st : Table τ × Except PyErr Ref}
    (h : IndexInv t ks st) (k : Key) : IndexInv t (ks ++ [k]) (indexStep st k) := by
  obtain ⟨t1, r⟩ := st
  obtain ⟨hshort, hext, -, hproxy⟩ := h
  have hext' := hext.mono (visited_prefix t.dims ks [k])
  have hd : t1.dims = t.dims := hext.dims
  refine ⟨fun hl => ?_, ?_⟩
  · rw [List.length_append, List.length_singleton] at hl
    rw [hshort (by omega)]
    simp only [indexStep, getitem]
    rw [if_neg (by omega)]
  cases r with
  | error e => exact ⟨hext', nofun, nofun⟩
  | ok ref =>
    cases ref with
    | entry key => exact ⟨hext', nofun, nofun⟩
    | proxy p =>
      obtain ⟨rfl, -⟩ := hproxy p rfl
      -- the step that completes the chain walks the prefix; any other step looks at nothing
      have hw : ExtP (visited t.dims (p ++ [k])) t1 (t1.walk p).1 :=
        (walk_ext t1 p).mono (hd ▸ visited_prefix t.dims p [k])
      simp only [indexStep, getitem]
      split
      · next hl =>
        cases hwk : t1.walk p with
        | mk t2 r2 =>
          rw [hwk] at hw
          cases r2 with
          | error e => exact ⟨hext'.trans hw, nofun, nofun⟩
          | ok a =>
            refine ⟨hext'.trans hw, fun key hk => ?_, nofun⟩
            cases hk
            exact ⟨rfl, by simp, by simpa [hd] using hl⟩
      · next hl =>
        refine ⟨hext', nofun, fun q hq => ?_⟩
        cases hq
        exact ⟨rfl, fun h => hl (by simpa [hd] using h.2)⟩

theorem index_spec (t : Table τ) (ks : List Key) : IndexInv t ks (t.index ks) := by
  have : ∀ (ks pre : List Key) st, IndexInv t pre st →
      IndexInv t (pre ++ ks) (ks.foldl indexStep st) := by
    intro ks
    induction ks with
    | nil => intro pre st h; simpa using h
    | cons k ks ih => intro pre st h; simpa using ih _ _ (h.step k)
  exact this ks [] _ ⟨fun _ => rfl, ExtP.refl _ _, fun _ h => (by cases h),
    fun p hp => ⟨by cases hp; rfl, fun h => h.1 rfl⟩⟩

theorem index_short (t : Table τ) (ks : List Key) (h : ks.length < t.dims.length) :
    t.index ks = (t, .ok (.proxy ks)) :=
  (index_spec t ks).1 h

theorem index_full (t : Table τ) (ks : List Key) (k : Key) (h : ks.length + 1 = t.dims.length) :
    t.index (ks ++ [k]) =
      ((t.walk ks).1, (addr t.dims ks).map (fun _ => Ref.entry (ks ++ [k]))) := by
  rw [index_eq, List.foldl_append, ← index_eq, index_short t ks (by omega)]
  simp only [List.foldl_cons, List.foldl_nil, indexStep, getitem, if_pos h]
  have h2 := walk_snd t ks
  cases hw : t.walk ks with
  | mk t' r =>
    rw [hw] at h2
    simp only at h2
    cases r <;> simp [← h2, Except.map]

end Table

end SR.DP
