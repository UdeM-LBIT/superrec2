/-
  Lemmas of the translator's prelude (`Model/PyRt.lean`, `Model/PyRtColl.lean`): what its partial
  operations return at arguments in range, what a set order leaves of a list, and the two rules that
  tie a generated `for` loop to a fold of the model.  The `*PyEquiv` modules rest on these and speak
  only of their own generated functions.

  Those modules are hand-written against the normal form that `harness/translate_py.py` prints on
  every run of the check (`Generated/XPy.lean`; the form is described in the docstring of
  `translate_py.py` and in `Model/PyRt.lean`).  They mention a
  generated loop only through its equation lemmas (`rw [f.loop1]`) and let `simp` walk through the
  hoisted `match`es, so they do not depend on the names of the Python locals; they do depend on the
  shape of the loops, on the order of the loop-carried variables and on which sub-expressions are
  hoisted.  `Generated/XPyEquiv.lean` (printed too) instantiates their theorems, by name, for the
  definitions of the current run.
-/
import SRVerif.Model.PyRtColl
import SRVerif.Proofs.ListAux

namespace SR.Py

theorem setAdd_eq_addNew {α : Type} [DecidableEq α] : @setAdd α _ = List.addNew := rfl

theorem dedup_eq_foldl_addNew {α : Type} [DecidableEq α] (xs : List α) :
    dedup xs = xs.foldl List.addNew [] := rfl

theorem dictGet?_eq_lookup {κ β : Type} [DecidableEq κ] (d : List (κ × β)) (k : κ) :
    dictGet? d k = d.lookup k := by
  induction d with
  | nil => rfl
  | cons p d ih => rw [dictGet?, List.lookup_cons_eq_ite, ih]

theorem setNat?_of_lt {β : Type} {l : List β} {i : Nat} (h : i < l.length) (v : β) :
    setNat? l i v = some (l.set i v) := if_pos h

theorem getInt?_natCast {β : Type} (l : List β) (n : Nat) : getInt? l (n : Int) = l[n]? := by
  simp [getInt?]

theorem powInt?_two_natCast (d : Nat) : powInt? (2 : Int) (d : Int) = some (((2 ^ d : Nat)) : Int) := by
  simp [powInt?]

theorem bitLengthInt_natCast (n : Nat) : bitLengthInt (n : Int) = bitLength n := by
  simp [bitLengthInt]

theorem bitLength_half {c : Nat} (h : c ≠ 0) : bitLength c = bitLength (c / 2) + 1 := by
  unfold bitLength
  rw [if_neg h, Nat.log2_def]
  by_cases h2 : 2 ≤ c
  · rw [if_pos h2, if_neg (Nat.ne_of_gt (Nat.div_pos h2 Nat.two_pos))]
  · rw [if_neg h2, if_pos (Nat.div_eq_of_lt (Nat.lt_of_not_le h2))]

theorem bitLength_eq_zero {c : Nat} (h : bitLength c = 0) : c = 0 := by
  unfold bitLength at h
  split at h
  · assumption
  · omega

theorem dedup_nodup (xs : List Nat) : (dedup xs).Nodup := List.nodup_foldl_addNew_nil

theorem mem_dedup {xs : List Nat} {x : Nat} : x ∈ dedup xs ↔ x ∈ xs := List.mem_foldl_addNew_nil

theorem setOfList_nodup {xs : List Nat} (h : xs.Nodup) : setOfList xs = xs :=
  List.foldl_addNew_eq_append (acc := []) h

variable {ord : List Nat → List Nat}

theorem SetOrder.nodup (hord : SetOrder ord) {l : List Nat} (h : l.Nodup) : (ord l).Nodup :=
  (hord l h).nodup_iff.2 h

theorem SetOrder.mem (hord : SetOrder ord) {l : List Nat} (h : l.Nodup) {v : Nat} :
    v ∈ ord l ↔ v ∈ l := (hord l h).mem_iff

theorem SetOrder.listOfSet_nodup (hord : SetOrder ord) (xs : List Nat) : (listOfSet ord xs).Nodup :=
  hord.nodup (dedup_nodup xs)

theorem SetOrder.mem_listOfSet (hord : SetOrder ord) {xs : List Nat} {v : Nat} :
    v ∈ listOfSet ord xs ↔ v ∈ xs := (hord.mem (dedup_nodup xs)).trans mem_dedup

/-! The translator prints one function `loop : List α → σ → Ctl σ ρ` per Python `for`, recursing on
the iterated list with the body inlined.  Both rules ask for the two equations of that function,
read on the states `φ s` that come from a model state `s`. -/

variable {α σ ρ τ ε : Type}

/-- A generated `for` loop whose body is one step of a model fold that may raise computes that
    fold; `c` turns the model's result into the loop's (`c (.error e)` is how the loop is left when
    the step fails). -/
theorem forLoop_foldlM {loop : List α → σ → Ctl σ ρ} {step : τ → α → Except ε τ}
    (c : Except ε τ → Ctl σ ρ) (φ : τ → σ) (hc : ∀ t, c (.ok t) = .next (φ t))
    (hnil : ∀ s, loop [] (φ s) = .next (φ s))
    (hcons : ∀ a l s, loop (a :: l) (φ s) = match step s a with
      | .error e => c (.error e)
      | .ok s' => loop l (φ s')) :
    ∀ (l : List α) (s : τ), loop l (φ s) = c (l.foldlM step s)
  | [], s => (hnil s).trans (hc s).symm
  | a :: l, s => by
    rw [hcons, List.foldlM_cons]
    cases step s a with
    | error e => rfl
    | ok s' => exact forLoop_foldlM c φ hc hnil hcons l s'

/-- A generated `for` loop whose body, on the states of an invariant, is one step of a pure model
    fold (every exception branch is dead there).  `P l s`: what holds of the model state `s` with
    `l` still to be iterated over. -/
theorem forLoop_foldl {loop : List α → σ → Ctl σ ρ} {f : τ → α → τ} (φ : τ → σ)
    (P : List α → τ → Prop) (hnil : ∀ s, loop [] (φ s) = .next (φ s))
    (hcons : ∀ a l s, P (a :: l) s → loop (a :: l) (φ s) = loop l (φ (f s a)) ∧ P l (f s a)) :
    ∀ (l : List α) (s : τ), P l s → loop l (φ s) = .next (φ (l.foldl f s))
  | [], s, _ => hnil s
  | a :: l, s, h => by
    rw [(hcons a l s h).1, List.foldl_cons]
    exact forLoop_foldl φ P hnil hcons l (f s a) (hcons a l s h).2

end SR.Py
