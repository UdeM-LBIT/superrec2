/-
  C12: renaming the nodes of a tree in pre-order (`setNames`) installs exactly
  the given names, so the names of `labelTree pfx t` are `labelNames pfx t.names`.
-/
import SRVerif.Proofs.Cli

namespace SR.Cli

open SR.Ser

mutual
  theorem length_pre : ∀ t : NT, t.pre.length = t.size
    | .node _ _ cs => by simp [NT.pre, NT.size, length_preL cs 0]; omega
  theorem length_preL : ∀ (cs : List NT) (k : Nat), (NT.preL cs k).length = NT.sizeL cs
    | [], _ => by simp [NT.preL, NT.sizeL]
    | c :: cs, k => by simp [NT.preL, NT.sizeL, length_pre c, length_preL cs (k + 1)]
end

theorem length_names (t : NT) : t.names.length = t.size := by
  simp [NT.names, length_pre]

mutual
  theorem setNames_spec : ∀ (t : NT) (l : List String), t.size ≤ l.length →
      (setNames t l).1.names = l.take t.size ∧ (setNames t l).2 = l.drop t.size
    | .node n c cs, [], h => by simp [NT.size] at h
    | .node n c cs, x :: r, h => by
      have hs : NT.sizeL cs ≤ r.length := by simp [NT.size] at h; omega
      have := setNamesL_spec cs r hs 0
      simp [setNames, NT.names, NT.pre, NT.size, this, Nat.add_comm 1, List.take_succ_cons]
      rfl
  theorem setNamesL_spec : ∀ (cs : List NT) (l : List String), NT.sizeL cs ≤ l.length → ∀ k,
      (NT.preL (setNamesL cs l).1 k).map (·.2.name) = l.take (NT.sizeL cs)
      ∧ (setNamesL cs l).2 = l.drop (NT.sizeL cs)
    | [], l, _, k => by simp [setNamesL, NT.preL, NT.sizeL]
    | c :: cs, l, h, k => by
      have hc : c.size ≤ l.length := by simp [NT.sizeL] at h; omega
      obtain ⟨h1, h1'⟩ := setNames_spec c l hc
      have h2 := setNamesL_spec cs (l.drop c.size) (by simp [NT.sizeL] at h ⊢; omega) (k + 1)
      simp only [NT.names] at h1
      simp [setNamesL, NT.preL, NT.sizeL, Function.comp_def, h1, h1', h2, List.take_add,
        List.drop_drop]
end

theorem names_labelTree (pfx : String) (t : NT) : (labelTree pfx t).names = labelNames pfx t.names := by
  unfold labelTree
  have hlen : t.size ≤ (labelNames pfx t.names).length := by
    rw [labelNames_length, length_names]; exact Nat.le_refl _
  rw [(setNames_spec t _ hlen).1]
  apply List.take_of_length_le
  rw [labelNames_length, length_names]; exact Nat.le_refl _

end SR.Cli
