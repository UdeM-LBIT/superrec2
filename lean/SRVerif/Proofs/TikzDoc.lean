/-
  Admissible inputs of the `render` model over the GENERATED templates, and the facts about the
  generated values the document-level theorems of C15 use.
-/
import SRVerif.Generated.TikzObligations
import SRVerif.Proofs.TikzBraces
import SRVerif.Proofs.TikzRender

namespace SR.Tikz

/-- The drawing calls `render` can receive: a statement template of the source with one admissible
    request per hole. -/
def CallOK (c : Call) : Prop :=
  (c.layer, c.tmpl) ∈ Generated.statements ∧ reqsOK c.tmpl.holes c.fills = true

/-- The definitions block: one of the two generated templates with admissible fillings. -/
def DefsOK (defs : Str) : Prop :=
  ∃ t fills, (t = Generated.tmpl_defs_vertical ∨ t = Generated.tmpl_defs_horizontal) ∧
    fillsOK t.holes fills = true ∧ defs = t.instantiate fills

theorem skeleton_std :
    Generated.renderSkeleton = stdSkeleton Generated.colorPrefix Generated.layerNames := by
  rw [Generated.skeleton_shape, Generated.definecolor_shape, Generated.begin_line,
    Generated.end_line, Generated.last_line, Generated.layer_comment_shape]
  rfl

theorem defs_holesOK :
    Generated.tmpl_defs_vertical.holesOK = true ∧ Generated.tmpl_defs_horizontal.holesOK = true := by
  decide +kernel

theorem colorPrefix_alnum : Generated.colorPrefix.all isAlnum = true := by decide +kernel

theorem layerNames_braceFree : Generated.layerNames.all braceFree = true := by decide +kernel

theorem defs_balanced (defs : Str) (h : DefsOK defs) : isBalanced defs = true := by
  obtain ⟨t, fills, ht, hf, rfl⟩ := h
  rcases ht with rfl | rfl
  · exact isBalanced_instantiate _ fills Generated.tmpl_defs_vertical_balanced defs_holesOK.1 hf
  · exact isBalanced_instantiate _ fills Generated.tmpl_defs_horizontal_balanced defs_holesOK.2 hf

theorem rcall_fillsOK (calls : List Call) (hc : ∀ c ∈ calls, CallOK c) :
    ∀ o ∈ (resolveCalls [] calls).2,
      (o.layer, o.tmpl) ∈ Generated.statements ∧
      fillsOK o.tmpl.holes (o.fills.map (RFill.str Generated.colorPrefix)) = true := by
  intro o ho
  obtain ⟨c, hcm, hl, ht, hf⟩ := resolveCalls_mem ho
  rw [hl, ht]
  exact ⟨(hc c hcm).1, fillsOK_resolved _ _ colorPrefix_alnum hf _ (hc c hcm).2⟩

/-- Every interned colour code was requested by a call, so it is alphanumeric. -/
theorem colors_alnum (calls : List Call) (hc : ∀ c ∈ calls, CallOK c) :
    ∀ p ∈ enumFrom 0 (resolveCalls [] calls).1, p.2.all isAlnum = true := by
  intro p hp
  rcases resolveCalls_table_mem [] calls p.2 (mem_enumFrom_snd hp) with h0 | ⟨c, hcm, hx⟩
  · cases h0
  · exact reqsOK_color_alnum _ _ (hc c hcm).2 _ hx

end SR.Tikz
