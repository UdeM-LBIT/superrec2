/-
  JSON text layer, the glue with `Model/Serialize.lean`: `dictOfJ (dictToJ d) = some d` for
  every dictionary structure; `dictToJ d` has no repeated key when the five mappings of `d`
  have none; the dictionaries written by `to_dict` have none (`Dict.ofList`).
-/
import SRVerif.Proofs.Json

namespace SR.Json

open SR SR.Ser

theorem mapOfJ_map {α : Type} (f : JVal → Option α) (g : α → JVal) (hfg : ∀ a, f (g a) = some a)
    (l : List (String × α)) : mapOfJ f (.obj (l.map (fun x => (x.1, g x.2)))) = some l := by
  simp only [mapOfJ]
  induction l with
  | nil => rfl
  | cons x l ih => simp [List.mapM_cons, hfg, ih]

theorem strListOfJ_map (l : List String) : strListOfJ (.arr (l.map .str)) = some l := by
  simp only [strListOfJ]
  induction l with
  | nil => rfl
  | cons x l ih => simp [List.mapM_cons, strOfJ, ih]

theorem costOfJ_costToJ (c : Cost) : costOfJ (costToJ c) = some c := by
  cases c <;> rfl

theorem strMap_back (l : List (String × String)) : mapOfJ strOfJ (strMapToJ l) = some l :=
  mapOfJ_map strOfJ .str (fun _ => rfl) l

theorem costMap_back (l : List (String × Cost)) : mapOfJ costOfJ (costMapToJ l) = some l :=
  mapOfJ_map costOfJ costToJ costOfJ_costToJ l

theorem synMap_back (l : List (String × List String)) : mapOfJ strListOfJ (synMapToJ l) = some l :=
  mapOfJ_map strListOfJ (fun x => .arr (x.map .str)) strListOfJ_map l

theorem inputOfJ_inputToJ (d : InputDict) : inputOfJ (inputToJ d) = some d := by
  obtain ⟨ot, st, los, costs, ls⟩ := d
  cases los <;> cases costs <;> cases ls <;>
    simp [inputOfJ, inputToJ, optField, lookupJ, optOfJ, strOfJ, strMap_back, costMap_back,
      synMap_back]

theorem dictOfJ_dictToJ (d : OutputDict) : dictOfJ (dictToJ d) = some d := by
  obtain ⟨inp, os, syn, ord⟩ := d
  cases syn <;> cases ord <;>
    simp [dictOfJ, dictToJ, optField, lookupJ, optOfJ, boolOfJ, inputOfJ_inputToJ, strMap_back,
      synMap_back]

def KeysNodup {α : Type} (l : List (String × α)) : Prop := (l.map (·.1)).Nodup

instance {α : Type} (l : List (String × α)) : Decidable (KeysNodup l) :=
  inferInstanceAs (Decidable (List.Nodup _))

def optKeysNodup {α : Type} : Option (List (String × α)) → Prop
  | none => True
  | some l => KeysNodup l

instance {α : Type} (o : Option (List (String × α))) : Decidable (optKeysNodup o) := by
  cases o <;> unfold optKeysNodup <;> infer_instance

/-- The five mappings of an output dictionary are Python `dict`s: no key twice. -/
def DictOk (d : OutputDict) : Prop :=
  optKeysNodup d.input.leaf_object_species ∧ optKeysNodup d.input.costs ∧
  optKeysNodup d.input.leaf_syntenies ∧ KeysNodup d.object_species ∧ optKeysNodup d.syntenies

instance (d : OutputDict) : Decidable (DictOk d) := by unfold DictOk; infer_instance

theorem wf_mapped {α : Type} (g : α → JVal) (hg : ∀ a, (g a).wf = true) (l : List (String × α))
    (h : KeysNodup l) : (JVal.obj (l.map (fun x => (x.1, g x.2)))).wf = true := by
  have hw : ∀ l : List (String × α), wfM (l.map (fun x => (x.1, g x.2))) = true := by
    intro l
    induction l with
    | nil => rfl
    | cons x l ih => simp only [List.map_cons, wfM, hg, Bool.true_and, ih]
  have hw := hw l
  have hk : keysM (l.map (fun x => (x.1, g x.2))) = l.map (·.1) := by
    rw [keysM_eq]; simp [List.map_map, Function.comp_def]
  simp only [JVal.wf, hk, hw, Bool.and_true, decide_eq_true_eq]
  exact h

theorem wf_strs (l : List String) : (JVal.arr (l.map .str)).wf = true := by
  simp only [JVal.wf]
  induction l with
  | nil => rfl
  | cons x l ih => simp [wfL, JVal.wf, ih]

theorem wf_strMap (l : List (String × String)) (h : KeysNodup l) : (strMapToJ l).wf = true :=
  wf_mapped .str (fun _ => rfl) l h

theorem wf_costMap (l : List (String × Cost)) (h : KeysNodup l) : (costMapToJ l).wf = true :=
  wf_mapped costToJ (fun c => by cases c <;> rfl) l h

theorem wf_synMap (l : List (String × List String)) (h : KeysNodup l) : (synMapToJ l).wf = true :=
  wf_mapped (fun x : List String => JVal.arr (x.map JVal.str)) wf_strs l h

theorem wf_inputToJ (d : InputDict) (h1 : optKeysNodup d.leaf_object_species)
    (h2 : optKeysNodup d.costs) (h3 : optKeysNodup d.leaf_syntenies) : (inputToJ d).wf = true := by
  obtain ⟨ot, st, los, costs, ls⟩ := d
  cases los <;> cases costs <;> cases ls <;>
    simp_all [inputToJ, optField, JVal.wf, wfM, keysM, optKeysNodup, wf_strMap, wf_costMap,
      wf_synMap]

theorem wf_dictToJ (d : OutputDict) (h : DictOk d) : WFJ (dictToJ d) := by
  obtain ⟨inp, os, syn, ord⟩ := d
  obtain ⟨h1, h2, h3, h4, h5⟩ := h
  have hi := wf_inputToJ inp h1 h2 h3
  cases syn <;> cases ord <;>
    simp_all [WFJ, dictToJ, optField, JVal.wf, wfM, keysM, optKeysNodup, wf_strMap, wf_synMap]

theorem dictOk_inputToDict (write : NT → String) (x : AnyInput) :
    optKeysNodup (x.toDict write).leaf_object_species ∧ optKeysNodup (x.toDict write).costs ∧
    optKeysNodup (x.toDict write).leaf_syntenies := by
  cases x with
  | plain i =>
    exact ⟨Dict.ofList_keysNodup _, Dict.ofList_keysNodup _, trivial⟩
  | super i =>
    exact ⟨Dict.ofList_keysNodup _, Dict.ofList_keysNodup _, Dict.ofList_keysNodup _⟩

theorem dictOk_recOutput (write : NT → String) (x : RecOutput) : DictOk (x.toDict write) := by
  obtain ⟨h1, h2, h3⟩ := dictOk_inputToDict write x.input
  exact ⟨h1, h2, h3, Dict.ofList_keysNodup _, trivial⟩

theorem dictOk_srecOutput (write : NT → String) (x : SRecOutput) : DictOk (x.toDict write) := by
  obtain ⟨h1, h2, h3⟩ := dictOk_inputToDict write x.input
  exact ⟨h1, h2, h3, Dict.ofList_keysNodup _, Dict.ofList_keysNodup _⟩

end SR.Json
