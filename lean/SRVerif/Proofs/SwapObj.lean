/-
  Exchanging the two children of object nodes (C09, object-child swap).  `OTree.flip F` /
  `Sol.flip F` exchange the children of every internal node whose position satisfies `F`;
  `mirror` and `swapAt p` are instances.  The evaluator is symmetric in the two children (for a
  transfer `keepLeft` is recomputed after the swap and flips with it), so everything computed
  on the pair (input, solution) is invariant (`flip_same`, `genLosses_flip`).  Unordered validity
  speaks of object positions; those move by `Path.flipPos F`, a `PathEmb`.
-/
import SRVerif.Proofs.SwapSp
import SRVerif.Proofs.SolverLists
import Mathlib.Data.List.Perm.Basic

namespace SR

open Path

/-- Exchange the children of every internal node whose position (path of child indices from
    the root, in the ORIGINAL tree) satisfies `F`. -/
def OTree.flip : (Path → Bool) → OTree → OTree
  | _, .leaf sp f => .leaf sp f
  | F, .node l r =>
    let l' := flip (fun q => F (0 :: q)) l
    let r' := flip (fun q => F (1 :: q)) r
    if F [] then .node r' l' else .node l' r'

def Sol.flip : (Path → Bool) → Sol → Sol
  | _, .leaf sp f => .leaf sp f
  | F, .node s g l r =>
    let l' := flip (fun q => F (0 :: q)) l
    let r' := flip (fun q => F (1 :: q)) r
    if F [] then .node s g r' l' else .node s g l' r'

def OTree.mirror : OTree → OTree
  | .leaf sp f => .leaf sp f
  | .node l r => .node (mirror r) (mirror l)

def Sol.mirror : Sol → Sol
  | .leaf sp f => .leaf sp f
  | .node s g l r => .node s g (mirror r) (mirror l)

/-- Exchange the two children of the node at position `p` (nothing if `p` is not
    an internal node). -/
def OTree.swapAt : Path → OTree → OTree
  | _, .leaf sp f => .leaf sp f
  | [], .node l r => .node r l
  | 0 :: p, .node l r => .node (swapAt p l) r
  | 1 :: p, .node l r => .node l (swapAt p r)
  | (_ + 2) :: _, .node l r => .node l r

def Sol.swapAt : Path → Sol → Sol
  | _, .leaf sp f => .leaf sp f
  | [], .node s g l r => .node s g r l
  | 0 :: p, .node s g l r => .node s g (swapAt p l) r
  | 1 :: p, .node s g l r => .node s g l (swapAt p r)
  | (_ + 2) :: _, .node s g l r => .node s g l r

theorem OTree.mirror_mirror (o : OTree) : o.mirror.mirror = o := by
  induction o with
  | leaf sp f => rfl
  | node l r ihl ihr => simp [OTree.mirror, ihl, ihr]

theorem Sol.mirror_mirror (s : Sol) : s.mirror.mirror = s := by
  induction s with
  | leaf sp f => rfl
  | node s g l r ihl ihr => simp [Sol.mirror, ihl, ihr]

theorem OTree.swapAt_swapAt : ∀ (p : Path) (o : OTree), (o.swapAt p).swapAt p = o := by
  intro p
  induction p with
  | nil => intro o; cases o <;> rfl
  | cons k p ih =>
    intro o
    cases o with
    | leaf sp f => rfl
    | node l r =>
      match k with
      | 0 => simp [OTree.swapAt, ih]
      | 1 => simp [OTree.swapAt, ih]
      | _ + 2 => rfl

theorem Sol.swapAt_swapAt : ∀ (p : Path) (s : Sol), (s.swapAt p).swapAt p = s := by
  intro p
  induction p with
  | nil => intro o; cases o <;> rfl
  | cons k p ih =>
    intro o
    cases o with
    | leaf sp f => rfl
    | node s g l r =>
      match k with
      | 0 => simp [Sol.swapAt, ih]
      | 1 => simp [Sol.swapAt, ih]
      | _ + 2 => rfl

theorem OTree.flip_node_false {F : Path → Bool} (h : F [] = false) (l r : OTree) :
    (OTree.node l r).flip F = .node (l.flip fun q => F (0 :: q)) (r.flip fun q => F (1 :: q)) := by
  simp only [OTree.flip, h, Bool.false_eq_true, if_false]

theorem OTree.flip_node_true {F : Path → Bool} (h : F [] = true) (l r : OTree) :
    (OTree.node l r).flip F = .node (r.flip fun q => F (1 :: q)) (l.flip fun q => F (0 :: q)) := by
  simp only [OTree.flip, h, if_true]

theorem Sol.flip_node_false {F : Path → Bool} (h : F [] = false) (s : Path) (g : List Nat)
    (l r : Sol) :
    (Sol.node s g l r).flip F = .node s g (l.flip fun q => F (0 :: q)) (r.flip fun q => F (1 :: q)) := by
  simp only [Sol.flip, h, Bool.false_eq_true, if_false]

theorem Sol.flip_node_true {F : Path → Bool} (h : F [] = true) (s : Path) (g : List Nat)
    (l r : Sol) :
    (Sol.node s g l r).flip F = .node s g (r.flip fun q => F (1 :: q)) (l.flip fun q => F (0 :: q)) := by
  simp only [Sol.flip, h, if_true]

theorem OTree.flip_false (o : OTree) : o.flip (fun _ => false) = o := by
  induction o with
  | leaf sp f => rfl
  | node l r ihl ihr => rw [OTree.flip_node_false rfl, ihl, ihr]

theorem Sol.flip_false (o : Sol) : o.flip (fun _ => false) = o := by
  induction o with
  | leaf sp f => rfl
  | node s g l r ihl ihr => rw [Sol.flip_node_false rfl, ihl, ihr]

theorem OTree.mirror_eq_flip (o : OTree) : o.mirror = o.flip (fun _ => true) := by
  induction o with
  | leaf sp f => rfl
  | node l r ihl ihr => simp [OTree.mirror, OTree.flip, ihl, ihr]

theorem Sol.mirror_eq_flip (o : Sol) : o.mirror = o.flip (fun _ => true) := by
  induction o with
  | leaf sp f => rfl
  | node s g l r ihl ihr => simp [Sol.mirror, Sol.flip, ihl, ihr]

theorem OTree.swapAt_eq_flip : ∀ (p : Path) (o : OTree), o.swapAt p = o.flip (fun q => q == p) := by
  -- The predicates `fun q => k :: q == p'` reduce, for the three shapes of `k` against the
  -- head of `p'`, to `fun q => q == p` or to `fun _ => false`; `show` states the reduced form.
  intro p
  induction p with
  | nil =>
    intro o
    cases o with
    | leaf sp f => rfl
    | node l r =>
      rw [OTree.flip_node_true rfl]
      show OTree.node r l = .node (r.flip fun _ => false) (l.flip fun _ => false)
      rw [OTree.flip_false, OTree.flip_false]
  | cons k p ih =>
    intro o
    cases o with
    | leaf sp f => rfl
    | node l r =>
      rw [OTree.flip_node_false rfl]
      match k with
      | 0 =>
        show OTree.node (l.swapAt p) r = .node (l.flip fun q => q == p) (r.flip fun _ => false)
        rw [ih, OTree.flip_false]
      | 1 =>
        show OTree.node l (r.swapAt p) = .node (l.flip fun _ => false) (r.flip fun q => q == p)
        rw [ih, OTree.flip_false]
      | j + 2 =>
        show OTree.node l r = .node (l.flip fun _ => false) (r.flip fun _ => false)
        rw [OTree.flip_false, OTree.flip_false]

theorem Sol.swapAt_eq_flip : ∀ (p : Path) (o : Sol), o.swapAt p = o.flip (fun q => q == p) := by
  intro p
  induction p with
  | nil =>
    intro o
    cases o with
    | leaf sp f => rfl
    | node s g l r =>
      rw [Sol.flip_node_true rfl]
      show Sol.node s g r l = .node s g (r.flip fun _ => false) (l.flip fun _ => false)
      rw [Sol.flip_false, Sol.flip_false]
  | cons k p ih =>
    intro o
    cases o with
    | leaf sp f => rfl
    | node s g l r =>
      rw [Sol.flip_node_false rfl]
      match k with
      | 0 =>
        show Sol.node s g (l.swapAt p) r = .node s g (l.flip fun q => q == p) (r.flip fun _ => false)
        rw [ih, Sol.flip_false]
      | 1 =>
        show Sol.node s g l (r.swapAt p) = .node s g (l.flip fun _ => false) (r.flip fun q => q == p)
        rw [ih, Sol.flip_false]
      | j + 2 =>
        show Sol.node s g l r = .node s g (l.flip fun _ => false) (r.flip fun _ => false)
        rw [Sol.flip_false, Sol.flip_false]

theorem Path.comparable_comm (a b : Path) : comparable a b = comparable b a := by
  simp [comparable, Bool.or_comm]

theorem internalEvent_symm (s a b : Path) : internalEvent s a b = internalEvent s b a := by
  simp only [internalEvent, lcp_comm b a, Path.comparable_comm b a,
    Bool.or_comm (isStrictAnc b s), Bool.and_comm (isAnc s b), Bool.or_comm (isAnc s b)]

/-- At a transfer exactly one child is below-or-equal the node (`internalEvent_hgt_sides`), so
    the `if` picks the same child after the swap. -/
theorem localRecCost_symm (c : Costs) (s a b : Path) :
    localRecCost c s a b = localRecCost c s b a := by
  unfold localRecCost
  rw [← internalEvent_symm s a b]
  cases h : internalEvent s a b with
  | hgt =>
    obtain ⟨hx, _, _⟩ := internalEvent_hgt_sides h
    cases hb : isAnc s b <;> simp [hx, hb]
  | spec => simp [Nat.add_comm]
  | dup => simp [Nat.add_comm]
  | leaf => rfl
  | invalid => rfl

theorem addDist_comm (x y : Int) : addDist x y = addDist y x := by
  simp [addDist, Bool.or_comm, Nat.add_comm]

/-- The ordered local count, with `keepLeft` recomputed for the swapped children. -/
theorem localOrdLosses_symm (s a b : Path) (m ml mr : Nat) :
    localOrdLosses (internalEvent s b a) (comparable s b) m mr ml =
      localOrdLosses (internalEvent s a b) (comparable s a) m ml mr := by
  rw [← internalEvent_symm s a b]
  cases h : internalEvent s a b with
  | hgt =>
    obtain ⟨hx, ca, cb⟩ := internalEvent_hgt_sides h
    simp only [localOrdLosses, ca, cb, hx]
    rw [addDist_comm]
    simp
  | spec => simp only [localOrdLosses]; rw [addDist_comm]
  | dup =>
    simp only [localOrdLosses]
    rw [addDist_comm (subseqSegmentDist mr m true), addDist_comm (subseqSegmentDist mr m false)]
    cases addDist (subseqSegmentDist ml m true) (subseqSegmentDist mr m false) <;>
      cases addDist (subseqSegmentDist ml m false) (subseqSegmentDist mr m true) <;>
      simp [Nat.min_comm]
  | leaf => rfl
  | invalid => rfl

theorem localUnordLosses_symm (s a b : Path) (f fl fr : List Nat) :
    localUnordLosses (internalEvent s b a) (comparable s b) f fr fl =
      localUnordLosses (internalEvent s a b) (comparable s a) f fl fr := by
  rw [← internalEvent_symm s a b]
  cases h : internalEvent s a b with
  | hgt =>
    obtain ⟨hx, ca, cb⟩ := internalEvent_hgt_sides h
    simp only [localUnordLosses, ca, cb, hx]
    cases isAnc s b <;> simp
  | spec => simp [localUnordLosses, Nat.add_comm]
  | dup => simp [localUnordLosses, Nat.min_comm]
  | leaf => rfl
  | invalid => rfl

@[simp] theorem Sol.flip_sp (F : Path → Bool) (s : Sol) : (s.flip F).sp = s.sp := by
  cases s with
  | leaf sp f => rfl
  | node s g l r => cases hF : F [] <;> simp only [Sol.flip_node_false, Sol.flip_node_true, hF, Sol.sp]

@[simp] theorem Sol.flip_fam (F : Path → Bool) (s : Sol) : (s.flip F).fam = s.fam := by
  cases s with
  | leaf sp f => rfl
  | node s g l r => cases hF : F [] <;> simp only [Sol.flip_node_false, Sol.flip_node_true, hF, Sol.fam]

/-- Everything computed by recursion on the pair (input, solution) is kept by a flip, in one
    induction: at a swapped node each function is symmetric in the two children
    (`internalEvent_symm`, `localRecCost_symm`, commutativity of `+`, `&&`, `∧`). -/
theorem flip_same : ∀ (o : OTree) (sol : Sol) (F : Path → Bool),
    (∀ c, recCost c (o.flip F) (sol.flip F) = recCost c o sol) ∧
    Spec.validRec (o.flip F) (sol.flip F) = Spec.validRec o sol ∧
    plainLabels (o.flip F) (sol.flip F) = plainLabels o sol ∧
    Spec.validOrdLabels (o.flip F) (sol.flip F) = Spec.validOrdLabels o sol ∧
    (∀ S, sol.flip F ∈ Spec.allMappings S (o.flip F) ↔ sol ∈ Spec.allMappings S o) := by
  intro o
  induction o with
  | leaf sp f =>
    intro sol F
    cases sol with
    | leaf s g => simp only [OTree.flip, Sol.flip, implies_true, and_self]
    | node s g l r =>
      cases hF : F [] <;>
        simp [OTree.flip, Sol.flip_node_false, Sol.flip_node_true, hF, recCost, Spec.validRec,
          plainLabels, Spec.validOrdLabels, Spec.allMappings]
  | node ol or ihl ihr =>
    intro sol F
    cases sol with
    | leaf s g =>
      cases hF : F [] <;>
        simp only [OTree.flip_node_false, OTree.flip_node_true, hF, Sol.flip, recCost,
          Spec.validRec, plainLabels, Spec.validOrdLabels, leaf_not_mem_allMappings_node,
          implies_true, and_self]
    | node s g l r =>
      obtain ⟨l1, l2, l3, l4, l5⟩ := ihl l fun q => F (0 :: q)
      obtain ⟨r1, r2, r3, r4, r5⟩ := ihr r fun q => F (1 :: q)
      cases hF : F []
      · simp only [OTree.flip_node_false hF, Sol.flip_node_false hF, recCost, Spec.validRec,
          plainLabels, Spec.validOrdLabels, mem_allMappings_node, Sol.flip_sp, Sol.flip_fam,
          l1, l2, l3, l4, l5, r1, r2, r3, r4, r5, implies_true, and_self]
      · simp only [OTree.flip_node_true hF, Sol.flip_node_true hF, recCost, Spec.validRec,
          plainLabels, Spec.validOrdLabels, mem_allMappings_node, Sol.flip_sp, Sol.flip_fam,
          l1, l2, l3, l4, l5, r1, r2, r3, r4, r5, ← internalEvent_symm s l.sp r.sp,
          and_comm (a := r ∈ _), implies_true, and_true]
        refine ⟨fun c => ?_, ?_, ?_, ?_⟩
        · rw [← localRecCost_symm c s l.sp r.sp, Cost.add_comm (recCost c or r)]
        · rw [Bool.and_assoc, Bool.and_assoc, Bool.and_comm (Spec.validRec or r)]
        · rw [Bool.and_assoc, Bool.and_assoc, Bool.and_comm (plainLabels or r)]
        · cases isSublist l.fam g <;> cases isSublist r.fam g <;>
            cases Spec.validOrdLabels ol l <;> cases Spec.validOrdLabels or r <;> simp

theorem plainLabels_flip (o : OTree) (sol : Sol) (F : Path → Bool) :
    plainLabels (o.flip F) (sol.flip F) = plainLabels o sol :=
  (flip_same o sol F).2.2.1

theorem mem_allMappings_flip (S : RTree) (o : OTree) (F : Path → Bool) (s : Sol) :
    s.flip F ∈ Spec.allMappings S (o.flip F) ↔ s ∈ Spec.allMappings S o :=
  (flip_same o s F).2.2.2.2 S

theorem sum3_swap (a b d : Option Nat) : sum3 a d b = sum3 a b d := by
  cases a <;> cases b <;> cases d <;> simp [sum3]
  omega

theorem genLosses_flip {σ : Type}
    (loc : Event → Bool → σ → List Nat → List Nat → List Nat → Option Nat) (nxt : σ → List Nat → σ)
    (hsym : ∀ s a b st f fl fr, loc (internalEvent s b a) (comparable s b) st f fr fl =
      loc (internalEvent s a b) (comparable s a) st f fl fr) :
    ∀ (sol : Sol) (F : Path → Bool) (st : σ),
      genLosses loc nxt st (sol.flip F) = genLosses loc nxt st sol := by
  intro sol
  induction sol with
  | leaf s g => intro F st; rfl
  | node s g l r ihl ihr =>
    intro F st
    cases hF : F []
    · simp only [Sol.flip_node_false hF, genLosses, Sol.flip_sp, Sol.flip_fam, ihl, ihr]
    · simp only [Sol.flip_node_true hF, genLosses, Sol.flip_sp, Sol.flip_fam, ihl, ihr]
      rw [hsym s l.sp r.sp]
      exact sum3_swap _ _ _

theorem ordLosses_flip (rootSyn : List Nat) (sol : Sol) (F : Path → Bool) (m : Nat) :
    ordLosses rootSyn m (sol.flip F) = ordLosses rootSyn m sol := by
  rw [ordLosses_eq_gen, ordLosses_eq_gen]
  exact genLosses_flip _ _ (fun s a b m _ _ _ => localOrdLosses_symm s a b m _ _) sol F m

theorem unordLosses_flip (sol : Sol) (F : Path → Bool) : unordLosses (sol.flip F) = unordLosses sol := by
  rw [unordLosses_eq_gen, unordLosses_eq_gen]
  exact genLosses_flip _ _ (fun s a b _ f fl fr => localUnordLosses_symm s a b f fl fr) sol F ()

theorem totalCost_flip (c : Costs) (mode : LabelMode) (o : OTree) (sol : Sol) (F : Path → Bool) :
    totalCost c mode (o.flip F) (sol.flip F) = totalCost c mode o sol := by
  cases mode <;>
    simp only [totalCost, labelingCost, Sol.flip_fam, ordLosses_flip, unordLosses_flip,
      (flip_same o sol F).1]

/-- A list read off the leaves from left to right is permuted by a flip. -/
theorem flip_perm_of_append {β : Type} (g : OTree → List β)
    (hg : ∀ l r, g (.node l r) = g l ++ g r) : ∀ (o : OTree) (F : Path → Bool),
    (g (o.flip F)).Perm (g o) := by
  intro o
  induction o with
  | leaf sp f => intro F; exact List.Perm.refl _
  | node l r ihl ihr =>
    intro F
    cases hF : F []
    · rw [OTree.flip_node_false hF, hg, hg]
      exact List.Perm.append (ihl _) (ihr _)
    · rw [OTree.flip_node_true hF, hg, hg]
      exact List.perm_append_comm.trans (List.Perm.append (ihl _) (ihr _))

theorem leafSyntenies_flip_perm (o : OTree) (F : Path → Bool) :
    (leafSyntenies (o.flip F)).Perm (leafSyntenies o) :=
  flip_perm_of_append leafSyntenies (fun _ _ => rfl) o F

theorem leafSpecies_flip_perm (o : OTree) (F : Path → Bool) :
    (leafSpecies (o.flip F)).Perm (leafSpecies o) :=
  flip_perm_of_append leafSpecies (fun _ _ => rfl) o F

theorem mem_families_flip (o : OTree) (F : Path → Bool) (x : Nat) :
    x ∈ families (o.flip F) ↔ x ∈ families o := by
  simp only [families, mem_dedup]
  exact (List.Perm.flatten (leafSyntenies_flip_perm o F)).mem_iff

theorem families_flip_perm (o : OTree) (F : Path → Bool) :
    (families (o.flip F)).Perm (families o) :=
  (List.perm_ext_iff_of_nodup (nodup_dedup _) (nodup_dedup _)).mpr (mem_families_flip o F)

theorem isPermOf_congr (a b b' : List Nat) (h : b'.Perm b) :
    Spec.isPermOf a b' = Spec.isPermOf a b := by
  have hm : ∀ x, x ∈ b' ↔ x ∈ b := fun x => h.mem_iff
  rw [Bool.eq_iff_iff]
  simp only [Spec.isPermOf, Bool.and_eq_true, beq_iff_eq, List.all_eq_true, List.contains_iff_mem,
    h.length_eq, hm]

/-! ### Unordered labellings: object positions are relabelled by the flip

  `Spec.validUnLabels` refers to the gain node of each family through object
  POSITIONS (`leafPaths`, `allowedContent`, `gainsAt`).  A flip moves the subtree at
  position `q` to position `Path.flipPos F q`; this map is a `PathEmb`, the gain
  nodes move with it, and so the test is invariant. -/

/-- Where the node at position `q` of a tree ends up after `flip F`. -/
def Path.flipPos : (Path → Bool) → Path → Path
  | _, [] => []
  | F, k :: q => (if F [] then Path.swapNat 0 1 k else k) :: flipPos (fun r => F (k :: r)) q

theorem Path.flipPos_emb (F : Path → Bool) : PathEmb (Path.flipPos F) := by
  refine PathEmb.of_levelwise (fun φ => ∃ F, φ = Path.flipPos F) ?_ ?_ _ ⟨F, rfl⟩
  · rintro _ ⟨F, rfl⟩; rfl
  · rintro _ ⟨F, rfl⟩
    refine ⟨fun k => if F [] then Path.swapNat 0 1 k else k, fun a b e => ?_,
      fun k => ⟨_, ⟨fun r => F (k :: r), rfl⟩, fun _ => rfl⟩⟩
    dsimp only at e
    split at e
    · exact Path.swapNat_inj 0 1 a b e
    · exact e

theorem Path.flipPos_append : ∀ (p : Path) (F : Path → Bool) (k : Nat),
    Path.flipPos F (p ++ [k]) =
      Path.flipPos F p ++ [if F p then Path.swapNat 0 1 k else k] := by
  intro p
  induction p with
  | nil => intro F k; simp [Path.flipPos]
  | cons a p ih => intro F k; simp [Path.flipPos, ih]

theorem leafPaths_flip_perm : ∀ (o : OTree) (F : Path → Bool),
    (leafPaths (o.flip F)).Perm ((leafPaths o).map fun x => (Path.flipPos F x.1, x.2)) := by
  intro o
  induction o with
  | leaf sp f => intro F; exact List.Perm.refl _
  | node l r ihl ihr =>
    intro F
    have il := (ihl fun q => F (0 :: q))
    have ir := (ihr fun q => F (1 :: q))
    cases hF : F []
    · rw [OTree.flip_node_false hF]
      simp only [leafPaths, List.map_append, List.map_map, Function.comp_def, Path.flipPos, hF,
        Bool.false_eq_true, if_false]
      exact ((il.map _).trans (by rw [List.map_map]; rfl)).append
        ((ir.map _).trans (by rw [List.map_map]; rfl))
    · rw [OTree.flip_node_true hF]
      simp only [leafPaths, List.map_append, List.map_map, Function.comp_def, Path.flipPos, hF,
        if_true]
      exact List.perm_append_comm.trans (((il.map _).trans (by rw [List.map_map]; rfl)).append
        ((ir.map _).trans (by rw [List.map_map]; rfl)))

theorem mem_leafPaths_flip (o : OTree) (F : Path → Bool) (q' : Path) (fam : List Nat) :
    (q', fam) ∈ leafPaths (o.flip F) ↔ ∃ q, (q, fam) ∈ leafPaths o ∧ q' = Path.flipPos F q := by
  rw [(leafPaths_flip_perm o F).mem_iff, List.mem_map]
  constructor
  · rintro ⟨⟨q, f⟩, h, e⟩
    obtain ⟨rfl, rfl⟩ := Prod.mk.inj e
    exact ⟨q, h, rfl⟩
  · rintro ⟨q, h, rfl⟩
    exact ⟨(q, fam), h, rfl⟩
theorem lcpAll_congr {L L' : List Path} (hL : L ≠ []) (h : ∀ q, q ∈ L ↔ q ∈ L') :
    lcpAll L = lcpAll L' := by
  have hL' : L' ≠ [] := by
    obtain ⟨x, hx⟩ := List.exists_mem_of_ne_nil L hL
    intro e; rw [e] at h; exact absurd ((h x).mp hx) (by simp)
  apply isAnc_antisymm
  · rw [isAnc_lcpAll _ hL']
    intro q hq
    exact (isAnc_lcpAll _ hL).mp (isAnc_refl _) q ((h q).mpr hq)
  · rw [isAnc_lcpAll _ hL]
    intro q hq
    exact (isAnc_lcpAll _ hL').mp (isAnc_refl _) q ((h q).mp hq)

theorem lcpAll_map {φ : Path → Path} (hφ : PathEmb φ) (L : List Path) (hL : L ≠ []) :
    lcpAll (L.map φ) = φ (lcpAll L) := by
  cases L with
  | nil => exact absurd rfl hL
  | cons p rest =>
    simp only [lcpAll, List.map_cons]
    clear hL
    induction rest generalizing p with
    | nil => rfl
    | cons a rest ih => simp only [List.map_cons, List.foldl_cons, hφ.lcp, ih]

/-- The positions of the leaves carrying the family `x`. -/
def famPaths (o : OTree) (x : Nat) : List Path :=
  ((leafPaths o).filter (fun p => p.2.contains x)).map (·.1)

theorem mem_famPaths (o : OTree) (x : Nat) (q : Path) :
    q ∈ famPaths o x ↔ ∃ fam, (q, fam) ∈ leafPaths o ∧ x ∈ fam := by
  simp only [famPaths, List.mem_map, List.mem_filter, List.contains_iff_mem, Prod.exists,
    exists_and_right, exists_eq_right]

theorem famPaths_ne_nil {o : OTree} {x : Nat} (hx : x ∈ families o) : famPaths o x ≠ [] := by
  simp only [families, mem_dedup, List.mem_flatten, ← leafPaths_snd, List.mem_map] at hx
  obtain ⟨fam, ⟨⟨q, fam'⟩, hq, rfl⟩, hxf⟩ := hx
  intro e
  have : q ∈ famPaths o x := (mem_famPaths o x q).mpr ⟨fam', hq, hxf⟩
  rw [e] at this; cases this

/-- Gain nodes move with the flip. -/
theorem lcpAll_famPaths_flip (o : OTree) (F : Path → Bool) (x : Nat) (hx : x ∈ families o) :
    lcpAll (famPaths (o.flip F) x) = Path.flipPos F (lcpAll (famPaths o x)) := by
  have hne := famPaths_ne_nil hx
  rw [← lcpAll_map (Path.flipPos_emb F) _ hne]
  have hne' : famPaths (o.flip F) x ≠ [] := famPaths_ne_nil ((mem_families_flip o F x).mpr hx)
  apply lcpAll_congr hne'
  intro q
  simp only [mem_famPaths, List.mem_map, mem_leafPaths_flip]
  constructor
  · rintro ⟨fam, ⟨q0, hq0, rfl⟩, hxf⟩
    exact ⟨q0, ⟨fam, hq0, hxf⟩, rfl⟩
  · rintro ⟨q0, ⟨fam, hq0, hxf⟩, rfl⟩
    exact ⟨fam, ⟨q0, hq0, rfl⟩, hxf⟩

theorem mem_allowedContent_flip (o : OTree) (F : Path → Bool) (p : Path) (x : Nat) :
    x ∈ Spec.allowedContent (o.flip F) (Path.flipPos F p) ↔ x ∈ Spec.allowedContent o p := by
  simp only [Spec.allowedContent, List.mem_filter, mem_families_flip]
  refine and_congr_right fun hx => ?_
  have := lcpAll_famPaths_flip o F x hx
  simp only [famPaths] at this
  rw [this, (Path.flipPos_emb F).isAnc]

theorem mem_gainsAt_flip (o : OTree) (F : Path → Bool) (p : Path) (x : Nat) :
    x ∈ gainsAt (o.flip F) (Path.flipPos F p) ↔ x ∈ gainsAt o p := by
  simp only [gainsAt, List.mem_filter, mem_families_flip]
  refine and_congr_right fun hx => ?_
  have := lcpAll_famPaths_flip o F x hx
  simp only [famPaths] at this
  rw [this, (Path.flipPos_emb F).beq]

theorem all_allowed_flip (o : OTree) (F : Path → Bool) (p : Path) (f : List Nat) :
    f.all (fun x => (Spec.allowedContent (o.flip F) (Path.flipPos F p)).contains x) =
      f.all (fun x => (Spec.allowedContent o p).contains x) := by
  rw [Bool.eq_iff_iff]
  simp only [List.all_eq_true, List.contains_iff_mem, mem_allowedContent_flip]

theorem edgeOk_un_flip (o : OTree) (F : Path → Bool) (p : Path) (f fc : List Nat) :
    Spec.edgeOk .unordered (o.flip F) (Path.flipPos F p) f fc = Spec.edgeOk .unordered o p f fc := by
  rw [Bool.eq_iff_iff]
  simp only [Spec.edgeOk, List.all_eq_true, Bool.or_eq_true, List.contains_iff_mem,
    mem_gainsAt_flip]

/-- Under a flip of the whole input the subtree at position `p` is compared at its new
    position. -/
theorem validUnLabels_flip (whole : OTree) (G : Path → Bool) : ∀ (o : OTree) (sol : Sol) (p : Path),
    Spec.validUnLabels (whole.flip G) (Path.flipPos G p) (o.flip (fun q => G (p ++ q)))
        (sol.flip (fun q => G (p ++ q))) =
      Spec.validUnLabels whole p o sol := by
  intro o
  induction o with
  | leaf sp f =>
    intro sol p
    cases sol with
    | leaf s g => rfl
    | node s g l r =>
      cases hF : G (p ++ []) <;>
        simp only [Sol.flip_node_false, Sol.flip_node_true, hF, OTree.flip, Spec.validUnLabels]
  | node ol or ihl ihr =>
    intro sol p
    cases sol with
    | leaf s g =>
      cases hF : G (p ++ []) <;>
        simp only [OTree.flip_node_false, OTree.flip_node_true, hF, Sol.flip, Spec.validUnLabels]
    | node s g l r =>
      -- the children sit at `p ++ [0]`, `p ++ [1]`; after the flip at `flipPos G p ++ [k']`
      have il := ihl l (p ++ [0])
      have ir := ihr r (p ++ [1])
      have a0 := edgeOk_un_flip whole G (p ++ [0]) g l.fam
      have a1 := edgeOk_un_flip whole G (p ++ [1]) g r.fam
      rw [Path.flipPos_append] at il ir a0 a1
      simp only [List.append_assoc, List.singleton_append] at il ir
      cases hG : G p
      · have hF : (fun q => G (p ++ q)) [] = false := by simp only [List.append_nil, hG]
        simp only [hG, Bool.false_eq_true, if_false] at il ir a0 a1
        simp only [OTree.flip_node_false (F := fun q => G (p ++ q)) hF,
          Sol.flip_node_false (F := fun q => G (p ++ q)) hF, Spec.validUnLabels,
          Sol.flip_fam, all_allowed_flip, il, ir, a0, a1]
      · have hF : (fun q => G (p ++ q)) [] = true := by simp only [List.append_nil, hG]
        have s0 : Path.swapNat 0 1 0 = 1 := rfl
        have s1 : Path.swapNat 0 1 1 = 0 := rfl
        simp only [hG, if_true, s0, s1] at il ir a0 a1
        simp only [OTree.flip_node_true (F := fun q => G (p ++ q)) hF,
          Sol.flip_node_true (F := fun q => G (p ++ q)) hF, Spec.validUnLabels,
          Sol.flip_fam, all_allowed_flip, il, ir, a0, a1]
        ac_rfl

theorem validSol_flip (mode : LabelMode) (o : OTree) (sol : Sol) (F : Path → Bool) :
    Spec.validSol mode (o.flip F) (sol.flip F) = Spec.validSol mode o sol := by
  obtain ⟨_, hrec, _, hord, _⟩ := flip_same o sol F
  cases mode
  · simp only [Spec.validSol, hrec]
  · simp only [Spec.validSol, hrec, hord, Sol.flip_fam,
      isPermOf_congr _ _ _ (families_flip_perm o F)]
  · have := validUnLabels_flip o F o sol []
    simp only [List.nil_append, Path.flipPos] at this
    simp only [Spec.validSol, hrec, this]

end SR
