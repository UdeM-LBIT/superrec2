/-
  `superrec2.utils.subsequences` (property C18).  The counting specification `lostRuns`,
  generalised by a flag (`cnt`), satisfies a recursion (`cnt_cons`), and the state machine of the
  loop of `subseq_segment_dist` (`walk`) computes it; the loop over the two masks is that state
  machine on the keep/lost pattern, and its early exits are exactly non-containment.
-/
import SRVerif.Spec.Subseq
import SRVerif.Model.Subseq

namespace SR.SubseqProofs
open SR.SubseqSpec

/-- Generalisation of `lostRuns` with a flag "a kept position has already been seen". -/
def cnt (edges seen : Bool) (l : List Bool) : Nat :=
  (List.range l.length).countP fun i =>
    l[i]? == some false &&
      (if edges then l[i + 1]? != some false
       else l[i + 1]? == some true && (seen || (l.take i).contains true))

theorem lostRuns_eq_cnt (edges : Bool) (l : List Bool) : lostRuns edges l = cnt edges false l := by
  unfold lostRuns cnt
  congr 1

@[simp] theorem cnt_nil (edges seen : Bool) : cnt edges seen [] = 0 := by simp [cnt]

theorem cnt_cons (edges seen a : Bool) (t : List Bool) :
    cnt edges seen (a :: t) =
      (if a = false ∧ (if edges then t.head? ≠ some false else t.head? = some true ∧ seen = true)
        then 1 else 0) + cnt edges (seen || a) t := by
  unfold cnt
  rw [List.length_cons, List.range_succ_eq_map, List.countP_cons, List.countP_map, Nat.add_comm]
  congr 1
  · cases edges <;> simp [List.head?_eq_getElem?]
  · congr 1
    funext i
    simp only [Function.comp, List.getElem?_cons_succ, List.take_succ_cons, List.contains_cons,
      Bool.true_beq, Bool.or_assoc]

theorem cnt_true_seen (s s' : Bool) (l : List Bool) : cnt true s l = cnt true s' l := by
  unfold cnt; simp

def startsWith (b : Bool) (l : List Bool) : Int := if l.head? = some b then 1 else 0

def b2i (b : Bool) : Int := if b then 1 else 0
@[simp] theorem b2i_true : b2i true = 1 := rfl
@[simp] theorem b2i_false : b2i false = 0 := rfl

theorem cnt_cons_true (e s : Bool) (t : List Bool) : cnt e s (true :: t) = cnt e true t := by
  rw [cnt_cons]; simp

/-- A lost head is counted when what follows it is kept (past the end that is `e`) and, with the ends
    excluded, a kept position came before it. -/
theorem cnt_cons_false (e s : Bool) (t : List Bool) :
    cnt e s (false :: t) = (if t.head?.getD e && (e || s) then 1 else 0) + cnt e s t := by
  rw [cnt_cons]
  cases e <;> cases t with
    | nil => simp
    | cons b t => cases b <;> simp

theorem one_le_cnt_true (l : List Bool) (h : false ∈ l) (s : Bool) : 1 ≤ cnt true s l := by
  induction l generalizing s with
  | nil => simp at h
  | cons b t ih =>
    cases b with
    | true =>
      rw [cnt_cons_true]
      exact ih (by simpa using h) true
    | false =>
      rw [cnt_cons_false]
      -- the lost head is counted unless another lost element follows, and then that one is counted
      -- (induction hypothesis)
      match t, ih with
      | [], _ => exact Nat.le_add_right 1 _
      | true :: _, _ => exact Nat.le_add_right 1 _
      | false :: _, ih => exact Nat.le_trans (ih List.mem_cons_self s) (Nat.le_add_left _ _)

theorem one_le_lostRuns_true (l : List Bool) (h : false ∈ l) : 1 ≤ lostRuns true l := by
  rw [lostRuns_eq_cnt]; exact one_le_cnt_true l h false

/-- The loop of `subseq_segment_dist` seen on the keep/lost pattern
    (state: `in_segm`, `dist`). -/
def walk : Bool → Int → List Bool → Int × Bool
  | s, d, [] => (d, s)
  | _, d, true :: t => walk false d t
  | s, d, false :: t => walk true (if s then d else d + 1) t

@[simp] theorem walk_nil (s : Bool) (d : Int) : walk s d [] = (d, s) := rfl
@[simp] theorem walk_cons_true (s : Bool) (d : Int) (t : List Bool) :
    walk s d (true :: t) = walk false d t := rfl
@[simp] theorem walk_cons_false_t (d : Int) (t : List Bool) :
    walk true d (false :: t) = walk true d t := rfl
@[simp] theorem walk_cons_false_f (d : Int) (t : List Bool) :
    walk false d (false :: t) = walk true (d + 1) t := rfl

/-- Result of the function given the pattern (final `dist -= 1` included). -/
def walkResult (edges : Bool) (l : List Bool) : Int :=
  if (walk (!edges) 0 l).2 && !edges then (walk (!edges) 0 l).1 - 1 else (walk (!edges) 0 l).1

@[simp] theorem startsWith_nil (b : Bool) : startsWith b [] = 0 := rfl
@[simp] theorem startsWith_cons (b a : Bool) (t : List Bool) :
    startsWith b (a :: t) = if a = b then 1 else 0 := by
  simp [startsWith]

/-- The loop invariant.  `walk` counts a lost run on entering it, `cnt` at its last position:
    started inside a run (`s`), the run at the head of the list is not counted again; with the ends
    excluded (`e = false`) a run still open at the end does not count (the `dist -= 1` of the code). -/
theorem walk_cnt (e : Bool) (l : List Bool) : ∀ (s : Bool) (d : Int),
    (walk s d l).1 + b2i (s && !l.head?.getD e) = d + cnt e true l + b2i (!e && (walk s d l).2) := by
  induction l with
  | nil => intro s d; cases e <;> cases s <;> simp
  | cons b t ih =>
    intro s d
    cases b
    · have := ih true (if s then d else d + 1)
      rw [cnt_cons_false]
      cases s <;> cases h : t.head?.getD e <;> simp [walk, h] at this ⊢ <;> omega
    · have := ih false d
      rw [cnt_cons_true]
      simpa [walk] using this

/-- Ends excluded, no kept position seen yet: the loop is inside the leading run, which neither
    side counts, until the first kept position. -/
theorem walk_unseen (l : List Bool) (h : true ∈ l) : ∀ d : Int,
    (walk true d l).1 = d + cnt false false l + b2i (walk true d l).2 := by
  induction l with
  | nil => simp at h
  | cons b t ih =>
    intro d
    cases b
    · rw [cnt_cons_false]
      simpa using ih (by simpa using h) d
    · rw [cnt_cons_true]
      simpa [walk] using walk_cnt false t false d

theorem walk_all_lost (l : List Bool) (h : true ∉ l) (s : Bool) (d : Int) :
    walk s d l = if l = [] then (d, s) else (if s then d else d + 1, true) := by
  induction l generalizing s d with
  | nil => rfl
  | cons b t ih =>
    obtain ⟨rfl, ht⟩ : b = false ∧ true ∉ t := by simpa [eq_comm] using h
    cases s <;> cases t <;> simp [walk, ih ht]

theorem walkResult_true (l : List Bool) : walkResult true l = (lostRuns true l : Nat) := by
  have := walk_cnt true l false 0
  simpa [walkResult, lostRuns_eq_cnt, cnt_true_seen true false] using this

theorem walkResult_eq (edges : Bool) (l : List Bool) (h : true ∈ l) :
    walkResult edges l = (lostRuns edges l : Nat) := by
  cases edges
  · have := walk_unseen l h 0
    rw [lostRuns_eq_cnt]
    unfold walkResult
    cases hs : (walk true 0 l).2 <;> simp [hs] at this ⊢ <;> omega
  · exact walkResult_true l

/-- The `n` low bits of a mask, least significant first.  The loop of `subseq_segment_dist`,
    `keptPattern`, `Contained` and the masks of subsequences are all read on this list: the loop
    halves both masks in step (`bits_succ`), the specification indexes by `testBit`. -/
def bits (n m : Nat) : List Bool := (List.range n).map m.testBit

theorem bits_succ (n m : Nat) : bits (n + 1) m = decide (m % 2 = 1) :: bits n (m / 2) := by
  simp [bits, List.range_succ_eq_map, Nat.testBit_zero, Nat.testBit_succ, Function.comp_def]

/-- The child's bits at the positions where the parent's bit is set. -/
def keptOf (cs ps : List Bool) : List Bool := ((cs.zip ps).filter (·.2)).map (·.1)

/-- Some position has the child's bit set and the parent's bit clear. -/
def escapes (cs ps : List Bool) : Bool := (cs.zip ps).any fun x => x.1 && !x.2

theorem keptOf_map {α : Type} (f g : α → Bool) (l : List α) :
    keptOf (l.map f) (l.map g) = (l.filter g).map f := by
  simp [keptOf, List.zip_map', List.filter_map, Function.comp_def]

theorem escapes_map {α : Type} (f g : α → Bool) (l : List α) :
    escapes (l.map f) (l.map g) = l.any fun a => f a && !g a := by
  simp [escapes, List.zip_map', List.any_map, Function.comp_def]

theorem keptOf_cons (c p : Bool) (cs ps : List Bool) :
    keptOf (c :: cs) (p :: ps) = if p then c :: keptOf cs ps else keptOf cs ps := by
  cases p <;> rfl

theorem escapes_cons (c p : Bool) (cs ps : List Bool) :
    escapes (c :: cs) (p :: ps) = (c && !p || escapes cs ps) := rfl

/-- The loop over the two masks is `walk` on the kept bits; its early exit is a child bit that
    escapes the parent. -/
theorem segLoop_eq (n : Nat) : ∀ (c p : Nat) (s : Bool) (d : Int),
    (segLoop n { child := c, parent := p, inSegm := s, dist := d }).map
        (fun st => (st.dist, st.inSegm))
      = if escapes (bits n c) (bits n p) then none
        else some (walk s d (keptOf (bits n c) (bits n p))) := by
  induction n with
  | zero => intro c p s d; rfl
  | succ n ih =>
    intro c p s d
    rw [bits_succ, bits_succ, keptOf_cons, escapes_cons]
    unfold segLoop segStep
    by_cases hc : c % 2 = 1 <;> by_cases hp : p % 2 = 1 <;> cases s <;> simp [hc, hp, ih]

/-- Positions at or above the width of the parent hold no parent bit. -/
theorem filter_range_testBit {p k n : Nat} (hp : p < 2 ^ k) (hkn : k ≤ n) :
    (List.range n).filter p.testBit = (List.range k).filter p.testBit := by
  obtain ⟨j, rfl⟩ := Nat.exists_eq_add_of_le hkn
  rw [List.range_add, List.filter_append, List.append_right_eq_self, List.filter_eq_nil_iff]
  intro i hi
  obtain ⟨i, -, rfl⟩ := List.mem_map.1 hi
  simp [Nat.testBit_lt_two_pow (Nat.lt_of_lt_of_le hp (Nat.pow_le_pow_right Nat.two_pos
    (Nat.le_add_right k i)))]

theorem keptPattern_bits {p n : Nat} (c : Nat) (hp : p < 2 ^ n) :
    keptPattern c p = keptOf (bits n c) (bits n p) := by
  rw [bits, bits, keptOf_map, keptPattern]
  by_cases h0 : p = 0
  · subst h0; simp
  · rw [filter_range_testBit Nat.lt_log2_self ((Nat.log2_lt h0).2 hp)]

theorem escapes_bits (n c p : Nat) :
    escapes (bits n c) (bits n p) = true ↔ ∃ i, i < n ∧ c.testBit i = true ∧ p.testBit i = false := by
  simp [bits, escapes_map]

@[simp] theorem bitLength_zero : bitLength 0 = 0 := by simp [bitLength]

theorem bitLength_eq (n : Nat) (h : n ≠ 0) : bitLength n = n.log2 + 1 := by
  induction n using Nat.strongRecOn with
  | ind n ih =>
    cases n with
    | zero => exact absurd rfl h
    | succ m =>
      rw [bitLength, Nat.log2_def]
      by_cases h2 : 2 ≤ m + 1
      · rw [ih _ (Nat.div_lt_self (Nat.succ_pos m) (Nat.le_refl 2))
          (Nat.ne_of_gt (Nat.div_pos h2 Nat.two_pos)), if_pos h2, Nat.add_comm]
      · rw [Nat.div_eq_of_lt (Nat.lt_of_not_le h2), bitLength_zero, if_neg h2]

theorem lt_two_pow_bitLength (n : Nat) : n < 2 ^ bitLength n := by
  by_cases h : n = 0
  · subst h; simp
  · rw [bitLength_eq n h]; exact Nat.lt_log2_self

theorem testBit_false_of_bitLength_le {n i : Nat} (h : bitLength n ≤ i) : n.testBit i = false :=
  Nat.testBit_lt_two_pow
    (Nat.lt_of_lt_of_le (lt_two_pow_bitLength n) (Nat.pow_le_pow_right (by omega) h))

theorem lt_bitLength_of_testBit {n i : Nat} (h : n.testBit i = true) : i < bitLength n := by
  apply Nat.lt_of_not_le
  intro hle
  simp [testBit_false_of_bitLength_le hle] at h

theorem testBit_top {n : Nat} (h : n ≠ 0) : n.testBit (bitLength n - 1) = true := by
  rw [bitLength_eq n h]; exact Nat.testBit_log2 h

theorem bitLength_pos {n : Nat} (h : n ≠ 0) : 0 < bitLength n := by
  rw [bitLength_eq n h]; omega

theorem containedB_iff (c p : Nat) : containedB c p = true ↔ Contained c p := by
  unfold containedB Contained
  simp only [List.all_eq_true, List.mem_range, Bool.or_eq_true, Bool.not_eq_true']
  constructor
  · intro h i hi
    have hlt : i < bitLength c := lt_bitLength_of_testBit hi
    have hc : c ≠ 0 := by rintro rfl; simp at hi
    rw [bitLength_eq c hc] at hlt
    rcases h i hlt with h' | h'
    · simp [h'] at hi
    · exact h'
  · intro h i _
    cases hi : c.testBit i
    · left; rfl
    · right; exact h i hi

instance (c p : Nat) : Decidable (Contained c p) :=
  decidable_of_iff _ (containedB_iff c p)

/-- Containment is what the length test before the loop and the loop's early exits check. -/
theorem contained_iff_loop (c p : Nat) :
    Contained c p ↔ ¬ bitLength p < bitLength c ∧
      escapes (bits (bitLength p) c) (bits (bitLength p) p) = false := by
  rw [Bool.eq_false_iff, Ne, escapes_bits]
  constructor
  · intro h
    refine ⟨fun hlt => ?_, fun ⟨i, _, h1, h2⟩ => by simp [h i h1] at h2⟩
    have hc : c ≠ 0 := by rintro rfl; simp at hlt
    have := h _ (testBit_top hc)
    simp [testBit_false_of_bitLength_le (n := p) (i := bitLength c - 1) (by omega)] at this
  · rintro ⟨hlen, hb⟩ i hi
    have hlt : i < bitLength p := Nat.lt_of_lt_of_le (lt_bitLength_of_testBit hi) (by omega)
    cases hp : p.testBit i
    · exact absurd ⟨i, hlt, hi, hp⟩ hb
    · rfl

theorem mem_keptPattern_of_contained {c p : Nat} (hc : c ≠ 0) (h : Contained c p) :
    true ∈ keptPattern c p := by
  unfold keptPattern
  have h1 := testBit_top hc
  have h2 := h _ h1
  have hp : p ≠ 0 := by rintro rfl; simp at h2
  have := lt_bitLength_of_testBit h2
  rw [bitLength_eq p hp] at this
  simp only [List.mem_map, List.mem_filter, List.mem_range]
  exact ⟨_, ⟨this, h2⟩, h1⟩

theorem not_mem_keptPattern_zero (p : Nat) : true ∉ keptPattern 0 p := by
  simp [keptPattern]

theorem keptPattern_zero_eq_nil_iff (p : Nat) : keptPattern 0 p = [] ↔ p = 0 := by
  constructor
  · intro h
    apply Classical.byContradiction
    intro hp
    have h1 := testBit_top hp
    have hmem : false ∈ keptPattern 0 p := by
      unfold keptPattern
      simp only [List.mem_map, List.mem_filter, List.mem_range]
      refine ⟨bitLength p - 1, ⟨?_, h1⟩, by simp⟩
      rw [bitLength_eq p hp]; omega
    rw [h] at hmem
    simp at hmem
  · rintro rfl
    simp [keptPattern]

theorem subseqSegmentDist_eq (c p : Nat) (e : Bool) :
    subseqSegmentDist c p e =
      if Contained c p then walkResult e (keptPattern c p) else -1 := by
  unfold subseqSegmentDist
  rw [keptPattern_bits c (lt_two_pow_bitLength p)]
  simp only [contained_iff_loop]
  by_cases hlen : bitLength p < bitLength c
  · simp [hlen]
  · -- the result only reads `dist` and `inSegm` of the final state, which `segLoop_eq` gives
    have hread : ∀ x : Option SegState,
        (match x with
          | none => -1
          | some s => if s.inSegm && !e then s.dist - 1 else s.dist) =
        ((x.map fun st => (st.dist, st.inSegm)).elim (-1)
          fun q => if q.2 && !e then q.1 - 1 else q.1) := fun x => by cases x <;> rfl
    rw [if_neg hlen]
    refine (hread _).trans ?_
    rw [segLoop_eq]
    cases escapes (bits (bitLength p) c) (bits (bitLength p) p) <;> simp [hlen, walkResult]

/-- `subseq_segment_dist` on all masks: the number of lost runs when the child is contained in
    the parent, `-1` otherwise — and also for the empty child with the ends excluded, where the
    loop never leaves the leading run and the final `dist -= 1` applies to a count of `0`. -/
theorem subseqSegmentDist_total (c p : Nat) (e : Bool) :
    subseqSegmentDist c p e =
      if Contained c p ∧ (c ≠ 0 ∨ e = true) then ((lostRuns e (keptPattern c p) : Nat) : Int)
      else -1 := by
  rw [subseqSegmentDist_eq]
  by_cases h : Contained c p
  · by_cases hc : c = 0
    · subst hc
      cases e
      · have hw := walk_all_lost _ (not_mem_keptPattern_zero p) true 0
        by_cases h0 : keptPattern 0 p = [] <;> simp [h, walkResult, hw, h0]
      · simp [h, walkResult_true]
    · simp [h, hc, walkResult_eq e _ (mem_keptPattern_of_contained hc h)]
  · simp [h]

theorem subseqSegmentDist_neg_iff {c : Nat} (hc : c ≠ 0) (p : Nat) (e : Bool) :
    subseqSegmentDist c p e < 0 ↔ ¬ Contained c p := by
  rw [subseqSegmentDist_total]
  by_cases h : Contained c p <;> simp [h, hc]

end SR.SubseqProofs
