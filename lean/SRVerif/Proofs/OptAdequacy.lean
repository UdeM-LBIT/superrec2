/-
  Adequacy of the specification oracle `Spec.optTable` / `Spec.optimum`, generically in the
  `ModeData` (plain, ordered with a root order, unordered): a cell value is the minimum of
  `specCost` over the `Feasible` solutions with the cell's root state, the kept solutions of a
  cell are exactly those attaining it; the same for `Spec.optimum`.
  `Adequate` (end of the file) is what a labelling mode adds to turn this into statements about
  VALID solutions and the evaluator's `totalCost`; the properties use its consequences at the
  instances `adequate_plain`, `adequate_ord`, `adequate_un` of the mode files.
-/
import SRVerif.Proofs.Agg
import SRVerif.Proofs.Optima
import SRVerif.Spec.Opt

namespace SR.Spec

open SR Cost

theorem mem_sublists {β : Type} (l : List β) : ∀ xs : List β, l ∈ sublists xs ↔ l.Sublist xs := by
  intro xs
  induction xs generalizing l with
  | nil => simp [sublists]
  | cons x xs ih =>
    simp only [sublists, List.mem_flatMap, List.mem_cons, List.not_mem_nil, or_false]
    constructor
    · rintro ⟨l', hl', rfl | rfl⟩
      · exact List.Sublist.cons _ ((ih _).mp hl')
      · exact List.Sublist.cons_cons _ ((ih _).mp hl')
    · intro h
      cases h with
      | cons _ h' => exact ⟨l, (ih l).mpr h', Or.inl rfl⟩
      | cons_cons _ h' => exact ⟨_, (ih _).mpr h', Or.inr rfl⟩

/-- What `optTable` puts at a leaf carrying `f`. -/
def leafLabel (md : ModeData) (f : List Nat) : List Nat :=
  match md with
  | .plain => []
  | .ordered _ => f
  | .unordered => sortNat (dedup f)

/-- The species an internal node (subtree `t`) may be mapped to. -/
def speciesSpace (S : RTree) (base : Bool) (t : OTree) : List Path :=
  if base then [(lcaSol t).sp] else allSpecies S

/-- The labelled sub-solutions the oracle ranges over at the object node `p` (subtree `t`): same
    shape, leaves as given with the mode's leaf label, internal nodes in an allowed species with a
    label of `labelSpace`. -/
def Feasible (S : RTree) (md : ModeData) (base : Bool) (whole : OTree) : Path → OTree → Sol → Prop
  | _, .leaf sp f, .leaf s g => s = sp ∧ g = leafLabel md f
  | p, .node l r, .node s f sl sr =>
    s ∈ speciesSpace S base (.node l r) ∧ f ∈ labelSpace md whole p ∧
    Feasible S md base whole (p ++ [0]) l sl ∧ Feasible S md base whole (p ++ [1]) r sr
  | _, .leaf _ _, .node _ _ _ _ => False
  | _, .node _ _, .leaf _ _ => False

/-- Sum of the evaluator's local costs over the internal nodes (infinite when an edge labelling
    is inadmissible or an event invalid). -/
def specCost (c : Costs) (md : ModeData) (whole : OTree) : Path → Sol → Cost
  | _, .leaf _ _ => .fin 0
  | p, .node s f sl sr =>
    localCost c md whole p s f sl.sp sl.fam sr.sp sr.fam +
      (specCost c md whole (p ++ [0]) sl + specCost c md whole (p ++ [1]) sr)

theorem localCost_ne_inf {c : Costs} {md : ModeData} {whole : OTree} {p s : Path} {f : List Nat}
    {a : Path} {fa : List Nat} {b : Path} {fb : List Nat}
    (h : localCost c md whole p s f a fa b fb ≠ .inf) :
    edgeOk md whole (p ++ [0]) f fa = true ∧ edgeOk md whole (p ++ [1]) f fb = true ∧
      internalEvent s a b ≠ .invalid := by
  unfold localCost at h
  split at h
  · exact absurd rfl h
  · rename_i hedge
    simp only [Bool.not_eq_true', Bool.and_eq_false_iff, not_or, Bool.not_eq_false] at hedge
    refine ⟨hedge.1, hedge.2, fun hev => h ?_⟩
    cases md <;> simp [hev, localOrdLosses, localUnordLosses, localRecCost]

theorem Feasible.induction_finite {c : Costs} {S : RTree} {md : ModeData} {base : Bool}
    {whole : OTree} {P : Path → OTree → Sol → Prop}
    (leaf : ∀ p sp f, P p (.leaf sp f) (.leaf sp (leafLabel md f)))
    (node : ∀ p l r s f sl sr, s ∈ speciesSpace S base (.node l r) → f ∈ labelSpace md whole p →
      edgeOk md whole (p ++ [0]) f sl.fam = true → edgeOk md whole (p ++ [1]) f sr.fam = true →
      internalEvent s sl.sp sr.sp ≠ .invalid → specCost c md whole p (.node s f sl sr) ≠ .inf →
      P (p ++ [0]) l sl → P (p ++ [1]) r sr → P p (.node l r) (.node s f sl sr)) :
    ∀ (t : OTree) (p : Path) (sol : Sol), Feasible S md base whole p t sol →
      specCost c md whole p sol ≠ .inf → P p t sol
  | .leaf sp f, p, .leaf s g, hf, _ => by
    obtain ⟨rfl, rfl⟩ := hf
    exact leaf p _ f
  | .node l r, p, .node s f sl sr, hf, hfin => by
    obtain ⟨hs, hg, hfl, hfr⟩ := hf
    obtain ⟨hloc, hfin'⟩ := add_ne_inf hfin
    obtain ⟨hfinl, hfinr⟩ := add_ne_inf hfin'
    obtain ⟨hel, her, hev⟩ := localCost_ne_inf hloc
    exact node p l r s f sl sr hs hg hel her hev hfin
      (Feasible.induction_finite leaf node l _ sl hfl hfinl)
      (Feasible.induction_finite leaf node r _ sr hfr hfinr)
  | .leaf _ _, _, .node _ _ _ _, hf, _ => hf.elim
  | .node _ _, _, .leaf _ _, hf, _ => hf.elim

/-- The node case of `optTable` cut into pieces (`cands`, `bestOf`, `solsOf`, `nodeCell`).  The
    candidates of a cell: one per pair of child cells. -/
def cands (c : Costs) (md : ModeData) (whole : OTree) (p s : Path) (f : List Nat)
    (L R : List OCell) : List (Cost × OCell × OCell) :=
  L.flatMap fun cl => R.map fun cr =>
    (localCost c md whole p s f cl.sp cl.fam cr.sp cr.fam + (cl.cost + cr.cost), cl, cr)

def bestOf (c : Costs) (md : ModeData) (whole : OTree) (p s : Path) (f : List Nat)
    (L R : List OCell) : Cost :=
  Cost.minList ((cands c md whole p s f L R).map (·.1))

def solsOf (c : Costs) (md : ModeData) (whole : OTree) (keep : Bool) (p s : Path) (f : List Nat)
    (L R : List OCell) : List Sol :=
  if keep then
    ((cands c md whole p s f L R).filter (fun x => x.1 = bestOf c md whole p s f L R)).flatMap
      fun x => x.2.1.sols.flatMap fun sl => x.2.2.sols.map fun sr => Sol.node s f sl sr
  else []

def nodeCell (c : Costs) (md : ModeData) (whole : OTree) (keep : Bool) (p s : Path) (f : List Nat)
    (L R : List OCell) : Option OCell :=
  if (bestOf c md whole p s f L R).isInf then none
  else some { sp := s, fam := f, cost := bestOf c md whole p s f L R,
              sols := solsOf c md whole keep p s f L R }

theorem optTable_leaf (c : Costs) (S : RTree) (md : ModeData) (base keep : Bool) (whole : OTree)
    (p : Path) (sp : Path) (f : List Nat) :
    optTable c S md base keep whole p (.leaf sp f) =
      [{ sp := sp, fam := leafLabel md f, cost := .fin 0,
         sols := if keep then [.leaf sp (leafLabel md f)] else [] }] := by
  cases md <;> rfl

theorem optTable_node (c : Costs) (S : RTree) (md : ModeData) (base keep : Bool) (whole : OTree)
    (p : Path) (l r : OTree) :
    optTable c S md base keep whole p (.node l r) =
      (speciesSpace S base (.node l r)).flatMap fun s =>
        (labelSpace md whole p).filterMap fun f =>
          nodeCell c md whole keep p s f
            (optTable c S md base keep whole (p ++ [0]) l)
            (optTable c S md base keep whole (p ++ [1]) r) := rfl

theorem mem_optTable_node {c : Costs} {S : RTree} {md : ModeData} {base keep : Bool} {whole : OTree}
    {p : Path} {l r : OTree} {cell : OCell} :
    cell ∈ optTable c S md base keep whole p (.node l r) ↔
      ∃ s ∈ speciesSpace S base (.node l r), ∃ f ∈ labelSpace md whole p,
        bestOf c md whole p s f (optTable c S md base keep whole (p ++ [0]) l)
          (optTable c S md base keep whole (p ++ [1]) r) ≠ .inf ∧
        cell = { sp := s, fam := f,
                 cost := bestOf c md whole p s f (optTable c S md base keep whole (p ++ [0]) l)
                   (optTable c S md base keep whole (p ++ [1]) r),
                 sols := solsOf c md whole keep p s f (optTable c S md base keep whole (p ++ [0]) l)
                   (optTable c S md base keep whole (p ++ [1]) r) } := by
  rw [optTable_node]
  simp only [List.mem_flatMap, List.mem_filterMap, nodeCell]
  constructor
  · rintro ⟨s, hs, f, hf, h⟩
    refine ⟨s, hs, f, hf, ?_⟩
    split at h
    · cases h
    · rename_i hb
      injection h with h
      exact ⟨isInf_eq_false.mp (by simpa using hb), h.symm⟩
  · rintro ⟨s, hs, f, hf, hb, rfl⟩
    refine ⟨s, hs, f, hf, ?_⟩
    rw [if_neg (by rw [isInf_eq_false.mpr hb]; simp)]

section

variable {c : Costs} {md : ModeData} {whole : OTree} {p s : Path} {f : List Nat}
  {L R : List OCell}

theorem mem_cands {x : Cost × OCell × OCell} :
    x ∈ cands c md whole p s f L R ↔
      x.2.1 ∈ L ∧ x.2.2 ∈ R ∧
        x.1 = localCost c md whole p s f x.2.1.sp x.2.1.fam x.2.2.sp x.2.2.fam +
          (x.2.1.cost + x.2.2.cost) := by
  obtain ⟨v, cl, cr⟩ := x
  simp only [cands, List.mem_flatMap, List.mem_map, Prod.mk.injEq]
  constructor
  · rintro ⟨cl', hl, cr', hr, rfl, rfl, rfl⟩; exact ⟨hl, hr, rfl⟩
  · rintro ⟨hl, hr, rfl⟩; exact ⟨cl, hl, cr, hr, rfl, rfl, rfl⟩

theorem bestOf_le {cl cr : OCell} (hl : cl ∈ L) (hr : cr ∈ R) :
    bestOf c md whole p s f L R ≼
      localCost c md whole p s f cl.sp cl.fam cr.sp cr.fam + (cl.cost + cr.cost) := by
  apply minList_le
  exact List.mem_map.mpr ⟨(_, cl, cr), mem_cands.mpr ⟨hl, hr, rfl⟩, rfl⟩

theorem bestOf_attained (h : bestOf c md whole p s f L R ≠ .inf) :
    ∃ cl ∈ L, ∃ cr ∈ R, bestOf c md whole p s f L R =
      localCost c md whole p s f cl.sp cl.fam cr.sp cr.fam + (cl.cost + cr.cost) := by
  rcases minList_mem_or_inf ((cands c md whole p s f L R).map (·.1)) with hinf | hmem
  · exact absurd hinf h
  · obtain ⟨⟨v, cl, cr⟩, hx, hv⟩ := List.mem_map.mp hmem
    have hv' : v = bestOf c md whole p s f L R := hv
    subst hv'
    obtain ⟨hl, hr, he⟩ := mem_cands.mp hx
    exact ⟨cl, hl, cr, hr, he⟩

theorem mem_solsOf {sol : Sol} :
    sol ∈ solsOf c md whole true p s f L R ↔
      ∃ cl ∈ L, ∃ cr ∈ R,
        localCost c md whole p s f cl.sp cl.fam cr.sp cr.fam + (cl.cost + cr.cost) =
          bestOf c md whole p s f L R ∧
        ∃ sl ∈ cl.sols, ∃ sr ∈ cr.sols, sol = .node s f sl sr := by
  simp only [solsOf, if_true, List.mem_flatMap, List.mem_filter, List.mem_map, decide_eq_true_eq]
  constructor
  · rintro ⟨x, ⟨hx, hbest⟩, sl, hsl, sr, hsr, rfl⟩
    obtain ⟨hl, hr, he⟩ := mem_cands.mp hx
    exact ⟨x.2.1, hl, x.2.2, hr, by rw [← he, hbest], sl, hsl, sr, hsr, rfl⟩
  · rintro ⟨cl, hl, cr, hr, he, sl, hsl, sr, hsr, rfl⟩
    exact ⟨(_, cl, cr), ⟨mem_cands.mpr ⟨hl, hr, rfl⟩, he⟩, sl, hsl, sr, hsr, rfl⟩

end

section

variable (c : Costs) (S : RTree) (md : ModeData) (base : Bool) (whole : OTree)

theorem optTable_lower_complete (keep : Bool) : ∀ (t : OTree) (p : Path) (sol : Sol),
    Feasible S md base whole p t sol → specCost c md whole p sol ≠ .inf →
    ∃ cell ∈ optTable c S md base keep whole p t, cell.sp = sol.sp ∧ cell.fam = sol.fam ∧
      cell.cost ≼ specCost c md whole p sol ∧
      (keep = true → specCost c md whole p sol = cell.cost → sol ∈ cell.sols) := by
  refine Feasible.induction_finite (fun p sp f => ?_)
    (fun p l r s g sl sr hs hg _ _ _ hfin ⟨dl, hdl, spl, faml, lel, kl⟩ ⟨dr, hdr, spr, famr, ler, kr⟩ => ?_)
  · rw [optTable_leaf]
    exact ⟨_, List.mem_singleton.mpr rfl, rfl, rfl, le_refl _, fun hk _ => by simp [hk]⟩
  · simp only [specCost] at hfin ⊢
    have hle := bestOf_le (c := c) (md := md) (whole := whole) (p := p) (s := s) (f := g) hdl hdr
    rw [spl, faml, spr, famr] at hle
    have hle' := le_trans hle (add_le_add (le_refl _) (add_le_add lel ler))
    have hb := ne_inf_of_le hle' hfin
    refine ⟨_, mem_optTable_node.mpr ⟨s, hs, g, hg, hb, rfl⟩, rfl, rfl, hle', ?_⟩
    -- equality with the minimum forces equality in both children
    rintro rfl hcost
    obtain ⟨n, hn⟩ := ne_inf_iff.mp hb
    obtain ⟨el, er⟩ := eq_of_add_le lel ler (by rw [add_assoc, hcost, hn])
      (by rw [add_assoc, add_assoc, hcost]; exact hle)
    refine mem_solsOf.mpr ⟨dl, hdl, dr, hdr, ?_, sl, kl rfl el.symm, sr, kr rfl er.symm, rfl⟩
    rw [spl, faml, spr, famr, el, er]
    exact hcost

theorem optTable_sols_sound (keep : Bool) : ∀ (t : OTree) (p : Path),
    ∀ cell ∈ optTable c S md base keep whole p t, ∀ sol ∈ cell.sols,
      Feasible S md base whole p t sol ∧ sol.sp = cell.sp ∧ sol.fam = cell.fam ∧
        specCost c md whole p sol = cell.cost := by
  intro t
  induction t with
  | leaf sp f =>
    intro p cell hcell sol hsol
    rw [optTable_leaf, List.mem_singleton] at hcell
    subst hcell
    cases keep with
    | false => simp at hsol
    | true =>
      simp only [if_true, List.mem_singleton] at hsol
      subst hsol
      exact ⟨by simp [Feasible], rfl, rfl, rfl⟩
  | node l r ihl ihr =>
    intro p cell hcell sol hsol
    obtain ⟨s, hs, f, hf, _, rfl⟩ := mem_optTable_node.mp hcell
    cases keep with
    | false => simp [solsOf] at hsol
    | true =>
      obtain ⟨cl, hl, cr, hr, he, sl, hsl, sr, hsr, rfl⟩ := mem_solsOf.mp hsol
      obtain ⟨fl, spl, faml, cstl⟩ := ihl (p ++ [0]) cl hl sl hsl
      obtain ⟨fr, spr, famr, cstr⟩ := ihr (p ++ [1]) cr hr sr hsr
      refine ⟨by simp only [Feasible]; exact ⟨hs, hf, fl, fr⟩, rfl, rfl, ?_⟩
      simp only [specCost]
      rw [spl, faml, spr, famr, cstl, cstr]
      exact he

theorem optTable_attained (keep : Bool) : ∀ (t : OTree) (p : Path),
    ∀ cell ∈ optTable c S md base keep whole p t,
      cell.cost ≠ .inf ∧
      ∃ sol, Feasible S md base whole p t sol ∧ sol.sp = cell.sp ∧ sol.fam = cell.fam ∧
        specCost c md whole p sol = cell.cost := by
  intro t
  induction t with
  | leaf sp f =>
    intro p cell hcell
    rw [optTable_leaf, List.mem_singleton] at hcell
    subst hcell
    exact ⟨by simp, .leaf sp (leafLabel md f), by simp [Feasible], rfl, rfl, rfl⟩
  | node l r ihl ihr =>
    intro p cell hcell
    obtain ⟨s, hs, f, hf, hb, rfl⟩ := mem_optTable_node.mp hcell
    refine ⟨hb, ?_⟩
    obtain ⟨cl, hl, cr, hr, he⟩ := bestOf_attained hb
    obtain ⟨_, sl, fl, spl, faml, cstl⟩ := ihl (p ++ [0]) cl hl
    obtain ⟨_, sr, fr, spr, famr, cstr⟩ := ihr (p ++ [1]) cr hr
    refine ⟨.node s f sl sr, by simp only [Feasible]; exact ⟨hs, hf, fl, fr⟩, rfl, rfl, ?_⟩
    simp only [specCost]
    rw [spl, faml, spr, famr, cstl, cstr]
    exact he.symm

theorem optTable_cost_det (keep : Bool) (t : OTree) (p : Path) (d e : OCell)
    (hd : d ∈ optTable c S md base keep whole p t) (he : e ∈ optTable c S md base keep whole p t)
    (hsp : d.sp = e.sp) (hfam : d.fam = e.fam) : d.cost = e.cost := by
  cases t with
  | leaf sp f =>
    rw [optTable_leaf, List.mem_singleton] at hd he
    rw [hd, he]
  | node l r =>
    obtain ⟨s, _, f, _, _, rfl⟩ := mem_optTable_node.mp hd
    obtain ⟨s', _, f', _, _, rfl⟩ := mem_optTable_node.mp he
    simp only at hsp hfam
    subst hsp hfam
    rfl

theorem optTable_cell_min (keep : Bool) (t : OTree) (p : Path) (cell : OCell)
    (hcell : cell ∈ optTable c S md base keep whole p t) :
    (∃ sol, Feasible S md base whole p t sol ∧ sol.sp = cell.sp ∧ sol.fam = cell.fam ∧
        specCost c md whole p sol = cell.cost) ∧
    ∀ sol, Feasible S md base whole p t sol → sol.sp = cell.sp → sol.fam = cell.fam →
      cell.cost ≼ specCost c md whole p sol := by
  obtain ⟨hfin, sol0, h0, sp0, fam0, c0⟩ := optTable_attained c S md base whole keep t p cell hcell
  refine ⟨⟨sol0, h0, sp0, fam0, c0⟩, ?_⟩
  intro sol hf hsp hfam
  refine le_of_ne_inf fun hinf => ?_
  obtain ⟨d, hd, spd, famd, led, _⟩ :=
    optTable_lower_complete c S md base whole keep t p sol hf hinf
  rw [← optTable_cost_det c S md base whole keep t p d cell hd hcell (by rw [spd, hsp])
    (by rw [famd, hfam])]
  exact led

theorem mem_optimum_cells {mode : LabelMode} {keep : Bool} {o : OTree} {pre : Option (List Nat)}
    {md : ModeData} {cell : OCell} (hmd : md ∈ modeDatas mode o pre)
    (hcell : cell ∈ optTable c S md base keep o [] o) :
    (optimum c S mode base keep o pre).1 ≼ cell.cost := by
  apply minList_le
  exact List.mem_map.mpr ⟨cell, List.mem_flatMap.mpr ⟨md, hmd, hcell⟩, rfl⟩

theorem optimum_le (mode : LabelMode) (keep : Bool) (o : OTree) (pre : Option (List Nat))
    (md : ModeData) (hmd : md ∈ modeDatas mode o pre) (sol : Sol)
    (hf : Feasible S md base o [] o sol) :
    (optimum c S mode base keep o pre).1 ≼ specCost c md o [] sol := by
  refine le_of_ne_inf fun hinf => ?_
  obtain ⟨d, hd, _, _, led, _⟩ := optTable_lower_complete c S md base o keep o [] sol hf hinf
  exact le_trans (mem_optimum_cells c S base hmd hd) led

theorem optimum_attained (mode : LabelMode) (keep : Bool) (o : OTree) (pre : Option (List Nat))
    (h : (optimum c S mode base keep o pre).1 ≠ .inf) :
    ∃ md ∈ modeDatas mode o pre, ∃ sol, Feasible S md base o [] o sol ∧
      specCost c md o [] sol = (optimum c S mode base keep o pre).1 := by
  rcases minList_mem_or_inf
    (((modeDatas mode o pre).flatMap fun md => optTable c S md base keep o [] o).map (·.cost)) with
    hinf | hmem
  · exact absurd hinf h
  · obtain ⟨cell, hcell, hc⟩ := List.mem_map.mp hmem
    obtain ⟨md, hmd, hcell⟩ := List.mem_flatMap.mp hcell
    obtain ⟨_, sol, hf, _, _, hcost⟩ := optTable_attained c S md base o keep o [] cell hcell
    exact ⟨md, hmd, sol, hf, by rw [hcost]; exact hc⟩

theorem optimum_fst_keep (mode : LabelMode) (keep keep' : Bool) (o : OTree) (pre : Option (List Nat)) :
    (optimum c S mode base keep o pre).1 = (optimum c S mode base keep' o pre).1 := by
  have key : ∀ k k' : Bool,
      (optimum c S mode base k o pre).1 ≼ (optimum c S mode base k' o pre).1 := by
    intro k k'
    refine le_of_ne_inf fun hinf => ?_
    obtain ⟨md, hmd, sol, hf, hc⟩ := optimum_attained c S base mode k' o pre hinf
    rw [← hc]
    exact optimum_le c S base mode k o pre md hmd sol hf
  exact le_antisymm (key keep keep') (key keep' keep)

theorem mem_optimum_sols (mode : LabelMode) (o : OTree) (pre : Option (List Nat)) (sol : Sol) :
    sol ∈ (optimum c S mode base true o pre).2 ↔
      ∃ md ∈ modeDatas mode o pre, Feasible S md base o [] o sol ∧
        specCost c md o [] sol = (optimum c S mode base true o pre).1 ∧
        (optimum c S mode base true o pre).1 ≠ .inf := by
  constructor
  · intro h
    simp only [optimum, mem_dedup, List.mem_flatMap, List.mem_filter, decide_eq_true_eq] at h
    obtain ⟨cell, ⟨⟨md, hmd, hcell⟩, hbest⟩, hsol⟩ := h
    obtain ⟨hf, _, _, hcost⟩ := optTable_sols_sound c S md base o true o [] cell hcell sol hsol
    have hfin := (optTable_attained c S md base o true o [] cell hcell).1
    refine ⟨md, hmd, hf, ?_, ?_⟩
    · rw [hcost]; exact hbest
    · intro e; apply hfin; rw [hbest]; exact e
  · rintro ⟨md, hmd, hf, hcost, hfin⟩
    obtain ⟨d, hd, _, _, led, hcomp⟩ :=
      optTable_lower_complete c S md base o true o [] sol hf (by rw [hcost]; exact hfin)
    have hdc : d.cost = (optimum c S mode base true o pre).1 :=
      le_antisymm (by rw [← hcost]; exact led) (mem_optimum_cells c S base hmd hd)
    have hin := hcomp rfl (by rw [hcost, hdc])
    simp only [optimum, mem_dedup, List.mem_flatMap, List.mem_filter, decide_eq_true_eq]
    exact ⟨d, ⟨⟨md, hmd, hd⟩, hdc⟩, hin⟩

theorem nodup_optimum_sols (mode : LabelMode) (keep : Bool) (o : OTree) (pre : Option (List Nat)) :
    (optimum c S mode base keep o pre).2.Nodup := nodup_dedup _

end

/-- What a labelling mode owes the oracle: the link between the oracle's solution space
    (`Feasible`, `specCost`) and the evaluator's (`V`: valid with allowed species, `totalCost`).
    `N` is the normal form of the labels the oracle enumerates; `norm` brings a valid solution
    into it at no cost.  What follows from these three facts holds whatever the mode.  (`into`
    asks `V`; a statement about solutions that are not quite valid, such as `C02_oracle_le_gen`,
    goes back to `optimum_le`.) -/
structure Adequate (c : Costs) (S : RTree) (mode : LabelMode) (base : Bool) (o : OTree)
    (pre : Option (List Nat)) (V N : Sol → Prop) (norm : Sol → Sol) : Prop where
  into : ∀ σ, V σ → ∃ md ∈ modeDatas mode o pre, Feasible S md base o [] o (norm σ) ∧
    specCost c md o [] (norm σ) = totalCost c mode o σ
  fix : ∀ σ, N σ → norm σ = σ
  out : ∀ md ∈ modeDatas mode o pre, ∀ σ, Feasible S md base o [] o σ →
    specCost c md o [] σ ≠ .inf → V σ ∧ N σ ∧ totalCost c mode o σ = specCost c md o [] σ

namespace Adequate

variable {c : Costs} {S : RTree} {mode : LabelMode} {base : Bool} {o : OTree}
  {pre : Option (List Nat)} {V N : Sol → Prop} {norm : Sol → Sol}
  (h : Adequate c S mode base o pre V N norm)
include h

theorem le (keep : Bool) {σ : Sol} (hv : V σ) :
    (optimum c S mode base keep o pre).1 ≼ totalCost c mode o σ := by
  obtain ⟨md, hmd, hf, hc⟩ := h.into σ hv
  rw [← hc]
  exact optimum_le c S base mode keep o pre md hmd _ hf

theorem attained (keep : Bool) (hfin : (optimum c S mode base keep o pre).1 ≠ .inf) :
    ∃ σ, V σ ∧ N σ ∧ totalCost c mode o σ = (optimum c S mode base keep o pre).1 := by
  obtain ⟨md, hmd, σ, hf, hc⟩ := optimum_attained c S base mode keep o pre hfin
  obtain ⟨hv, hn, ht⟩ := h.out md hmd σ hf (by rw [hc]; exact hfin)
  exact ⟨σ, hv, hn, ht.trans hc⟩

theorem isMinCost (keep : Bool) :
    IsMinCostFor V (totalCost c mode o) (optimum c S mode base keep o pre).1 :=
  ⟨fun _ hv => h.le keep hv, Classical.or_iff_not_imp_left.mpr fun hfin =>
    let ⟨σ, hv, _, hc⟩ := h.attained keep hfin
    ⟨σ, hv, hc⟩⟩

theorem mem_sols (σ : Sol) :
    σ ∈ (optimum c S mode base true o pre).2 ↔ V σ ∧ N σ ∧
      totalCost c mode o σ = (optimum c S mode base true o pre).1 ∧
      (optimum c S mode base true o pre).1 ≠ .inf := by
  rw [mem_optimum_sols]
  constructor
  · rintro ⟨md, hmd, hf, hc, hfin⟩
    obtain ⟨hv, hn, ht⟩ := h.out md hmd σ hf (by rw [hc]; exact hfin)
    exact ⟨hv, hn, ht.trans hc, hfin⟩
  · rintro ⟨hv, hn, hc, hfin⟩
    obtain ⟨md, hmd, hf, hs⟩ := h.into σ hv
    rw [h.fix σ hn] at hf hs
    exact ⟨md, hmd, hf, hs.trans hc, hfin⟩

theorem mem_sols_min (σ : Sol) :
    σ ∈ (optimum c S mode base true o pre).2 ↔ V σ ∧ N σ ∧ totalCost c mode o σ ≠ .inf ∧
      ∀ σ', V σ' → totalCost c mode o σ ≼ totalCost c mode o σ' := by
  rw [h.mem_sols]
  constructor
  · rintro ⟨hv, hn, hc, hfin⟩
    exact ⟨hv, hn, by rw [hc]; exact hfin, fun σ' hv' => by rw [hc]; exact h.le true hv'⟩
  · rintro ⟨hv, hn, hfin, hmin⟩
    have hfin' := ne_inf_of_le (h.le true hv) hfin
    obtain ⟨σ', hv', _, hc'⟩ := h.attained true hfin'
    exact ⟨hv, hn, le_antisymm (hc' ▸ hmin σ' hv') (h.le true hv), hfin'⟩

theorem cost_of_exact (keep : Bool) {σ : Sol} (hopt : IsOptimalFor V (totalCost c mode o) σ) :
    totalCost c mode o σ = (optimum c S mode base keep o pre).1 :=
  hopt.isMin.unique (h.isMinCost keep)

/-- A solver that is exact at the level of solutions, against the oracle: a list that is
    the `P`-part of the finite optima of the evaluated cost over `V` (`P`: what the solver's decoder
    adds — nothing, canonical — within the normal forms) is the `P`-part of the oracle's optimal
    set: two arg-min characterisations of the same set meet. -/
theorem sols_of_exact {L : List Sol} {P : Sol → Prop}
    (hL : ∀ σ, σ ∈ L ↔
      IsOptimalFor V (totalCost c mode o) σ ∧ totalCost c mode o σ ≠ .inf ∧ P σ)
    (hP : ∀ σ, P σ → N σ) (σ : Sol) :
    σ ∈ L ↔ σ ∈ (optimum c S mode base true o pre).2 ∧ P σ := by
  rw [hL, h.mem_sols_min]
  exact ⟨fun ⟨hopt, hfin, hp⟩ => ⟨⟨hopt.1, hP σ hp, hfin, hopt.2⟩, hp⟩,
    fun ⟨⟨hv, _, hfin, hmin⟩, hp⟩ => ⟨⟨hv, hmin⟩, hfin, hp⟩⟩

/-- Another way of saying who is valid (how a variant speaks of the allowed species). -/
theorem congr {V' : Sol → Prop} (hV : ∀ σ, V σ ↔ V' σ) :
    Adequate c S mode base o pre V' N norm :=
  ⟨fun σ hv => h.into σ ((hV σ).mpr hv), h.fix, fun md hmd σ hf hfin =>
    let ⟨hv, r⟩ := h.out md hmd σ hf hfin
    ⟨(hV σ).mp hv, r⟩⟩

end Adequate

end SR.Spec
