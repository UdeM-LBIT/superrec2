/-
  C07 — the exchange argument.  For a valid transfer-free solution `sol` of `o` with root species
  `s`, and `L` the root species of `lcaSol o`: `s` is an ancestor-or-equal of `L`;
  `dlPot (lcaSol o) ≤ dlPot sol`, i.e. `cost sol ≥ cost lca + floss·(depth L − depth s)`; and if
  `floss > 0` and equality holds, the species mappings agree.  All three by one induction on the
  object tree (`dl_lower_unique`): the equation `dlPot_node` at the node of `sol` and at the LCA
  node, where the event of the LCA node weighs no more (`evW_mono`) and the LCA node is no higher;
  the rest is arithmetic (`pot_step`).  At the end: the images of `lcaSol` are nodes of the species
  tree when the leaf species are, which is what `spfs` / `uspfs` need of `SpOk`
  (`isNode_of_mem_allowed`).
-/
import SRVerif.Proofs.LcaMap
import SRVerif.Proofs.SolverLists
import SRVerif.Proofs.Enum

namespace SR

open Path

theorem leafSpecies_ne_nil (o : OTree) : o.leafSpecies ≠ [] := by
  induction o with
  | leaf sp f => simp [OTree.leafSpecies]
  | node l r ihl _ => simp [OTree.leafSpecies, ihl]

theorem isAnc_lcaSol_sp (r : Path) (o : OTree) :
    isAnc r (lcaSol o).sp = true ↔ ∀ q ∈ o.leafSpecies, isAnc r q = true := by
  induction o with
  | leaf sp f => simp [lcaSol, OTree.leafSpecies]
  | node l r' ihl ihr =>
    simp only [lcaSol, Sol.sp_node, isAnc_lcp_iff, ihl, ihr, OTree.leafSpecies, List.mem_append,
      or_imp, forall_and]

theorem lcaSol_sp_eq_lcpAll (o : OTree) : (lcaSol o).sp = lcpAll o.leafSpecies := by
  apply isAnc_antisymm
  · rw [isAnc_lcpAll _ (leafSpecies_ne_nil o), ← isAnc_lcaSol_sp]; exact isAnc_refl _
  · rw [isAnc_lcaSol_sp, ← isAnc_lcpAll _ (leafSpecies_ne_nil o)]; exact isAnc_refl _

/-- Every node of the solution sits at the longest common prefix of the
    species of the leaves below it. -/
def mapsToLca : OTree → Sol → Prop
  | .leaf sp _, .leaf s _ => s = lcpAll [sp]
  | .node ol or, .node s _ l r =>
    s = lcpAll (OTree.leafSpecies (.node ol or)) ∧ mapsToLca ol l ∧ mapsToLca or r
  | _, _ => False

theorem lcaSol_mapsToLca (o : OTree) : mapsToLca o (lcaSol o) := by
  induction o with
  | leaf sp f => simp [lcaSol, mapsToLca, lcpAll]
  | node l r ihl ihr =>
    refine ⟨?_, ihl, ihr⟩
    exact lcaSol_sp_eq_lcpAll (.node l r)

theorem lcaSol_validRec (o : OTree) : Spec.validRec o (lcaSol o) = true :=
  ((mem_generateAll o _).mp (lcaSol_mem_generateAll o)).1

theorem lcaSol_transferFree (o : OTree) : (lcaSol o).transferFree = true := by
  induction o with
  | leaf sp f => simp [lcaSol, Sol.transferFree]
  | node l r ihl ihr =>
    simp only [lcaSol, Sol.transferFree, Bool.and_eq_true, ihl, ihr, and_true]
    rw [internalEvent_of_isAnc (lcp_isAnc_left _ _) (lcp_isAnc_right _ _)]
    split <;> simp

theorem lcaSol_famsMatch (o : OTree) : famsMatch o (lcaSol o) = true := by
  induction o with
  | leaf sp f => simp [lcaSol, famsMatch]
  | node l r ihl ihr => simp [lcaSol, famsMatch, ihl, ihr]

theorem lcaMap_fin_add_fin (a b : Nat) : Cost.fin a + Cost.fin b = Cost.fin (a + b) := rfl

theorem recCost_of_transferFree (c : Costs) :
    ∀ (o : OTree) (sol : Sol), Spec.validRec o sol = true → sol.transferFree = true →
      recCost c o sol = .fin (dlCost c sol) := by
  refine Spec.validRec_induction (fun sp f g _ => by simp [recCost, dlCost]) ?_
  intro ol or s g l r hev _ _ ihl ihr ht
  simp only [Sol.transferFree, Bool.and_eq_true, bne_iff_ne, ne_eq] at ht
  obtain ⟨⟨hnt, htl⟩, htr⟩ := ht
  obtain ⟨ha, hb, -⟩ := internalEvent_vertical hev hnt
  rw [recCost_node, ihl htl, ihr htr, localRecCost_vertical c ha hb]
  simp only [Cost.fin_add_fin_eq, dlCost]

theorem totalCost_lcaSol_fin (c : Costs) (o : OTree) :
    ∃ n, totalCost c .plain o (lcaSol o) = .fin n :=
  ⟨_, (totalCost_plain c o _).trans
    (recCost_of_transferFree c o _ (lcaSol_validRec o) (lcaSol_transferFree o))⟩

theorem recCost_of_transfer (c : Costs) (hh : c.hgt = .inf) :
    ∀ (o : OTree) (sol : Sol), Spec.validRec o sol = true → sol.transferFree = false →
      recCost c o sol = .inf := by
  refine Spec.validRec_induction (fun sp f g ht => by simp [Sol.transferFree] at ht) ?_
  intro ol or s g l r _ _ _ ihl ihr ht
  rw [recCost_node]
  by_cases hnt : internalEvent s l.sp r.sp = .hgt
  · have : localRecCost c s l.sp r.sp = .inf := by
      simp only [localRecCost, hnt, hh, Cost.inf_add]
    rw [this, Cost.inf_add]
  · cases htl : l.transferFree
    · rw [ihl htl, Cost.inf_add, Cost.add_inf]
    · cases htr : r.transferFree
      · rw [ihr htr, Cost.add_inf, Cost.add_inf]
      · simp [Sol.transferFree, hnt, htl, htr] at ht

/-- A speciation of `sol` is a speciation of the LCA mapping; a duplication weighs at least
    as much as anything, by `hc`. -/
theorem evW_mono (c : Costs) (hc : c.spe ≤ c.dup + 2 * c.floss) {s a b La Lb : Path}
    (haL : isAnc a La = true) (hbL : isAnc b Lb = true) :
    evW c (lcp La Lb) La Lb ≤ evW c s a b := by
  unfold evW
  cases hs : specCond s a b
  · split <;> simp [hc]
  · simp [specCond, specCond_descend hs haL hbL]

/-- The induction step of `dl_lower_unique` as arithmetic: `e1`, `e2` are `dlPot_node` for
    `sol` and for the LCA mapping (`f·`: `floss` times the depth of `s`, `L`).  If the reverse
    inequality of the conclusion holds too, nothing is lost anywhere. -/
theorem pot_step {P Q pl pr ql qr w W fs fL f : Nat}
    (e1 : P + fs + 2 * f = w + pl + pr) (e2 : Q + fL + 2 * f = W + ql + qr)
    (hw : W ≤ w) (hl : ql ≤ pl) (hr : qr ≤ pr) (hmono : fs ≤ fL) :
    Q ≤ P ∧ (P ≤ Q → pl ≤ ql ∧ pr ≤ qr ∧ fL ≤ fs) := by
  omega

theorem dl_lower_unique (c : Costs) (hc : c.spe ≤ c.dup + 2 * c.floss) :
    ∀ (o : OTree) (sol : Sol), Spec.validRec o sol = true → sol.transferFree = true →
      isAnc sol.sp (lcaSol o).sp = true ∧ dlPot c (lcaSol o) ≤ dlPot c sol ∧
      (0 < c.floss → dlPot c sol ≤ dlPot c (lcaSol o) →
        sol.eraseFam = (lcaSol o).eraseFam) := by
  refine Spec.validRec_induction
    (fun sp f g _ => by simp [lcaSol, dlPot, dlCost, isAnc_refl, Sol.eraseFam]) ?_
  intro ol or s g l r hev _ _ ihl ihr ht
  simp only [Sol.transferFree, Bool.and_eq_true, bne_iff_ne, ne_eq] at ht
  obtain ⟨⟨hnt, htl⟩, htr⟩ := ht
  obtain ⟨ha, hb, -⟩ := internalEvent_vertical hev hnt
  obtain ⟨hla, hlc, hlu⟩ := ihl htl
  obtain ⟨hra, hrc, hru⟩ := ihr htr
  have hanc : isAnc s (lcp (lcaSol ol).sp (lcaSol or).sp) = true :=
    isAnc_lcp (isAnc_trans ha hla) (isAnc_trans hb hra)
  obtain ⟨hle, heq⟩ := pot_step (dlPot_node c g ha hb)
    (dlPot_node c [] (lcp_isAnc_left (lcaSol ol).sp (lcaSol or).sp) (lcp_isAnc_right _ _))
    (evW_mono c hc hla hra) hlc hrc (Nat.mul_le_mul_left c.floss (length_le_of_isAnc hanc))
  refine ⟨hanc, hle, fun hf hge => ?_⟩
  obtain ⟨hl', hr', hlen⟩ := heq hge
  have hs : s = lcp (lcaSol ol).sp (lcaSol or).sp :=
    eq_of_isAnc_of_length_le hanc (Nat.le_of_mul_le_mul_left hlen hf)
  simp only [lcaSol, Sol.eraseFam, hlu hf hl', hru hf hr', hs]

theorem eq_of_eraseFam_eq :
    ∀ (o : OTree) (s t : Sol), famsMatch o s = true → famsMatch o t = true →
      s.eraseFam = t.eraseFam → s = t := by
  intro o
  induction o with
  | leaf sp f =>
    intro s t hs ht h
    cases s <;> cases t <;> simp_all [famsMatch, Sol.eraseFam]
  | node ol or ihl ihr =>
    intro s t hs ht h
    cases s with
    | leaf _ _ => simp [famsMatch] at hs
    | node s1 g1 l1 r1 =>
      cases t with
      | leaf _ _ => simp [famsMatch] at ht
      | node s2 g2 l2 r2 =>
        simp only [famsMatch, Bool.and_eq_true, beq_iff_eq] at hs ht
        simp only [Sol.eraseFam, Sol.node.injEq, true_and] at h
        obtain ⟨⟨rfl, hl1⟩, hr1⟩ := hs
        obtain ⟨⟨rfl, hl2⟩, hr2⟩ := ht
        rw [h.1, ihl l1 l2 hl1 hl2 h.2.1, ihr r1 r2 hr1 hr2 h.2.2]

/-- `famsMatch` (LcaMap) and `plainLabels` (Enum) are one function under two names. -/
theorem famsMatch_eq_plainLabels : ∀ (o : OTree) (sol : Sol), famsMatch o sol = plainLabels o sol
  | .leaf _ _, .leaf _ _ => rfl
  | .node ol or, .node _ _ l r => by
    rw [famsMatch, plainLabels, famsMatch_eq_plainLabels ol l, famsMatch_eq_plainLabels or r]
  | .leaf _ _, .node _ _ _ _ => rfl
  | .node _ _, .leaf _ _ => rfl

theorem famsMatch_of_mem_allMappings (S : RTree) (o : OTree) (sol : Sol)
    (h : sol ∈ Spec.allMappings S o) : famsMatch o sol = true :=
  (famsMatch_eq_plainLabels o sol).trans (plainLabels_of_mem_allMappings S o sol h)

theorem lcaSol_sp_isNode (S : RTree) (o : OTree) (h : ∀ q ∈ o.leafSpecies, S.isNode q = true) :
    S.isNode (lcaSol o).sp = true := by
  obtain ⟨q, hq⟩ : ∃ q, q ∈ o.leafSpecies := List.exists_mem_of_ne_nil _ (leafSpecies_ne_nil o)
  exact RTree.isNode_of_isAnc ((isAnc_lcaSol_sp _ o).mp (isAnc_refl _) q hq) (h q hq)

theorem leafSpecies_eq (o : OTree) : leafSpecies o = o.leafSpecies := by
  induction o with
  | leaf sp f => rfl
  | node l r ihl ihr => rw [leafSpecies, OTree.leafSpecies, ihl, ihr]

theorem lcaSol_mem_allMappings (S : RTree) (o : OTree)
    (hS : ∀ p ∈ leafSpecies o, S.isNode p = true) : lcaSol o ∈ Spec.allMappings S o :=
  have g := (mem_generateAll o _).mp (lcaSol_mem_generateAll o)
  mem_allMappings_of_valid S o _ hS g.1 g.2

theorem lcaSol_mem_allValid (S : RTree) (o : OTree) (h : ∀ q ∈ o.leafSpecies, S.isNode q = true) :
    lcaSol o ∈ Spec.allValid S o := by
  simp only [Spec.allValid, List.mem_filter]
  exact ⟨lcaSol_mem_allMappings S o (leafSpecies_eq o ▸ h), lcaSol_validRec o⟩

/-- The species an internal node may take (the LCA mapping under `base`, every node
    of `S` otherwise) are nodes of `S`. -/
theorem isNode_of_mem_allowed (S : RTree) (base : Bool) (o : OTree)
    (hS : ∀ p ∈ leafSpecies o, S.isNode p = true) :
    ∀ s ∈ (if base then [(lcaSol o).sp] else (allSpecies S).reverse), S.isNode s = true := by
  intro s hs
  cases base with
  | true =>
    rw [if_pos rfl, List.mem_singleton] at hs
    rw [hs]; exact lcaSol_sp_isNode S o (leafSpecies_eq o ▸ hS)
  | false =>
    rw [if_neg Bool.false_ne_true, List.mem_reverse] at hs
    exact (RTree.mem_preorder_iff s S).mp hs

/-- The LCA image of a subtree is one of the species the extended variants try. -/
theorem lcaSol_sp_mem_allSpecies (S : RTree) (o : OTree)
    (hS : ∀ p ∈ leafSpecies o, S.isNode p = true) :
    (lcaSol o).sp ∈ (allSpecies S).reverse := by
  rw [List.mem_reverse]
  exact (RTree.mem_preorder_iff _ S).mpr (lcaSol_sp_isNode S o (leafSpecies_eq o ▸ hS))

end SR
