/-
  The local lemma of the label DP: the six (event, role, role) combinations the optimiser offers
  against `gl`, the cost the evaluator charges at one node placed at `s` with children at `x`, `y`,
  for abstract edge costs (`cv*` to a child that keeps everything, `sv*` to one that may be a
  partial copy).  Every applicable combination costs at least `gl`, up to a slack that is 0 in the
  coherent region (`gl_le`, see `coh_arith`); over a binary species tree the evaluator's own reading
  is one of the combinations (`gl_ge`).  `gl_shift`, `gl_inf_left/right`: `gl` at finite and at
  infinite edge costs, for the instances.
-/
import SRVerif.Proofs.LabelDPRoles
import SRVerif.Proofs.EventAt
import SRVerif.Proofs.RTree

namespace SR

open Cost Path

/-- The evaluator's local cost with abstract edge costs. -/
def gl (c : Costs) (s x : Path) (cvx svx : Cost) (y : Path) (cvy svy : Cost) : Cost :=
  match internalEvent s x y with
  | .spec =>
    .fin c.spe + (.fin (c.floss * (dist s x - 1)) + cvx) + (.fin (c.floss * (dist s y - 1)) + cvy)
  | .dup =>
    Cost.min (.fin c.dup + (.fin (c.floss * dist s x) + cvx) + (.fin (c.floss * dist s y) + svy))
      (.fin c.dup + (.fin (c.floss * dist s x) + svx) + (.fin (c.floss * dist s y) + cvy))
  | .hgt =>
    if isAnc s x then c.hgt + (.fin (c.floss * dist s x) + cvx) + svy
    else c.hgt + svx + (.fin (c.floss * dist s y) + cvy)
  | _ => .inf

theorem event_valid_of_gl {c : Costs} {s x y : Path} {cvx svx cvy svy : Cost}
    (h : gl c s x cvx svx y cvy svy ≠ .inf) : internalEvent s x y ≠ .invalid :=
  fun e => h (by simp [gl, e])

/-- `gl` is the evaluator's plain local cost plus the edge costs the event reads: both conserved
    at a speciation, the cheaper of the two readings at a duplication, conserved towards the child
    that stays and segment towards the transferred one at a transfer. -/
theorem gl_general (c : Costs) (s x y : Path) (cvx svx cvy svy : Cost) :
    gl c s x cvx svx y cvy svy =
      match internalEvent s x y with
      | .spec => localRecCost c s x y + (cvx + cvy)
      | .dup => localRecCost c s x y + Cost.min (cvx + svy) (svx + cvy)
      | .hgt => localRecCost c s x y + (if isAnc s x then cvx + svy else svx + cvy)
      | _ => .inf := by
  unfold gl localRecCost
  have h := eventAt s x y
  generalize internalEvent s x y = e at h ⊢
  cases h with
  | invalid => rfl
  | spec hx hy =>
    subst hx hy
    have e : ∀ n m : Nat, c.floss * (n + 1 + (m + 1) - 2) = c.floss * n + c.floss * m := by
      intro n m; rw [← Nat.mul_add]; congr 1; omega
    simp only [dist_append, List.length_cons, Nat.add_sub_cancel, e, ← fin_add_fin_eq]
    ac_rfl
  | dup =>
    rw [← min_add_left]
    congr 1 <;> · rw [Nat.mul_add, ← fin_add_fin_eq, ← fin_add_fin_eq]; ac_rfl
  | hgtLeft hx => simp only [hx, if_true]; ac_rfl
  | hgtRight hx => simp only [hx, Bool.false_eq_true, if_false]; ac_rfl

theorem gl_inf_left (c : Costs) (s x y : Path) (cvy svy : Cost) :
    gl c s x .inf .inf y cvy svy = .inf := by
  rw [gl_general]
  cases internalEvent s x y <;> simp [Cost.min, Cost.lt]

theorem gl_inf_right (c : Costs) (s x y : Path) (cvx svx : Cost) :
    gl c s x cvx svx y .inf .inf = .inf := by
  rw [gl_general]
  cases internalEvent s x y <;> simp [Cost.min, Cost.lt]

theorem gl_shift (c : Costs) (s x y : Path) (a a' b b' : Nat) :
    gl c s x (.fin a) (.fin a') y (.fin b) (.fin b') =
      match internalEvent s x y with
      | .spec => localRecCost c s x y + .fin (a + b)
      | .dup => localRecCost c s x y + .fin (Nat.min (a + b') (a' + b))
      | .hgt => localRecCost c s x y + .fin (if isAnc s x then a + b' else a' + b)
      | _ => .inf := by
  rw [gl_general]
  cases internalEvent s x y with
  | dup => simp only [fin_add_fin_eq, min_fin]
  | hgt => cases isAnc s x <;> rfl
  | _ => rfl

/-- `gl` plus the children's own costs, in the shape `ev.1 + v0 + v1` of the combinations
    (`events`, `rv`) that read the event. -/
theorem gl_add_costs (c : Costs) (s x y : Path) (cost0 cv0 sv0 cost1 cv1 sv1 : Cost) :
    gl c s x cv0 sv0 y cv1 sv1 + (cost0 + cost1) =
      match internalEvent s x y with
      | .spec => .fin c.spe + (.fin (c.floss * (dist s x - 1)) + cost0 + cv0) +
          (.fin (c.floss * (dist s y - 1)) + cost1 + cv1)
      | .dup => Cost.min
          (.fin c.dup + (.fin (c.floss * dist s x) + cost0 + cv0) + (.fin (c.floss * dist s y) + cost1 + sv1))
          (.fin c.dup + (.fin (c.floss * dist s x) + cost0 + sv0) + (.fin (c.floss * dist s y) + cost1 + cv1))
      | .hgt =>
        if isAnc s x then c.hgt + (.fin (c.floss * dist s x) + cost0 + cv0) + (cost1 + sv1)
        else c.hgt + (cost0 + sv0) + (.fin (c.floss * dist s y) + cost1 + cv1)
      | _ => .inf := by
  unfold gl
  cases internalEvent s x y
  case spec => dsimp only; ac_rfl
  case dup => dsimp only; rw [min_add_right]; congr 1 <;> ac_rfl
  case hgt => dsimp only; split <;> ac_rfl
  all_goals rfl

theorem add_le_add_of_slack {a b k : Nat} {w x y : Cost} (hx : x ≼ y + .fin k) (h : a + k ≤ b) :
    .fin a + w + x ≼ .fin b + w + y := by
  refine le_trans (add_le_add (le_refl _) hx) ?_
  have e : fin a + w + (y + fin k) = fin (a + k) + w + y := by
    rw [← fin_add_fin_eq]; ac_rfl
  rw [e]
  exact add_le_add (add_le_add ((fin_le_fin _ _).mpr h) (le_refl w)) (le_refl y)

/-- The arithmetic behind F-COHERENCE.  The optimiser also reads two children below two different
    children of `s` as a duplication at `s` (roles conserved × segment), which the evaluator never
    does: it sees a speciation.  The two agree on which is cheaper when
    `spe + K ≤ dup + 2 * floss` (`K` bounds conserved − segment edge cost, `LabelAlg.Slack`); the
    unit costs satisfying this are called the *coherent region*.  Outside it the optimiser's value
    can be lower than any evaluated cost, by at most the `X` that restores the inequality: the
    lemmas carry `X`, and are used at `X = 0` (coherent) and at `X = spe + K` (always true, which
    still gives that decoded solutions have finite cost). -/
theorem coh_arith {spe dup fl K X n0 n1 : Nat} (hX : spe + K ≤ dup + 2 * fl + X)
    {cost0 cost1 cv0 cv1 sv1 : Cost} (hK1 : cv1 ≼ sv1 + .fin K) :
    .fin spe + (.fin (fl * n0) + cost0 + cv0) + (.fin (fl * n1) + cost1 + cv1) ≼
      .fin dup + (.fin (fl * (n0 + 1)) + cost0 + cv0) + (.fin (fl * (n1 + 1)) + cost1 + sv1) + .fin X := by
  have eL : (.fin spe + (.fin (fl * n0) + cost0 + cv0) + (.fin (fl * n1) + cost1 + cv1) : Cost) =
      .fin (spe + fl * n0 + fl * n1) + (cv0 + (cost0 + cost1)) + cv1 := by
    simp only [← fin_add_fin_eq]; ac_rfl
  have eR : (.fin dup + (.fin (fl * (n0 + 1)) + cost0 + cv0) + (.fin (fl * (n1 + 1)) + cost1 + sv1) +
      .fin X : Cost) = .fin (dup + (fl * n0 + fl) + (fl * n1 + fl) + X) + (cv0 + (cost0 + cost1)) + sv1 := by
    simp only [Nat.mul_add_one, ← fin_add_fin_eq]; ac_rfl
  rw [eL, eR]
  exact add_le_add_of_slack hK1 (by omega)

theorem coh_arith' {spe dup fl K X n0 n1 : Nat} (hX : spe + K ≤ dup + 2 * fl + X)
    {cost0 cost1 cv0 cv1 sv0 : Cost} (hK0 : cv0 ≼ sv0 + .fin K) :
    .fin spe + (.fin (fl * n0) + cost0 + cv0) + (.fin (fl * n1) + cost1 + cv1) ≼
      .fin dup + (.fin (fl * (n0 + 1)) + cost0 + sv0) + (.fin (fl * (n1 + 1)) + cost1 + cv1) + .fin X := by
  have h := coh_arith (n0 := n1) (n1 := n0) (cost0 := cost1) (cost1 := cost0) (cv0 := cv1) hX hK0
  have eL : (.fin spe + (.fin (fl * n0) + cost0 + cv0) + (.fin (fl * n1) + cost1 + cv1) : Cost) =
      .fin spe + (.fin (fl * n1) + cost1 + cv1) + (.fin (fl * n0) + cost0 + cv0) := by ac_rfl
  have eR : (.fin dup + (.fin (fl * (n0 + 1)) + cost0 + sv0) + (.fin (fl * (n1 + 1)) + cost1 + cv1) +
      .fin X : Cost) = .fin dup + (.fin (fl * (n1 + 1)) + cost1 + cv1) +
        (.fin (fl * (n0 + 1)) + cost0 + sv0) + .fin X := by ac_rfl
  rw [eL, eR]; exact h

section

variable {c : Costs} {S : RTree} {s x : Path} {cost cv sv v : Cost}

theorem rv_cons_iff : rv c S s .cons x cost cv sv = some v ↔
    isAnc s x = true ∧ .fin (c.floss * dist s x) + cost + cv = v := by
  simp only [rv, Option.ite_none_right_eq_some, Option.some.injEq]

theorem rv_seg_iff : rv c S s .seg x cost cv sv = some v ↔
    isAnc s x = true ∧ .fin (c.floss * dist s x) + cost + sv = v := by
  simp only [rv, Option.ite_none_right_eq_some, Option.some.injEq]

theorem rv_left_iff : rv c S s .left x cost cv sv = some v ↔
    isAnc s x = true ∧ speciesIsLeaf S s = false ∧ isAnc (s ++ [0]) x = true ∧
      .fin (c.floss * (dist s x - 1)) + cost + cv = v := by
  simp only [rv, Option.ite_none_right_eq_some, Option.some.injEq, Bool.and_eq_true, Bool.not_eq_true', and_assoc]

theorem rv_right_iff : rv c S s .right x cost cv sv = some v ↔
    isAnc s x = true ∧ speciesIsLeaf S s = false ∧ isAnc (s ++ [0]) x = false ∧
      isAnc (s ++ [1]) x = true ∧ .fin (c.floss * (dist s x - 1)) + cost + cv = v := by
  simp only [rv, Option.ite_none_right_eq_some, Option.some.injEq, Bool.and_eq_true, Bool.not_eq_true', and_assoc]

theorem rv_sep_iff : rv c S s .sep x cost cv sv = some v ↔
    isAnc s x = false ∧ isAnc x s = false ∧ cost + sv = v := by
  simp only [rv, Option.ite_none_right_eq_some, Option.some.injEq, Bool.and_eq_true, Bool.not_eq_true', and_assoc]

end

/-- Both children at or below `s`, offered as conserved × segment or as
    segment × conserved. -/
theorem gl_le_dup {c : Costs} {s x y : Path} {cost0 cv0 sv0 cost1 cv1 sv1 : Cost} {K X : Nat}
    (hK0 : cv0 ≼ sv0 + .fin K) (hK1 : cv1 ≼ sv1 + .fin K)
    (hX : c.spe + K ≤ c.dup + 2 * c.floss + X)
    (hx : isAnc s x = true) (hy : isAnc s y = true) :
    internalEvent s x y ≠ .invalid ∧
    gl c s x cv0 sv0 y cv1 sv1 + (cost0 + cost1) ≼
      .fin c.dup + (.fin (c.floss * dist s x) + cost0 + cv0) +
        (.fin (c.floss * dist s y) + cost1 + sv1) + .fin X ∧
    gl c s x cv0 sv0 y cv1 sv1 + (cost0 + cost1) ≼
      .fin c.dup + (.fin (c.floss * dist s x) + cost0 + sv0) +
        (.fin (c.floss * dist s y) + cost1 + cv1) + .fin X := by
  rw [gl_add_costs]
  have h := eventAt s x y
  generalize internalEvent s x y = e at h ⊢
  cases h with
  | dup =>
    -- a duplication: one of the two readings the evaluator takes the minimum of
    exact ⟨nofun, le_trans (min_le_left _ _) (le_add_right _ _),
      le_trans (min_le_right _ _) (le_add_right _ _)⟩
  | spec hx' hy' =>
    -- a speciation read as a duplication one level up
    subst hx' hy'
    simp only [dist_append, List.length_cons, Nat.add_sub_cancel]
    exact ⟨nofun, coh_arith hX hK1, coh_arith' hX hK0⟩
  | hgtLeft _ hy' => rw [hy] at hy'; cases hy'
  | hgtRight hx' => rw [hx] at hx'; cases hx'
  | invalid h =>
    rw [isStrictAnc_false_of_isAnc hx, isStrictAnc_false_of_isAnc hy, hx] at h
    simp at h

theorem gl_le {c : Costs} {S : RTree} {s x y : Path} {cost0 cv0 sv0 cost1 cv1 sv1 : Cost} {K X : Nat}
    (hK0 : cv0 ≼ sv0 + .fin K) (hK1 : cv1 ≼ sv1 + .fin K)
    (hX : c.spe + K ≤ c.dup + 2 * c.floss + X)
    {ev : Cost × RoleId × RoleId} (hev : ev ∈ events c) {v0 v1 : Cost}
    (h0 : rv c S s ev.2.1 x cost0 cv0 sv0 = some v0)
    (h1 : rv c S s ev.2.2 y cost1 cv1 sv1 = some v1) :
    internalEvent s x y ≠ .invalid ∧
    gl c s x cv0 sv0 y cv1 sv1 + (cost0 + cost1) ≼ ev.1 + v0 + v1 + .fin X := by
  simp only [events, List.mem_cons, List.not_mem_nil, or_false] at hev
  rcases hev with rfl | rfl | rfl | rfl | rfl | rfl
  · -- speciation, left × right
    obtain ⟨_, _, hx, rfl⟩ := rv_left_iff.mp h0
    obtain ⟨_, _, _, hy, rfl⟩ := rv_right_iff.mp h1
    rw [gl_add_costs, internalEvent_spec_of_children hx hy (by decide)]
    exact ⟨nofun, le_add_right _ _⟩
  · -- speciation, right × left
    obtain ⟨_, _, _, hx, rfl⟩ := rv_right_iff.mp h0
    obtain ⟨_, _, hy, rfl⟩ := rv_left_iff.mp h1
    rw [gl_add_costs, internalEvent_spec_of_children hx hy (by decide)]
    exact ⟨nofun, le_add_right _ _⟩
  · -- duplication, conserved × segment
    obtain ⟨hx, rfl⟩ := rv_cons_iff.mp h0
    obtain ⟨hy, rfl⟩ := rv_seg_iff.mp h1
    obtain ⟨hval, hle, _⟩ := gl_le_dup (cost0 := cost0) (cost1 := cost1) hK0 hK1 hX hx hy
    exact ⟨hval, hle⟩
  · -- duplication, segment × conserved
    obtain ⟨hx, rfl⟩ := rv_seg_iff.mp h0
    obtain ⟨hy, rfl⟩ := rv_cons_iff.mp h1
    obtain ⟨hval, _, hle⟩ := gl_le_dup (cost0 := cost0) (cost1 := cost1) hK0 hK1 hX hx hy
    exact ⟨hval, hle⟩
  · -- transfer, conserved × separate
    obtain ⟨hx, rfl⟩ := rv_cons_iff.mp h0
    obtain ⟨hy, hy', rfl⟩ := rv_sep_iff.mp h1
    rw [gl_add_costs, internalEvent_hgt_left hx hy hy', if_pos hx]
    exact ⟨nofun, le_add_right _ _⟩
  · -- transfer, separate × conserved
    obtain ⟨hx, hx', rfl⟩ := rv_sep_iff.mp h0
    obtain ⟨hy, rfl⟩ := rv_cons_iff.mp h1
    rw [gl_add_costs, internalEvent_hgt_right hx hx' hy, if_neg (by simp [hx])]
    exact ⟨nofun, le_add_right _ _⟩

theorem speciesIsLeaf_false {S : RTree} {s : Path} {t : RTree} (h : S.sub s = some t)
    (hl : t.isLeaf = false) : speciesIsLeaf S s = false := by
  simp [speciesIsLeaf, h, hl]

theorem gl_ge {c : Costs} {S : RTree} {s x y : Path} {cost0 cv0 sv0 cost1 cv1 sv1 : Cost}
    (hb : S.isBinary = true) (hx : S.isNode x = true) (hy : S.isNode y = true)
    (hval : internalEvent s x y ≠ .invalid) :
    ∃ ev ∈ events c, ∃ v0 v1,
      rv c S s ev.2.1 x cost0 cv0 sv0 = some v0 ∧ rv c S s ev.2.2 y cost1 cv1 sv1 = some v1 ∧
      ev.1 + v0 + v1 = gl c s x cv0 sv0 y cv1 sv1 + (cost0 + cost1) := by
  rw [gl_add_costs]
  have h := eventAt s x y
  generalize internalEvent s x y = e at h hval ⊢
  cases h with
  | invalid => exact absurd rfl hval
  | @dup a b hxa hyb =>
    subst hxa hyb
    -- the reading that attains the minimum
    dsimp only [Cost.min]; split
    · exact ⟨(.fin c.dup, .seg, .cons), List.mem_of_getElem? (i := 3) rfl, _, _,
        rv_seg_iff.mpr ⟨isAnc_append s a, rfl⟩, rv_cons_iff.mpr ⟨isAnc_append s b, rfl⟩, rfl⟩
    · exact ⟨(.fin c.dup, .cons, .seg), List.mem_of_getElem? (i := 2) rfl, _, _,
        rv_cons_iff.mpr ⟨isAnc_append s a, rfl⟩, rv_seg_iff.mpr ⟨isAnc_append s b, rfl⟩, rfl⟩
  | @spec i j a b hxa hyb hij =>
    subst hxa hyb
    -- in a binary tree the two children of `s` are `0` and `1`
    obtain ⟨hi, t, hs, hl⟩ := RTree.child_of_isNode hb hx
    obtain ⟨hj, _⟩ := RTree.child_of_isNode hb hy
    have hleaf := speciesIsLeaf_false hs hl
    have e0 : ∀ (k : Nat) (r : Path), isAnc (s ++ [k]) (s ++ k :: r) = true := by
      intro k r; rw [isAnc_snoc_cons]; exact decide_eq_true rfl
    have e1 : ∀ (r : Path), isAnc (s ++ [0]) (s ++ 1 :: r) = false := by
      intro r; rw [isAnc_snoc_cons]; rfl
    rcases hi with rfl | rfl <;> rcases hj with rfl | rfl
    · exact absurd rfl hij
    · exact ⟨(.fin c.spe, .left, .right), List.mem_of_getElem? (i := 0) rfl, _, _,
        rv_left_iff.mpr ⟨isAnc_append _ _, hleaf, e0 0 a, rfl⟩,
        rv_right_iff.mpr ⟨isAnc_append _ _, hleaf, e1 b, e0 1 b, rfl⟩, rfl⟩
    · exact ⟨(.fin c.spe, .right, .left), List.mem_of_getElem? (i := 1) rfl, _, _,
        rv_right_iff.mpr ⟨isAnc_append _ _, hleaf, e1 a, e0 1 a, rfl⟩,
        rv_left_iff.mpr ⟨isAnc_append _ _, hleaf, e0 0 b, rfl⟩, rfl⟩
    · exact absurd rfl hij
  | hgtLeft hx' hy' hy'' =>
    rw [if_pos hx']
    exact ⟨(c.hgt, .cons, .sep), List.mem_of_getElem? (i := 4) rfl, _, _,
      rv_cons_iff.mpr ⟨hx', rfl⟩, rv_sep_iff.mpr ⟨hy', hy'', rfl⟩, rfl⟩
  | hgtRight hx' hx'' hy' =>
    rw [if_neg (by simp [hx'])]
    exact ⟨(c.hgt, .sep, .cons), List.mem_of_getElem? (i := 5) rfl, _, _,
      rv_sep_iff.mpr ⟨hx', hx'', rfl⟩, rv_cons_iff.mpr ⟨hy', rfl⟩, rfl⟩

end SR
