/-
  The round trip `tree_from_triples ∘ tree_to_triples` for ANY order of contraction
  (`breakUp_roundtrip`): BUILD succeeds on the emitted triples, its tree displays them, hence
  every triple of the input, and a binary tree is determined by its triples.  Supertrees: everything
  is proved for an arbitrary family of runs of BreakUp; `trees_to_triples` supplies the family of
  the model's runs.
-/
import SRVerif.Proofs.TriplesInducedOrder
import SRVerif.Proofs.TriplesComplete
import SRVerif.Proofs.TriplesAll

namespace SR.Tri

open SR SR.DS LTree Spec

theorem breakUp_roundtrip {t : LTree} {trs : List Triple} (hb : t.isBinary = true)
    (hn : t.leaves.Nodup) (h : BreakUp t trs) :
    ∃ u, treeFromTriples t.leaves trs = some u ∧ sameClades t u = true := by
  have hsc := breakUp_scope hb hn h
  have hk : Known t.leaves trs := fun tr htr => ⟨(hsc tr htr).2.1, (hsc tr htr).2.2.1⟩
  have hp : Proper trs := fun tr htr => (hsc tr htr).1
  have hsome : (treeFromTriples t.leaves trs).isSome = true :=
    treeFromTriples_complete hn (binary_leaves_ne t hb) hn (fun _ hx => hx)
      (fun tr htr => ⟨(inside_iff _ tr).mpr (hsc tr htr).2, (breakUp_displays hb hn h tr htr).2⟩)
  obtain ⟨u, hu⟩ := Option.isSome_iff_exists.mp hsome
  have hg := treeFromTriples_good hn hk hp hu
  refine ⟨u, hu, ?_⟩
  apply sameClades_of_displays hb hg.nodup hg.ne hg.mem
  apply breakUp_induced hb hn h hg.nodup (fun x hx => (hg.mem x).mpr hx)
  intro tr htr
  exact hg.disp tr htr ((inside_iff _ tr).mpr (hsc tr htr).2)

theorem dedup_eq_foldl_addNew {α : Type} [BEq α] [LawfulBEq α] (l : List α) :
    dedup l = l.foldl List.addNew [] := by
  unfold dedup List.addNew
  simp only [List.contains_iff_mem]

theorem nodup_dedup {α : Type} [BEq α] [LawfulBEq α] (l : List α) : (dedup l).Nodup := by
  rw [dedup_eq_foldl_addNew]; exact List.nodup_foldl_addNew_nil

theorem mem_dedup {α : Type} [BEq α] [LawfulBEq α] (l : List α) (x : α) : x ∈ dedup l ↔ x ∈ l := by
  rw [dedup_eq_foldl_addNew]; exact List.mem_foldl_addNew_nil

theorem mapM_treeToTriples {ts : List LTree} (hb : ∀ t, t ∈ ts → t.isBinary = true) :
    ts.mapM treeToTriples = some (ts.map (fun t => (t.leaves, innerTr t))) := by
  induction ts with
  | nil => simp
  | cons t ts ih =>
    rw [List.mapM_cons, treeToTriples_eq t (hb t (by simp)), ih (fun u hu => hb u (by simp [hu]))]
    simp

section
variable {fam : List (LTree × List Triple)}
  (hfam : ∀ p, p ∈ fam → p.1.isBinary = true ∧ p.1.leaves.Nodup ∧ BreakUp p.1 p.2)
  {L : List Nat} {trs : List Triple}
  (hL : ∀ x, x ∈ L ↔ ∃ p, p ∈ fam ∧ x ∈ p.1.leaves)
  (hT : ∀ tr, tr ∈ trs ↔ ∃ p, p ∈ fam ∧ tr ∈ p.2)
include hfam hL hT

theorem runs_scope : ∀ tr, tr ∈ trs → proper tr = true ∧ tr.1 ∈ L ∧ tr.2.1 ∈ L ∧ tr.2.2 ∈ L := by
  intro tr htr
  obtain ⟨p, hp, htp⟩ := (hT tr).mp htr
  obtain ⟨hb, hn, hbu⟩ := hfam p hp
  obtain ⟨q, a, b, c⟩ := breakUp_scope hb hn hbu tr htp
  exact ⟨q, (hL _).mpr ⟨p, hp, a⟩, (hL _).mpr ⟨p, hp, b⟩, (hL _).mpr ⟨p, hp, c⟩⟩

theorem good_displays_all_runs :
    Known L trs ∧ Proper trs ∧ ∀ S, Good trs L S →
      ∀ p, p ∈ fam → ∀ tr, proper tr = true → displays p.1 tr = true → displays S tr = true := by
  have hin := runs_scope hfam hL hT
  refine ⟨fun tr htr => ⟨(hin tr htr).2.1, (hin tr htr).2.2.1⟩, fun tr htr => (hin tr htr).1, ?_⟩
  intro S hg p hp
  obtain ⟨hb, hn, hbu⟩ := hfam p hp
  apply breakUp_induced hb hn hbu hg.nodup
  · intro x hx; exact (hg.mem x).mpr ((hL x).mpr ⟨p, hp, hx⟩)
  · intro tr htr
    have htrs : tr ∈ trs := (hT tr).mpr ⟨p, hp, htr⟩
    exact hg.disp tr htrs ((inside_iff L tr).mpr (hin tr htrs).2)

/-- BUILD succeeds on compatible inputs: a tree displaying every induced
    triple displays the emitted ones, so BUILD is complete for them. -/
theorem runs_complete (hne : fam ≠ []) (hLn : L.Nodup) {U : LTree} (hU : U.leaves.Nodup)
    (hUl : ∀ x, x ∈ L → x ∈ U.leaves)
    (hUd : ∀ p, p ∈ fam → ∀ tr, proper tr = true → displays p.1 tr = true → displays U tr = true) :
    (treeFromTriples L trs).isSome = true := by
  have hLne : L ≠ [] := by
    cases fam with
    | nil => exact absurd rfl hne
    | cons p ps =>
      obtain ⟨x, hx⟩ := List.exists_mem_of_ne_nil _ (binary_leaves_ne p.1 (hfam p (by simp)).1)
      have : x ∈ L := (hL x).mpr ⟨p, by simp, hx⟩
      intro h; rw [h] at this; cases this
  apply treeFromTriples_complete hLn hLne hU hUl
  intro tr htr
  obtain ⟨p, hp, htp⟩ := (hT tr).mp htr
  obtain ⟨hb, hn, hbu⟩ := hfam p hp
  exact ⟨(inside_iff L tr).mpr (runs_scope hfam hL hT tr htr).2,
    hUd p hp tr (breakUp_displays hb hn hbu tr htp).1 (breakUp_displays hb hn hbu tr htp).2⟩

end

theorem innerTr_displayed (t : LTree) (hb : t.isBinary = true) (hn : t.leaves.Nodup) :
    ∀ tr, tr ∈ innerTr t → proper tr = true ∧ displays t tr = true :=
  breakUp_displays hb hn (innerTr_breakUp t hb)

/-- Every input tree with the triples of the model's run. -/
def modelRuns (ts : List LTree) : List (LTree × List Triple) := ts.map (fun t => (t, innerTr t))

theorem exists_modelRuns {ts : List LTree} {P : LTree × List Triple → Prop} :
    (∃ p, p ∈ modelRuns ts ∧ P p) ↔ ∃ t, t ∈ ts ∧ P (t, innerTr t) := by
  constructor
  · rintro ⟨p, hp, h⟩
    obtain ⟨t, ht, rfl⟩ := List.mem_map.mp hp
    exact ⟨t, ht, h⟩
  · rintro ⟨t, ht, h⟩
    exact ⟨_, List.mem_map.mpr ⟨t, ht, rfl⟩, h⟩

section
variable {ts : List LTree} (hts : ∀ t, t ∈ ts → t.isBinary = true ∧ t.leaves.Nodup)
include hts

theorem treesToTriples_spec :
    ∃ L trs, treesToTriples ts = some (L, trs) ∧ L.Nodup ∧
      (∀ x, x ∈ L ↔ ∃ p, p ∈ modelRuns ts ∧ x ∈ p.1.leaves) ∧
      (∀ tr, tr ∈ trs ↔ ∃ p, p ∈ modelRuns ts ∧ tr ∈ p.2) := by
  refine ⟨dedup (ts.flatMap (fun t => t.leaves)), dedup (ts.flatMap (fun t => innerTr t)), ?_,
    nodup_dedup _, ?_, ?_⟩
  · simp only [treesToTriples, mapM_treeToTriples fun t ht => (hts t ht).1, Option.map_some,
      List.flatMap_map]
  · intro x; rw [mem_dedup, List.mem_flatMap, exists_modelRuns]
  · intro tr; rw [mem_dedup, List.mem_flatMap, exists_modelRuns]

theorem modelRuns_ok :
    ∀ p, p ∈ modelRuns ts → p.1.isBinary = true ∧ p.1.leaves.Nodup ∧ BreakUp p.1 p.2 := by
  intro p hp
  obtain ⟨t, ht, rfl⟩ := List.mem_map.mp hp
  exact ⟨(hts t ht).1, (hts t ht).2, innerTr_breakUp t (hts t ht).1⟩

theorem supertree_displays_all {S : LTree} (h : supertree ts = some (some S)) :
    S.leaves.Nodup ∧ (∀ x, x ∈ S.leaves ↔ ∃ t, t ∈ ts ∧ x ∈ t.leaves) ∧
    ∀ t, t ∈ ts → ∀ tr, proper tr = true → displays t tr = true → displays S tr = true := by
  obtain ⟨L, trs, hE, hLn, hL, hT⟩ := treesToTriples_spec hts
  obtain ⟨hk, hp, hall⟩ := good_displays_all_runs (modelRuns_ok hts) hL hT
  simp only [supertree, hE, Option.map_some, Option.some.injEq] at h
  have hg := treeFromTriples_good hLn hk hp h
  exact ⟨hg.nodup, fun x => (hg.mem x).trans ((hL x).trans exists_modelRuns),
    fun t ht => hall S hg (t, innerTr t) (List.mem_map.mpr ⟨t, ht, rfl⟩)⟩

theorem supertree_displays {S : LTree} (h : supertree ts = some (some S)) :
    S.leaves.Nodup ∧ (∀ x, x ∈ S.leaves ↔ ∃ t, t ∈ ts ∧ x ∈ t.leaves) ∧
    ∀ t, t ∈ ts → ∀ tr, tr ∈ innerTr t → displays S tr = true := by
  obtain ⟨h1, h2, h3⟩ := supertree_displays_all hts h
  refine ⟨h1, h2, fun t ht tr htr => ?_⟩
  obtain ⟨hp, hd⟩ := innerTr_displayed t (hts t ht).1 (hts t ht).2 tr htr
  exact h3 t ht tr hp hd

theorem allSupertrees_displays_all {Ss : List LTree} (h : allSupertrees ts = some Ss) :
    (∀ S, S ∈ Ss → S.isBinary = true ∧ S.leaves.Nodup ∧
      (∀ x, x ∈ S.leaves ↔ ∃ t, t ∈ ts ∧ x ∈ t.leaves) ∧
      ∀ t, t ∈ ts → ∀ tr, proper tr = true → displays t tr = true → displays S tr = true) ∧
    Ss.Pairwise Differ := by
  obtain ⟨L, trs, hE, hLn, hL, hT⟩ := treesToTriples_spec hts
  obtain ⟨hk, hp, hall⟩ := good_displays_all_runs (modelRuns_ok hts) hL hT
  simp only [allSupertrees, hE, Option.map_some, Option.some.injEq] at h
  subst h
  refine ⟨?_, allTreesFromTriples_distinct hLn hk hp⟩
  intro S hS
  obtain ⟨hg, hbin⟩ := allTreesFromTriples_good hLn hk hp hS
  exact ⟨hbin, hg.nodup, fun x => (hg.mem x).trans ((hL x).trans exists_modelRuns),
    fun t ht => hall S hg (t, innerTr t) (List.mem_map.mpr ⟨t, ht, rfl⟩)⟩

theorem supertree_complete (hne : ts ≠ []) {U : LTree} (hU : U.leaves.Nodup)
    (hUl : ∀ t, t ∈ ts → ∀ x, x ∈ t.leaves → x ∈ U.leaves)
    (hUd : ∀ t, t ∈ ts → ∀ tr, proper tr = true → displays t tr = true → displays U tr = true) :
    ∃ S, supertree ts = some (some S) := by
  obtain ⟨L, trs, hE, hLn, hL, hT⟩ := treesToTriples_spec hts
  have hsome := runs_complete (modelRuns_ok hts) hL hT (by simpa [modelRuns] using hne) hLn hU
    (fun x hx => by
      obtain ⟨t, ht, hxt⟩ := exists_modelRuns.mp ((hL x).mp hx)
      exact hUl t ht x hxt)
    (fun p hp => by
      obtain ⟨t, ht, rfl⟩ := List.mem_map.mp hp
      exact hUd t ht)
  obtain ⟨S, hS⟩ := Option.isSome_iff_exists.mp hsome
  exact ⟨S, by simp only [supertree, hE, Option.map_some, hS]⟩

end

end SR.Tri
