/-
  Basic facts about `Model/ThlCode.lean`: `levelorder` / `traverseAt` list exactly the nodes
  (of the subtree); the table is a finite map (`get` after `set` / `update`).
-/
import SRVerif.Model.ThlCode
import SRVerif.Proofs.RTree

namespace SR

open Path

namespace RTree

theorem mem_childrenAt (p : Path) (cs : List RTree) (i : Nat) (pt : Path × RTree) :
    pt ∈ childrenAt p cs i ↔ ∃ j c, cs[j]? = some c ∧ pt = (p ++ [i + j], c) := by
  induction cs generalizing i with
  | nil => simp [childrenAt]
  | cons c cs ih =>
    simp only [childrenAt, List.mem_cons, ih]
    constructor
    · rintro (rfl | ⟨j, c', hj, rfl⟩)
      · exact ⟨0, c, by simp, by simp⟩
      · exact ⟨j + 1, c', by simpa using hj, by simp; omega⟩
    · rintro ⟨j, c', hj, rfl⟩
      cases j with
      | zero =>
        simp only [List.getElem?_cons_zero, Option.some.injEq] at hj
        subst hj; exact Or.inl (by simp)
      | succ j =>
        simp only [List.getElem?_cons_succ] at hj
        exact Or.inr ⟨j, c', hj, by simp; omega⟩

/-- Total number of nodes of the trees of a queue. -/
def qsize (q : List (Path × RTree)) : Nat := (q.map (fun pt => pt.2.preorder.length)).sum

theorem qsize_append (a b : List (Path × RTree)) : qsize (a ++ b) = qsize a + qsize b := by
  simp [qsize]

theorem qsize_childrenAt (p : Path) (cs : List RTree) (i k : Nat) :
    qsize (childrenAt p cs i) = (preorderList cs k).length := by
  induction cs generalizing i k with
  | nil => simp [childrenAt, preorderList, qsize]
  | cons c cs ih =>
    have := ih (i + 1) (k + 1)
    simp only [qsize] at this
    simp [childrenAt, preorderList, qsize, this]

theorem preorder_length_pos (t : RTree) : 0 < t.preorder.length := by
  cases t; simp [preorder]

theorem mem_levelorderAux : ∀ (fuel : Nat) (q : List (Path × RTree)), qsize q ≤ fuel →
    ∀ x, x ∈ levelorderAux fuel q ↔ ∃ pt ∈ q, ∃ r ∈ pt.2.preorder, x = pt.1 ++ r := by
  intro fuel
  induction fuel with
  | zero =>
    intro q hq x
    cases q with
    | nil => simp [levelorderAux]
    | cons pt q =>
      have := preorder_length_pos pt.2
      simp only [qsize, List.map_cons, List.sum_cons] at hq
      omega
  | succ fuel ih =>
    intro q hq x
    match q with
    | [] => simp [levelorderAux]
    | (p, node cs) :: q' =>
      have hsz : qsize (q' ++ childrenAt p cs 0) ≤ fuel := by
        rw [qsize_append, qsize_childrenAt p cs 0 0]
        simp [qsize, preorder] at hq
        simp only [qsize]
        omega
      simp only [levelorderAux, List.mem_cons, ih _ hsz x, List.mem_append]
      constructor
      · rintro (rfl | ⟨pt, hpt | hpt, r, hr, rfl⟩)
        · exact ⟨(x, node cs), Or.inl rfl, [], by simp [preorder], by simp⟩
        · exact ⟨pt, Or.inr hpt, r, hr, rfl⟩
        · obtain ⟨j, c, hj, rfl⟩ := (mem_childrenAt p cs 0 pt).mp hpt
          refine ⟨(p, node cs), Or.inl rfl, (0 + j) :: r, ?_, by simp⟩
          simp only [preorder, List.mem_cons, reduceCtorEq, false_or]
          exact (mem_preorderList cs 0 _).mpr ⟨j, c, r, hj, hr, rfl⟩
      · rintro ⟨pt, hpt | hpt, r, hr, rfl⟩
        · subst hpt
          simp only [preorder, List.mem_cons] at hr
          rcases hr with rfl | hr
          · exact Or.inl (by simp)
          · obtain ⟨j, c, q'', hj, hq'', rfl⟩ := (mem_preorderList cs 0 _).mp hr
            refine Or.inr ⟨(p ++ [0 + j], c), Or.inr ?_, q'', hq'', by simp⟩
            exact (mem_childrenAt p cs 0 _).mpr ⟨j, c, hj, rfl⟩
        · exact Or.inr ⟨pt, Or.inl hpt, r, hr, rfl⟩

theorem mem_levelorder (t : RTree) (x : Path) : x ∈ t.levelorder ↔ t.isNode x = true := by
  unfold levelorder
  rw [mem_levelorderAux _ _ (by simp [qsize]), ← mem_preorder_iff]
  simp

theorem mem_traverseAt (S : RTree) (p x : Path) :
    x ∈ S.traverseAt p ↔ isAnc p x = true ∧ S.isNode x = true := by
  unfold traverseAt
  cases hs : S.sub p with
  | none =>
    simp only [List.not_mem_nil, false_iff, not_and]
    intro ha hx
    obtain ⟨q, rfl⟩ := isAnc_iff_append.mp ha
    simp [isNode, sub_append, hs] at hx
  | some t =>
    simp only [List.mem_map, mem_levelorder]
    constructor
    · rintro ⟨q, hq, rfl⟩
      refine ⟨isAnc_append p q, ?_⟩
      simpa [isNode, sub_append, hs] using hq
    · rintro ⟨ha, hx⟩
      obtain ⟨q, rfl⟩ := isAnc_iff_append.mp ha
      exact ⟨q, by simpa [isNode, sub_append, hs] using hx, rfl⟩

end RTree

namespace ThlCode

theorem isNode_of_mem_postorderList : ∀ (cs : List RTree) (k : Nat) (p : Path),
      p ∈ RTree.postorderList cs k → ∃ i q c, p = (k + i) :: q ∧ cs[i]? = some c ∧ c.isNode q = true :=
  RTree.isNode_of_mem_postorderList

namespace Table

theorem lookup_setCell (t : List (Key × Entry MappingInfo)) (k k' : Key) (e : Entry MappingInfo) :
    (setCell t k e).lookup k' = if k' = k then some e else t.lookup k' := by
  induction t with
  | nil =>
    by_cases h : k' = k
    · subst h; simp [setCell]
    · have : (k' == k) = false := by simpa using h
      simp [setCell, List.lookup, h, this]
  | cons a t ih =>
    obtain ⟨ka, ea⟩ := a
    simp only [setCell]
    by_cases hka : ka = k
    · subst hka
      by_cases h : k' = ka
      · subst h; simp
      · have : (k' == ka) = false := by simpa using h
        simp [List.lookup, h, this]
    · rw [if_neg hka]
      by_cases h : k' = ka
      · subst h
        have : k' ≠ k := hka
        simp [List.lookup, this]
      · have h' : (k' == ka) = false := by simpa using h
        simp only [List.lookup, h', ih]

@[simp] theorem get_empty (k : Key) : empty.get k = none := rfl

theorem get_set (t : Table) (k k' : Key) (e : Entry MappingInfo) :
    (t.set k e).get k' = if k' = k then some e else t.get k' := by
  simp only [get, set, lookup_setCell]

theorem get_update (r : Retain) (t : Table) (k k' : Key) (batch : List (Cand MappingInfo)) :
    (t.update r k batch).get k' = if k' = k then Cell.update .min r (t.get k) batch else t.get k' := by
  unfold update
  cases h : Cell.update .min r (t.get k) batch with
  | some e =>
    simp only [get_set]
  | none =>
    by_cases hk : k' = k
    · subst hk
      simp only [if_true]
      -- `Cell.update` returns `none` only when the cell was `none` and nothing was written
      unfold Cell.update at h
      split at h
      · cases h
      · exact h
    · simp [hk]

theorem value_update_ne (r : Retain) (t : Table) {k k' : Key} (batch : List (Cand MappingInfo))
    (h : k' ≠ k) : (t.update r k batch).value k' = t.value k' := by
  simp [value, get_update, h]

end Table

end ThlCode

end SR
