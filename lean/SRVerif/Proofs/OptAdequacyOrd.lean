/-
  The oracle's solution space in the ordered mode against validity: a sequence-labelled
  solution with valid events and "child ⊑ parent" labels is feasible for the root order that is
  its root synteny, and there the oracle's cost is the evaluator's `_cost_rec + sloss ·
  _ordered_labeling_cost` (`ordEval`: masks relative to an arbitrary `order`); conversely a
  feasible solution of finite cost is valid.
  Used by every mode: `SpeciesOk` (every node in an allowed species), `speciesOk_of_valid`,
  `speciesOk_base_iff`.
-/
import SRVerif.Proofs.OptAdequacy
import SRVerif.Proofs.Enum
import SRVerif.Proofs.SubseqSeq
import SRVerif.Proofs.SolverLists

namespace SR.Spec

open SR Cost Path

theorem isPermOf_self (a : List Nat) : isPermOf a a = true := by
  simp [isPermOf]

/-- `_cost_rec + sloss · _ordered_labeling_cost`, masks relative to `order`, the mask
    of the root being that of its own synteny. -/
def ordEval (c : Costs) (order : List Nat) (t : OTree) (sol : Sol) : Cost :=
  match ordLosses order (maskFromSubseq sol.fam order) sol with
  | some k => recCost c t sol + .fin (k * c.sloss)
  | none => .inf

theorem totalCost_eq_ordEval (c : Costs) (o : OTree) (sol : Sol) :
    totalCost c .ordered o sol = ordEval c sol.fam o sol := by
  simp only [totalCost, labelingCost, ordEval, SubseqProofs.mask_self]
  cases ordLosses sol.fam (subseqComplete sol.fam) sol <;> rfl

private theorem fam_node (s : Path) (f : List Nat) (l r : Sol) : (Sol.node s f l r).fam = f := rfl

theorem ordEval_leaf (c : Costs) (order : List Nat) (t : OTree) (s : Path) (g : List Nat) :
    ordEval c order t (.leaf s g) = recCost c t (.leaf s g) := by
  simp [ordEval, ordLosses]

private theorem sum3 (x y z : Cost) (a b d sl : Nat) :
    x + Cost.fin (a * sl) + ((y + Cost.fin (b * sl)) + (z + Cost.fin (d * sl))) =
      x + (y + z) + Cost.fin ((a + b + d) * sl) := by
  rw [Nat.add_mul, Nat.add_mul, ← fin_add_fin_eq, ← fin_add_fin_eq]
  ac_rfl

theorem specCost_ordered (c : Costs) (order : List Nat) (whole : OTree) : ∀ (t : OTree) (p : Path)
    (sol : Sol), validRec t sol = true → validOrdLabels t sol = true →
      specCost c (.ordered order) whole p sol = ordEval c order t sol := by
  intro t p sol hv
  revert p
  refine validRec_induction
    (P := fun t sol => ∀ p, validOrdLabels t sol = true →
      specCost c (.ordered order) whole p sol = ordEval c order t sol) ?_ ?_ t sol hv
  · intro sp f g p _
    simp [specCost, ordEval, ordLosses, recCost]
  · intro l r s g sl sr _ _ _ ihl ihr p hl
    simp only [validOrdLabels, Bool.and_eq_true] at hl
    obtain ⟨⟨⟨hsl, hsr⟩, hll⟩, hlr⟩ := hl
    simp only [specCost, ihl (p ++ [0]) hll, ihr (p ++ [1]) hlr]
    simp only [ordEval, fam_node, ordLosses, SR.recCost_node, localCost, edgeOk, hsl, hsr,
      Bool.and_self, Bool.not_true, Bool.false_eq_true, if_false]
    cases localOrdLosses (internalEvent s sl.sp sr.sp) (comparable s sl.sp)
        (maskFromSubseq g order) (maskFromSubseq sl.fam order) (maskFromSubseq sr.fam order) with
    | none => simp
    | some a =>
      cases ordLosses order (maskFromSubseq sl.fam order) sl with
      | none => simp
      | some b =>
        cases ordLosses order (maskFromSubseq sr.fam order) sr with
        | none => simp
        | some d => exact sum3 _ _ _ a b d c.sloss

/-- Every internal node sits in an allowed species (a node of `S`; the LCA species
    for `base`).  The solver side calls the same predicate `spAllowed`
    (`speciesOk_iff_spAllowed`).  "Valid ∧ `SpeciesOk`" is the `V` of every `Adequate` instance;
    for a valid solution it is nothing for the extended variant (`speciesOk_of_valid`) and
    `sameMapping · (lcaSol o)` for `base` (`speciesOk_base_iff`), which is how `C09.VSol`, `C09.VPre`,
    `C03.ValidOk` and the parameter `Q` of `C02_spfs_exact` / `C03_exact_gen` say it. -/
def SpeciesOk (S : RTree) (base : Bool) : OTree → Sol → Prop
  | .node l r, .node s _ sl sr =>
    s ∈ speciesSpace S base (.node l r) ∧ SpeciesOk S base l sl ∧ SpeciesOk S base r sr
  | _, _ => True

theorem speciesOk_of_valid (S : RTree) : ∀ (t : OTree) (sol : Sol),
    (∀ q ∈ leafSpecies t, S.isNode q = true) → validRec t sol = true → SpeciesOk S false t sol := by
  intro t
  induction t with
  | leaf sp f => intro sol _ _; cases sol <;> simp [SpeciesOk]
  | node l r ihl ihr =>
    intro sol hS hv
    obtain ⟨q, hq, hqa⟩ := validRec_sp_anc_leaf _ sol hv
    obtain ⟨s, g, sl, sr, rfl, -, hvl, hvr⟩ := validRec_node_inv hv
    refine ⟨?_, ihl sl (fun q hq => hS q (by simp [leafSpecies, hq])) hvl,
      ihr sr (fun q hq => hS q (by simp [leafSpecies, hq])) hvr⟩
    simp only [speciesSpace, Bool.false_eq_true, if_false, allSpecies]
    exact (RTree.mem_preorder_iff s S).mpr (RTree.isNode_of_isAnc hqa (hS q hq))

theorem speciesOk_base_iff (S : RTree) : ∀ (t : OTree) (sol : Sol), validRec t sol = true →
    (SpeciesOk S true t sol ↔ sameMapping sol (lcaSol t) = true) :=
  validRec_induction (fun sp f g => by simp [SpeciesOk, sameMapping, lcaSol])
    (fun l r s g sl sr _ _ _ ihl ihr => by
      simp only [SpeciesOk, speciesSpace, if_true, List.mem_singleton, lcaSol, sameMapping, Sol.sp,
        Bool.and_eq_true, beq_iff_eq, ihl, ihr, and_assoc])

theorem sublist_of_mem_labelSpace {order : List Nat} {whole : OTree} {p : Path} {g : List Nat}
    (h : g ∈ labelSpace (.ordered order) whole p) : g.Sublist order := by
  simp only [labelSpace] at h
  split at h
  · rw [List.mem_singleton.mp h]
  · exact (mem_sublists g order).mp h

theorem mem_labelSpace_snoc {order : List Nat} {whole : OTree} {p : Path} {k : Nat} {g : List Nat}
    (h : g.Sublist order) : g ∈ labelSpace (.ordered order) whole (p ++ [k]) := by
  have : (p ++ [k]).isEmpty = false := by cases p <;> rfl
  simp only [labelSpace, this, Bool.false_eq_true, if_false]
  exact (mem_sublists g order).mpr h

theorem feasible_of_valid (S : RTree) (base : Bool) (order : List Nat) (whole : OTree) :
    ∀ (t : OTree) (p : Path) (sol : Sol), validRec t sol = true → validOrdLabels t sol = true →
      SpeciesOk S base t sol → sol.fam ∈ labelSpace (.ordered order) whole p →
      Feasible S (.ordered order) base whole p t sol := by
  intro t p sol hv
  revert p
  refine validRec_induction
    (P := fun t sol => ∀ p, validOrdLabels t sol = true → SpeciesOk S base t sol →
      sol.fam ∈ labelSpace (.ordered order) whole p →
      Feasible S (.ordered order) base whole p t sol) ?_ ?_ t sol hv
  · intro sp f g p hl _ _
    simp only [validOrdLabels, beq_iff_eq] at hl
    simp [Feasible, leafLabel, hl]
  · intro l r s g sl sr _ _ _ ihl ihr p hl hs hlab
    simp only [validOrdLabels, Bool.and_eq_true] at hl
    obtain ⟨⟨⟨hsl, hsr⟩, hll⟩, hlr⟩ := hl
    have hg := sublist_of_mem_labelSpace hlab
    exact ⟨hs.1, hlab,
      ihl (p ++ [0]) hll hs.2.1 (mem_labelSpace_snoc ((isSublist_iff_sublist.mp hsl).trans hg)),
      ihr (p ++ [1]) hlr hs.2.2 (mem_labelSpace_snoc ((isSublist_iff_sublist.mp hsr).trans hg))⟩

theorem valid_of_feasible (c : Costs) (S : RTree) (base : Bool) (order : List Nat) (whole : OTree) :
    ∀ (t : OTree) (p : Path) (sol : Sol), Feasible S (.ordered order) base whole p t sol →
      specCost c (.ordered order) whole p sol ≠ .inf →
      validRec t sol = true ∧ validOrdLabels t sol = true ∧ SpeciesOk S base t sol :=
  Feasible.induction_finite
    (P := fun _ t sol => validRec t sol = true ∧ validOrdLabels t sol = true ∧ SpeciesOk S base t sol)
    (fun _ sp f => by simp [validRec, validOrdLabels, SpeciesOk, leafLabel])
    (fun _ l r s f sl sr hs _ hel her hev _ ⟨vl, ll, sl'⟩ ⟨vr, lr, sr'⟩ => by
      refine ⟨?_, ?_, hs, sl', sr'⟩
      · simp only [validRec, Bool.and_eq_true, bne_iff_ne, ne_eq]
        exact ⟨⟨hev, vl⟩, vr⟩
      · simp only [validOrdLabels, Bool.and_eq_true]
        exact ⟨⟨⟨hel, her⟩, ll⟩, lr⟩)

end SR.Spec
