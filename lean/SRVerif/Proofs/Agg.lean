/-
  The MIN / ALL aggregate of the label DP (`Agg.update`, `Agg.comb`).  Folding `Agg.update` over
  (value, tag) offers keeps the minimum and exactly the tags offered with it, each once
  (`Agg.Inv`, `inv_ofList`): an aggregate is the MIN / ALL `Entry` of `Model/Entry.lean` on `Cost`s
  (`toEntry`), so its invariant is `Entry.inv_fresh` of `Proofs/Entry.lean` carried over.
  `sepMin_value`, `sepMin_argmin`, `Agg.comb_spec` state the separable minimum
  `min over pairs (e + f a + g b) = e + min f + min g` on its own; the entry lemmas of
  `Proofs/LabelDPRoles.lean` do not go through them but read `Agg.Inv` element by element.
-/
import SRVerif.Proofs.Cost
import SRVerif.Proofs.Entry

namespace SR

open Cost

namespace Agg

variable {τ : Type} [DecidableEq τ]

def offerAll (a : Agg τ) (xs : List (Cost × τ)) : Agg τ :=
  xs.foldl (fun a p => a.update p.1 p.2) a

def ofList (xs : List (Cost × τ)) : Agg τ := offerAll empty xs

/-- What an aggregate must satisfy after having been offered exactly `xs`. -/
structure Inv (xs : List (Cost × τ)) (a : Agg τ) : Prop where
  lower : ∀ p ∈ xs, a.val ≼ p.1
  attained : (xs = [] ∧ a.val = inf) ∨ ∃ p ∈ xs, p.1 = a.val
  tags : ∀ t, t ∈ a.tags ↔ ∃ p ∈ xs, p.2 = t ∧ p.1 = a.val
  nodup : a.tags.Nodup

/-- An aggregate as the MIN / ALL entry of `Model/Entry.lean` it stands for: `Agg.update` is
    `Entry.update1` on `Cost`s, so the invariant of the one is that of the other. -/
def toEntry (a : Agg τ) : Entry τ :=
  { value := a.val.toExt, infos := a.tags, merge := .min, retain := .all }

theorem toEntry_update (a : Agg τ) (v : Cost) (t : τ) :
    (a.update v t).toEntry = Entry.update1 a.toEntry ⟨v.toExt, some t⟩ := by
  unfold update Entry.update1 toEntry
  by_cases hv : v = a.val
  · subst hv
    by_cases ht : t ∈ a.tags <;> simp [ht, Entry.insert]
  · have hv' : ¬ a.val.toExt = v.toExt := fun h => hv (toExt_inj h).symm
    by_cases hlt : Cost.lt v a.val = true <;> simp [hv, hv', hlt, Entry.better, toExt_lt]

theorem toEntry_offerAll (a : Agg τ) (xs : List (Cost × τ)) :
    (offerAll a xs).toEntry =
      Entry.update a.toEntry (xs.map fun p => (⟨p.1.toExt, some p.2⟩ : Cand τ)) := by
  induction xs generalizing a with
  | nil => rfl
  | cons x xs ih =>
    simp only [offerAll, Entry.update, List.foldl_cons, List.map_cons] at ih ⊢
    rw [ih, toEntry_update]

theorem inv_ofList (xs : List (Cost × τ)) : Inv xs (ofList xs) := by
  have hE : Entry.Inv .min .all (xs.map fun p => (⟨p.1.toExt, some p.2⟩ : Cand τ))
      (ofList xs).toEntry := by
    rw [ofList, toEntry_offerAll]
    exact Entry.inv_fresh .min .all _
  have hcand : ∀ p ∈ xs, (⟨p.1.toExt, some p.2⟩ : Cand τ) ∈
      xs.map fun p => (⟨p.1.toExt, some p.2⟩ : Cand τ) := fun p hp => List.mem_map.mpr ⟨p, hp, rfl⟩
  have lower : ∀ p ∈ xs, (ofList xs).val ≼ p.1 := fun p hp => by
    have := hE.optimal _ (hcand p hp)
    simp only [Entry.better, toEntry, toExt_lt] at this
    exact le_of_not_lt this
  refine ⟨lower, ?_, fun t => ?_, hE.nodup⟩
  · rcases hE.attained with h | ⟨c, hc, h⟩
    · have hinf : (ofList xs).val = inf := toExt_eq_posInf.mp (by simpa [Entry.sentinel, toEntry] using h)
      cases xs with
      | nil => exact .inl ⟨rfl, hinf⟩
      | cons p ps =>
        have := lower p List.mem_cons_self
        rw [hinf] at this ⊢
        exact .inr ⟨p, List.mem_cons_self, (inf_le _).mp this⟩
    · obtain ⟨p, hp, rfl⟩ := List.mem_map.mp hc
      exact .inr ⟨p, hp, toExt_inj h⟩
  · rw [show t ∈ (ofList xs).tags ↔ t ∈ (ofList xs).toEntry.infos from Iff.rfl, hE.all rfl]
    constructor
    · rintro ⟨c, hc, h1, h2⟩
      obtain ⟨p, hp, rfl⟩ := List.mem_map.mp hc
      exact ⟨p, hp, Option.some.inj h1, toExt_inj h2⟩
    · rintro ⟨p, hp, rfl, h2⟩
      exact ⟨_, hcand p hp, rfl, congrArg Cost.toExt h2⟩

omit [DecidableEq τ] in
theorem Inv.val_eq {xs : List (Cost × τ)} {a : Agg τ} (h : Inv xs a) :
    a.val = Cost.minList (xs.map (·.1)) := by
  symm
  apply minList_eq
  · intro x hx
    obtain ⟨p, hp, rfl⟩ := List.mem_map.mp hx
    exact h.lower p hp
  · rcases h.attained with ⟨_, h2⟩ | ⟨p, hp, h1⟩
    · exact Or.inl h2
    · exact Or.inr (List.mem_map.mpr ⟨p, hp, h1⟩)

omit [DecidableEq τ] in
theorem Inv.tags_ne_nil {xs : List (Cost × τ)} {a : Agg τ} (h : Inv xs a) (hne : xs ≠ []) :
    ∃ t, t ∈ a.tags := by
  rcases h.attained with ⟨h1, _⟩ | ⟨p, hp, h1⟩
  · exact absurd h1 hne
  · exact ⟨p.2, (h.tags _).mpr ⟨p, hp, rfl, h1⟩⟩

theorem ofList_spec (xs : List (Cost × τ)) :
    (ofList xs).val = Cost.minList (xs.map (·.1)) ∧
    (∀ t, t ∈ (ofList xs).tags ↔ ∃ p ∈ xs, p.2 = t ∧ p.1 = Cost.minList (xs.map (·.1))) ∧
    (ofList xs).tags.Nodup := by
  have h := inv_ofList xs
  refine ⟨h.val_eq, ?_, h.nodup⟩
  intro t; rw [h.tags t, h.val_eq]

omit [DecidableEq τ] in
theorem mem_comb {σ : Type} {e : Cost} {a : Agg τ} {b : Agg σ} {v : Cost} {x : τ} {y : σ} :
    (v, (x, y)) ∈ comb e a b ↔ x ∈ a.tags ∧ y ∈ b.tags ∧ v = e + a.val + b.val := by
  simp only [comb, List.mem_flatMap, List.mem_map, Prod.mk.injEq]
  constructor
  · rintro ⟨x', hx', y', hy', h1, h2, h3⟩
    subst h2; subst h3; exact ⟨hx', hy', h1.symm⟩
  · rintro ⟨hx, hy, h⟩
    exact ⟨x, hx, y, hy, h.symm, rfl, rfl⟩

end Agg

/-- Both sides are `inf` when a list is empty. -/
theorem sepMin_value (e : Cost) (xs ys : List Cost) :
    Cost.minList (xs.flatMap fun a => ys.map fun b => e + a + b) =
      e + Cost.minList xs + Cost.minList ys := by
  apply minList_eq
  · intro v hv
    simp only [List.mem_flatMap, List.mem_map] at hv
    obtain ⟨a, ha, b, hb, rfl⟩ := hv
    exact add_le_add (add_le_add (le_refl e) (minList_le ha)) (minList_le hb)
  · rcases minList_mem_or_inf xs with hx | hx
    · left; rw [hx]; simp
    · rcases minList_mem_or_inf ys with hy | hy
      · left; rw [hy]; simp
      · right
        simp only [List.mem_flatMap, List.mem_map]
        exact ⟨_, hx, _, hy, rfl⟩

theorem sepMin_argmin (e : Cost) (xs ys : List Cost) (a b : Cost) (ha : a ∈ xs) (hb : b ∈ ys)
    (hfin : e + Cost.minList xs + Cost.minList ys ≠ inf) :
    e + a + b = e + Cost.minList xs + Cost.minList ys ↔
      a = Cost.minList xs ∧ b = Cost.minList ys := by
  constructor
  · intro h
    obtain ⟨n, hn⟩ := ne_inf_iff.mp hfin
    have := eq_of_add_le (e := e) (minList_le ha) (minList_le hb) (h.trans hn) (le_of_eq h)
    exact ⟨this.1.symm, this.2.symm⟩
  · rintro ⟨rfl, rfl⟩; rfl

theorem Agg.comb_spec {τ σ : Type} [DecidableEq τ] [DecidableEq σ] (e : Cost)
    (xs : List (Cost × τ)) (ys : List (Cost × σ)) :
    let m := e + Cost.minList (xs.map (·.1)) + Cost.minList (ys.map (·.1))
    (∀ v t u, (v, (t, u)) ∈ Agg.comb e (Agg.ofList xs) (Agg.ofList ys) ↔
      v = m ∧ (∃ p ∈ xs, p.2 = t ∧ p.1 = Cost.minList (xs.map (·.1))) ∧
        (∃ q ∈ ys, q.2 = u ∧ q.1 = Cost.minList (ys.map (·.1)))) ∧
    (xs ≠ [] → ys ≠ [] →
      Cost.minList ((Agg.comb e (Agg.ofList xs) (Agg.ofList ys)).map (·.1)) = m) ∧
    m = Cost.minList (xs.flatMap fun p => ys.map fun q => e + p.1 + q.1) := by
  intro m
  have hx := Agg.ofList_spec xs
  have hy := Agg.ofList_spec ys
  refine ⟨?_, ?_, ?_⟩
  · intro v t u
    rw [Agg.mem_comb, hx.2.1, hy.2.1, hx.1, hy.1]
    constructor
    · rintro ⟨h1, h2, h3⟩; exact ⟨h3, h1, h2⟩
    · rintro ⟨h1, h2, h3⟩; exact ⟨h2, h3, h1⟩
  · intro hxne hyne
    obtain ⟨t, ht⟩ := (Agg.inv_ofList xs).tags_ne_nil hxne
    obtain ⟨u, hu⟩ := (Agg.inv_ofList ys).tags_ne_nil hyne
    apply minList_eq
    · intro v hv
      obtain ⟨⟨v', t', u'⟩, hp, rfl⟩ := List.mem_map.mp hv
      rw [Agg.mem_comb, hx.1, hy.1] at hp
      exact le_of_eq hp.2.2.symm
    · right
      refine List.mem_map.mpr ⟨(m, (t, u)), ?_, rfl⟩
      rw [Agg.mem_comb, hx.1, hy.1]
      exact ⟨ht, hu, rfl⟩
  · have := sepMin_value e (xs.map (·.1)) (ys.map (·.1))
    show e + Cost.minList (xs.map (·.1)) + Cost.minList (ys.map (·.1)) = _
    rw [← this]
    congr 1
    simp [List.flatMap_map, List.map_map, Function.comp_def]

/-! Non-vacuity: two ties for the minimum are both kept, once each. -/
example : (Agg.ofList [(Cost.fin 3, 'a'), (.fin 2, 'b'), (.inf, 'c'), (.fin 2, 'd'), (.fin 2, 'b')]).val = .fin 2 ∧
    (Agg.ofList [(Cost.fin 3, 'a'), (.fin 2, 'b'), (.inf, 'c'), (.fin 2, 'd'), (.fin 2, 'b')]).tags = ['b', 'd'] := by
  decide

example : (Agg.comb (.fin 1) (Agg.ofList [(Cost.fin 3, 'a'), (.fin 2, 'b')])
    (Agg.ofList [(Cost.fin 5, 0), (.fin 5, 1)])) = [(.fin 8, ('b', 0)), (.fin 8, ('b', 1))] := by
  decide

end SR
