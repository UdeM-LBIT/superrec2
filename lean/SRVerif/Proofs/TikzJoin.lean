/-
  Texts joined with a separator (`"\n".join(blocks)`, `", ".join(families)`, lines joined by the
  TeX line break): whatever is preserved by concatenation is preserved by joining.
-/
import SRVerif.Model.Tikz

namespace SR.Tikz

theorem intercalate_append (sep : Str) : ∀ {xs ys : List Str}, xs ≠ [] → ys ≠ [] →
    List.intercalate sep (xs ++ ys) = List.intercalate sep xs ++ sep ++ List.intercalate sep ys
  | [], _, h, _ => absurd rfl h
  | _, [], _, h => absurd rfl h
  | [x], y :: ys, _, _ => by
    rw [List.intercalate_singleton]
    exact List.intercalate_cons_cons
  | x :: x' :: xs, y :: ys, _, hy => by
    have ih := intercalate_append sep (xs := x' :: xs) (by simp) hy
    simp only [List.cons_append] at ih ⊢
    rw [List.intercalate_cons_cons, ih, List.intercalate_cons_cons]
    simp only [List.append_assoc]

theorem intercalate_closed {P : Str → Prop} (hnil : P []) (happ : ∀ a b, P a → P b → P (a ++ b))
    {sep : Str} (hs : P sep) : ∀ blocks : List Str, (∀ b ∈ blocks, P b) →
      P (List.intercalate sep blocks)
  | [], _ => hnil
  | [x], h => by
    rw [List.intercalate_singleton]
    exact h x (by simp)
  | x :: y :: ys, h => by
    rw [List.intercalate_cons_cons]
    exact happ _ _ (happ _ _ (h x (by simp)) hs)
      (intercalate_closed hnil happ hs (y :: ys) (fun b hb => h b (List.mem_cons_of_mem _ hb)))

end SR.Tikz
