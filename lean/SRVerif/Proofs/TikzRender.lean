/-
  `get_color` interning (`resolveCalls_spec`: every resolved call answers the call that was made,
  relation `All₂ (CallRes table)`) and the assembly of `render`: the blocks of the text
  (`stdDefinecolor`, `bodyBlocks`), admissible requested fillings (`reqOK`,
  `reqsOK`) stay admissible once colours are resolved to indices
  (`fillsOK_resolved`), a terminated template ends in its last character
  (`instantiate_getLast`) and starts with what its first literal starts with (`isPrefixOf_*`,
  `instantiate_startsWith`).
-/
import SRVerif.Model.Tikz

namespace SR.Tikz

/-- Two lists related element by element. -/
inductive All₂ {α β : Type} (R : α → β → Prop) : List α → List β → Prop
  | nil : All₂ R [] []
  | cons {a b l m} : R a b → All₂ R l m → All₂ R (a :: l) (b :: m)

theorem intern_spec (cs : List Str) (h : Str) :
    cs <+: (intern cs h).1 ∧ (intern cs h).2 < (intern cs h).1.length ∧
      (intern cs h).1[(intern cs h).2]? = some h := by
  simp only [intern]
  split
  · rename_i hlt
    exact ⟨List.prefix_refl _, hlt, by rw [List.getElem?_eq_getElem hlt, List.getElem_idxOf]⟩
  · exact ⟨List.prefix_append _ _, by simp, by simp⟩

theorem getElem?_of_prefix {cs cs' : List Str} (hp : cs <+: cs') {i : Nat} {h : Str}
    (hi : cs[i]? = some h) : cs'[i]? = some h := by
  obtain ⟨hlt, rfl⟩ := List.getElem?_eq_some_iff.1 hi
  exact List.prefix_iff_getElem?.1 hp i hlt

/-- What a resolved filling has to do with the requested one, relative to the final table. -/
def FillRes (table : List Str) : Fill → RFill → Prop
  | .text s, .text s' => s = s'
  | .color h, .color i => table[i]? = some h
  | _, _ => False

theorem FillRes.mono {cs cs' : List Str} (hp : cs <+: cs') {f : Fill} {o : RFill}
    (h : FillRes cs f o) : FillRes cs' f o := by
  cases f <;> cases o <;> simp only [FillRes] at h ⊢
  · exact h
  · exact getElem?_of_prefix hp h

theorem resolveFills_spec (cs : List Str) (fs : List Fill) :
    cs <+: (resolveFills cs fs).1 ∧
      All₂ (FillRes (resolveFills cs fs).1) fs (resolveFills cs fs).2 := by
  induction fs generalizing cs with
  | nil => exact ⟨List.prefix_refl _, All₂.nil⟩
  | cons f r ih =>
    cases f with
    | text s =>
      simp only [resolveFills]
      exact ⟨(ih cs).1, All₂.cons rfl (ih cs).2⟩
    | color h =>
      simp only [resolveFills]
      have h1 := intern_spec cs h
      have h2 := ih (intern cs h).1
      exact ⟨List.IsPrefix.trans h1.1 h2.1,
        All₂.cons (getElem?_of_prefix h2.1 h1.2.2) h2.2⟩

/-- A resolved call against the call that was made. -/
def CallRes (table : List Str) (c : Call) (o : RCall) : Prop :=
  o.layer = c.layer ∧ o.tmpl = c.tmpl ∧ All₂ (FillRes table) c.fills o.fills

theorem All₂.mono {α β : Type} {R S : α → β → Prop} (h : ∀ a b, R a b → S a b) {l : List α}
    {m : List β} (hl : All₂ R l m) : All₂ S l m := by
  induction hl with
  | nil => exact All₂.nil
  | cons hab _ ih => exact All₂.cons (h _ _ hab) ih

theorem resolveCalls_spec (cs : List Str) (calls : List Call) :
    cs <+: (resolveCalls cs calls).1 ∧
      All₂ (CallRes (resolveCalls cs calls).1) calls (resolveCalls cs calls).2 := by
  induction calls generalizing cs with
  | nil => exact ⟨List.prefix_refl _, All₂.nil⟩
  | cons c r ih =>
    simp only [resolveCalls]
    have h1 := resolveFills_spec cs c.fills
    have h2 := ih (resolveFills cs c.fills).1
    refine ⟨List.IsPrefix.trans h1.1 h2.1, All₂.cons ⟨rfl, rfl, ?_⟩ h2.2⟩
    exact All₂.mono (fun a b hab => FillRes.mono h2.1 hab) h1.2

theorem All₂.mem_right {α β : Type} {R : α → β → Prop} {l : List α} {m : List β}
    (h : All₂ R l m) {b : β} (hb : b ∈ m) : ∃ a ∈ l, R a b := by
  induction h with
  | nil => cases hb
  | @cons a b' _ _ hab _ ih =>
    rcases List.mem_cons.1 hb with rfl | hb
    · exact ⟨a, by simp, hab⟩
    · obtain ⟨a', ha', h'⟩ := ih hb
      exact ⟨a', List.mem_cons_of_mem _ ha', h'⟩

theorem resolveCalls_mem {calls : List Call} {o : RCall} (ho : o ∈ (resolveCalls [] calls).2) :
    ∃ c ∈ calls, CallRes (resolveCalls [] calls).1 c o :=
  (resolveCalls_spec [] calls).2.mem_right ho

theorem resolveCalls_index_lt (calls : List Call) :
    ∀ o ∈ (resolveCalls [] calls).2, ∀ i, RFill.color i ∈ o.fills →
      i < (resolveCalls [] calls).1.length := by
  intro o ho i hi
  obtain ⟨c, _, _, _, hf⟩ := resolveCalls_mem ho
  obtain ⟨f, _, hfi⟩ := hf.mem_right hi
  cases f with
  | text s => exact hfi.elim
  | color h => exact (List.getElem?_eq_some_iff.1 hfi).1

def stdDefinecolor (pre : Str) : Template :=
  [.lit (definecolorHead ++ pre), .hole .index, .lit definecolorMid, .hole .html, .lit ['}']]

def stdComment (names : List Str) : Template := [.lit ['%', ' '], .hole (.kw names)]

/-- The assembly order the generated `skeleton_shape` obligation pins down. -/
def stdSkeleton (pre : Str) (names : List Str) : List Skel :=
  [.defs, .perColor (stdDefinecolor pre), .line [.lit beginPicture], .perLayer (stdComment names),
   .line [.lit endPicture], .line []]

def colorDefLine (pre : Str) (p : Nat × Str) : Str :=
  definecolorHead ++ colorName pre p.1 ++ definecolorMid ++ p.2 ++ ['}']

def commentLine (name : Str) : Str := '%' :: ' ' :: name

def bodyBlocks (names : List Str) (pre : Str) (out : List RCall) : List Str :=
  (enumFrom 0 names).flatMap fun p => commentLine p.2 :: layerLines pre out p.1

theorem renderBlocks_std (pre : Str) (names : List Str) (defs : Str) (calls : List Call) :
    renderBlocks (stdSkeleton pre names) names pre defs calls =
      [defs] ++ (enumFrom 0 (resolveCalls [] calls).1).map (colorDefLine pre) ++ [beginPicture]
        ++ bodyBlocks names pre (resolveCalls [] calls).2 ++ [endPicture, []] := by
  simp [renderBlocks, stdSkeleton, skelBlocks, stdDefinecolor, stdComment, Template.instantiate,
    colorDefLine, colorName, bodyBlocks, commentLine, List.append_assoc]

theorem colorDefLine_eq (pre : Str) (p : Nat × Str) :
    colorDefLine pre p = (stdDefinecolor pre).instantiate [natStr p.1, p.2] := by
  simp [colorDefLine, stdDefinecolor, Template.instantiate, colorName, List.append_assoc]

theorem mem_enumFrom_snd {l : List Str} {q : Nat × Str} : ∀ {k : Nat}, q ∈ enumFrom k l → q.2 ∈ l := by
  induction l with
  | nil => intro k hq; cases hq
  | cons x xs ih =>
    intro k hq
    rcases List.mem_cons.1 hq with rfl | hq
    · simp
    · exact List.mem_cons_of_mem _ (ih hq)

theorem mem_bodyBlocks (names : List Str) (pre : Str) (out : List RCall) (b : Str)
    (h : b ∈ bodyBlocks names pre out) :
    (∃ name ∈ names, b = commentLine name) ∨ (∃ c ∈ out, b = c.text pre) := by
  simp only [bodyBlocks, List.mem_flatMap] at h
  obtain ⟨p, hp, hb⟩ := h
  rcases List.mem_cons.1 hb with e | e
  · exact Or.inl ⟨p.2, mem_enumFrom_snd hp, e⟩
  · right
    simp only [layerLines, List.mem_map, List.mem_filter] at e
    obtain ⟨c, hc, rfl⟩ := e
    exact ⟨c, hc.1, rfl⟩

theorem instantiate_getLast (t : Template) (fills : List Str) (h : t.terminated = true) :
    (t.instantiate fills).getLast? = some ';' := by
  induction t generalizing fills with
  | nil => simp [Template.terminated] at h
  | cons p r ih =>
    by_cases hr : r = []
    · subst hr
      cases p with
      | lit s =>
        simp only [Template.terminated, List.getLast?_singleton, beq_iff_eq] at h
        simpa [Template.instantiate] using h
      | hole k => simp [Template.terminated] at h
    · have hterm : Template.terminated r = true := by
        obtain ⟨q, r', rfl⟩ := List.exists_cons_of_ne_nil hr
        simp only [Template.terminated] at h ⊢
        rwa [List.getLast?_cons_cons] at h
      cases p with
      | lit s =>
        simp [Template.instantiate, List.getLast?_append, ih fills hterm]
      | hole k =>
        cases fills with
        | nil => simpa [Template.instantiate] using ih [] hterm
        | cons f fs =>
          simp [Template.instantiate, List.getLast?_append, ih fs hterm]

theorem isPrefixOf_eq_true {p s : Str} (h : isPrefixOf p s = true) : ∃ b, s = p ++ b := by
  induction p generalizing s with
  | nil => exact ⟨s, rfl⟩
  | cons a p ih =>
    cases s with
    | nil => simp [isPrefixOf] at h
    | cons c s =>
      simp only [isPrefixOf, Bool.and_eq_true, beq_iff_eq] at h
      obtain ⟨b, rfl⟩ := ih h.2
      exact ⟨b, by rw [h.1]; rfl⟩

theorem isPrefixOf_self_append (p b : Str) : isPrefixOf p (p ++ b) = true := by
  induction p with
  | nil => rfl
  | cons a p ih => simp [isPrefixOf, ih]

theorem isPrefixOf_append (pre s t : Str) (h : isPrefixOf pre s = true) :
    isPrefixOf pre (s ++ t) = true := by
  obtain ⟨b, rfl⟩ := isPrefixOf_eq_true h
  rw [List.append_assoc]
  exact isPrefixOf_self_append pre (b ++ t)

theorem instantiate_startsWith (t : Template) (pre : Str) (fills : List Str)
    (h : t.startsWith pre = true) : isPrefixOf pre (t.instantiate fills) = true := by
  cases t with
  | nil => simp [Template.startsWith] at h
  | cons p r =>
    cases p with
    | lit s => exact isPrefixOf_append _ _ _ (by simpa [Template.startsWith] using h)
    | hole k => simp [Template.startsWith] at h

/-- A requested filling fits a hole: colours go to colour holes, everything else is text of the
    hole's filling space. -/
def reqOK : HoleKind → Fill → Bool
  | .color, .color h => h.all isAlnum
  | .color, .text _ => false
  | _, .color _ => false
  | k, .text s => fillOK k s

def reqsOK : List HoleKind → List Fill → Bool
  | [], [] => true
  | k :: ks, f :: fs => reqOK k f && reqsOK ks fs
  | _, _ => false

theorem isDigit_of_char_isDigit (c : Char) (h : c.isDigit = true) : isDigit c = true := by
  simp only [Char.isDigit, Bool.and_eq_true, decide_eq_true_eq] at h
  simp only [isDigit, Bool.and_eq_true, decide_eq_true_eq]
  exact ⟨by simpa [Char.le_def, UInt32.le_iff_toNat_le] using h.1,
    by simpa [Char.le_def, UInt32.le_iff_toNat_le] using h.2⟩

theorem natStr_digits (n : Nat) : ∀ c ∈ natStr n, isDigit c = true := by
  simp only [natStr, Nat.repr, String.toList_ofList]
  intro c hc
  exact isDigit_of_char_isDigit c (Nat.isDigit_of_mem_toDigits (by decide) (by decide) hc)

theorem natStr_alnum (n : Nat) : (natStr n).all isAlnum = true := by
  simp only [List.all_eq_true]
  intro c hc
  simp only [isAlnum, natStr_digits n c hc, Bool.true_or]

theorem fillsOK_resolved (tbl : List Str) (pre : Str) (hpre : pre.all isAlnum = true)
    {fs : List Fill} {os : List RFill} (h : All₂ (FillRes tbl) fs os) (ks : List HoleKind)
    (hk : reqsOK ks fs = true) : fillsOK ks (os.map (RFill.str pre)) = true := by
  induction h generalizing ks with
  | nil => cases ks <;> simp_all [reqsOK, fillsOK]
  | @cons f o _ _ hfo _ ih =>
    cases ks with
    | nil => simp [reqsOK] at hk
    | cons k ks =>
      simp only [reqsOK, Bool.and_eq_true] at hk
      simp only [List.map_cons, fillsOK, Bool.and_eq_true]
      refine ⟨?_, ih ks hk.2⟩
      cases f with
      | text s =>
        cases o with
        | text s' =>
          simp only [FillRes] at hfo
          subst hfo
          -- a text goes to any hole but a colour hole, and is left as it is
          cases k with
          | color => exact Bool.noConfusion hk.1
          | _ => exact hk.1
        | color i => simp [FillRes] at hfo
      | color hh =>
        cases o with
        | text s' => simp [FillRes] at hfo
        | color i =>
          cases k with
          | color =>
            simp only [fillOK, RFill.str, colorName, List.all_append, Bool.and_eq_true]
            exact ⟨hpre, natStr_alnum i⟩
          | _ => simp [reqOK] at hk

theorem resolveFills_table_mem (cs : List Str) (fs : List Fill) :
    ∀ h ∈ (resolveFills cs fs).1, h ∈ cs ∨ Fill.color h ∈ fs := by
  induction fs generalizing cs with
  | nil => intro h hh; exact Or.inl hh
  | cons f r ih =>
    intro h hh
    cases f with
    | text s =>
      simp only [resolveFills] at hh
      rcases ih cs h hh with h1 | h1
      · exact Or.inl h1
      · exact Or.inr (List.mem_cons_of_mem _ h1)
    | color x =>
      simp only [resolveFills] at hh
      rcases ih _ h hh with h1 | h1
      · simp only [intern] at h1
        split at h1
        · exact Or.inl h1
        · rcases List.mem_append.1 h1 with h2 | h2
          · exact Or.inl h2
          · simp only [List.mem_singleton] at h2
            subst h2
            exact Or.inr (by simp)
      · exact Or.inr (List.mem_cons_of_mem _ h1)

theorem resolveCalls_table_mem (cs : List Str) (calls : List Call) :
    ∀ h ∈ (resolveCalls cs calls).1, h ∈ cs ∨ ∃ c ∈ calls, Fill.color h ∈ c.fills := by
  induction calls generalizing cs with
  | nil => intro h hh; exact Or.inl hh
  | cons c r ih =>
    intro h hh
    simp only [resolveCalls] at hh
    rcases ih _ h hh with h1 | ⟨c', hc', h1⟩
    · rcases resolveFills_table_mem cs c.fills h h1 with h2 | h2
      · exact Or.inl h2
      · exact Or.inr ⟨c, by simp, h2⟩
    · exact Or.inr ⟨c', List.mem_cons_of_mem _ hc', h1⟩

theorem reqsOK_color_alnum (ks : List HoleKind) (fs : List Fill) (h : reqsOK ks fs = true) :
    ∀ x, Fill.color x ∈ fs → x.all isAlnum = true := by
  induction fs generalizing ks with
  | nil => intro x hx; cases hx
  | cons f r ih =>
    cases ks with
    | nil => simp [reqsOK] at h
    | cons k ks =>
      simp only [reqsOK, Bool.and_eq_true] at h
      intro x hx
      rcases List.mem_cons.1 hx with e | e
      · subst e
        cases k with
        | color => exact h.1
        | _ => exact Bool.noConfusion h.1
      · exact ih ks h.2 x e

end SR.Tikz
