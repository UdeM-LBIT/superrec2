/-
  C15: every text filling of every drawing call of `drawCalls` is safe (`noD`: no `n{`, no `d{`,
  no `{` in front) when the branch labels are (`NamesSafe`) and the decorations are admissible
  (`DecoOK`: brace-free rounding length and species names, hence safe species labels) — printed
  coordinates, the link and bend keywords and `\phantom{-}` always are.
-/
import SRVerif.Proofs.TikzDelimRender
import SRVerif.Proofs.TikzDrawOK

namespace SR.TikzDraw

open SR SR.Layout SR.Tikz

def dfillSafe : DFill → Bool
  | .text s => noD s
  | _ => true

def DrawCall.safe (c : DrawCall) : Bool := c.fills.all dfillSafe

theorem fmtPos_noD (p : Pos) : noD (fmtPos p) = true :=
  noD_of_braceFree (braceFree_of_all _ (by decide) (by decide) _ (fillOK_coord p))

theorem toCall_safe {c : DrawCall} (h : c.safe = true) : CallSafe c.toCall := by
  intro s hs
  simp only [DrawCall.toCall, List.mem_map] at hs
  obtain ⟨d, hd, hds⟩ := hs
  have hd' := List.all_eq_true.1 h d hd
  cases d with
  | coord p =>
    simp only [DFill.toFill, Fill.text.injEq] at hds
    subst hds; exact fmtPos_noD p
  | text t =>
    simp only [DFill.toFill, Fill.text.injEq] at hds
    subst hds; exact hd'
  | color hh => simp [DFill.toFill] at hds

/-- What the decorations must satisfy beyond `DecoOK`: every branch label is safe. -/
def NamesSafe (deco : Deco) : Prop := ∀ s k, noD (deco.name s k) = true

theorem phantom_noD : noD phantomDash = true := by decide

theorem links_noD (o : Orientation) :
    noD (forkLinks o).1 = true ∧ noD (forkLinks o).2 = true := by
  cases o <;> exact ⟨by decide, by decide⟩

theorem bends_noD : ∀ s ∈ [bendRight, bendLeft, bendUp, bendDown], noD s = true := by
  decide +kernel

theorem forkInner_safe (o : Orientation) (dp : DParams) (hr : braceFree dp.rounding = true)
    (lay l r : SubLayout) : (forkInner o dp lay l r).safe = true := by
  simp [forkInner, DrawCall.safe, dfillSafe, noD_of_braceFree hr]

theorem forkLeaf_safe {o : Orientation} {dp : DParams} {deco : Deco} (hok : DecoOK dp deco)
    {lay : SubLayout} {f : DrawCall} (h : forkLeaf o dp deco lay = .ok f) : f.safe = true := by
  obtain ⟨label, _, _, _, _, hlab, rfl⟩ := forkLeaf_inv h
  have hb := noD_of_braceFree (speciesLabel_braceFree (hok.spName lay.sp) hlab)
  simp [DrawCall.safe, dfillSafe, noD_of_braceFree hok.rounding, hb]

theorem drawBranch_safe {o : Orientation} {dp : DParams} {deco : Deco} (hn : NamesSafe deco)
    {all : List SubLayout} {spOf : Path → Option Path} {lay : SubLayout}
    {ll rl : Option SubLayout} {b : FBranch} {cs : List DrawCall}
    (h : drawBranch o dp deco all spOf lay ll rl b = .ok cs) : ∀ c ∈ cs, c.safe = true := by
  have hname := hn lay.sp b.key
  have l1 := (links_noD o).1
  have l2 := (links_noD o).2
  refine forall_mem_drawBranch (P := fun c => c.safe = true) h ?_ ?_
  · intro a
    simp [DrawCall.safe, dfillSafe]
  · intro body hd
    cases hd with
    | leaf hk =>
      exact List.forall_mem_singleton.2 (by simp [DrawCall.safe, dfillSafe, hname])
    | loss hk keep =>
      exact forall_mem_triple (by simp [DrawCall.safe, dfillSafe])
        (by simp [DrawCall.safe, dfillSafe])
        (by simp [DrawCall.safe, dfillSafe, l2])
    | spec hk la ra =>
      exact forall_mem_pair (by simp [DrawCall.safe, dfillSafe, l1, l2])
        (by simp [DrawCall.safe, dfillSafe, hname])
    | dup hk la ra =>
      exact forall_mem_pair (by simp [DrawCall.safe, dfillSafe, l1, l2])
        (by simp [DrawCall.safe, dfillSafe, hname])
    | hgt hk g s fl foreign la out bend hr hs hfl hf hbend =>
      refine forall_mem_triple (by simp [DrawCall.safe, dfillSafe])
        (by simpa [DrawCall.safe, dfillSafe] using bends_noD bend hbend) ?_
      simp only [branchStmt, DrawCall.safe, List.all_cons, List.all_nil, dfillSafe, Bool.true_and,
        Bool.and_true]
      split
      · exact phantom_noD
      · exact hname

theorem drawCalls_safe {o : Orientation} {dp : DParams} {deco : Deco} (hok : DecoOK dp deco)
    (hn : NamesSafe deco) {S : RTree} {spOf : Path → Option Path} {all : List SubLayout}
    {calls : List DrawCall} (h : drawCalls o dp deco S spOf all = .ok calls) :
    ∀ c ∈ calls, CallSafe c.toCall := by
  intro c hc
  apply toCall_safe
  cases origin_of_mem h c hc with
  | leafFork lay _ _ hf => exact forkLeaf_safe hok hf
  | innerFork lay l r _ _ _ _ hc' => subst hc'; exact forkInner_safe o dp hok.rounding lay l r
  | branch lay ll rl b cs _ _ _ hd hc' => exact drawBranch_safe hn hd c hc'

end SR.TikzDraw
