/-
  The functions generated from `superrec2/utils/toposort.py` (`Generated/TopoPy.lean`) against the
  model `Model/Toposort.lean`, at node type `Nat`.  How these proofs depend on the printed text:
  head of `Proofs/PyRt.lean`.

  Here: the dict / set / deque operations of the prelude `Model/PyRtColl.lean` on `Nat` keys are
  the model's `lookup` / `Indeg.set` / `erase` / `setAdd`; `toposort` (Kahn): the two
  initialisation loops are the model's `kahnInit`, the inner decrement loop is `decAll pushBack`,
  the `while` loop is `kahnLoop` at the same fuel — EQUAL results, exceptions included, whenever
  the model does not run out of fuel (it never does on a well-formed or a malformed graph:
  `C19_total`, `C19_malformed`).  `toposort_all`, for every iteration order of its sets, is in
  `TopoPyEquivAll.lean`.
-/
import SRVerif.Generated.TopoPy
import SRVerif.Proofs.ToposortAlg
import SRVerif.Proofs.PyRt

namespace SR.TopoPyProofs
open SR SR.Toposort

/-- The model's exceptions as Python exceptions (`fuel` is the marker `Diverged`). -/
def toPy : Toposort.Err → Py.Err
  | .keyError => .KeyError
  | .valueError => .ValueError
  | .indexError => .IndexError
  | .fuel => .Diverged

/-- A model result as a result of a generated function. -/
def conv {ρ : Type} : Except Toposort.Err ρ → Except Py.Err ρ
  | .ok r => .ok r
  | .error e => .error (toPy e)

/-- A model result as the outcome of a generated loop that ends normally in the state `f r`. -/
def ctl {σ τ ρ : Type} (f : τ → σ) : Except Toposort.Err τ → Py.Ctl σ ρ
  | .ok r => .next (f r)
  | .error e => .err (toPy e)

@[simp] theorem conv_ok {ρ : Type} (r : ρ) : conv (.ok r : Except Toposort.Err ρ) = .ok r := rfl
@[simp] theorem conv_error {ρ : Type} (e : Toposort.Err) :
    conv (.error e : Except Toposort.Err ρ) = .error (toPy e) := rfl
@[simp] theorem ctl_ok {σ τ ρ : Type} (f : τ → σ) (r : τ) :
    (ctl f (.ok r) : Py.Ctl σ ρ) = .next (f r) := rfl
@[simp] theorem ctl_error {σ τ ρ : Type} (f : τ → σ) (e : Toposort.Err) :
    (ctl f (.error e : Except Toposort.Err τ) : Py.Ctl σ ρ) = .err (toPy e) := rfl

theorem dictSet_eq_set {I : Indeg} {k : Nat} {y : Int} (x : Int) (h : I.lookup k = some y) :
    Py.dictSet I k x = I.set k x := by
  simp [Py.dictSet, Py.dictHas, Py.dictGet?_eq_lookup, h, Indeg.set]

theorem dictKeys_eq (g : Graph) : Py.dictKeys g = keys g := rfl

theorem dictOfList_aux (l : List Nat) : ∀ acc : List (Nat × Int), (acc.map (·.1) ++ l).Nodup →
    (l.map (fun n => (n, (0 : Int)))).foldl (fun d p => Py.dictSet d p.1 p.2) acc
      = acc ++ l.map (fun n => (n, (0 : Int))) := by
  induction l with
  | nil => intro acc _; simp
  | cons x l ih =>
    intro acc h
    have hx : x ∉ acc.map (·.1) := by
      intro hm
      have := List.nodup_append.1 h
      exact this.2.2 x hm x (by simp) rfl
    have hl : acc.lookup x = none := List.lookup_eq_none_iff_not_mem_keys.2 hx
    have hset : Py.dictSet acc x (0 : Int) = acc ++ [(x, 0)] := by
      simp [Py.dictSet, Py.dictHas, Py.dictGet?_eq_lookup, hl]
    rw [List.map_cons, List.foldl_cons]
    simp only []
    rw [hset, ih (acc ++ [(x, 0)]) (by simpa using h)]
    simp

theorem dictOfList_init {g : Graph} (hk : (keys g).Nodup) :
    Py.dictOfList ((keys g).map (fun n => (n, (0 : Int)))) = Indeg.init g := by
  have := dictOfList_aux (keys g) [] (by simpa using hk)
  rw [Py.dictOfList, this]
  simp [Indeg.init, keys]

theorem setAdd_eq (s : List Nat) (v : Nat) : Py.setAdd s v = Toposort.setAdd s v := rfl

theorem remove?_eq (s : List Nat) (v : Nat) :
    Py.remove? s v = if v ∈ s then some (s.erase v) else none := rfl

theorem discard_eq (s : List Nat) (v : Nat) : Py.discard s v = s.erase v := rfl

theorem kahn_loop2_eq (ss st : List Nat) (I : Indeg) :
    (Gen.Topo.toposort.loop2 ss (st, I) : Py.Ctl _ (Option (List Nat)))
      = ctl id (ss.foldlM kahnInitOne (st, I)) := by
  refine Py.forLoop_foldlM (ctl id) id (fun _ => rfl) (fun s => by rw [id, Gen.Topo.toposort.loop2])
    (fun a l s => ?_) ss (st, I)
  obtain ⟨st, I⟩ := s
  rw [id, Gen.Topo.toposort.loop2]
  simp only [Py.dictGet?_eq_lookup, kahnInitOne, remove?_eq]
  cases hl : I.lookup a with
  | none => rfl
  | some x =>
    simp only []
    by_cases hx : x = 0
    · by_cases hm : a ∈ st
      · simp only [hx, hm, if_true, dictSet_eq_set _ hl]; rfl
      · simp only [hx, hm, if_true, if_false]; rfl
    · simp only [hx, if_false, dictSet_eq_set _ hl]; rfl

theorem kahn_loop1_eq (g : Graph) (st : List Nat) (I : Indeg) :
    (Gen.Topo.toposort.loop1 (Py.dictValues g) (st, I) : Py.Ctl _ (Option (List Nat)))
      = ctl id (g.foldlM (fun st p => p.2.foldlM kahnInitOne st) (st, I)) := by
  refine (Py.forLoop_foldlM (step := fun st ss => ss.foldlM kahnInitOne st) (ctl id) id (fun _ => rfl)
    (fun s => by rw [id, Gen.Topo.toposort.loop1]) (fun ss l s => ?_) _ (st, I)).trans
    (by rw [Py.dictValues, List.foldlM_map])
  obtain ⟨st, I⟩ := s
  rw [id, Gen.Topo.toposort.loop1, kahn_loop2_eq]
  cases ss.foldlM kahnInitOne (st, I) <;> rfl

theorem kahn_loop4_eq (ss st : List Nat) (I : Indeg) :
    (Gen.Topo.toposort.loop4 ss (st, I) : Py.Ctl _ (Option (List Nat)))
      = ctl id (decAll pushBack ss (st, I)) := by
  refine Py.forLoop_foldlM (ctl id) id (fun _ => rfl) (fun s => by rw [id, Gen.Topo.toposort.loop4])
    (fun a l s => ?_) ss (st, I)
  obtain ⟨st, I⟩ := s
  rw [id, Gen.Topo.toposort.loop4]
  simp only [Py.dictGet?_eq_lookup, decOne, Indeg.bump]
  cases hl : I.lookup a with
  | none => rfl
  | some x =>
    simp only [dictSet_eq_set _ hl, lookup_set_self I a _ _ hl, Int.sub_eq_add_neg]
    rfl

theorem getSuccs_eq (g : Graph) (x : Nat) :
    getSuccs g x = match Py.dictGet? g x with
      | none => .error .keyError
      | some ss => .ok ss := by
  rw [Py.dictGet?_eq_lookup]; rfl

theorem kahn_loop3_eq (g : Graph) : ∀ (fuel : Nat) (starts : List Nat) (I : Indeg) (result : List Nat),
    kahnLoop g fuel starts I result ≠ .error .fuel →
    ∃ I', (Gen.Topo.toposort.loop3 g fuel (starts, I, result) : Py.Ctl _ (Option (List Nat))) =
      match kahnLoop g fuel starts I result with
      | .ok res => .next ([], I', res)
      | .error e => .err (toPy e) := by
  intro fuel
  induction fuel with
  | zero => intro _ _ _ h; exact absurd rfl h
  | succ fuel ih =>
    intro starts I result h
    cases starts with
    | nil => exact ⟨I, by simp [Gen.Topo.toposort.loop3, kahnLoop]⟩
    | cons x rest =>
      rw [Gen.Topo.toposort.loop3]
      simp only [ne_eq, reduceCtorEq, not_false_eq_true, if_true, Py.popleft?, kahnLoop, getSuccs_eq,
        kahn_loop4_eq] at h ⊢
      cases hg : Py.dictGet? g x with
      | none => exact ⟨I, rfl⟩
      | some ss =>
        rw [hg] at h
        dsimp only at h ⊢
        cases hd : decAll pushBack ss (rest, I) with
        | error e' => exact ⟨I, rfl⟩
        | ok s =>
          obtain ⟨s1, s2⟩ := s
          rw [hd] at h
          exact ih s1 s2 (result ++ [x]) h

theorem toposort_eq {g : Graph} (hk : (keys g).Nodup) (hfuel : Toposort.toposort g ≠ .error .fuel) :
    Gen.Topo.toposort g = conv (Toposort.toposort g) := by
  rw [Gen.Topo.toposort]
  simp only [dictKeys_eq, dictOfList_init hk, kahn_loop1_eq]
  unfold Toposort.toposort at hfuel ⊢
  rw [kahnInit] at hfuel ⊢
  cases hi : g.foldlM (fun st p => p.2.foldlM kahnInitOne st) (keys g, Indeg.init g) with
  | error e => simp
  | ok s =>
    obtain ⟨starts, I⟩ := s
    rw [hi] at hfuel
    simp only [ctl_ok, id] at hfuel ⊢
    obtain ⟨I', h3⟩ := kahn_loop3_eq g (g.length + 1) starts I [] (fun h => hfuel (by rw [h]))
    rw [h3]
    cases kahnLoop g (g.length + 1) starts I [] with
    | error e => rfl
    | ok res => by_cases hlen : res.length = g.length <;> simp [hlen]

end SR.TopoPyProofs
