/-
  One table entry of the code-structured model (`SpfsCode.computeEntry`) against one entry of
  the label DP at bitmask labels (`entry (ordAlg c)`), given that the cells of the two children
  correspond (`CellsRel`).  The code computes with `Int`s and tests `subseq_segment_dist < 0`,
  the DP with `Nat`s and an infinite edge cost: `cv_edge` bridges the two; from there on the
  role entries (`role_corr`), the batch and the cell go through `CorrOn` and `CellOK`.
-/
import SRVerif.Model.SpfsCode
import SRVerif.Proofs.CodeCellOK
import SRVerif.Proofs.LabelDPRoles
import SRVerif.Proofs.LabelDPOrd

namespace SR.SpfsCode

open Cost Path SubseqSpec

/-- The role entry of a `MappingChoices` by role (`RoleId` of the label DP). -/
def Choices.get (r : Choices) : RoleId → Entry OAsg
  | .left => r.left
  | .right => r.right
  | .cons => r.conserved
  | .seg => r.segment
  | .sep => r.separate

/-- The value with which a child cell is offered to role `ρ` of `(s, m)` by the code;
    `none` when it is not offered (wrong placement, or not a subsequence). -/
def cv (c : Costs) (S : RTree) (s : Path) (m : Nat) (ρ : RoleId) (cell : TCell) : Option ExtInt :=
  if subseqSegmentDist cell.syn m true < 0 then none
  else (baseE c S s ρ cell.sp).map fun b =>
    b + cell.entry.value + .fin (subseqSegmentDist cell.syn m ρ.isCons * (c.sloss : Int))

/-- The `ObjectAssignment` tag that names a child cell. -/
def cellAsg (cell : TCell) : OAsg := (cell.sp, cell.syn)

/-- Offer to a role entry the value, if any, with which a child cell is offered to it. -/
def offerOpt (e : Entry OAsg) (o : Option ExtInt) (t : OAsg) : Entry OAsg :=
  match o with
  | some w => e.update [⟨w, some t⟩]
  | none => e

theorem visit_eq (c : Costs) (S : RTree) (s : Path) (m : Nat) (r : Choices) (cell : TCell) :
    visit c S s m r cell =
      { left := offerOpt r.left (cv c S s m .left cell) (cellAsg cell),
        right := offerOpt r.right (cv c S s m .right cell) (cellAsg cell),
        conserved := offerOpt r.conserved (cv c S s m .cons cell) (cellAsg cell),
        segment := offerOpt r.segment (cv c S s m .seg cell) (cellAsg cell),
        separate := offerOpt r.separate (cv c S s m .sep cell) (cellAsg cell) } := by
  unfold visit cv baseE
  by_cases hneg : subseqSegmentDist cell.syn m true < 0
  · simp [hneg, offerOpt]
  -- along the decision tree of the code
  by_cases h1 : isAnc s cell.sp = true
  · by_cases h2 : speciesIsLeaf S s = true
    · simp [hneg, offerOpt, cellAsg, RoleId.isCons, h1, h2]
    · by_cases h3 : isAnc (s ++ [0]) cell.sp = true
      · simp [hneg, offerOpt, cellAsg, RoleId.isCons, h1, h2, h3]
      · by_cases h4 : isAnc (s ++ [1]) cell.sp = true <;>
          simp [hneg, offerOpt, cellAsg, RoleId.isCons, h1, h2, h3, h4]
  · by_cases h5 : isAnc cell.sp s = true <;> simp [hneg, offerOpt, cellAsg, RoleId.isCons, h1, h5]

theorem visit_get (c : Costs) (S : RTree) (s : Path) (m : Nat) (r : Choices) (cell : TCell)
    (ρ : RoleId) :
    (visit c S s m r cell).get ρ = offerOpt (r.get ρ) (cv c S s m ρ cell) (cellAsg cell) := by
  rw [visit_eq]
  cases ρ <;> rfl

/-- The candidates offered to role `ρ` by a list of child cells. -/
def codeCands (c : Costs) (S : RTree) (s : Path) (m : Nat) (ρ : RoleId) (cells : List TCell) :
    List (Cand OAsg) :=
  cells.filterMap (fun cell => (cv c S s m ρ cell).map (fun w => ⟨w, some (cellAsg cell)⟩))

theorem foldl_visit_get (c : Costs) (S : RTree) (s : Path) (m : Nat) (ρ : RoleId)
    (cells : List TCell) (r : Choices) :
    (cells.foldl (visit c S s m) r).get ρ = (r.get ρ).update (codeCands c S s m ρ cells) := by
  induction cells generalizing r with
  | nil => simp [codeCands, Entry.update]
  | cons cell cells ih =>
    rw [List.foldl_cons, ih, visit_get]
    cases h : cv c S s m ρ cell with
    | none => simp [codeCands, h, offerOpt]
    | some w => simp [codeCands, h, offerOpt, Entry.update]

theorem choices_get (c : Costs) (S : RTree) (s : Path) (m : Nat) (ret : Retain) (ρ : RoleId)
    (cells : List TCell) :
    (choices c S ret s m cells).get ρ =
      Entry.update (Entry.init .min ret) (codeCands c S s m ρ (childCells S cells)) := by
  unfold choices
  rw [foldl_visit_get]
  cases ρ <;> rfl

theorem choices_inv (c : Costs) (S : RTree) (s : Path) (m : Nat) (ret : Retain) (ρ : RoleId)
    (cells : List TCell) :
    Entry.Inv .min ret (codeCands c S s m ρ (childCells S cells))
      ((choices c S ret s m cells).get ρ) := by
  rw [choices_get]
  exact Entry.inv_fresh .min ret _

theorem mem_codeCands {c : Costs} {S : RTree} {s : Path} {m : Nat} {ρ : RoleId} {cells : List TCell}
    {x : Cand OAsg} :
    x ∈ codeCands c S s m ρ cells ↔
      ∃ cell ∈ cells, ∃ w, cv c S s m ρ cell = some w ∧ x = ⟨w, some (cellAsg cell)⟩ := by
  simp only [codeCands, List.mem_filterMap, Option.map_eq_some_iff]
  constructor
  · rintro ⟨cell, hc, w, hw, rfl⟩; exact ⟨cell, hc, w, hw, rfl⟩
  · rintro ⟨cell, hc, w, hw, rfl⟩; exact ⟨cell, hc, w, hw, rfl⟩

/-- A code cell and a DP cell with the same key and the same value. -/
def SameCell (cc : TCell) (d : DCell Nat) : Prop :=
  cc.sp = d.sp ∧ cc.syn = d.lab ∧ cc.entry.value = d.cost.toExt

/-- The cells of one object node correspond, and the DP cells are finite, have a non-empty
    mask and sit at a species of `S`. -/
structure CellsRel (S : RTree) (cs : List TCell) (ds : List (DCell Nat)) : Prop where
  fwd : ∀ cc ∈ cs, ∃ d ∈ ds, SameCell cc d
  bwd : ∀ d ∈ ds, ∃ cc ∈ cs, SameCell cc d
  fin : ∀ d ∈ ds, d.cost ≠ .inf
  nz : ∀ d ∈ ds, d.lab ≠ 0
  node : ∀ d ∈ ds, S.isNode d.sp = true
  func : ∀ d1 ∈ ds, ∀ d2 ∈ ds, cellTag d1 = cellTag d2 → d1 = d2

/-- The code's `cv` in the shape `role_corr` asks for: for a non-empty child mask, either the
    branch losses + the cell's value + the edge cost of `ordAlg`, or (mask not contained)
    nothing, and then the edge cost is infinite. -/
theorem cv_edge (c : Costs) (S : RTree) (s : Path) (m : Nat) (ρ : RoleId) (a ca : OrdAnn)
    (cc : TCell) (hnz : cc.syn ≠ 0) :
    (cv c S s m ρ cc = (baseE c S s ρ cc.sp).map fun b => b + cc.entry.value +
        Cost.toExt (if ρ.isCons then (ordAlg c).conserv a m ca cc.syn
          else (ordAlg c).segment a m ca cc.syn)) ∨
    (cv c S s m ρ cc = none ∧ (if ρ.isCons then (ordAlg c).conserv a m ca cc.syn
        else (ordAlg c).segment a m ca cc.syn) = .inf) := by
  rcases ord_costs (c := c) (a := a) (ca := ca) (m := m) hnz with
    ⟨_, hcv, hsv, h1, h2⟩ | ⟨_, hcv, hsv, h1, _⟩
  · left
    have hneg : ¬ subseqSegmentDist cc.syn m true < 0 := by omega
    rw [cv, if_neg hneg, hcv, hsv]
    congr 1; funext b
    cases ρ.isCons
    · simp only [Bool.false_eq_true, if_false, Cost.toExt_fin, Int.natCast_mul,
        Int.toNat_of_nonneg h2]
    · simp only [if_true, Cost.toExt_fin, Int.natCast_mul, Int.toNat_of_nonneg h1]
  · right
    exact ⟨by simp [cv, h1], by cases ρ.isCons <;> simp [hcv, hsv]⟩

theorem rv_inf {c : Costs} {S : RTree} {s x : Path} {ρ : RoleId} {cost v : Cost}
    (h : rv c S s ρ x cost .inf .inf = some v) : v = .inf := by
  rw [rv_eq] at h
  obtain ⟨_, _, rfl⟩ := Option.map_eq_some_iff.mp h
  simp

-- `SpfsCode.levelorder` and `UspfsCode.levelOrder` are the same term (two model files, one
-- definition), so the lemma proved for the latter in `Proofs/CodeExt.lean` applies
theorem mem_levelorder (S : RTree) (p : Path) : p ∈ levelorder S ↔ S.isNode p = true :=
  UspfsCode.mem_levelOrder S p

theorem mem_childCells (S : RTree) (cells : List TCell) (cell : TCell) :
    cell ∈ childCells S cells ↔ cell ∈ cells ∧ S.isNode cell.sp = true := by
  simp only [childCells, List.mem_flatMap, List.mem_filter, beq_iff_eq]
  constructor
  · rintro ⟨x, hx, hc, rfl⟩; exact ⟨hc, (mem_levelorder S _).mp hx⟩
  · rintro ⟨hc, hn⟩; exact ⟨cell.sp, (mem_levelorder S _).mpr hn, hc, rfl⟩

theorem roles_rel (c : Costs) (S : RTree) (a ca : OrdAnn) (s : Path) (m : Nat) (ρ : RoleId)
    {cs : List TCell} {ds : List (DCell Nat)} (h : CellsRel S cs ds) :
    RelOn id ((choices c S .all s m cs).get ρ) ((roles (ordAlg c) c S a s m ca ds).get ρ) := by
  rw [choices_get, roles_get]
  have hrow : RowOk S (fun x k => Cost.toExt (costAt ds (x, k))) ds := ⟨fun _ _ => rfl, h.node, h.func⟩
  have hvalue : ∀ {cc : TCell} {d : DCell Nat}, d ∈ ds → SameCell cc d →
      cc.entry.value = Cost.toExt (costAt ds (cc.sp, cc.syn)) := by
    intro cc d hd hrel
    rw [hrel.2.2, hrel.1, hrel.2.1]
    exact congrArg _ (hrow.costAt_of_mem hd).symm
  refine relOn_of_corrOn
    (role_corr (ordAlg c) c S a s m ca ρ hrow (φ := id) (fun u => ⟨u, rfl⟩) ?_ ?_)
  · intro cd hcd
    obtain ⟨cc, hcc, w, hw, rfl⟩ := mem_codeCands.mp hcd
    obtain ⟨d, hd, hrel⟩ := h.fwd cc ((mem_childCells S cs cc).mp hcc).1
    rcases cv_edge c S s m ρ a ca cc (hrel.2.1 ▸ h.nz d hd) with e | ⟨e, _⟩
    · rw [e] at hw
      obtain ⟨b, hb, rfl⟩ := Option.map_eq_some_iff.mp hw
      exact ⟨cellAsg cc, b, hb, by rw [hvalue hd hrel]; rfl⟩
    · rw [e] at hw; cases hw
  · rintro ⟨x, kc⟩ b n hx hb hv
    simp only [id] at hx hb hv
    obtain ⟨k, _, rfl⟩ := Option.map_eq_some_iff.mp ((baseE_eq c S s ρ _).symm.trans hb)
    have hv' := hv
    rw [← Cost.toExt_fin, ← Cost.toExt_add, ← Cost.toExt_add, Cost.toExt_eq_fin] at hv'
    have hne := ne_of_eq_of_ne hv' (by simp : Cost.fin n ≠ .inf)
    -- the child cell exists, since its cost is finite
    obtain ⟨d, hd, ht⟩ := costAt_ne_inf (add_ne_inf (add_ne_inf hne).1).2
    obtain ⟨cc, hcc, hrel⟩ := h.bwd d hd
    obtain ⟨e1, e2⟩ := cellTag_eq.mp ht
    have hasg : cellAsg cc = (x, kc) := by rw [← ht]; simp [cellAsg, cellTag, hrel.1, hrel.2.1]
    refine mem_codeCands.mpr ⟨cc, (mem_childCells S cs cc).mpr ⟨hcc, by rw [hrel.1, e1]; exact hx⟩,
      _, ?_, by rw [hasg]⟩
    rcases cv_edge c S s m ρ a ca cc (hrel.2.1 ▸ h.nz d hd) with e | ⟨_, e⟩
    · rw [e, hvalue hd hrel, hrel.1, hrel.2.1, e1, e2, hb, Option.map_some]
      exact congrArg some hv
    · rw [hrel.2.1, e2] at e
      rw [e] at hne
      simp at hne

theorem batch_eq (c : Costs) (s0 s1 : Choices) :
    batch c s0 s1 = (events c).flatMap fun ev =>
      ((s0.get ev.2.1).combine (s1.get ev.2.2) (eventComb ev.1.toExt)).cands := by
  simp [batch, events, Choices.get, Cost.toExt]

theorem corr_batch (c : Costs) {sub0 sub1 : Choices} {r0 r1 : Roles OAsg}
    (h0 : ∀ ρ, RelOn id (sub0.get ρ) (r0.get ρ)) (h1 : ∀ ρ, RelOn id (sub1.get ρ) (r1.get ρ)) :
    CorrOn id (batch c sub0 sub1) (entryCands c r0 r1) := by
  rw [batch_eq, entryCands_eq]
  exact CorrOn.flatMap _ fun ev _ => corrOn_combine (h0 ev.2.1) (h1 ev.2.2) ev.1
    (mk := Prod.mk) (fun _ _ _ _ => rfl) (fun _ _ => rfl) (fun _ _ h => h) (fun u => ⟨u, rfl⟩)

theorem computeEntry_rel (c : Costs) (S : RTree) (keep : Bool) (a la ra : OrdAnn) (s : Path) (m : Nat)
    {L R : List TCell} {dL dR : List (DCell Nat)} (hL : CellsRel S L dL) (hR : CellsRel S R dR) :
    CellOK (ordAlg c) c S keep a s m la ra dL dR id (computeEntry c S .all s m L R) := by
  have hC := corr_batch c (fun ρ => roles_rel c S a la s m ρ hL) (fun ρ => roles_rel c S a ra s m ρ hR)
  exact .of_batch (ordAlg c) c S keep a s m la ra dL dR hC

end SR.SpfsCode
