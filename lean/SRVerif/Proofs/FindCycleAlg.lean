/-
  `find_cycle`: the `while` loop (fuel suffices), what `None` means, the
  shape of the returned list.
-/
import SRVerif.Proofs.FindCycleInv

namespace SR.Toposort

theorem dfsLoop_cons {g : Graph} {cur : Nat} {succs : List Nat} (hs : g.lookup cur = some succs)
    (fuel : Nat) (P : Parents) (rest : List Nat) :
    dfsLoop g (fuel + 1) P (cur :: rest) = match (scan cur succs P rest).found with
      | some c => .ok ((scan cur succs P rest).parents, some c)
      | none => dfsLoop g fuel (scan cur succs P rest).parents (scan cur succs P rest).stack := by
  simp only [dfsLoop, hs]
  generalize scan cur succs P rest = o
  obtain ⟨_, _, f⟩ := o
  cases f <;> rfl

theorem dfsLoop_spec {g : Graph} (hwf : WF g) {i : Nat} (hi : i ∈ keys g) :
    ∀ (fuel : Nat) (P : Parents) (S : List Nat), CInv g i P S →
      g.length + S.length < fuel + P.length →
      ∃ P' r, dfsLoop g fuel P S = .ok (P', r) ∧
        (r = none → CInv g i P' []) ∧ (∀ c, r = some c → Flagged g i P' c) := by
  intro fuel
  induction fuel with
  | zero =>
    intro P S h hf
    have := h.tree.length_le hi hwf.succ_keys
    omega
  | succ fuel ih =>
    intro P S h hf
    cases S with
    | nil => exact ⟨P, none, rfl, fun _ => h, fun c hc => by simp at hc⟩
    | cons cur rest =>
      have hcurk : cur ∈ keys g :=
        h.tree.sub_keys hi hwf.succ_keys cur (h.sk cur List.mem_cons_self)
      obtain ⟨succs, hs⟩ := List.exists_lookup_iff_mem_keys.2 hcurk
      have hnd : succs.Nodup := (hwf.2 _ (List.mem_of_lookup_eq_some hs)).1
      obtain ⟨h1, h2⟩ := scan_spec succs P rest (h.pop hwf.1 hs hnd)
      rw [dfsLoop_cons hs]
      cases hf' : (scan cur succs P rest).found with
      | some c =>
        refine ⟨_, some c, rfl, fun hn => by simp at hn, fun c' hc' => ?_⟩
        exact h2 c' (hf'.trans hc')
      | none =>
        obtain ⟨hinv, hlen⟩ := h1 hf'
        refine ih _ _ hinv ?_
        simp only [List.length_cons] at hf
        omega

theorem CInv.closed {g : Graph} {i : Nat} {P : Parents} (h : CInv g i P []) {v : Nat} {w : List Nat}
    (hw : WalkTo g i v w) : v ∈ pkeys P := by
  induction hw with
  | nil => exact h.tree.root_mem
  | snoc _ ha ih => exact plookup_mem (h.done _ ih (by simp) _ ha).1

theorem CInv.unique {g : Graph} {i : Nat} {P : Parents} (h : CInv g i P []) : UniqueWalks g i := by
  intro v w₁ w₂ h₁
  induction h₁ generalizing w₂ with
  | nil =>
    intro h₂
    cases h₂ with
    | nil => rfl
    | snoc hw ha => exact absurd rfl (h.done _ (h.closed hw) (by simp) _ ha).2
  | snoc hw ha ih =>
    intro h₂
    cases h₂ with
    | nil => exact absurd rfl (h.done _ (h.closed hw) (by simp) _ ha).2
    | snoc hw' ha' =>
      have e1 := (h.done _ (h.closed hw) (by simp) _ ha).1
      have e2 := (h.done _ (h.closed hw') (by simp) _ ha').1
      rw [e1] at e2
      simp only [Option.some.injEq] at e2
      subst e2
      rw [ih _ hw']

theorem climb_start {Q : Parents} {c : Nat} (h : (Q.lookup c).isSome) (fuel : Nat) (acc : List Nat) :
    climb Q c (fuel + 1) c acc = .ok acc := by
  obtain ⟨p, hp⟩ := Option.isSome_iff_exists.1 h
  simp [climb, hp]

/-- `climb` only ever moves to an OLDER entry of the tree `P`, so it is a structural descent along
    `P` (one unit of fuel per entry suffices); `Q` is the dictionary actually consulted (the tree
    plus the overriding entry of the flagged vertex `c`), which agrees with `P` away from `c`. -/
theorem climb_tree {g : Graph} {i : Nat} {P : Parents} (hto : TO g i P) (c : Nat) (Q : Parents)
    (hc : (Q.lookup c).isSome) :
    (∀ x ∈ pkeys P, x ≠ c → Q.lookup x = P.lookup x) →
    ∀ (k x : Nat) (acc : List Nat), x ∈ pkeys P →
      ∃ l, climb Q c (k + P.length) x acc = .ok (acc ++ l) ∧ (∀ y ∈ l, y ≠ c ∧ y ∈ pkeys P) ∧
        l.Nodup ∧ ∀ z, Arc g x z → Chain (fun a b => Arc g b a) (z :: l) := by
  induction hto with
  | root =>
    intro hQ k x acc hx
    refine ⟨[], ?_, by simp, by simp, fun _ _ => trivial⟩
    by_cases hxc : x = c
    · subst hxc; simpa using climb_start hc k acc
    · have hxi : x = i := by simpa [pkeys] using hx
      have := hQ x hx hxc
      subst hxi
      simp [climb, this]
  | @node v p P hto hv hp ha ih =>
    intro hQ k x acc hx
    have hQ' : ∀ y ∈ pkeys P, y ≠ c → Q.lookup y = P.lookup y := fun y hy hyc => by
      have hyv : y ≠ v := fun e => hv (e ▸ hy)
      rw [hQ y (List.mem_cons_of_mem _ hy) hyc, plookup_ne P p hyv]
    by_cases hxc : x = c
    · subst hxc
      exact ⟨[], (climb_start hc (k + P.length) acc).trans (by simp), by simp, by simp,
        fun _ _ => trivial⟩
    by_cases hxv : x = v
    · subst hxv
      have hl : Q.lookup x = some p := by rw [hQ x hx hxc]; exact List.lookup_cons_self
      have hxp : x ≠ p := fun e => hv (e ▸ hp)
      obtain ⟨l, hcl, hm, hn, hch⟩ := ih hQ' k p (acc ++ [x]) hp
      refine ⟨x :: l, ?_, ?_, List.nodup_cons.2 ⟨fun h => hv (hm x h).2, hn⟩,
        fun z hz => ⟨hz, hch x ha⟩⟩
      · show climb Q c (k + P.length + 1) x acc = _
        simp only [climb, hl, hxc, hxp, or_self, if_false]
        rw [hcl]; simp
      · intro y hy
        rcases List.mem_cons.1 hy with e | e
        · subst e; exact ⟨hxc, hx⟩
        · exact ⟨(hm y e).1, List.mem_cons_of_mem _ (hm y e).2⟩
    · obtain ⟨l, hcl, hm, hn, hch⟩ := ih hQ' (k + 1) x acc ((List.mem_cons.1 hx).resolve_left hxv)
      rw [Nat.add_right_comm] at hcl
      exact ⟨l, hcl, fun y hy => ⟨(hm y hy).1, List.mem_cons_of_mem _ (hm y hy).2⟩, hn, hch⟩

/-- The list returned by `find_cycle`: distinct vertices, each reachable
    from the first key, each consecutive pair `(a, b)` an edge `b → a` of the
    graph (the list is in REVERSE edge order). -/
structure CycleShape (g : Graph) (i : Nat) (cyc : List Nat) : Prop where
  ne : cyc ≠ []
  nodup : cyc.Nodup
  chain : Chain (fun a b => Arc g b a) cyc
  reach : ∀ v ∈ cyc, ∃ w, WalkTo g i v w
  keys : ∀ v ∈ cyc, v ∈ keys g

theorem CInv.init (g : Graph) (i : Nat) : CInv g i [(i, i)] [i] := by
  refine ⟨.root, List.nodup_singleton i, fun v hv => hv, fun v p hl hvi => ?_, fun u hu hus => ?_⟩
  · rw [plookup_ne _ _ hvi] at hl
    cases hl
  · exact absurd hu hus

theorem findCycle_spec {i : Nat} {ss : List Nat} {rest : Graph} (hwf : WF ((i, ss) :: rest)) :
    ∃ r, findCycle ((i, ss) :: rest) = .ok r ∧ (r = none ↔ UniqueWalks ((i, ss) :: rest) i) ∧
      ∀ cyc, r = some cyc → CycleShape ((i, ss) :: rest) i cyc := by
  have hi : i ∈ SR.Toposort.keys ((i, ss) :: rest) := List.mem_cons_self
  obtain ⟨P', r, hr, hr1, hr2⟩ :=
    dfsLoop_spec hwf hi (((i, ss) :: rest).length + 1) _ _ (CInv.init _ i) (by simp)
  cases r with
  | none =>
    exact ⟨none, by rw [findCycle, hr], ⟨fun _ => (hr1 rfl).unique, fun _ => rfl⟩,
      fun cyc h => by simp at h⟩
  | some c =>
    obtain ⟨P0, cur, rfl, hto, hc, hcur, harc, hnu⟩ := hr2 c rfl
    have hlen := hto.length_le hi hwf.succ_keys
    obtain ⟨k, hk⟩ := Nat.exists_eq_add_of_le' (Nat.le_succ_of_le hlen)
    obtain ⟨l, hcl, hm, hn, hch⟩ := climb_tree hto c ((c, cur) :: P0) (by simp)
      (fun x _ hxc => plookup_ne _ _ hxc) k cur [c] hcur
    rw [← hk] at hcl
    have hk : ∀ v ∈ c :: l, v ∈ pkeys P0 := fun v hv =>
      (List.mem_cons.1 hv).elim (· ▸ hc) fun e => (hm v e).2
    refine ⟨some (c :: l), by rw [findCycle, hr]; simp only [List.lookup_cons_self, hcl]; rfl,
      ⟨fun h => by simp at h, fun h => absurd h hnu⟩, fun cyc hcyc => ?_⟩
    rw [← Option.some.inj hcyc]
    exact ⟨by simp, List.nodup_cons.2 ⟨fun hm' => (hm c hm').1 rfl, hn⟩,
      hch c harc, fun v hv => (hto.walk v (hk v hv)).imp fun w hw => hw.1,
      fun v hv => hto.sub_keys hi hwf.succ_keys v (hk v hv)⟩

theorem findCycle_nil : findCycle [] = .error .stopIteration := rfl

theorem isCycle_iff {g : Graph} : ∀ {c : List Nat} (hc : c ≠ []),
    IsCycle g c ↔ Chain (Arc g) (c ++ [c.head hc])
  | _ :: _, _ => Iff.rfl

/-- `find_cycle` lists a cycle in reverse edge order, hence `.reverse`. -/
theorem isCycle_reverse_iff {g : Graph} {a : Nat} {l : List Nat} :
    IsCycle g (a :: l).reverse ↔
      Chain (Arc g) (a :: l).reverse ∧ Arc g a ((a :: l).getLast (List.cons_ne_nil a l)) := by
  rw [isCycle_iff (List.reverse_ne_nil_iff.2 (List.cons_ne_nil a l)), List.head_reverse]
  generalize (a :: l).getLast _ = z
  rw [List.reverse_cons, List.append_assoc, List.singleton_append, chain_iff_isChain,
    List.isChain_split, ← chain_iff_isChain, List.isChain_pair]

end SR.Toposort
