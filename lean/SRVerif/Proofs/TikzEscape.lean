/-
  `tex.escape`: left inverse, token well-formedness, braces untouched; the two parts of a name split at
  its last `_` are brace-free when the name is (`rsplit_braceFree`).
-/
import SRVerif.Model.Tikz

namespace SR.Tikz

/-- What the two sequential replacements do to one character. -/
def escChar (c : Char) : Str :=
  if c = '\\' then ['\\', '\\'] else if c = '_' then ['\\', '_'] else [c]

theorem escape_nil : escape [] = [] := rfl

theorem escape_cons (c : Char) (s : Str) : escape (c :: s) = escChar c ++ escape s := by
  have hne : ('\\' : Char) ≠ '_' := by decide
  simp only [escape, List.flatMap_cons, List.flatMap_append]
  congr 1
  by_cases h1 : c = '\\'
  · subst h1; simp [escBackslash, escUnderscore, escChar, hne]
  · by_cases h2 : c = '_'
    · subst h2; simp [escBackslash, escUnderscore, escChar, h1]
    · simp [escBackslash, escUnderscore, escChar, h1, h2]

theorem escape_eq_flatMap (s : Str) : escape s = s.flatMap escChar := by
  induction s with
  | nil => rfl
  | cons c r ih => rw [escape_cons, ih, List.flatMap_cons]

theorem unescape_cons_plain (c : Char) (r : Str) (h : c ≠ '\\') :
    unescape (c :: r) = c :: unescape r := by
  cases r with
  | nil => simp [unescape]
  | cons d t => simp [unescape, h]

theorem unescape_escape (s : Str) : unescape (escape s) = s := by
  induction s with
  | nil => rfl
  | cons c r ih =>
    rw [escape_cons]
    by_cases h1 : c = '\\'
    · subst h1; simp [escChar, unescape, ih]
    · by_cases h2 : c = '_'
      · subst h2
        have : ('_' : Char) ≠ '\\' := by decide
        simp [escChar, unescape, ih, this]
      · simp only [escChar, h1, h2, if_false, List.singleton_append]
        rw [unescape_cons_plain c _ h1, ih]

theorem wellEscaped_cons_plain (c : Char) (r : Str) (h1 : c ≠ '\\') (h2 : c ≠ '_')
    (h : wellEscaped r = true) : wellEscaped (c :: r) = true := by
  cases r with
  | nil => simp [wellEscaped, h1, h2]
  | cons d t => simp [wellEscaped, h1, h2, h]

theorem wellEscaped_escape (s : Str) : wellEscaped (escape s) = true := by
  induction s with
  | nil => rfl
  | cons c r ih =>
    rw [escape_cons]
    by_cases h1 : c = '\\'
    · subst h1; simp [escChar, wellEscaped, ih]
    · by_cases h2 : c = '_'
      · subst h2
        have : ('_' : Char) ≠ '\\' := by decide
        simp [escChar, wellEscaped, ih, this]
      · simp only [escChar, h1, h2, if_false, List.singleton_append]
        exact wellEscaped_cons_plain c _ h1 h2 ih

/-- In a well-escaped string every `_` is preceded by a backslash: stated on any split
    `a ++ '_' :: b`. -/
theorem wellEscaped_underscore (s : Str) (h : wellEscaped s = true) :
    ∀ a b, s = a ++ '_' :: b → ∃ a', a = a' ++ ['\\'] := by
  induction s using wellEscaped.induct with
  | case1 => intro a b e; cases a <;> simp at e
  | case2 c =>
    intro a b e
    simp only [wellEscaped, Bool.and_eq_true, bne_iff_ne, ne_eq] at h
    cases a with
    | nil => simp at e; exact absurd e.1 h.2
    | cons x a => cases a <;> simp at e
  | case3 d r ih =>
    intro a b e
    simp only [wellEscaped, if_true, Bool.and_eq_true, Bool.or_eq_true, beq_iff_eq] at h
    cases a with
    | nil => simp at e
    | cons x a =>
      cases a with
      | nil =>
        simp only [List.cons_append, List.nil_append, List.cons.injEq] at e
        exact ⟨[], by simp [← e.1]⟩
      | cons y a =>
        simp only [List.cons_append, List.cons.injEq] at e
        obtain ⟨a', ha'⟩ := ih h.2 a b e.2.2
        exact ⟨x :: y :: a', by simp [ha']⟩
  | case4 c d r hc ih =>
    intro a b e
    simp only [wellEscaped, hc, if_false, Bool.and_eq_true, bne_iff_ne, ne_eq] at h
    cases a with
    | nil => simp at e; exact absurd e.1 h.1
    | cons x a =>
      simp only [List.cons_append, List.cons.injEq] at e
      obtain ⟨a', ha'⟩ := ih h.2 a b e.2
      exact ⟨x :: a', by simp [ha']⟩

theorem braceFree_append (a b : Str) : braceFree (a ++ b) = (braceFree a && braceFree b) := by
  simp [braceFree]

theorem braceFree_escape (s : Str) (h : braceFree s = true) : braceFree (escape s) = true := by
  induction s with
  | nil => rfl
  | cons c r ih =>
    have hc : isBrace c = false ∧ braceFree r = true := by
      simpa [braceFree] using h
    rw [escape_cons, braceFree_append, ih hc.2, Bool.and_true]
    by_cases h1 : c = '\\'
    · subst h1; decide
    · by_cases h2 : c = '_'
      · subst h2; decide
      · simp [escChar, h1, h2, braceFree, hc.1]

theorem rsplit_braceFree {name sp gene : Str} (h : braceFree name = true)
    (hr : rsplitUnderscore name = some (sp, gene)) :
    braceFree sp = true ∧ braceFree gene = true := by
  simp only [rsplitUnderscore] at hr
  split at hr
  · simp only [Option.some.injEq, Prod.mk.injEq] at hr
    have hall : ∀ c ∈ name, isBrace c = false := by
      simpa [braceFree] using h
    constructor
    · rw [← hr.1]
      simp only [braceFree, List.all_eq_true, Bool.not_eq_true']
      intro c hc
      have := List.mem_of_mem_drop (List.mem_reverse.1 hc)
      exact hall c (List.mem_reverse.1 ((List.dropWhile_sublist _).subset this))
    · rw [← hr.2]
      simp only [braceFree, List.all_eq_true, Bool.not_eq_true']
      intro c hc
      exact hall c (List.mem_reverse.1 ((List.takeWhile_sublist _).subset (List.mem_reverse.1 hc)))
  · cases hr

end SR.Tikz
