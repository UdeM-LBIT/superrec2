/-
  JSON text layer, the tokens: decimal integers, `\uXXXX` escapes, strings.
  `parseNat (natDigits n ++ rest) = some (n, rest)`, `parseStr (body of renderStr s ++ rest)
  = some (s, rest)` for EVERY string (all escapes of `ensure_ascii=True`, surrogate pairs
  included).
-/
import SRVerif.Model.Json

namespace SR.Json

theorem digitChar_spec : ∀ d < 10,
    (digitChar d).isDigit = true ∧ (digitChar d).toNat - 48 = d ∧ (d ≠ 0 → digitChar d ≠ '0') := by
  decide

theorem readNat_digits (f : Nat) : ∀ n, n < f →
    ∃ k, ∀ acc rest, readNat acc (natDigitsF f n ++ rest) = readNat (acc * k + n) rest := by
  induction f with
  | zero => intro n h; omega
  | succ f ih =>
    intro n hn
    unfold natDigitsF
    by_cases h : n < 10
    · refine ⟨10, fun acc rest => ?_⟩
      simp only [h, if_true, List.cons_append, List.nil_append, readNat, (digitChar_spec n h).1,
        (digitChar_spec n h).2.1]
    · obtain ⟨k, hk⟩ := ih (n / 10) (by omega)
      refine ⟨k * 10, fun acc rest => ?_⟩
      have hd : n % 10 < 10 := Nat.mod_lt _ (by omega)
      simp only [h, if_false, List.append_assoc, List.cons_append, List.nil_append, hk, readNat,
        (digitChar_spec _ hd).1, (digitChar_spec _ hd).2.1, if_true]
      congr 1
      rw [Nat.add_mul, Nat.mul_assoc]
      omega

theorem natDigitsF_head (f : Nat) : ∀ n, n < f → 0 < n →
    ∃ c t, natDigitsF f n = c :: t ∧ c.isDigit = true ∧ c ≠ '0' := by
  induction f with
  | zero => intro n h; omega
  | succ f ih =>
    intro n hn hpos
    unfold natDigitsF
    by_cases h : n < 10
    · exact ⟨digitChar n, [], by simp [h], (digitChar_spec n h).1, (digitChar_spec n h).2.2 (by omega)⟩
    · obtain ⟨c, t, e, h1, h2⟩ := ih (n / 10) (by omega) (by omega)
      exact ⟨c, t ++ [digitChar (n % 10)], by simp [h, e], h1, h2⟩

/-- The text after a value: end of input, or `,` `]` `}`. -/
def Delim (rest : List Char) : Prop :=
  (rest.head?.all fun c => c == ',' || c == ']' || c == '}') = true

theorem delim_stops (n : Nat) {rest : List Char} (h : Delim rest) :
    readNat n rest = (n, rest) ∧ numTail n rest = some (n, rest) := by
  cases rest with
  | nil => exact ⟨rfl, rfl⟩
  | cons c t =>
    simp only [Delim, List.head?_cons, Option.all_some, Bool.or_eq_true, beq_iff_eq] at h
    rcases h with (rfl | rfl) | rfl <;> exact ⟨rfl, rfl⟩

theorem parseNat_natDigits (n : Nat) {rest : List Char} (h : Delim rest) :
    parseNat (natDigits n ++ rest) = some (n, rest) := by
  by_cases h0 : n = 0
  · subst h0
    show parseNat ('0' :: rest) = _
    simp only [parseNat, if_true]
    exact (delim_stops 0 h).2
  · obtain ⟨c, t, e, h1, h2⟩ := natDigitsF_head (n + 1) n (by omega) (by omega)
    obtain ⟨k, hk⟩ := readNat_digits (n + 1) n (by omega)
    have hr : readNat 0 (c :: (t ++ rest)) = (n, rest) := by
      have := hk 0 rest
      rw [e] at this
      simpa [(delim_stops n h).1] using this
    unfold natDigits
    rw [e]
    simp only [parseNat, List.cons_append, h2, if_false, h1, if_true, hr]
    exact (delim_stops n h).2

theorem natDigits_head (k : Nat) : ∃ c t, natDigits k = c :: t ∧ c.isDigit = true := by
  by_cases h0 : k = 0
  · subst h0; exact ⟨'0', [], rfl, by decide⟩
  · obtain ⟨c, t, e, h1, _⟩ := natDigitsF_head (k + 1) k (by omega) (by omega)
    exact ⟨c, t, e, h1⟩

theorem hexVal_hexDigit : ∀ d < 16, hexVal? (hexDigit d) = some d := by decide

theorem hex4?_hex4 (n : Nat) (h : n < 65536) (r : List Char) : hex4? (hex4 n ++ r) = some (n, r) := by
  have m : ∀ x : Nat, x % 16 < 16 := fun x => Nat.mod_lt _ (by omega)
  simp only [hex4, List.cons_append, List.nil_append, hex4?, hexVal_hexDigit _ (m _)]
  congr 2
  -- the four base-16 digits of `n < 16⁴` give `n` back
  omega

theorem char_scalar (c : Char) : c.toNat < 0xd800 ∨ (0xdfff < c.toNat ∧ c.toNat < 0x110000) :=
  c.valid

theorem charOfNat?_toNat (c : Char) : charOfNat? c.toNat = some c := by
  simp only [charOfNat?, char_scalar c, if_true, Char.ofNat_toNat]

theorem dropPrefix?_append (p r : List Char) : dropPrefix? p (p ++ r) = some r := by
  induction p with
  | nil => rfl
  | cons a p ih => simp [dropPrefix?, ih]

theorem unescapeU_bmp (c : Char) (h : c.toNat < 0x10000) (t : List Char) :
    unescapeU (hex4 c.toNat ++ t) = some (c, t) := by
  have hs : ¬ (0xd800 ≤ c.toNat ∧ c.toNat ≤ 0xdbff) := by
    have := char_scalar c
    omega
  unfold unescapeU
  rw [hex4?_hex4 _ h]
  simp only [hs, if_false, charOfNat?_toNat, Option.map_some]

theorem unescapeU_pair (hi lo : Nat) (c : Char) (t : List Char) (h1 : hi < 65536) (h2 : lo < 65536)
    (h3 : 0xd800 ≤ hi ∧ hi ≤ 0xdbff) (h4 : 0xdc00 ≤ lo ∧ lo ≤ 0xdfff)
    (h5 : joinSurrogates hi lo = c.toNat) :
    unescapeU (hex4 hi ++ (uEsc lo ++ t)) = some (c, t) := by
  have e : uEsc lo ++ t = ['\\', 'u'] ++ (hex4 lo ++ t) := rfl
  unfold unescapeU
  rw [hex4?_hex4 _ h1]
  simp only [h3, and_self, if_true]
  rw [e, dropPrefix?_append]
  simp only []
  rw [hex4?_hex4 _ h2]
  simp only [h4, and_self, if_true, h5, charOfNat?_toNat, Option.map_some]

theorem unescapeU_astral (c : Char) (h : ¬ c.toNat < 0x10000) (t : List Char) :
    unescapeU (hex4 (0xd800 + (c.toNat - 0x10000) / 1024) ++
      (uEsc (0xdc00 + (c.toNat - 0x10000) % 1024) ++ t)) = some (c, t) := by
  have hv := char_scalar c
  exact unescapeU_pair _ _ c t (by omega) (by omega) (by omega) (by omega)
    (by unfold joinSurrogates; omega)

/-- The two-character escapes of `py_encode_basestring_ascii`: a character, and the letter
    written after the backslash for it. -/
def shortEscapes : List (Char × Char) :=
  [('"', '"'), ('\\', '\\'), ('\n', 'n'), ('\r', 'r'), ('\t', 't'), ('\x08', 'b'), ('\x0c', 'f')]

theorem escChar_cases (c : Char) :
    (∃ e, escChar c = ['\\', e] ∧ (c, e) ∈ shortEscapes) ∨
    (0x20 ≤ c.toNat ∧ c.toNat ≤ 0x7e ∧ c ≠ '"' ∧ c ≠ '\\' ∧ escChar c = [c]) ∨
    (c.toNat < 0x10000 ∧ escChar c = uEsc c.toNat) ∨
    (¬ c.toNat < 0x10000 ∧ escChar c =
      uEsc (0xd800 + (c.toNat - 0x10000) / 1024) ++ uEsc (0xdc00 + (c.toNat - 0x10000) % 1024)) := by
  by_cases hs : c ∈ shortEscapes.map (·.1)
  · simp only [shortEscapes, List.map_cons, List.map_nil, List.mem_cons, List.not_mem_nil,
      or_false] at hs
    rcases hs with rfl | rfl | rfl | rfl | rfl | rfl | rfl
    all_goals exact .inl ⟨_, rfl, by decide⟩
  · simp only [shortEscapes, List.map_cons, List.map_nil, List.mem_cons, List.not_mem_nil,
      or_false, not_or] at hs
    obtain ⟨h1, h2, h3, h4, h5, h6, h7⟩ := hs
    rw [escChar, if_neg h1, if_neg h2, if_neg h3, if_neg h4, if_neg h5, if_neg h6, if_neg h7]
    by_cases h8 : 0x20 ≤ c.toNat ∧ c.toNat ≤ 0x7e
    · exact .inr (.inl ⟨h8.1, h8.2, h1, h2, if_pos h8⟩)
    rw [if_neg h8]
    by_cases h9 : c.toNat < 0x10000
    · exact .inr (.inr (.inl ⟨h9, if_pos h9⟩))
    · exact .inr (.inr (.inr ⟨h9, if_neg h9⟩))

theorem escChar_ne_nil (c : Char) : escChar c ≠ [] := by
  rcases escChar_cases c with ⟨e, h, _⟩ | ⟨_, _, _, _, h⟩ | ⟨_, h⟩ | ⟨_, h⟩
  all_goals rw [h]; exact List.cons_ne_nil _ _

theorem parseStrBody_bs (f : Nat) (r : List Char) :
    parseStrBody (f + 1) ('\\' :: r) =
      match unescape r with
      | none => none
      | some (x, r') => (parseStrBody f r').map (fun p => (x :: p.1, p.2)) := by
  cases h : unescape r <;> simp [parseStrBody, h]

theorem parseStrBody_plain (f : Nat) (c : Char) (r : List Char) (h1 : c ≠ '"') (h2 : c ≠ '\\')
    (h3 : ¬ c.toNat < 0x20) :
    parseStrBody (f + 1) (c :: r) = (parseStrBody f r).map (fun p => (c :: p.1, p.2)) := by
  simp [parseStrBody, h1, h2, h3]

theorem unescape_short : ∀ p ∈ shortEscapes, ∀ t, unescape (p.2 :: t) = some (p.1, t) := by
  intro p hp t
  simp only [shortEscapes, List.mem_cons, List.not_mem_nil, or_false] at hp
  rcases hp with rfl | rfl | rfl | rfl | rfl | rfl | rfl <;> rfl

theorem unescape_u (r : List Char) : unescape ('u' :: r) = unescapeU r := by
  simp [unescape]

theorem parseStrBody_esc (c : Char) (f : Nat) (t : List Char) :
    parseStrBody (f + 1) (escChar c ++ t) = (parseStrBody f t).map (fun p => (c :: p.1, p.2)) := by
  rcases escChar_cases c with ⟨e, h, he⟩ | ⟨h3, _, h1, h2, h⟩ | ⟨hb, h⟩ | ⟨hb, h⟩
  · rw [h, List.cons_append, parseStrBody_bs, List.cons_append, List.nil_append,
      unescape_short _ he]
  · rw [h, List.cons_append, List.nil_append, parseStrBody_plain f c t h1 h2 (by omega)]
  · rw [h, uEsc, List.cons_append, parseStrBody_bs, List.cons_append, unescape_u,
      unescapeU_bmp c hb t]
  · rw [h, List.append_assoc, uEsc, List.cons_append, parseStrBody_bs, List.cons_append, unescape_u,
      unescapeU_astral c hb t]

theorem parseStrBody_render : ∀ (s : List Char) (f : Nat) (rest : List Char), s.length < f →
    parseStrBody f (s.flatMap escChar ++ '"' :: rest) = some (s, rest)
  | _, 0, _, hf => absurd hf (Nat.not_lt_zero _)
  | [], _ + 1, _, _ => by simp [parseStrBody]
  | c :: s, f + 1, rest, hf => by
    rw [List.flatMap_cons, List.append_assoc, parseStrBody_esc,
      parseStrBody_render s f rest (Nat.lt_of_succ_lt_succ hf)]
    rfl

theorem length_le_flatMap_esc (s : List Char) : s.length ≤ (s.flatMap escChar).length := by
  induction s with
  | nil => simp
  | cons c s ih =>
    have : 0 < (escChar c).length := List.length_pos_iff.mpr (escChar_ne_nil c)
    simp only [List.flatMap_cons, List.length_append, List.length_cons]
    omega

theorem parseStr_render (s : String) (rest : List Char) :
    parseStr (s.toList.flatMap escChar ++ '"' :: rest) = some (s, rest) := by
  unfold parseStr
  rw [parseStrBody_render s.toList _ rest (by
    have := length_le_flatMap_esc s.toList
    simp only [List.length_append, List.length_cons]
    omega)]
  simp [String.ofList_toList]

/-- `' '..'~'`: with `ensure_ascii=True` nothing else is written. -/
def printable (c : Char) : Bool := 0x20 ≤ c.toNat && c.toNat ≤ 0x7e

theorem uEsc_printable (n : Nat) : (uEsc n).all printable = true := by
  have hx : ∀ d < 16, printable (hexDigit d) = true := by decide
  have m : ∀ x : Nat, x % 16 < 16 := fun x => Nat.mod_lt _ (by omega)
  simp only [uEsc, hex4, List.all_cons, List.all_nil, hx _ (m _)]
  decide

theorem escChar_printable (c : Char) : (escChar c).all printable = true := by
  have hs : ∀ p ∈ shortEscapes, printable p.2 = true := by decide
  rcases escChar_cases c with ⟨e, h, he⟩ | ⟨h1, h2, _, _, h⟩ | ⟨_, h⟩ | ⟨_, h⟩
  · rw [h]
    simp only [List.all_cons, List.all_nil, hs _ he]
    decide
  · rw [h]
    simp [printable, h1, h2]
  · rw [h]
    exact uEsc_printable _
  · rw [h, List.all_append, uEsc_printable, uEsc_printable]
    rfl

end SR.Json
