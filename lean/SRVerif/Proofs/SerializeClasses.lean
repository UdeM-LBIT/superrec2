/-
  C11: `sort_synteny` permutes, cost tables read back (third instance of `parse_ofList_map`),
  and the `to_dict` / `from_dict` round trips of the four classes, whose domain is `WF`.
-/
import SRVerif.Proofs.SerializeMap

namespace SR.Ser

theorem insertSyn_perm (x : String) (l : List String) : (insertSyn x l).Perm (x :: l) := by
  induction l with
  | nil => exact List.Perm.refl _
  | cons y ys ih =>
    simp only [insertSyn]
    split
    · exact (List.Perm.cons y ih).trans (List.Perm.swap x y ys)
    · exact List.Perm.refl _

theorem sortSynteny_perm (l : List String) : (sortSynteny l).Perm l := by
  unfold sortSynteny
  induction l with
  | nil => exact List.Perm.refl _
  | cons x xs ih => exact (insertSyn_perm x _).trans (List.Perm.cons x ih)

theorem edge_names_not_node : ∀ s ∈ Gen.edgeEventNames, s ∉ Gen.nodeEventNames := by
  decide +kernel

theorem eventOfName_name {e : Event} (h : e.valid = true) : eventOfName e.name = .ok e := by
  cases e with
  | node n =>
    have hm : n ∈ Gen.nodeEventNames := by simpa [Event.valid] using h
    simp [eventOfName, Event.name, hm]
  | edge n =>
    have hm : n ∈ Gen.edgeEventNames := by simpa [Event.valid] using h
    simp [eventOfName, Event.name, hm, edge_names_not_node n hm]

theorem event_name_inj {a b : Event} (ha : a.valid = true) (hb : b.valid = true)
    (h : a.name = b.name) : a = b :=
  Except.ok.inj ((eventOfName_name ha).symm.trans (h ▸ eventOfName_name hb))

/-- A cost table: pairwise distinct members of the two enumerations. -/
def CostsWF (c : CostValues) : Prop :=
  (c.map (·.1)).Nodup ∧ ∀ x ∈ c, x.1.valid = true

instance (c : CostValues) : Decidable (CostsWF c) := by
  unfold CostsWF; infer_instance

theorem parse_serialize_costs {c : CostValues} (h : CostsWF c) :
    parseCosts (serializeCosts c) = .ok c :=
  parse_ofList_map _ _ h.1
    (List.nodup_keys_map Event.name _ h.1 fun x hx y hy => event_name_inj (h.2 x hx) (h.2 y hy))
    fun x hx => by
      simp only [eventOfName_name (h.2 x hx)]
      rfl

/-- The law assumed of ete3: writing a uniquely and safely named tree in format 8
    (root included, `color` feature) and reading it in format 1 gives the tree back. -/
def NewickLaw (write : NT → String) (read : String → Option NT) : Prop :=
  ∀ t : NT, t.UniqueNames → t.SafeNames → read (write t) = some t

structure RecInput.WF (x : RecInput) : Prop where
  objUnique : x.objectTree.UniqueNames
  objSafe : x.objectTree.SafeNames
  speUnique : x.speciesTree.UniqueNames
  speSafe : x.speciesTree.SafeNames
  leaf : TreeMappingWF x.objectTree x.speciesTree x.leafObjectSpecies
  costs : CostsWF x.costs

structure SRecInput.WF (x : SRecInput) : Prop where
  base : x.base.WF
  syn : KeysIn x.base.objectTree x.leafSyntenies

def AnyInput.WF : AnyInput → Prop
  | .plain i => i.WF
  | .super i => i.WF

theorem AnyInput.WF.base : ∀ {i : AnyInput}, i.WF → i.base.WF
  | .plain _, h => h
  | .super _, h => SRecInput.WF.base h

structure RecOutput.WF (x : RecOutput) : Prop where
  input : x.input.WF
  map : TreeMappingWF x.input.base.objectTree x.input.base.speciesTree x.objectSpecies

structure SRecOutput.WF (x : SRecOutput) : Prop where
  input : x.input.WF
  map : TreeMappingWF x.input.base.objectTree x.input.base.speciesTree x.objectSpecies
  syn : KeysIn x.input.base.objectTree x.syntenies

/-- What the classes read back as. -/
def SRecInput.norm (x : SRecInput) : SRecInput := { x with leafSyntenies := normSyn x.leafSyntenies }

def RecOutput.norm (x : RecOutput) : RecOutput := { x with input := .plain x.input.base }

def SRecOutput.norm (x : SRecOutput) : SRecOutput :=
  { x with input := .plain x.input.base, syntenies := normSyn x.syntenies }

section
variable {write : NT → String} {read : String → Option NT}

theorem AnyInput.base_plain (i : RecInput) : (AnyInput.plain i).base = i := rfl

theorem ok_bind {α β : Type} (a : α) (f : α → Except Err β) : (Except.ok a >>= f) = f a := rfl

theorem readTree_write (hN : NewickLaw write read) {t : NT} (hu : t.UniqueNames)
    (hs : t.SafeNames) : readTree read (write t) = .ok t := by
  simp [readTree, hN t hu hs]

theorem RecInput.fromDict_toDict (hN : NewickLaw write read) {x : RecInput} (h : x.WF) :
    RecInput.fromDict read (x.toDict write) = .ok x := by
  simp only [RecInput.fromDict, RecInput.toDict, readTree_write hN h.objUnique h.objSafe,
    readTree_write hN h.speUnique h.speSafe, parse_serialize_costs h.costs, ok_bind,
    parse_serialize_treeMapping h.objUnique h.speUnique h.leaf]
  rfl

/-- `ReconciliationInput.from_dict` ignores the key `leaf_syntenies`: on the dictionary of an
    input of either class it builds the plain input. -/
theorem AnyInput.fromDict_toDict (hN : NewickLaw write read) : ∀ {i : AnyInput}, i.WF →
    RecInput.fromDict read (i.toDict write) = .ok i.base
  | .plain _, h => RecInput.fromDict_toDict hN h
  | .super _, h => RecInput.fromDict_toDict hN h.base

theorem SRecInput.fromDict_toDict (hN : NewickLaw write read) {x : SRecInput} (h : x.WF) :
    SRecInput.fromDict read (x.toDict write) = .ok x.norm := by
  have hb : RecInput.fromDict read (x.toDict write) = .ok x.base :=
    AnyInput.fromDict_toDict (i := .super x) hN h
  rw [SRecInput.fromDict, hb]
  simp only [SRecInput.toDict, ok_bind, parse_serialize_synMapping h.base.objUnique h.syn]
  rfl

theorem SRecInput.toDict_norm (x : SRecInput) :
    x.norm.toDict write = x.toDict write := by
  simp only [SRecInput.toDict, SRecInput.norm, serialize_normSyn]

/-- `ReconciliationOutput.from_dict` on a dictionary whose `input` and `object_species` were
    written from `i` and `m`; both output classes write these two keys alike. -/
theorem RecOutput.fromDict_of (hN : NewickLaw write read) {i : AnyInput} (hi : i.WF)
    {m : TreeMapping} (hm : TreeMappingWF i.base.objectTree i.base.speciesTree m)
    {d : OutputDict} (h1 : d.input = i.toDict write)
    (h2 : d.object_species = serializeTreeMapping i.base.objectTree i.base.speciesTree m) :
    RecOutput.fromDict read d = .ok { input := .plain i.base, objectSpecies := m } := by
  simp only [RecOutput.fromDict, h1, h2, AnyInput.fromDict_toDict hN hi, ok_bind,
    parse_serialize_treeMapping hi.base.objUnique hi.base.speUnique hm]
  rfl

theorem RecOutput.fromDict_toDict (hN : NewickLaw write read) {x : RecOutput} (h : x.WF) :
    RecOutput.fromDict read (x.toDict write) = .ok x.norm :=
  RecOutput.fromDict_of hN h.input h.map rfl rfl

theorem SRecOutput.fromDict_toDict (hN : NewickLaw write read) {x : SRecOutput} (h : x.WF) :
    SRecOutput.fromDict read (x.toDict write) = .ok x.norm := by
  rw [SRecOutput.fromDict, RecOutput.fromDict_of hN h.input h.map (d := x.toDict write) rfl rfl]
  simp only [SRecOutput.toDict, ok_bind, AnyInput.base_plain,
    parse_serialize_synMapping h.input.base.objUnique h.syn]
  rfl

def OutputDict.dropLeafSyntenies (d : OutputDict) : OutputDict :=
  { d with input := { d.input with leaf_syntenies := none } }

theorem AnyInput.toDict_plain_base (i : AnyInput) :
    (AnyInput.plain i.base).toDict write = { i.toDict write with leaf_syntenies := none } := by
  cases i <;> rfl

theorem RecOutput.toDict_norm (x : RecOutput) :
    x.norm.toDict write = (x.toDict write).dropLeafSyntenies := by
  simp only [RecOutput.toDict, RecOutput.norm, OutputDict.dropLeafSyntenies,
    AnyInput.toDict_plain_base, AnyInput.base_plain]

theorem SRecOutput.toDict_norm (x : SRecOutput) :
    x.norm.toDict write = (x.toDict write).dropLeafSyntenies := by
  simp only [SRecOutput.toDict, SRecOutput.norm, OutputDict.dropLeafSyntenies,
    AnyInput.toDict_plain_base, AnyInput.base_plain, serialize_normSyn]

end

end SR.Ser
