/-
  Spec-level facts for C19, independent of the model: "greedy" sequences
  (repeatedly remove a vertex all of whose predecessors are already removed)
  versus topological orderings, and what it means to enumerate them (`Enum`).
-/
import SRVerif.Spec.Toposort
import SRVerif.Proofs.ListAux
import Mathlib.Data.List.Basic
import Mathlib.Data.List.Nodup
import Mathlib.Data.List.Perm.Subperm

namespace SR.Toposort

/-- `v` can be removed next. -/
def Ready (g : Graph) (done : List Nat) (v : Nat) : Prop :=
  v ∈ keys g ∧ v ∉ done ∧ ∀ p ∈ g, v ∈ p.2 → p.1 ∈ done

/-- `s` is a sequence of successive removals starting from `done`. -/
def Path (g : Graph) : List Nat → List Nat → Prop
  | _, [] => True
  | done, v :: s => Ready g done v ∧ Path g (v :: done) s

/-- A *maximal* sequence of successive removals. -/
def Greedy (g : Graph) : List Nat → List Nat → Prop
  | done, [] => ∀ v, ¬ Ready g done v
  | done, v :: s => Ready g done v ∧ Greedy g (v :: done) s

theorem ready_congr {g : Graph} {d d' : List Nat} (h : ∀ x, x ∈ d ↔ x ∈ d') (v : Nat) :
    Ready g d v ↔ Ready g d' v := by
  unfold Ready
  constructor
  · rintro ⟨a, b, c⟩; exact ⟨a, fun hh => b ((h _).2 hh), fun p hp hv => (h _).1 (c p hp hv)⟩
  · rintro ⟨a, b, c⟩; exact ⟨a, fun hh => b ((h _).1 hh), fun p hp hv => (h _).2 (c p hp hv)⟩

theorem length_le_of_nodup_keys {g : Graph} {l : List Nat} (hn : l.Nodup)
    (hs : ∀ v ∈ l, v ∈ keys g) : l.length ≤ g.length := by
  simpa [keys] using hn.length_le_of_subset (l₂ := keys g) hs

theorem greedy_iff (g : Graph) (s : List Nat) : ∀ done,
    Greedy g done s ↔ Path g done s ∧ ∀ v, ¬ Ready g (s.reverse ++ done) v := by
  induction s with
  | nil => intro done; simp [Greedy, Path]
  | cons a s ih =>
    intro done
    simp only [Greedy, Path, ih, List.reverse_cons, List.append_assoc, List.singleton_append,
      and_assoc]

theorem ready_iff_idxOf {g : Graph} {as : List Nat} {w : Nat} (hw : w ∉ as) (bs : List Nat) :
    Ready g as.reverse w ↔ w ∈ keys g ∧
      ∀ p ∈ g, w ∈ p.2 → (as ++ w :: bs).idxOf p.1 < (as ++ w :: bs).idxOf w := by
  simp only [Ready, List.mem_reverse, hw, not_false_eq_true, true_and, List.idxOf_lt_idxOf_iff hw]

/-- Removal sequences by positions (`idxOf`), the terms in which `IsTopo` is stated:
    `isTopo_iff_path` and everything else about `IsTopo` is proved through this. -/
theorem path_iff (g : Graph) (s : List Nat) : ∀ pre : List Nat, pre.Nodup →
    (Path g pre.reverse s ↔ (pre ++ s).Nodup ∧ ∀ v ∈ s, v ∈ keys g ∧
      ∀ p ∈ g, v ∈ p.2 → (pre ++ s).idxOf p.1 < (pre ++ s).idxOf v) := by
  induction s with
  | nil => intro pre hn; simp [Path, hn]
  | cons a s ih =>
    intro pre hn
    by_cases ha : a ∈ pre
    · exact ⟨fun h => absurd (List.mem_reverse.2 ha) h.1.2.1,
        fun h => absurd rfl ((List.nodup_append.1 h.1).2.2 a ha a List.mem_cons_self)⟩
    · have e : a :: pre.reverse = (pre ++ [a]).reverse := by simp
      have hn' : (pre ++ [a]).Nodup := List.concat_eq_append ▸ hn.concat ha
      rw [Path, e, ih _ hn', List.append_assoc, List.singleton_append, List.forall_mem_cons,
        ready_iff_idxOf ha s]
      exact and_left_comm

theorem path_nil_iff {g : Graph} {s : List Nat} :
    Path g [] s ↔ s.Nodup ∧ ∀ v ∈ s, v ∈ keys g ∧ ∀ p ∈ g, v ∈ p.2 → s.idxOf p.1 < s.idxOf v :=
  path_iff g s [] List.nodup_nil

theorem isTopo_iff_path {g : Graph} (hsub : ∀ p ∈ g, ∀ v ∈ p.2, v ∈ keys g) {o : List Nat} :
    IsTopo g o ↔ Path g [] o ∧ ∀ v ∈ keys g, v ∈ o := by
  rw [path_nil_iff]
  constructor
  · rintro ⟨h1, h2, h3, h4⟩
    exact ⟨⟨h1, fun v hv => ⟨h2 v hv, fun p hp hvp => h4 p hp v hvp⟩⟩, h3⟩
  · rintro ⟨⟨h1, h2⟩, h3⟩
    exact ⟨h1, fun v hv => (h2 v hv).1, h3,
      fun p hp v hv => (h2 v (h3 v (hsub p hp v hv))).2 p hp hv⟩

theorem IsTopo.pred_mem_left {g : Graph} {as bs : List Nat} {w : Nat}
    (ht : IsTopo g (as ++ w :: bs)) {p : Nat × List Nat} (hp : p ∈ g) (hw : w ∈ p.2) :
    p.1 ∈ as :=
  (List.idxOf_lt_idxOf_iff (fun h => (List.nodup_append.1 ht.1).2.2 w h w List.mem_cons_self rfl)
    _).1 (ht.2.2.2 p hp w hw)

theorem isTopo_greedy {g : Graph} {o : List Nat} (h : IsTopo g o) : Greedy g [] o :=
  (greedy_iff g o []).2
    ⟨path_nil_iff.2 ⟨h.1, fun v hv => ⟨h.2.1 v hv, fun p hp hvp => h.2.2.2 p hp v hvp⟩⟩,
      fun v hv => hv.2.1 (by simpa using h.2.2.1 v hv.1)⟩

theorem stuck_all {g : Graph} {o : List Nat} (ht : IsTopo g o) {done : List Nat}
    (hstuck : ∀ v, ¬ Ready g done v) : ∀ v ∈ keys g, v ∈ done := by
  intro v hv
  by_contra hvd
  -- the first vertex of `o` outside `done` would be ready
  cases hf : o.find? (fun x => decide (x ∉ done)) with
  | none =>
    rw [List.find?_eq_none] at hf
    exact hvd (by simpa using hf v (ht.2.2.1 v hv))
  | some w =>
    rw [List.find?_eq_some_iff_append] at hf
    obtain ⟨hw, as, bs, rfl, has⟩ := hf
    refine hstuck w ⟨ht.2.1 w (by simp), by simpa using hw, fun p hp hwp => ?_⟩
    simpa using has _ (ht.pred_mem_left hp hwp)

theorem greedy_full {g : Graph} (hk : (keys g).Nodup) {o : List Nat} (ht : IsTopo g o)
    {s : List Nat} (hs : Greedy g [] s) : s.length = g.length := by
  rw [greedy_iff] at hs
  obtain ⟨hp, hstuck⟩ := hs
  obtain ⟨h1, h2⟩ := path_nil_iff.1 hp
  have hall := stuck_all ht hstuck
  have h3 : keys g ⊆ s := by
    intro v hv
    have := hall v hv
    simpa using this
  have l1 := length_le_of_nodup_keys h1 fun v hv => (h2 v hv).1
  have l2 := hk.length_le_of_subset h3
  simp only [keys, List.length_map] at l2
  omega

theorem greedy_full_isTopo {g : Graph}
    (hsub : ∀ p ∈ g, ∀ v ∈ p.2, v ∈ keys g) {s : List Nat} (hs : Greedy g [] s)
    (hlen : s.length = g.length) : IsTopo g s := by
  have hp := ((greedy_iff g s []).1 hs).1
  obtain ⟨h1, h2⟩ := path_nil_iff.1 hp
  have hperm : s.Perm (keys g) :=
    (List.subperm_of_subset h1 fun v hv => (h2 v hv).1).perm_of_length_le (by simp [keys, hlen])
  exact (isTopo_iff_path hsub).2 ⟨hp, fun v hv => hperm.symm.subset hv⟩

/-- `rs` lists, each once and reversed (as `_toposort_all_bt` builds them), the maximal
    removal sequences from `done`. -/
def Enum (g : Graph) (done : List Nat) (rs : List (List Nat)) : Prop :=
  rs.Nodup ∧ ∀ r, r ∈ rs ↔ Greedy g done r.reverse

/-- The same, for the sequences whose first removal is in `l`: what the loop over the ready
    vertices has collected after the vertices `l`. -/
def EnumVia (g : Graph) (done l : List Nat) (rs : List (List Nat)) : Prop :=
  rs.Nodup ∧ ∀ r, r ∈ rs ↔ ∃ x ∈ l, ∃ r', r = r' ++ [x] ∧ Greedy g (x :: done) r'.reverse

theorem EnumVia.nil {g : Graph} {done : List Nat} : EnumVia g done [] [] :=
  ⟨List.nodup_nil, by simp⟩

theorem EnumVia.cons {g : Graph} {done l : List Nat} {x : Nat} {sub rs : List (List Nat)}
    (hx : x ∉ l) (hsub : Enum g (x :: done) sub) (hrs : EnumVia g done l rs) :
    EnumVia g done (x :: l) (sub.map (· ++ [x]) ++ rs) := by
  refine ⟨List.nodup_append.2 ⟨hsub.1.map (List.append_left_injective [x]), hrs.1, ?_⟩, fun r => ?_⟩
  · rintro r hr _ hr2 rfl
    obtain ⟨r', _, rfl⟩ := List.mem_map.1 hr
    obtain ⟨y, hy, r'', e, _⟩ := (hrs.2 _).1 hr2
    have := List.append_inj_right' e rfl
    simp only [List.cons.injEq, and_true] at this
    exact hx (this ▸ hy)
  · rw [List.mem_append, hrs.2 r, List.mem_map]
    simp only [List.mem_cons, exists_eq_or_imp, ← hsub.2, @eq_comm _ r]
    exact or_congr_left (exists_congr fun _ => and_comm)

theorem Enum.stuck {g : Graph} {done : List Nat} (h : ∀ v, ¬ Ready g done v) :
    Enum g done [[]] := by
  refine ⟨by simp, fun r => ?_⟩
  rw [List.mem_singleton, ← List.reverse_eq_nil_iff]
  constructor
  · intro e; rw [e]; exact h
  · intro hg
    cases hr : r.reverse with
    | nil => rfl
    | cons v s => rw [hr] at hg; exact absurd hg.1 (h v)

theorem EnumVia.enum {g : Graph} {done l : List Nat} {rs : List (List Nat)}
    (hl : ∀ v, v ∈ l ↔ Ready g done v) (hne : l ≠ []) (h : EnumVia g done l rs) :
    Enum g done rs := by
  refine ⟨h.1, fun r => (h.2 r).trans ?_⟩
  constructor
  · rintro ⟨x, hx, r', rfl, hg⟩
    rw [List.reverse_append]
    exact ⟨(hl x).1 hx, hg⟩
  · intro hg
    cases hr : r.reverse with
    | nil =>
      obtain ⟨x, hx⟩ := List.exists_mem_of_ne_nil l hne
      rw [hr] at hg
      exact absurd ((hl x).1 hx) (hg x)
    | cons v s =>
      rw [hr] at hg
      exact ⟨v, (hl v).2 hg.1, s.reverse, List.reverse_eq_cons_iff.1 hr, by rw [List.reverse_reverse]; exact hg.2⟩

end SR.Toposort
