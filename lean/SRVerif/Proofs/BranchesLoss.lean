/-
  The `FULL_LOSS` pseudo-genes of `_compute_branches` against the evaluator's
  event log: on a valid reconciliation the multiset of (lineage, species) of
  the loss branches is the multiset of full-loss records of the specification
  (`Spec/EventLog.lean`: every species crossed by a vertical branch, the
  speciation's own species excepted), lineage by lineage.
-/
import SRVerif.Proofs.LayoutPass
import SRVerif.Proofs.BranchesNodup
import SRVerif.Proofs.EventLogCost

namespace SR.Layout

open SR SR.EventLog

/-- Full-loss records at one internal node `p` mapped to `s`, children mapped
    to `a`, `b`: `(lineage, species crossed)`, read off `EventLog.vertical`
    exactly as `EventLog.nodeRecLog` does. -/
def nodeLossRecs (p s a b : Path) : List (Path × Path) :=
  match classify s a b with
  | .spec => ((vertical s a).drop 1).map (fun t => (p ++ [0], t)) ++
             ((vertical s b).drop 1).map (fun t => (p ++ [1], t))
  | .invalid => []
  | _ => (vertical s a).map (fun t => (p ++ [0], t)) ++ (vertical s b).map (fun t => (p ++ [1], t))

/-- All full-loss records of a solution whose root has object path `p`
    (pre-order, like `EventLog.eventLog`). -/
def lossRecs : Sol → Path → List (Path × Path)
  | .leaf _ _, _ => []
  | .node s _ l r, p => nodeLossRecs p s l.sp r.sp ++ (lossRecs l (p ++ [0]) ++ lossRecs r (p ++ [1]))

theorem lossSpecies_append (a b : List Ev) : lossSpecies (a ++ b) = lossSpecies a ++ lossSpecies b := by
  simp [lossSpecies, List.filterMap_append]

theorem lossSpecies_map_floss (l : List Path) : lossSpecies (l.map .floss) = l := by
  induction l with
  | nil => rfl
  | cons a l ih => simp only [lossSpecies] at ih; simp [lossSpecies, ih]

theorem lossSpecies_nodeRecLog (p s a b : Path) :
    lossSpecies (nodeRecLog s a b) = (nodeLossRecs p s a b).map (·.2) := by
  unfold nodeRecLog nodeLossRecs
  -- the head record of a node is not a full loss
  cases classify s a b with
  | invalid => rfl
  | spec =>
    rw [show ∀ l, lossSpecies (Ev.spec s :: l) = lossSpecies l from fun _ => rfl,
      lossSpecies_map_floss]
    simp [List.map_map, Function.comp_def]
  | dup =>
    rw [show ∀ l, lossSpecies (Ev.dup s :: l) = lossSpecies l from fun _ => rfl,
      lossSpecies_map_floss]
    simp [List.map_map, Function.comp_def]
  | hgt =>
    rw [show ∀ l, lossSpecies (Ev.hgt s :: l) = lossSpecies l from fun _ => rfl,
      lossSpecies_map_floss]
    simp [List.map_map, Function.comp_def]

theorem lossRecs_species : ∀ (sol : Sol) (p : Path),
    (lossRecs sol p).map (·.2) = lossSpecies (recLog sol) := by
  intro sol
  induction sol with
  | leaf s f => intro p; rfl
  | node s f l r ihl ihr =>
    intro p
    rw [recLog_node, lossSpecies_append, lossSpecies_append, ← ihl (p ++ [0]), ← ihr (p ++ [1]),
      lossSpecies_nodeRecLog p]
    simp [lossRecs]

theorem nFloss_eq_length (log : List Ev) : nFloss log = (lossSpecies log).length := by
  rw [lossSpecies, List.length_filterMap_eq_countP, nFloss]
  congr 1
  funext e
  cases e <;> rfl

theorem length_nodeLossRecs {p s a b : Path} (h : classify s a b ≠ .invalid) :
    (nodeLossRecs p s a b).length = localLosses s a b := by
  unfold nodeLossRecs localLosses
  rw [internalEvent_eq_classify]
  cases hk : classify s a b with
  | invalid => exact absurd hk h
  | spec =>
    obtain ⟨ha, hb, hda, hdb⟩ := classify_spec_dist hk
    simp only [Kind.toEvent, List.length_append, List.length_map, List.length_drop,
      length_vertical_of_isAnc ha, length_vertical_of_isAnc hb]
    omega
  | dup =>
    obtain ⟨ha, hb⟩ := classify_dup_isAnc hk
    simp only [Kind.toEvent, List.length_append, List.length_map,
      length_vertical_of_isAnc ha, length_vertical_of_isAnc hb]
  | hgt =>
    obtain ⟨hc, _⟩ := classify_hgt hk
    simp only [Kind.toEvent, List.length_append, List.length_map]
    rcases hc with ⟨ha, hb⟩ | ⟨ha, hb⟩
    · simp [ha, vertical_of_not_isAnc hb, length_vertical_of_isAnc ha]
    · simp [ha, vertical_of_not_isAnc ha, length_vertical_of_isAnc hb]

theorem length_lossRecs : ∀ (sol : Sol) (p : Path), AllEvents sol →
    (lossRecs sol p).length = evalLossCount sol := by
  intro sol
  induction sol with
  | leaf s f => intro p _; rfl
  | node s f l r ihl ihr =>
    intro p h
    obtain ⟨h0, hl, hr⟩ := h
    simp only [lossRecs, List.length_append, evalLossCount, ihl _ hl, ihr _ hr,
      length_nodeLossRecs h0]
    omega

/-- The key of the pseudo-gene of a full-loss record `(lineage, species)`. -/
def toKey (x : Path × Path) : Key := .loss x.1 x.2

/-- The keys of the loss branches of a plan. -/
def lossKeys (pl : List (Path × Branch)) : List Key :=
  (pl.filter fun e => e.2.kind == .loss).map (·.2.key)

@[simp] theorem lossKeys_append (a b : List (Path × Branch)) : lossKeys (a ++ b) = lossKeys a ++ lossKeys b := by
  simp [lossKeys]

theorem chainList_species (g : Path) (prev : Key) (b : Path) (w : List Nat) :
    (chainList g prev b w).map (·.1) = (visited b w).reverse := by
  induction w generalizing b with
  | nil => rfl
  | cons i w ih => simp [chainList, visited, ih]

theorem vertical_append (s w : Path) : vertical s (s ++ w) = visited s w := by
  simp [vertical, descend_append]

theorem classify_of_event {s a b : Path} {k : EventLog.Kind} (h : internalEvent s a b = k.toEvent) :
    classify s a b = k := by
  rw [internalEvent_eq_classify] at h
  cases hk : classify s a b <;> cases k <;> rw [hk] at h <;> first | rfl | cases h

theorem lossKeys_chain (g : Path) (prev : Key) (b : Path) (w : List Nat) :
    (lossKeys (chainList g prev b w)).Perm ((visited b w).map (Key.loss g)) := by
  rw [lossKeys, List.filter_eq_self.2 (fun e he => by simp [(chain_valid he).2.1]),
    List.map_congr_left (fun e he => (chain_valid he).1)]
  have : (chainList g prev b w).map (fun e => Key.loss g e.1) =
      ((chainList g prev b w).map (·.1)).map (Key.loss g) := by rw [List.map_map]; rfl
  rw [this, chainList_species]
  exact (List.reverse_perm _).map _

theorem planOf_loss {s p sp : Path} {f : List Nat} {l r : Sol} {pl : List (Path × Branch)}
    (hP : PlanOf s p (.node sp f l r) pl) :
    (lossKeys pl).Perm ((nodeLossRecs p s l.sp r.sp).map toKey) := by
  have tk : ∀ (g : Path) (L : List Path), (L.map fun t => (g, t)).map toKey = L.map (Key.loss g) := by
    intro g L; simp [toKey, List.map_map, Function.comp_def]
  have own : ∀ (k : BKind) (a b : Option Key), k ≠ .loss →
      lossKeys [(s, (⟨.gene p, k, a, b⟩ : Branch))] = [] := by
    intro k a b hk; simp [lossKeys, hk]
  -- a chain down to `s` crosses `vertical s (s ++ w)`, a chain down to a child of `s` all of it but `s`
  have upChain : ∀ (g : Path) (w : List Nat), (lossKeys (chainList g (.gene g) s w)).Perm
      ((vertical s (s ++ w)).map (Key.loss g)) := by
    intro g w; rw [vertical_append]; exact lossKeys_chain ..
  have chain : ∀ (g : Path) (z : Nat) (w : List Nat),
      (lossKeys (chainList g (.gene g) (s ++ [z]) w)).Perm
        (((vertical s (s ++ z :: w)).drop 1).map (Key.loss g)) := by
    intro g z w
    have v : (vertical s (s ++ z :: w)).drop 1 = visited (s ++ [z]) w := by
      rw [vertical_append]; simp [visited]
    rw [v]; exact lossKeys_chain ..
  unfold nodeLossRecs
  cases hP with
  | invalid hE => simp [classify_of_event (k := .invalid) hE, lossKeys]
  | @spec _ _ _ _ c1 c2 a1 a2 x1 x2 w1 w2 hE h1 h2 hc _ e1 e2 =>
    simp only [classify_of_event (k := .spec) hE, List.map_append, tk, lossKeys_append,
      own .spec _ _ (by simp), List.append_nil]
    rcases h1 with ⟨rfl, rfl⟩ | ⟨rfl, rfl⟩ <;> rcases h2 with ⟨rfl, rfl⟩ | ⟨rfl, rfl⟩
    · exact absurd rfl hc
    · rw [e1, e2]; exact (chain ..).append (chain ..)
    · rw [e1, e2]; exact List.perm_append_comm.trans ((chain ..).append (chain ..))
    · exact absurd rfl hc
  | @dup _ _ _ _ w1 w2 hE e1 e2 =>
    simp only [classify_of_event (k := .dup) hE, List.map_append, tk, lossKeys_append,
      own .dup _ _ (by simp), List.append_nil]
    rw [e1, e2]
    exact (upChain ..).append (upChain ..)
  | @hgt _ _ _ _ c c' a w hE h1 _ hkeep e1 =>
    simp only [classify_of_event (k := .hgt) hE, List.map_append, tk, lossKeys_append,
      own .hgt _ _ (by simp), List.append_nil]
    obtain ⟨hnot, hor⟩ := ev_hgt hE
    rcases h1 with ⟨rfl, rfl⟩ | ⟨rfl, rfl⟩
    · have ha := hkeep.1 rfl
      have hb : Path.isAnc s r.sp = false :=
        Bool.eq_false_iff.2 fun h => absurd ⟨ha, h⟩ hnot
      rw [vertical_of_not_isAnc hb, List.map_nil, List.append_nil, e1]
      exact upChain ..
    · have ha : Path.isAnc s l.sp = false :=
        Bool.eq_false_iff.2 fun h => absurd (hkeep.2 h) (by simp)
      rw [vertical_of_not_isAnc ha, List.map_nil, List.nil_append, e1]
      exact upChain ..

def nodeRecs (p : Path) : Sol → List (Path × Path)
  | .leaf _ _ => []
  | .node s _ l r => nodeLossRecs p s l.sp r.sp

theorem nodePlan_loss (p : Path) (sub : Sol) :
    (lossKeys (nodePlan sub.sp p sub)).Perm ((nodeRecs p sub).map toKey) := by
  cases sub with
  | leaf s f => simp [nodePlan, lossKeys, nodeRecs]
  | node s f l r => exact planOf_loss (planOf s p _)

theorem lossKeys_flatMap {α : Type} (G : List α) (f : α → List (Path × Branch)) :
    lossKeys (G.flatMap f) = G.flatMap fun g => lossKeys (f g) := by
  simp [lossKeys, List.filter_flatMap, List.map_flatMap]

theorem nodeRecs_perm_lossRecs : ∀ (sol : Sol) (p : Path),
    ((genesPost sol p).flatMap fun g => nodeRecs g.1 g.2).Perm (lossRecs sol p) := by
  intro sol
  induction sol with
  | leaf s f => intro p; simp [genesPost, nodeRecs, lossRecs]
  | node s f l r ihl ihr =>
    intro p
    simp only [genesPost, List.flatMap_append, List.flatMap_cons, List.flatMap_nil, List.append_nil,
      nodeRecs, lossRecs]
    exact List.perm_append_comm.trans (List.Perm.append_left _ ((ihl _).append (ihr _)))

/-- The loss branches are the evaluator's full losses (as multisets of keys
    `(lineage, species)`). -/
theorem computeBranches_lossKeys {S : RTree} {sol : Sol} {st : LState} (hgood : Good S sol)
    (h : computeBranches S sol = .ok st) :
    (S.postorder.flatMap fun t => ((brs st t).filter fun b => b.kind == .loss).map (·.key)).Perm
      ((lossRecs sol []).map toKey) := by
  have e : (S.postorder.flatMap fun t => ((brs st t).filter fun b => b.kind == .loss).map (·.key)) =
      lossKeys (stateBranches S st) := by
    simp [lossKeys, stateBranches, List.filter_flatMap, List.map_flatMap, List.filter_map, List.map_map,
      Function.comp_def]
  have hin : (genesPost sol []).filter (fun g => g.2.sp ∈ S.postorder) = genesPost sol [] :=
    List.filter_eq_self.2 fun g hg => by
      obtain ⟨q, hq, hsub⟩ := (mem_genesPost sol [] g.1 g.2).1 hg
      simpa using RTree.mem_postorder_of_isNode _ S (hgood _ _ hsub).1
  have p : (stateBranches S st).Perm (nodePlans sol S.postorder) :=
    (computeBranches_all h).trans (fullPlan_perm sol (RTree.nodup_postorder S))
  rw [e]
  refine ((p.filter _).map _).trans ?_
  show (lossKeys (nodePlans sol S.postorder)).Perm _
  rw [nodePlans, hin, lossKeys_flatMap]
  refine (List.Perm.flatMap_left _ fun g _ => nodePlan_loss g.1 g.2).trans ?_
  rw [← List.map_flatMap]
  exact (nodeRecs_perm_lossRecs sol []).map _

end SR.Layout
