/-
  C10 (unordered ≤ ordered): the set labelling induced by a sequence-labelled solution.  `setSol`
  keeps the species and replaces every sequence label by the sorted set of its families, pruned at
  an internal node to the families allowed there (`Spec.allowedContent`).  For a solution of the
  ordered oracle's space with finite cost it lies in the unordered oracle's space and costs no more,
  node by node: a family missing from the pruned child set is missing from the child's sequence, at
  least one lost run where the end runs count (`dist_true_pos`, `localCost_set_le`, `setSol_main`).
-/
import SRVerif.Proofs.SubseqSeq
import SRVerif.Proofs.LabelDPOrd
import SRVerif.Proofs.UnContentExchange

namespace SR

open Path Cost Spec

open SubseqSpec SubseqProofs in
/-- With the end runs counted, a child sequence that misses an element of its parent is
    at segment distance at least one. -/
theorem dist_true_pos {order f fa : List Nat} (hnd : order.Nodup) (hf : f.Sublist order)
    (hfa : fa.Sublist f) {x : Nat} (hx : x ∈ f) (hxa : x ∉ fa) :
    1 ≤ subseqSegmentDist (maskFromSubseq fa order) (maskFromSubseq f order) true := by
  rw [subseqSegmentDist_masks true hnd hfa hf (.inr rfl)]
  exact Int.ofNat_le.mpr (one_le_lostRuns_true _ (List.mem_map.mpr ⟨x, hx, decide_eq_false hxa⟩))

/-- The set of families of a sequence label, pruned to the allowed content, sorted. -/
def setLabel (whole : OTree) (p : Path) (f : List Nat) : List Nat :=
  sortNat ((dedup f).filter fun x => (allowedContent whole p).contains x)

/-- The set labelling induced by a sequence labelling (same species mapping). -/
def setSol (whole : OTree) : Path → Sol → Sol
  | _, .leaf s g => .leaf s (sortNat (dedup g))
  | p, .node s f l r =>
    .node s (setLabel whole p f) (setSol whole (p ++ [0]) l) (setSol whole (p ++ [1]) r)

@[simp] theorem setSol_sp (whole : OTree) (p : Path) (σ : Sol) : (setSol whole p σ).sp = σ.sp := by
  cases σ <;> rfl

theorem mem_setLabel {whole : OTree} {p : Path} {f : List Nat} {x : Nat} :
    x ∈ setLabel whole p f ↔ x ∈ f ∧ x ∈ allowedContent whole p := by
  simp [setLabel, mem_sortNat_iff, List.mem_filter, mem_dedup]

theorem setLabel_sorted (whole : OTree) (p : Path) (f : List Nat) :
    (setLabel whole p f).Pairwise (· < ·) :=
  sortNat_sorted_lt ((nodup_dedup f).filter _)

theorem edgeOk_set {whole : OTree} {p : Path} {i : Nat} {f fa f' fa' : List Nat}
    (hsub : fa.Sublist f)
    (hm : ∀ z, z ∈ f' ↔ z ∈ f ∧ z ∈ allowedContent whole p)
    (hma : ∀ z, z ∈ fa' ↔ z ∈ fa ∧ z ∈ allowedContent whole (p ++ [i])) :
    edgeOk .unordered whole (p ++ [i]) f' fa' = true := by
  simp only [edgeOk, List.all_eq_true, Bool.or_eq_true, List.contains_iff_mem]
  intro z hz
  obtain ⟨hza, hzall⟩ := (hma z).mp hz
  obtain ⟨hfam, hanc⟩ := mem_allowedContent.mp hzall
  rcases isAnc_snoc_cases hanc with e | e
  · exact Or.inr (mem_gainsAt.mpr ⟨hfam, e⟩)
  · exact Or.inl ((hm z).mpr ⟨hsub.subset hza, mem_allowedContent.mpr ⟨hfam, e⟩⟩)

/-- The unordered local cost of the induced set labels is at most the ordered local cost: both
    are `gl`, the unordered one at smaller edge costs. -/
theorem localCost_set_le (c : Costs) {order : List Nat} (hnd : order.Nodup) {whole : OTree}
    {p s : Path} {f : List Nat} {a : Path} {fa : List Nat} {b : Path} {fb : List Nat}
    {f' fa' fb' : List Nat} (hford : f.Sublist order)
    (hm : ∀ z, z ∈ f' ↔ z ∈ f ∧ z ∈ allowedContent whole p)
    (hma : ∀ z, z ∈ fa' ↔ z ∈ fa ∧ z ∈ allowedContent whole (p ++ [0]))
    (hmb : ∀ z, z ∈ fb' ↔ z ∈ fb ∧ z ∈ allowedContent whole (p ++ [1]))
    (hsa : isSublist fa f = true) (hsb : isSublist fb f = true) :
    localCost c .unordered whole p s f' a fa' b fb' ≼
      localCost c (.ordered order) whole p s f a fa b fb := by
  have hsa' := isSublist_iff_sublist.mp hsa
  have hsb' := isSublist_iff_sublist.mp hsb
  have zero : ∀ x : Cost, Cost.fin 0 ≼ x := fun x => by
    cases x
    · exact (fin_le_fin _ _).mpr (Nat.zero_le _)
    · exact le_inf _
  -- a family of the pruned parent set missing from a pruned child set is missing from the
  -- child's sequence: at least one lost run, end runs counted
  have key : ∀ (i : Nat) (fc fc' : List Nat) (an ca : OrdAnn), fc.Sublist f →
      (∀ z, z ∈ fc' ↔ z ∈ fc ∧ z ∈ allowedContent whole (p ++ [i])) →
      Cost.fin ((if subsetB f' fc' then 0 else 1) * c.sloss) ≼
        (ordAlg c).conserv an (maskFromSubseq f order) ca (maskFromSubseq fc order) := by
    intro i fc fc' an ca hs hmc
    cases hb : subsetB f' fc' with
    | true => rw [if_pos rfl, Nat.zero_mul]; exact zero _
    | false =>
      obtain ⟨z, hz, hzc⟩ := subsetB_eq_false_iff.mp hb
      obtain ⟨hzf, hzall⟩ := (hm z).mp hz
      have := dist_true_pos hnd hford hs hzf
        (fun hc => hzc ((hmc z).mpr ⟨hc, allowed_mono i hzall⟩))
      simp only [ordAlg, Bool.false_eq_true, if_false]
      split
      · exact le_inf _
      · exact (fin_le_fin _ _).mpr (Nat.mul_le_mul_right _ (by omega))
  -- the edge charges of `ordAlg` read the masks only: any annotation serves
  let an : OrdAnn := ⟨false, 0, [], 0⟩
  rw [localCost_unordered_eq_gl c (edgeOk_set hsa' hm hma) (edgeOk_set hsb' hm hmb)]
  have e : localCost c (.ordered order) whole p s f a fa b fb =
      match localOrdLosses (internalEvent s a b) (comparable s a) (maskFromSubseq f order)
        (maskFromSubseq fa order) (maskFromSubseq fb order) with
      | some k => localRecCost c s a b + .fin (k * c.sloss)
      | none => .inf := by
    simp only [localCost, edgeOk, hsa, hsb, Bool.and_self, Bool.not_true, Bool.false_eq_true,
      if_false]
    rfl
  rw [e]
  refine le_trans ?_ (gl_ord_le c an an an s a b (maskFromSubseq f order) (maskFromSubseq fa order)
    (maskFromSubseq fb order))
  exact gl_mono (EventLog.leCosts_refl c) _ _ _ (key 0 fa fa' an an hsa' hma) (zero _)
    (key 1 fb fb' an an hsb' hmb) (zero _)

/-- The last two clauses (the leaf families below occur in the label; the families of `setSol σ` at
    its root) are what the node above needs. -/
theorem setSol_main (c : Costs) (S : RTree) (base : Bool) (whole : OTree) (order : List Nat)
    (hnd : order.Nodup) :
    ∀ (sub : OTree) (p : Path) (σ : Sol), IsSub whole p sub → σ.fam.Sublist order →
      Feasible S (.ordered order) base whole p sub σ →
      specCost c (.ordered order) whole p σ ≠ .inf →
      Feasible S .unordered base whole p sub (setSol whole p σ) ∧
      specCost c .unordered whole p (setSol whole p σ) ≼ specCost c (.ordered order) whole p σ ∧
      (∀ q g z, (q, g) ∈ leafPaths whole → isAnc p q = true → z ∈ g → z ∈ σ.fam) ∧
      ∀ z, z ∈ (setSol whole p σ).fam ↔ z ∈ σ.fam ∧ z ∈ allowedContent whole p := by
  -- feasibility and finiteness first, as `Feasible.induction_finite` takes them
  intro sub p σ hsub hord hf hfin
  revert hsub hord
  revert sub p σ
  refine Feasible.induction_finite (fun p sp g hsub _ => ?_)
    (fun p l r s f x y hs _ hsl hsr _ _ ihl ihr hsub hord => ?_)
  · refine ⟨⟨rfl, rfl⟩, le_refl _, fun q f z hm ha hz => ?_, fun z => ?_⟩
    · obtain ⟨_, rfl⟩ := (below_leaf hsub q f).mp ⟨hm, ha⟩
      exact hz
    · simp only [setSol, Sol.fam, leafLabel, mem_sortNat_iff, mem_dedup]
      refine ⟨fun hz => ⟨hz, ?_⟩, fun h => h.1⟩
      obtain ⟨h1, h2⟩ := family_of_leaf ((below_leaf hsub p g).mpr ⟨rfl, rfl⟩).1 hz
      exact mem_allowedContent.mpr ⟨h1, h2⟩
  · have hsl' := isSublist_iff_sublist.mp hsl
    have hsr' := isSublist_iff_sublist.mp hsr
    obtain ⟨hsubl, hsubr⟩ := isSub_child hsub
    obtain ⟨fl, cl, ll, ml⟩ := ihl hsubl (hsl'.trans hord)
    obtain ⟨fr, cr, lr, mr⟩ := ihr hsubr (hsr'.trans hord)
    -- the families of the leaves below propagate up through the subsequence edges
    have hleaf : ∀ q g z, (q, g) ∈ leafPaths whole → isAnc p q = true → z ∈ g → z ∈ f := by
      intro q g z hm ha hz
      rcases below_child hsub hm ha with h0 | h1
      · exact hsl'.subset (ll q g z hm h0 hz)
      · exact hsr'.subset (lr q g z hm h1 hz)
    refine ⟨⟨hs, mem_labelSpace_unordered.mpr ⟨setLabel_sorted whole p f, fun z hz => ?_,
      fun z hz => (mem_setLabel.mp hz).2⟩, fl, fr⟩, ?_, hleaf, fun _ => mem_setLabel⟩
    · obtain ⟨_, _, q, g, hm, ha, hzg⟩ := mem_requiredContent.mp hz
      exact mem_setLabel.mpr ⟨hleaf q g z hm ha hzg, required_sub_allowed hz⟩
    · simp only [setSol, specCost, setSol_sp]
      exact add_le_add (localCost_set_le c hnd hord (fun _ => mem_setLabel) ml mr hsl hsr)
        (add_le_add cl cr)

end SR
