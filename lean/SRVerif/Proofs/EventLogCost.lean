/-
  C06: the recount against the evaluator's reconciliation cost, and the algebra of `recount`
  (additivity, scaling, linear form).  Under `AllEvents` (every internal node has a valid event) the
  log has no `invalid` record, which gives the linear form its five terms (`linearForm_valid`).
  At the end: the evaluator itself is homogeneous and monotone in the unit costs, for every
  solution, valid or not (`totalCost_scale`, `totalCost_mono`).
-/
import SRVerif.Proofs.EventLog
import SRVerif.Proofs.Enum
import SRVerif.Spec.Opt

namespace SR

namespace EventLog

open SR.Path

theorem recount_append (c : Costs) (l₁ l₂ : List Ev) :
    recount c (l₁ ++ l₂) = recount c l₁ + recount c l₂ := by
  induction l₁ with
  | nil => simp [recount, Cost.zero_add]
  | cons e es ih => simp [recount, ih, Cost.add_assoc]

theorem recount_map_floss (c : Costs) (l : List Path) :
    recount c (l.map .floss) = .fin (c.floss * l.length) := by
  induction l with
  | nil => simp [recount]
  | cons p ps ih =>
    simp only [List.map_cons, recount, ih, unit, Cost.fin_add_fin_eq, List.length_cons]
    congr 1
    rw [Nat.mul_add, Nat.mul_one, Nat.add_comm]

theorem recount_replicate_sloss (c : Costs) (n : Nat) :
    recount c (List.replicate n .sloss) = .fin (n * c.sloss) := by
  induction n with
  | zero => simp [recount]
  | succ n ih =>
    simp only [List.replicate_succ, recount, ih, unit, Cost.fin_add_fin_eq]
    congr 1
    rw [Nat.add_mul, Nat.one_mul, Nat.add_comm]

theorem unit_scale (k : Nat) (c : Costs) (e : Ev) :
    unit (scaleCosts k c) e = Cost.scale k (unit c e) := by
  cases e <;> simp [unit, scaleCosts, Cost.scale]

theorem recount_scale (k : Nat) (c : Costs) (log : List Ev) :
    recount (scaleCosts k c) log = Cost.scale k (recount c log) := by
  induction log with
  | nil => simp [recount, Cost.scale]
  | cons e es ih => simp only [recount, ih, unit_scale, Cost.scale_add]

theorem times_succ (n : Nat) (x : Cost) : times (n + 1) x = x + times n x := by
  unfold times
  cases x with
  | inf => simp [Cost.scale, Cost.inf_add]
  | fin a =>
    by_cases h : n = 0
    · subst h; simp [Cost.scale]
    · simp only [Nat.add_eq_zero_iff, Nat.succ_ne_self, and_false, if_false, h, Cost.scale,
        Cost.fin_add_fin_eq]
      congr 1
      rw [Nat.add_mul, Nat.one_mul, Nat.add_comm]

theorem linearForm_cons (c : Costs) (e : Ev) (es : List Ev) :
    linearForm c (e :: es) = unit c e + linearForm c es := by
  cases e <;>
    simp only [linearForm, nSpec, nDup, nFloss, nSloss, nHgt, nInvalid, List.countP_cons, unit,
      if_true, if_false, Nat.add_zero, Bool.false_eq_true, times_succ, Nat.mul_add, Nat.mul_one,
      ← Cost.fin_add_fin_eq] <;>
    ac_rfl

/-- The recount is `spe·#S + dup·#D + floss·#FL + sloss·#SL + hgt·#T` with the
    counts read off the log. -/
theorem recount_eq_linearForm (c : Costs) (log : List Ev) :
    recount c log = linearForm c log := by
  induction log with
  | nil => rfl
  | cons e es ih => rw [linearForm_cons, ← ih]; rfl

/-- Every internal node fits an event of the model. -/
def AllEvents : Sol → Prop
  | .leaf _ _ => True
  | .node s _ l r => classify s l.sp r.sp ≠ .invalid ∧ AllEvents l ∧ AllEvents r

theorem classify_ne_invalid {s a b : Path} (h : internalEvent s a b ≠ .invalid) :
    classify s a b ≠ .invalid := by
  intro h'
  apply h
  rw [internalEvent_eq_classify, h']
  rfl

theorem allEvents_of_validRec : ∀ (o : OTree) (sol : Sol), Spec.validRec o sol = true →
    AllEvents sol :=
  Spec.validRec_induction (fun _ _ _ => trivial)
    (fun _ _ _ _ _ _ hev _ _ hl hr => ⟨classify_ne_invalid hev, hl, hr⟩)

theorem localRecCost_eq_recount (c : Costs) (s a b : Path) (h : classify s a b ≠ .invalid) :
    localRecCost c s a b = recount c (nodeRecLog s a b) := by
  unfold localRecCost nodeRecLog
  rw [internalEvent_eq_classify]
  cases hk : classify s a b with
  | invalid => exact absurd hk h
  | spec =>
    obtain ⟨ha, hb, hda, hdb⟩ := classify_spec_dist hk
    simp only [Kind.toEvent, recount, unit, recount_map_floss, Cost.fin_add_fin_eq, List.length_append,
      List.length_drop, length_vertical_of_isAnc ha, length_vertical_of_isAnc hb]
    have : dist s a - 1 + (dist s b - 1) = dist s a + dist s b - 2 := by omega
    rw [this]
  | dup =>
    obtain ⟨ha, hb⟩ := classify_dup_isAnc hk
    simp only [Kind.toEvent, recount, unit, recount_map_floss, Cost.fin_add_fin_eq, List.length_append,
      length_vertical_of_isAnc ha, length_vertical_of_isAnc hb]
  | hgt =>
    obtain ⟨hc, _⟩ := classify_hgt hk
    simp only [Kind.toEvent, recount, unit, recount_map_floss, List.length_append]
    rcases hc with ⟨ha, hb⟩ | ⟨ha, hb⟩
    · simp [ha, vertical_of_not_isAnc hb, length_vertical_of_isAnc ha]
    · simp [ha, vertical_of_not_isAnc ha, length_vertical_of_isAnc hb]

theorem recLog_node (s : Path) (f : List Nat) (l r : Sol) :
    recLog (.node s f l r) = nodeRecLog s l.sp r.sp ++ (recLog l ++ recLog r) := by
  simp [recLog, eventLog, nodeLosses]

theorem recCost_eq_recount (c : Costs) : ∀ (o : OTree) (sol : Sol),
    Spec.validRec o sol = true → recCost c o sol = recount c (recLog sol) :=
  Spec.validRec_induction (fun sp f g => by simp [recCost, recLog, eventLog, recount])
    (fun ol or s g l r hev _ _ hl hr => by
      rw [recLog_node, recount_append, recount_append, ← hl, ← hr,
        ← localRecCost_eq_recount c _ _ _ (classify_ne_invalid hev), recCost]
      split
      · rename_i h'; exact absurd h' hev
      · rfl)

theorem countP_map_floss (q : Ev → Bool) (hq : ∀ p, q (.floss p) = false) (l : List Path) :
    (l.map Ev.floss).countP q = 0 :=
  List.countP_eq_zero.2 fun e he => by
    obtain ⟨p, _, rfl⟩ := List.mem_map.1 he
    simp [hq p]

theorem nSloss_map_floss (l : List Path) : nSloss (l.map .floss) = 0 :=
  countP_map_floss _ (fun _ => rfl) l

/-- Counting in the records of one node: full losses aside, there is the node's own record. -/
theorem countP_nodeRecLog (q : Ev → Bool) (hq : ∀ p, q (.floss p) = false) (s a b : Path) :
    (nodeRecLog s a b).countP q =
      match classify s a b with
      | .spec => (q (.spec s)).toNat
      | .dup => (q (.dup s)).toNat
      | .hgt => (q (.hgt s)).toNat
      | .invalid => (q (.invalid s)).toNat := by
  unfold nodeRecLog
  cases classify s a b <;> simp only [List.countP_cons, countP_map_floss q hq, List.countP_nil] <;>
    cases q _ <;> rfl

theorem nSloss_eventLog (mode : LabelMode) : ∀ sol : Sol,
    nSloss (eventLog mode sol) = segLosses mode sol
  | .leaf _ _ => rfl
  | .node s f l r => by
    have hl := nSloss_eventLog mode l
    have hr := nSloss_eventLog mode r
    unfold nSloss at hl hr ⊢
    rw [eventLog, segLosses, List.countP_append, List.countP_append, List.countP_append, hl, hr,
      countP_nodeRecLog _ (fun _ => rfl), List.countP_replicate]
    cases classify s l.sp r.sp <;> simp

theorem recount_eventLog (c : Costs) (mode : LabelMode) : ∀ sol : Sol,
    recount c (eventLog mode sol) = recount c (recLog sol) + .fin (segLosses mode sol * c.sloss)
  | .leaf _ _ => by simp [eventLog, recLog, segLosses, recount]
  | .node s f l r => by
    rw [recLog_node]
    simp only [eventLog, segLosses, recount_append, recount_replicate_sloss,
      recount_eventLog c mode l, recount_eventLog c mode r, Nat.add_mul, ← Cost.fin_add_fin_eq]
    ac_rfl

/-- The evaluator's event of every internal node, in pre-order. -/
def internalEvents : Sol → List Event
  | .leaf _ _ => []
  | .node s _ l r => internalEvent s l.sp r.sp :: (internalEvents l ++ internalEvents r)

theorem internalEvents_eq : ∀ sol : Sol, internalEvents sol = (kinds sol).map Kind.toEvent
  | .leaf _ _ => rfl
  | .node s _ l r => by
    simp [internalEvents, kinds, internalEvent_eq_classify, internalEvents_eq l,
      internalEvents_eq r]

theorem kinds_valid : ∀ sol : Sol, AllEvents sol → ∀ k ∈ kinds sol, k ≠ .invalid
  | .leaf _ _, _, k, hk => by simp [kinds] at hk
  | .node s _ l r, h, k, hk => by
    obtain ⟨h0, hl, hr⟩ := h
    simp only [kinds, List.mem_cons, List.mem_append] at hk
    rcases hk with rfl | hk | hk
    · exact h0
    · exact kinds_valid l hl k hk
    · exact kinds_valid r hr k hk

theorem nInvalid_eventLog (mode : LabelMode) : ∀ sol : Sol, AllEvents sol →
    nInvalid (eventLog mode sol) = 0
  | .leaf _ _, _ => rfl
  | .node s f l r, ⟨h0, hl, hr⟩ => by
    have hl := nInvalid_eventLog mode l hl
    have hr := nInvalid_eventLog mode r hr
    unfold nInvalid at hl hr ⊢
    rw [eventLog, List.countP_append, List.countP_append, List.countP_append, hl, hr,
      countP_nodeRecLog _ (fun _ => rfl), List.countP_replicate]
    cases hk : classify s l.sp r.sp <;> first | exact absurd hk h0 | rfl

/-- Without `invalid` records the linear form has its five documented terms. -/
theorem linearForm_valid (c : Costs) (log : List Ev) (h : nInvalid log = 0) :
    linearForm c log =
      .fin (c.spe * nSpec log + c.dup * nDup log + c.floss * nFloss log + c.sloss * nSloss log)
        + times (nHgt log) c.hgt := by
  simp [linearForm, h, times, Cost.add_zero]

end EventLog

open EventLog

theorem localRecCost_scale (k : Nat) (c : Costs) (s a b : Path) :
    localRecCost (scaleCosts k c) s a b = Cost.scale k (localRecCost c s a b) := by
  unfold localRecCost
  cases internalEvent s a b <;>
    simp only [scaleCosts, Cost.scale_add, Cost.scale_fin, Cost.scale_inf, Nat.mul_add,
      Nat.mul_assoc]

theorem recCost_scale (k : Nat) (c : Costs) (o : OTree) (sol : Sol) :
    recCost (scaleCosts k c) o sol = Cost.scale k (recCost c o sol) := by
  induction o generalizing sol with
  | leaf given f =>
    cases sol with
    | leaf s g => simp only [recCost]; split <;> simp [Cost.scale]
    | node s g l r => rfl
  | node ol or ihl ihr =>
    cases sol with
    | leaf s g => rfl
    | node s g l r => simp only [recCost_node, ihl, ihr, localRecCost_scale, Cost.scale_add]

theorem labelingCost_scale (k : Nat) (c : Costs) (mode : LabelMode) (sol : Sol) :
    labelingCost (scaleCosts k c) mode sol = (labelingCost c mode sol).map (k * ·) := by
  cases mode <;> simp [labelingCost, scaleCosts, Option.map_map, Function.comp_def,
    Nat.mul_left_comm]

/-- Homogeneity of the evaluator: no validity hypothesis (`C06_linear_scale`). -/
theorem totalCost_scale (k : Nat) (c : Costs) (mode : LabelMode) (o : OTree) (sol : Sol) :
    totalCost (scaleCosts k c) mode o sol = Cost.scale k (totalCost c mode o sol) := by
  unfold totalCost
  rw [labelingCost_scale]
  cases labelingCost c mode sol with
  | none => rfl
  | some n => simp only [Option.map_some, recCost_scale, Cost.scale_add, Cost.scale_fin]

theorem localRecCost_mono {c d : Costs} (h : leCosts c d) (s a b : Path) :
    Cost.le (localRecCost c s a b) (localRecCost d s a b) = true := by
  obtain ⟨h1, h2, h3, h4, _⟩ := h
  unfold localRecCost
  cases internalEvent s a b <;> simp only []
  · exact Cost.le_refl _
  · exact Cost.le_refl _
  · exact (Cost.fin_le_fin _ _).mpr (Nat.add_le_add h1 (Nat.mul_le_mul_right _ h4))
  · exact (Cost.fin_le_fin _ _).mpr (Nat.add_le_add h2 (Nat.mul_le_mul_right _ h4))
  · exact Cost.add_le_add h3 ((Cost.fin_le_fin _ _).mpr (Nat.mul_le_mul_right _ h4))

theorem recCost_mono {c d : Costs} (h : leCosts c d) (o : OTree) (sol : Sol) :
    Cost.le (recCost c o sol) (recCost d o sol) = true := by
  induction o generalizing sol with
  | leaf given f =>
    cases sol with
    | leaf s g => simp only [recCost]; exact Cost.le_refl _
    | node s g l r => exact Cost.le_refl _
  | node ol or ihl ihr =>
    cases sol with
    | leaf s g => exact Cost.le_refl _
    | node s g l r =>
      rw [recCost_node, recCost_node]
      exact Cost.add_le_add (localRecCost_mono h _ _ _) (Cost.add_le_add (ihl l) (ihr r))

/-- Monotonicity of the evaluator: no validity hypothesis (`C06_linear_mono`). -/
theorem totalCost_mono {c d : Costs} (h : leCosts c d) (mode : LabelMode) (o : OTree) (sol : Sol) :
    Cost.le (totalCost c mode o sol) (totalCost d mode o sol) = true := by
  have h5 := h.2.2.2.2
  unfold totalCost
  cases mode with
  | plain =>
    simp only [labelingCost]
    exact Cost.add_le_add (recCost_mono h o sol) (Cost.le_refl _)
  | ordered =>
    simp only [labelingCost]
    cases ordLosses sol.fam (subseqComplete sol.fam) sol with
    | none => exact Cost.le_refl _
    | some n =>
      exact Cost.add_le_add (recCost_mono h o sol) ((Cost.fin_le_fin _ _).mpr (Nat.mul_le_mul_left n h5))
  | unordered =>
    simp only [labelingCost]
    cases unordLosses sol with
    | none => exact Cost.le_refl _
    | some n =>
      exact Cost.add_le_add (recCost_mono h o sol) ((Cost.fin_le_fin _ _).mpr (Nat.mul_le_mul_left n h5))

end SR
