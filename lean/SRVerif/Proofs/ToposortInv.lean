/-
  C19: the in-degree dictionary (an association list read with
  `List.lookup`), and the state invariant shared by the Kahn loop and the
  backtracking enumeration.
-/
import SRVerif.Proofs.ToposortSpec

namespace SR.Toposort

theorem setAdd_eq_addNew : setAdd = List.addNew := rfl

theorem keys_set (I : Indeg) (k : Nat) (x : Int) : (I.set k x).map (·.1) = I.map (·.1) :=
  List.keys_map_update (fun _ => x) I k

theorem lookup_set (I : Indeg) (k k' : Nat) (x : Int) :
    (I.set k x).lookup k' = (I.lookup k').map fun y => if k' = k then x else y := by
  rw [Indeg.set, List.map_update_eq_map_snd (fun _ => x),
    List.lookup_map_snd (fun k' y => if k' = k then x else y)]

theorem lookup_set_self (I : Indeg) (k : Nat) (x y : Int) (h : I.lookup k = some y) :
    (I.set k x).lookup k = some x := by
  simp [lookup_set, h]

theorem lookup_set_ne (I : Indeg) (k k' : Nat) (x : Int) (h : k' ≠ k) :
    (I.set k x).lookup k' = I.lookup k' := by
  simp [lookup_set, h]

theorem bump_eq (I : Indeg) (k : Nat) (d x : Int) (h : I.lookup k = some x) :
    I.bump k d = .ok (I.set k (x + d), x + d) := by
  simp [Indeg.bump, h]

/-- The dictionary with `d` added to a value for each occurrence of its key in `ts`: what the
    loops `for v in ts: indeg[v] += d` compute (initialisation, decrement, restore). -/
def Indeg.shift (I : Indeg) (ts : List Nat) (d : Int) : Indeg :=
  I.map fun p => (p.1, p.2 + d * ts.count p.1)

theorem keys_shift (I : Indeg) (ts : List Nat) (d : Int) :
    (I.shift ts d).map (·.1) = I.map (·.1) := by
  rw [Indeg.shift, List.map_map]; rfl

theorem lookup_shift (I : Indeg) (ts : List Nat) (d : Int) (v : Nat) :
    (I.shift ts d).lookup v = (I.lookup v).map fun y => y + d * ts.count v :=
  List.lookup_map_snd (fun k y => y + d * ts.count k) I v

theorem shift_nil (I : Indeg) (d : Int) : I.shift [] d = I := by
  simp [Indeg.shift]

theorem shift_shift_neg (I : Indeg) (ts : List Nat) (d : Int) : (I.shift ts d).shift ts (-d) = I := by
  rw [Indeg.shift, Indeg.shift, List.map_map]
  conv_rhs => rw [← List.map_id I]
  exact List.map_congr_left fun p _ => by simp [Int.neg_mul, Int.add_neg_cancel_right]

theorem set_shift {I : Indeg} (hn : (I.map (·.1)).Nodup) {a : Nat} {x : Int}
    (hx : I.lookup a = some x) (ts : List Nat) (d : Int) :
    (I.set a (x + d)).shift ts d = I.shift (a :: ts) d := by
  rw [Indeg.shift, Indeg.shift, Indeg.set, List.map_map]
  refine List.map_congr_left fun p hp => ?_
  obtain ⟨k, y⟩ := p
  by_cases e : k = a
  · subst e
    have : y = x := Option.some.inj (((List.lookup_eq_some_iff_mem hn).2 hp).symm.trans hx)
    simp [this, Int.mul_add, Int.add_assoc, Int.add_comm]
  · simp [e, List.count_cons_of_ne (Ne.symm e)]

theorem incAll_eq : ∀ (ss : List Nat) (I : Indeg), (I.map (·.1)).Nodup →
    (∀ v ∈ ss, v ∈ I.map (·.1)) → incAll ss I = .ok (I.shift ss 1) := by
  intro ss
  induction ss with
  | nil => intro I _ _; simp [incAll, shift_nil, pure, Except.pure]
  | cons a ss ih =>
    intro I hn hk
    obtain ⟨x, hx⟩ := List.exists_lookup_iff_mem_keys.2 (hk a List.mem_cons_self)
    have hstep : incOne I a = .ok (I.set a (x + 1)) := by simp [incOne, bump_eq I a 1 x hx]
    rw [incAll, List.foldlM_cons, hstep, ← set_shift hn hx]
    exact ih _ (keys_set I a _ ▸ hn)
      (fun v hv => keys_set I a _ ▸ hk v (List.mem_cons_of_mem _ hv))

/-- The last hypothesis (a successor about to reach 0 is not yet in `ns`) is the one for which
    `inv_step` needs `Inv`. -/
theorem decAll_eq (push : List Nat → Nat → List Nat)
    (hpush : ∀ ns v, v ∉ ns → push ns v = ns ++ [v]) :
    ∀ (ss ns : List Nat) (I : Indeg), (I.map (·.1)).Nodup → ss.Nodup →
      (∀ v ∈ ss, v ∈ I.map (·.1)) → (∀ v ∈ ss, I.lookup v = some 1 → v ∉ ns) →
      decAll push ss (ns, I) =
        .ok (ns ++ ss.filter (fun v => I.lookup v = some 1), I.shift ss (-1)) := by
  intro ss
  induction ss with
  | nil => intro ns I _ _ _ _; simp [decAll, shift_nil, pure, Except.pure]
  | cons a ss ih =>
    intro ns I hn hss hk hfresh
    obtain ⟨hass, hssn⟩ := List.nodup_cons.1 hss
    obtain ⟨x, hx⟩ := List.exists_lookup_iff_mem_keys.2 (hk a List.mem_cons_self)
    have hstep : decOne push (ns, I) a =
        .ok (if x + -1 = 0 then push ns a else ns, I.set a (x + -1)) := by
      simp [decOne, bump_eq I a (-1) x hx]
    have hlk : ∀ v ∈ ss, (I.set a (x + -1)).lookup v = I.lookup v := fun v hv =>
      lookup_set_ne I a v _ fun e => hass (e ▸ hv)
    rw [decAll, List.foldlM_cons, hstep, ← set_shift hn hx]
    refine (ih _ _ (keys_set I a _ ▸ hn) hssn
      (fun v hv => keys_set I a _ ▸ hk v (List.mem_cons_of_mem _ hv)) ?_).trans ?_
    · intro v hv h1 hm
      rw [hlk v hv] at h1
      split at hm
      · rename_i e
        rw [hpush ns a (hfresh a List.mem_cons_self (by rw [hx]; congr 1; omega))] at hm
        rcases List.mem_append.1 hm with h | h
        · exact hfresh v (List.mem_cons_of_mem _ hv) h1 h
        · exact hass (List.mem_singleton.1 h ▸ hv)
      · exact hfresh v (List.mem_cons_of_mem _ hv) h1 hm
    · rw [List.filter_congr fun v hv => by rw [hlk v hv], List.filter_cons, hx]
      by_cases e : x = 1
      · subst e
        simp [hpush ns a (hfresh a List.mem_cons_self hx)]
      · have : x + -1 ≠ 0 := by omega
        simp [e, this]

/-- Number of predecessors of `v` that are not in `done`. -/
def indegOf (g : Graph) (done : List Nat) (v : Nat) : Nat :=
  g.countP (fun p => decide (p.1 ∉ done) && decide (v ∈ p.2))

theorem indegOf_eq_zero (g : Graph) (done : List Nat) (v : Nat) :
    indegOf g done v = 0 ↔ ∀ p ∈ g, v ∈ p.2 → p.1 ∈ done := by
  simp only [indegOf, List.countP_eq_zero, Bool.and_eq_true, decide_eq_true_eq, not_and]
  constructor
  · intro h p hp hv; by_contra hn; exact h p hp hn hv
  · intro h p hp hn hv; exact hn (h p hp hv)

theorem ready_iff (g : Graph) (done : List Nat) (v : Nat) :
    Ready g done v ↔ v ∈ keys g ∧ v ∉ done ∧ indegOf g done v = 0 := by
  rw [indegOf_eq_zero]; rfl

theorem indegOf_cons (g : Graph) (hk : (keys g).Nodup) (done : List Nat) (x : Nat) (ss : List Nat)
    (hx : (x, ss) ∈ g) (hxd : x ∉ done) (v : Nat) :
    indegOf g done v = indegOf g (x :: done) v + (if v ∈ ss then 1 else 0) := by
  -- `x` is the key of no other entry, and only its own entry tells the two counts apart
  obtain ⟨l₁, l₂, rfl⟩ := List.append_of_mem hx
  rw [keys, List.map_append, List.map_cons, List.nodup_middle, List.nodup_cons, List.mem_append] at hk
  have hcongr : ∀ l : Graph, x ∉ l.map (·.1) →
      l.countP (fun p => decide (p.1 ∉ done) && decide (v ∈ p.2)) =
        l.countP (fun p => decide (p.1 ∉ x :: done) && decide (v ∈ p.2)) := fun l hl =>
    List.countP_congr fun p hp => by
      have : p.1 ≠ x := fun e => hl (e ▸ List.mem_map_of_mem hp)
      simp [this]
  simp only [indegOf, List.countP_append, List.countP_cons, hcongr l₁ (fun h => hk.1 (Or.inl h)),
    hcongr l₂ (fun h => hk.1 (Or.inr h))]
  simp [hxd]
  omega

theorem ready_cons {g : Graph} (hk : (keys g).Nodup) {done : List Nat} {x : Nat} {ss : List Nat}
    (hmem : (x, ss) ∈ g) (hxr : Ready g done x) (hssk : ∀ v ∈ ss, v ∈ keys g)
    (hclosed : ∀ v ∈ ss, v ∈ done → x ∈ done) (v : Nat) :
    Ready g (x :: done) v ↔ (Ready g done v ∧ v ≠ x) ∨ (v ∈ ss ∧ indegOf g done v = 1) := by
  have hcons := indegOf_cons g hk done x ss hmem hxr.2.1 v
  have hxss : x ∉ ss := fun h => hxr.2.1 (hxr.2.2 _ hmem h)
  simp only [ready_iff, List.mem_cons, not_or]
  by_cases e : v ∈ ss
  · rw [if_pos e] at hcons
    have hvd : v ∉ done := fun h => hxr.2.1 (hclosed v e h)
    have hvx : v ≠ x := fun h => hxss (h ▸ e)
    constructor
    · exact fun h => Or.inr ⟨e, by omega⟩
    · rintro (⟨h, _⟩ | ⟨_, h⟩)
      · omega
      · exact ⟨hssk v e, ⟨hvx, hvd⟩, by omega⟩
  · rw [if_neg e] at hcons
    constructor
    · exact fun h => Or.inl ⟨⟨h.1, h.2.1.2, by omega⟩, h.2.1.1⟩
    · rintro (⟨h, hvx⟩ | ⟨h, _⟩)
      · exact ⟨h.1, ⟨hvx, h.2.1⟩, by omega⟩
      · exact absurd h e

/-- The state of both routines after the vertices `done` have been removed (latest first).
    `closed` (`done` is closed under predecessors) is what makes a successor of a ready vertex
    unremoved (`ready_cons`, `inv_step`). -/
structure Inv (g : Graph) (done starts : List Nat) (I : Indeg) : Prop where
  ikeys : I.map (·.1) = keys g
  deg : ∀ v ∈ keys g, I.lookup v = some (indegOf g done v : Int)
  snodup : starts.Nodup
  smem : ∀ v, v ∈ starts ↔ Ready g done v
  closed : ∀ p ∈ g, ∀ v ∈ p.2, v ∈ done → p.1 ∈ done
  dnodup : done.Nodup
  dkeys : ∀ v ∈ done, v ∈ keys g

theorem Inv.done_length_lt {g : Graph} {done starts : List Nat} {I : Indeg} (h : Inv g done starts I)
    {x : Nat} (hx : x ∈ starts) : done.length < g.length := by
  have hr := (h.smem x).1 hx
  have hn : (x :: done).Nodup := List.nodup_cons.2 ⟨hr.2.1, h.dnodup⟩
  have hs : (x :: done) ⊆ keys g := by
    intro v hv
    rcases List.mem_cons.1 hv with e | e
    · exact e ▸ hr.1
    · exact h.dkeys v e
  have := length_le_of_nodup_keys hn hs
  rw [List.length_cons] at this
  omega

/-- One removal step, as Kahn's loop and both backtracking loops (the model's and the generated
    one) take it: `rest` is any duplicate-free listing of `starts` without `x`, `push` any way of
    appending a fresh vertex. -/
theorem inv_step {g : Graph} (hwf : WF g) {done starts : List Nat} {I : Indeg}
    (hinv : Inv g done starts I) {x : Nat} (hx : x ∈ starts) (rest : List Nat)
    (hrn : rest.Nodup) (hrm : ∀ v, v ∈ rest ↔ v ∈ starts ∧ v ≠ x)
    (push : List Nat → Nat → List Nat) (hpush : ∀ ns v, v ∉ ns → push ns v = ns ++ [v]) :
    ∃ ss, getSuccs g x = .ok ss ∧ ∃ ns' I', decAll push ss (rest, I) = .ok (ns', I') ∧
      Inv g (x :: done) ns' I' ∧ incAll ss I' = .ok I := by
  obtain ⟨hk, hwf2⟩ := hwf
  have hxr : Ready g done x := (hinv.smem x).1 hx
  obtain ⟨ss, hss⟩ := List.exists_lookup_iff_mem_keys.2 hxr.1
  have hmem : (x, ss) ∈ g := List.mem_of_lookup_eq_some hss
  obtain ⟨hssn, hssk⟩ := hwf2 _ hmem
  have hIk : (I.map (·.1)).Nodup := hinv.ikeys ▸ hk
  have hssI : ∀ v ∈ ss, v ∈ I.map (·.1) := fun v hv => hinv.ikeys ▸ hssk v hv
  have hone : ∀ v ∈ ss, (I.lookup v = some 1 ↔ indegOf g done v = 1) := fun v hv => by
    rw [hinv.deg v (hssk v hv), Option.some.injEq, ← Int.natCast_one, Int.natCast_inj]
  have hfresh : ∀ v ∈ ss, I.lookup v = some 1 → v ∉ rest := by
    intro v hv h1 hr
    have h0 := ((ready_iff g done v).1 ((hinv.smem v).1 ((hrm v).1 hr).1)).2.2
    have := (hone v hv).1 h1
    omega
  refine ⟨ss, by simp [getSuccs, hss], _, _, decAll_eq push hpush ss rest I hIk hssn hssI hfresh,
    ⟨(keys_shift I ss (-1)).trans hinv.ikeys, fun v hv => ?_, ?_, fun v => ?_, ?_, ?_, ?_⟩, ?_⟩
  · rw [lookup_shift, hinv.deg v hv, indegOf_cons g hk done x ss hmem hxr.2.1 v]
    rw [hssn.count]
    by_cases e : v ∈ ss <;> simp [e, Int.add_neg_cancel_right]
  · refine List.nodup_append.2 ⟨hrn, hssn.filter _, fun a ha b hb e => ?_⟩
    rw [List.mem_filter, decide_eq_true_eq] at hb
    exact hfresh b hb.1 hb.2 (e ▸ ha)
  · rw [List.mem_append, List.mem_filter, decide_eq_true_eq, hrm v, hinv.smem v,
      ready_cons hk hmem hxr hssk (hinv.closed _ hmem) v]
    exact or_congr_right (and_congr_right fun hv => hone v hv)
  · intro p hp v hv hvd
    rcases List.mem_cons.1 hvd with e | e
    · subst e; exact List.mem_cons_of_mem _ (hxr.2.2 p hp hv)
    · exact List.mem_cons_of_mem _ (hinv.closed p hp v hv e)
  · exact List.nodup_cons.2 ⟨hxr.2.1, hinv.dnodup⟩
  · intro v hv
    rcases List.mem_cons.1 hv with e | e
    · exact e ▸ hxr.1
    · exact hinv.dkeys v e
  · exact (incAll_eq ss _ (keys_shift I ss (-1) ▸ hIk)
      (fun v hv => keys_shift I ss (-1) ▸ hssI v hv)).trans
      (congrArg Except.ok (shift_shift_neg I ss (-1)))

end SR.Toposort
