/-
  Union-find with path compression and union by rank.  Where a walk along the parent pointers
  ends is a relation (`RootOf`), so no termination argument is needed to state it; the rank bound
  of `WF` (`rank i + #roots ≤ n`) is what makes the fuel of `find` suffice.  `find` keeps the
  classes and `unite` merges exactly two (`find_spec`, `unite_spec`), so after a history the classes
  are those of the closure `Conn` of the united pairs (`Inv`, `inv_run`).
-/
import SRVerif.Model.DisjointSet
import SRVerif.Proofs.ListAux

namespace SR.DS

inductive RootOf (f : Nat → Nat) : Nat → Nat → Prop
  | root {i : Nat} : f i = i → RootOf f i i
  | step {i r : Nat} : f i ≠ i → RootOf f (f i) r → RootOf f i r

theorem RootOf.isRoot {f : Nat → Nat} {i r : Nat} (h : RootOf f i r) : f r = r := by
  induction h with
  | root h => exact h
  | step _ _ ih => exact ih

theorem RootOf.det {f : Nat → Nat} {i r r' : Nat} (h : RootOf f i r) (h' : RootOf f i r') :
    r = r' := by
  induction h with
  | root h =>
    cases h' with
    | root _ => rfl
    | step hne _ => exact absurd h hne
  | step hne _ ih =>
    cases h' with
    | root h => exact absurd h hne
    | step _ h2 => exact ih h2

theorem RootOf.of_root {f : Nat → Nat} {i r : Nat} (hi : f i = i) (h : RootOf f i r) : r = i :=
  (RootOf.det (RootOf.root hi) h).symm

def upd (f : Nat → Nat) (e r : Nat) : Nat → Nat := fun j => if j = e then r else f j

@[simp] theorem upd_same (f : Nat → Nat) (e r : Nat) : upd f e r e = r := by simp [upd]

theorem upd_ne (f : Nat → Nat) {e j : Nat} (r : Nat) (h : j ≠ e) : upd f e r j = f j := by
  simp [upd, h]

/-- `upd f e r` here: the pointer of `e` redirected to its own root `r` (path compression). -/
theorem compress_iff {f : Nat → Nat} {e r : Nat} (he : f e ≠ e) (h : RootOf f e r) (j r' : Nat) :
    RootOf (upd f e r) j r' ↔ RootOf f j r' := by
  have hr : f r = r := h.isRoot
  have hre : r ≠ e := fun h' => he (h' ▸ hr)
  have hr' : upd f e r r = r := by rw [upd_ne f r hre]; exact hr
  constructor
  · intro hj
    induction hj with
    | @root j hjj =>
      by_cases hje : j = e
      · subst hje; rw [upd_same] at hjj; exact absurd hjj hre
      · rw [upd_ne f r hje] at hjj; exact RootOf.root hjj
    | @step j r' hne _ ih =>
      by_cases hje : j = e
      · subst hje
        rw [upd_same] at ih
        have : r' = r := RootOf.of_root hr ih
        subst this; exact h
      · rw [upd_ne f r hje] at hne ih
        exact RootOf.step hne ih
  · intro hj
    induction hj with
    | @root j hjj =>
      have hje : j ≠ e := fun h' => he (h' ▸ hjj)
      exact RootOf.root (by rw [upd_ne f r hje]; exact hjj)
    | @step j r' hne hrest ih =>
      by_cases hje : j = e
      · subst hje
        have : r = r' := RootOf.det h (RootOf.step hne hrest)
        subst this
        exact RootOf.step (by rw [upd_same]; exact hre) (by rw [upd_same]; exact RootOf.root hr')
      · exact RootOf.step (by rw [upd_ne f r hje]; exact hne) (by rw [upd_ne f r hje]; exact ih)

/-- `upd f r2 r1` here and in `link_same`: the root `r2` hung under the root `r1` (what `unite`
    does, whichever way the ranks decide). -/
theorem link_iff {f : Nat → Nat} {r1 r2 : Nat} (h1 : f r1 = r1) (h2 : f r2 = r2) (hne : r1 ≠ r2)
    (j r' : Nat) :
    RootOf (upd f r2 r1) j r' ↔ (RootOf f j r' ∧ r' ≠ r2) ∨ (RootOf f j r2 ∧ r' = r1) := by
  have h1' : upd f r2 r1 r1 = r1 := by rw [upd_ne f r1 hne]; exact h1
  constructor
  · intro hj
    induction hj with
    | @root j hjj =>
      by_cases hje : j = r2
      · subst hje; rw [upd_same] at hjj; exact absurd hjj hne
      · rw [upd_ne f r1 hje] at hjj; exact Or.inl ⟨RootOf.root hjj, hje⟩
    | @step j r' hstep _ ih =>
      by_cases hje : j = r2
      · subst hje
        rw [upd_same] at ih
        rcases ih with ⟨ih, _⟩ | ⟨ih, _⟩
        · have : r' = r1 := RootOf.of_root h1 ih
          exact Or.inr ⟨RootOf.root h2, this⟩
        · exact absurd (RootOf.of_root h1 ih) (fun h => hne h.symm)
      · rw [upd_ne f r1 hje] at hstep ih
        rcases ih with ⟨ih, hr⟩ | ⟨ih, hr⟩
        · exact Or.inl ⟨RootOf.step hstep ih, hr⟩
        · exact Or.inr ⟨RootOf.step hstep ih, hr⟩
  · rintro (⟨hj, hr⟩ | ⟨hj, hr⟩)
    · induction hj with
      | @root j hjj => exact RootOf.root (by rw [upd_ne f r1 hr]; exact hjj)
      | @step j r' hstep hrest ih =>
        have hje : j ≠ r2 := fun h' => hstep (h' ▸ h2)
        exact RootOf.step (by rw [upd_ne f r1 hje]; exact hstep) (by rw [upd_ne f r1 hje]; exact ih hr)
    · subst hr
      generalize hq : r2 = q at hj
      induction hj with
      | @root j hjj =>
        subst hq
        exact RootOf.step (by rw [upd_same]; exact hne) (by rw [upd_same]; exact RootOf.root h1')
      | @step j r' hstep hrest ih =>
        subst hq
        have hje : j ≠ r2 := fun h' => hstep (h' ▸ h2)
        exact RootOf.step (by rw [upd_ne f _ hje]; exact hstep) (by rw [upd_ne f _ hje]; exact ih rfl)

theorem par_setParent (d : DS) {e : Nat} (r : Nat) (he : e < d.size) :
    (d.setParent e r).par = upd d.par e r := by
  funext j
  simp only [par, setParent, upd]
  exact List.getD_set d.parent e r j j he

theorem par_ge (d : DS) {i : Nat} (h : d.size ≤ i) : d.par i = i := by
  unfold size at h
  simp [par, List.getD_eq_getElem?_getD, List.getElem?_eq_none h]

def nroots (d : DS) : Nat := (List.range d.size).countP (fun i => d.par i = i)

structure WF (d : DS) : Prop where
  lenR : d.rank.length = d.parent.length
  lt : ∀ i, i < d.size → d.par i < d.size
  inc : ∀ i, d.par i ≠ i → d.rk i < d.rk (d.par i)
  bound : ∀ i, i < d.size → d.rk i + d.nroots ≤ d.size
  grp : d.groups = d.nroots

/-- What `find` leaves unchanged (`find_spec`). -/
structure Pres (d d' : DS) : Prop where
  size : d'.size = d.size
  rank : d'.rank = d.rank
  groups : d'.groups = d.groups
  root : ∀ j r, RootOf d'.par j r ↔ RootOf d.par j r

theorem Pres.refl (d : DS) : Pres d d := ⟨rfl, rfl, rfl, fun _ _ => Iff.rfl⟩

theorem Pres.trans {a b c : DS} (h1 : Pres a b) (h2 : Pres b c) : Pres a c :=
  ⟨h2.size.trans h1.size, h2.rank.trans h1.rank, h2.groups.trans h1.groups,
   fun j r => (h2.root j r).trans (h1.root j r)⟩

theorem rootOf_self_iff {f : Nat → Nat} {j : Nat} : RootOf f j j ↔ f j = j :=
  ⟨fun h => h.isRoot, RootOf.root⟩

theorem Pres.isRoot {d d' : DS} (h : Pres d d') (j : Nat) : d'.par j = j ↔ d.par j = j := by
  rw [← rootOf_self_iff, ← rootOf_self_iff]; exact h.root j j

theorem Pres.rk {d d' : DS} (h : Pres d d') (j : Nat) : d'.rk j = d.rk j := by
  simp [DS.rk, h.rank]

theorem Pres.nroots {d d' : DS} (h : Pres d d') : d'.nroots = d.nroots := by
  unfold DS.nroots
  rw [h.size]
  apply List.countP_range_congr
  intro j _
  have := h.isRoot j
  by_cases h1 : d.par j = j <;> simp_all

theorem RootOf.lt {d : DS} (hd : WF d) {i r : Nat} (h : RootOf d.par i r) (hi : i < d.size) :
    r < d.size := by
  induction h with
  | root _ => exact hi
  | step _ _ ih => exact ih (hd.lt _ hi)

theorem RootOf.rk_le {d : DS} (hd : WF d) {i r : Nat} (h : RootOf d.par i r) :
    d.rk i ≤ d.rk r ∧ (i ≠ r → d.rk i < d.rk r) := by
  induction h with
  | root _ => exact ⟨Nat.le_refl _, fun h => absurd rfl h⟩
  | step hne _ ih =>
    have := hd.inc _ hne
    exact ⟨by omega, fun _ => by omega⟩

theorem size_setParent (d : DS) (e r : Nat) : (d.setParent e r).size = d.size := by
  simp [size, setParent]

theorem compress_ok {d : DS} (hd : WF d) {i r : Nat} (hi : i < d.size) (hne : d.par i ≠ i)
    (h : RootOf d.par i r) : WF (d.setParent i r) ∧ Pres d (d.setParent i r) := by
  have hpar := par_setParent d r hi
  have hP : Pres d (d.setParent i r) :=
    ⟨size_setParent d i r, rfl, rfl, fun j r' => by rw [hpar]; exact compress_iff hne h j r'⟩
  have hir : i ≠ r := fun h' => hne (h' ▸ h.isRoot)
  refine ⟨⟨hd.lenR.trans (by simp [setParent]), ?_, ?_, ?_, ?_⟩, hP⟩
  · intro j hj
    rw [size_setParent] at hj ⊢
    rw [hpar]
    by_cases hji : j = i
    · subst hji; rw [upd_same]; exact h.lt hd hi
    · rw [upd_ne _ _ hji]; exact hd.lt j hj
  · intro j hj
    rw [hpar] at hj ⊢
    rw [hP.rk, hP.rk]
    by_cases hji : j = i
    · subst hji; rw [upd_same]; exact (h.rk_le hd).2 hir
    · rw [upd_ne _ _ hji] at hj ⊢; exact hd.inc j hj
  · intro j hj
    rw [hP.rk, hP.nroots, hP.size]
    exact hd.bound j (hP.size ▸ hj)
  · rw [hP.groups, hP.nroots]; exact hd.grp

/-- With no fuel left the rank bound forces a root: the parent of a non-root has a larger rank,
    and `rank + #roots ≤ size` holds of it too. -/
theorem WF.root_of_rank_bound {d : DS} (hd : WF d) {i : Nat} (hi : i < d.size)
    (hf : d.size ≤ d.rk i + d.nroots) : d.par i = i := by
  apply Classical.byContradiction
  intro hne
  have h1 := hd.inc i hne
  have h2 := hd.bound _ (hd.lt i hi)
  omega

theorem findAux_spec {d : DS} (hd : WF d) : ∀ (fuel i : Nat), i < d.size →
    d.size ≤ fuel + d.rk i + d.nroots →
    RootOf d.par i (findAux fuel d i).2 ∧ Pres d (findAux fuel d i).1 ∧ WF (findAux fuel d i).1 := by
  intro fuel
  induction fuel with
  | zero =>
    intro i hi hf
    exact ⟨RootOf.root (hd.root_of_rank_bound hi (by omega)), Pres.refl d, hd⟩
  | succ fuel ih =>
    intro i hi hf
    unfold findAux
    by_cases hroot : d.par i = i
    · simp only [hroot, if_true]
      exact ⟨RootOf.root hroot, Pres.refl d, hd⟩
    · simp only [hroot, if_false]
      have h1 := hd.inc i hroot
      obtain ⟨hr, hP, hW⟩ := ih (d.par i) (hd.lt i hi) (by omega)
      have hi' : i < (findAux fuel d (d.par i)).1.size := by rw [hP.size]; exact hi
      have hne' : (findAux fuel d (d.par i)).1.par i ≠ i := fun h => hroot ((hP.isRoot i).mp h)
      have hr1 : RootOf d.par i (findAux fuel d (d.par i)).2 := RootOf.step hroot hr
      obtain ⟨hW2, hP2⟩ := compress_ok hW hi' hne' ((hP.root _ _).mpr hr1)
      exact ⟨hr1, hP.trans hP2, hW2⟩

theorem find_spec {d : DS} (hd : WF d) {i : Nat} (hi : i < d.size) :
    RootOf d.par i (d.find i).2 ∧ Pres d (d.find i).1 ∧ WF (d.find i).1 :=
  findAux_spec hd d.size i hi (by omega)

def SameF (f : Nat → Nat) (a b : Nat) : Prop := ∃ r, RootOf f a r ∧ RootOf f b r

/-- `find a == find b`, stated on the parent pointers. -/
def Same (d : DS) (a b : Nat) : Prop := SameF d.par a b

theorem SameF.symm {f : Nat → Nat} {a b : Nat} (h : SameF f a b) : SameF f b a :=
  let ⟨r, h1, h2⟩ := h; ⟨r, h2, h1⟩

theorem SameF.trans {f : Nat → Nat} {a b c : Nat} (h : SameF f a b) (h' : SameF f b c) :
    SameF f a c := by
  obtain ⟨r, h1, h2⟩ := h
  obtain ⟨r', h3, h4⟩ := h'
  have := RootOf.det h2 h3
  subst this
  exact ⟨r, h1, h4⟩

theorem sameF_root {f : Nat → Nat} {a ra : Nat} (ha : RootOf f a ra) (x : Nat) :
    SameF f x a ↔ RootOf f x ra := by
  constructor
  · rintro ⟨r, h1, h2⟩
    have := RootOf.det h2 ha
    subst this; exact h1
  · intro h; exact ⟨ra, h, ha⟩

theorem Pres.same {d d' : DS} (h : Pres d d') (x y : Nat) : Same d' x y ↔ Same d x y := by
  unfold Same SameF
  simp only [h.root]

theorem link_same {f : Nat → Nat} {r1 r2 : Nat} (h1 : f r1 = r1) (h2 : f r2 = r2) (hne : r1 ≠ r2)
    (x y : Nat) :
    SameF (upd f r2 r1) x y ↔
      SameF f x y ∨ (RootOf f x r1 ∧ RootOf f y r2) ∨ (RootOf f x r2 ∧ RootOf f y r1) := by
  constructor
  · rintro ⟨r', hx, hy⟩
    rw [link_iff h1 h2 hne] at hx hy
    rcases hx with ⟨hx, hxr⟩ | ⟨hx, hxr⟩ <;> rcases hy with ⟨hy, hyr⟩ | ⟨hy, hyr⟩
    · exact Or.inl ⟨r', hx, hy⟩
    · subst hyr; exact Or.inr (Or.inl ⟨hx, hy⟩)
    · subst hxr; exact Or.inr (Or.inr ⟨hx, hy⟩)
    · exact Or.inl ⟨r2, hx, hy⟩
  · rintro (⟨r, hx, hy⟩ | ⟨hx, hy⟩ | ⟨hx, hy⟩)
    · by_cases hr : r = r2
      · subst hr
        exact ⟨r1, (link_iff h1 h2 hne _ _).mpr (Or.inr ⟨hx, rfl⟩),
          (link_iff h1 h2 hne _ _).mpr (Or.inr ⟨hy, rfl⟩)⟩
      · exact ⟨r, (link_iff h1 h2 hne _ _).mpr (Or.inl ⟨hx, hr⟩),
          (link_iff h1 h2 hne _ _).mpr (Or.inl ⟨hy, hr⟩)⟩
    · exact ⟨r1, (link_iff h1 h2 hne _ _).mpr (Or.inl ⟨hx, hne⟩),
        (link_iff h1 h2 hne _ _).mpr (Or.inr ⟨hy, rfl⟩)⟩
    · exact ⟨r1, (link_iff h1 h2 hne _ _).mpr (Or.inr ⟨hx, rfl⟩),
        (link_iff h1 h2 hne _ _).mpr (Or.inl ⟨hy, hne⟩)⟩

theorem link_ok {d : DS} (hd : WF d) {r1 r2 : Nat} (h1 : d.par r1 = r1) (h2 : d.par r2 = r2)
    (hne : r1 ≠ r2) (hr1 : r1 < d.size) (hr2 : r2 < d.size) (d' : DS)
    (hpar : d'.parent = d.parent.set r2 r1) (hg : d'.groups = d.groups - 1)
    (hrank : (d'.rank = d.rank ∧ d.rk r2 < d.rk r1) ∨
             (d'.rank = d.rank.set r1 (d.rk r1 + 1) ∧ d.rk r1 = d.rk r2)) :
    WF d' ∧ d'.size = d.size ∧ d'.par = upd d.par r2 r1 := by
  have hsize : d'.size = d.size := by simp [size, hpar]
  have hp : d'.par = upd d.par r2 r1 := by
    funext j
    simp only [par, hpar, upd]
    exact List.getD_set d.parent r2 r1 j j hr2
  -- the ranks change at `r1` only, by at most one, and `r1` ends above `r2`
  have hrk : (∀ j, j ≠ r1 → d'.rk j = d.rk j) ∧ d.rk r1 ≤ d'.rk r1 ∧ d'.rk r1 ≤ d.rk r1 + 1 ∧
      d.rk r2 < d'.rk r1 := by
    rcases hrank with ⟨hr, hlt⟩ | ⟨hr, heq⟩
    · have : ∀ j, d'.rk j = d.rk j := fun j => by simp only [rk, hr]
      have hv := this r1
      exact ⟨fun j _ => this j, by omega⟩
    · have : ∀ j, d'.rk j = if j = r1 then d.rk r1 + 1 else d.rk j := fun j => by
        simp only [rk, hr]; exact List.getD_set _ _ _ _ _ (by rw [hd.lenR]; exact hr1)
      have hv : d'.rk r1 = d.rk r1 + 1 := by rw [this, if_pos rfl]
      exact ⟨fun j hj => by rw [this, if_neg hj], by omega⟩
  obtain ⟨hrk0, hrk1, hrk2, hrk3⟩ := hrk
  have hmono : ∀ j, d.rk j ≤ d'.rk j ∧ d'.rk j ≤ d.rk j + 1 := fun j => by
    by_cases hj : j = r1
    · subst hj; exact ⟨hrk1, hrk2⟩
    · rw [hrk0 j hj]; omega
  have hnr : d'.nroots + 1 = d.nroots := by
    unfold nroots
    rw [hsize]
    apply List.countP_range_flip _ _ _ r2 hr2
    · simp [h2]
    · rw [hp, upd_same]; simp [hne]
    · intro j hj; rw [hp, upd_ne _ _ hj]
  refine ⟨⟨?_, ?_, ?_, ?_, ?_⟩, hsize, hp⟩
  · rcases hrank with ⟨hr, _⟩ | ⟨hr, _⟩ <;> simp [hr, hpar, hd.lenR]
  · intro j hj
    rw [hsize] at hj ⊢
    rw [hp]
    by_cases hj2 : j = r2
    · subst hj2; rw [upd_same]; exact hr1
    · rw [upd_ne _ _ hj2]; exact hd.lt j hj
  · intro j hj
    rw [hp] at hj ⊢
    by_cases hj2 : j = r2
    · subst hj2
      rw [upd_same, hrk0 j (Ne.symm hne)]
      exact hrk3
    · rw [upd_ne _ _ hj2] at hj ⊢
      rw [hrk0 j (fun h => hj (h ▸ h1))]
      exact Nat.lt_of_lt_of_le (hd.inc j hj) (hmono _).1
  · intro j hj
    rw [hsize] at hj ⊢
    have := hd.bound j hj
    have := (hmono j).2
    omega
  · rw [hg, hd.grp]; omega

theorem unite_spec {d : DS} (hd : WF d) {a b : Nat} (ha : a < d.size) (hb : b < d.size) :
    WF (d.unite a b).1 ∧ (d.unite a b).1.size = d.size ∧
    (∀ x y, Same (d.unite a b).1 x y ↔
      Same d x y ∨ (Same d x a ∧ Same d y b) ∨ (Same d x b ∧ Same d y a)) ∧
    ((d.unite a b).2 = true ↔ ¬ Same d a b) ∧
    (d.unite a b).1.groups = if (d.unite a b).2 = true then d.groups - 1 else d.groups := by
  obtain ⟨hra, hP1, hW1⟩ := find_spec hd ha
  obtain ⟨hrb, hP2, hW2⟩ := find_spec hW1 (i := b) (by rw [hP1.size]; exact hb)
  have hP := hP1.trans hP2
  generalize hd2 : ((d.find a).1.find b).1 = d2 at hP hW2 hP2
  generalize hra' : (d.find a).2 = ra at hra
  generalize hrb' : ((d.find a).1.find b).2 = rb at hrb
  have hrb0 : RootOf d.par b rb := (hP1.root _ _).mp hrb
  have hra2 : RootOf d2.par a ra := (hP.root _ _).mpr hra
  have hrb2 : RootOf d2.par b rb := (hP.root _ _).mpr hrb0
  have hsame := hP.same
  have hxa : ∀ x, Same d x a ↔ RootOf d2.par x ra := fun x => by
    rw [← hsame]; exact sameF_root hra2 x
  have hxb : ∀ x, Same d x b ↔ RootOf d2.par x rb := fun x => by
    rw [← hsame]; exact sameF_root hrb2 x
  have hab : Same d a b ↔ ra = rb := by
    rw [hxb]
    exact ⟨fun h => RootOf.det hra2 h, fun h => h ▸ hra2⟩
  by_cases heq : ra = rb
  · have hu : d.unite a b = (d2, false) := by
      simp only [unite, hd2, hra', hrb', heq, if_true]
    rw [hu]
    refine ⟨hW2, hP.size, ?_, by simp [hab, heq], hP.groups⟩
    · intro x y
      rw [hsame]
      have sab : Same d a b := hab.mpr heq
      constructor
      · exact Or.inl
      · rintro (h | ⟨h1, h2⟩ | ⟨h1, h2⟩)
        · exact h
        · exact (SameF.trans h1 sab).trans h2.symm
        · exact (SameF.trans h1 sab.symm).trans h2.symm
  · have har : d2.par ra = ra := hra2.isRoot
    have hbr : d2.par rb = rb := hrb2.isRoot
    have hral : ra < d2.size := hra2.lt hW2 (by rw [hP.size]; exact ha)
    have hrbl : rb < d2.size := hrb2.lt hW2 (by rw [hP.size]; exact hb)
    have hnab : ¬ Same d a b := fun h => heq (hab.mp h)
    -- whichever root is linked below the other, the classes of `a` and `b` are merged
    have key : ∀ d' : DS, WF d' ∧ d'.size = d2.size ∧
        (d'.par = upd d2.par rb ra ∨ d'.par = upd d2.par ra rb) → d'.groups = d2.groups - 1 →
        WF d' ∧ d'.size = d.size ∧
        (∀ x y, Same d' x y ↔ Same d x y ∨ (Same d x a ∧ Same d y b) ∨ (Same d x b ∧ Same d y a)) ∧
        (true = true ↔ ¬ Same d a b) ∧
        d'.groups = if true = true then d.groups - 1 else d.groups := by
      rintro d' ⟨hW, hs, hp⟩ hg
      refine ⟨hW, hs.trans hP.size, fun x y => ?_, by simp [hnab], by rw [hg, hP.groups, if_pos rfl]⟩
      rw [hxa, hxb, hxa, hxb, ← hsame x y]
      rcases hp with hp | hp
      · exact (show Same d' x y ↔ SameF (upd d2.par rb ra) x y by rw [Same, hp]).trans
          (link_same har hbr heq x y)
      · exact ((show Same d' x y ↔ SameF (upd d2.par ra rb) x y by rw [Same, hp]).trans
          (link_same hbr har (Ne.symm heq) x y)).trans (or_congr_right Or.comm)
    by_cases hrk : d2.rk ra = d2.rk rb
    · have hu : d.unite a b = (DS.mk (d2.parent.set rb ra) (d2.rank.set ra (d2.rk ra + 1)) (d2.groups - 1), true) := by
        simp only [unite, hd2, hra', hrb', heq, if_false, hrk, if_true]
      rw [hu]
      obtain ⟨hW, hs, hp⟩ := link_ok hW2 har hbr heq hral hrbl
        (DS.mk (d2.parent.set rb ra) (d2.rank.set ra (d2.rk ra + 1)) (d2.groups - 1)) rfl rfl (Or.inr ⟨rfl, hrk⟩)
      exact key _ ⟨hW, hs, Or.inl hp⟩ rfl
    · by_cases hgt : d2.rk ra > d2.rk rb
      · have hu : d.unite a b = (DS.mk (d2.parent.set rb ra) d2.rank (d2.groups - 1), true) := by
          simp only [unite, hd2, hra', hrb', heq, if_false, hrk, hgt, if_true, setParent]
        rw [hu]
        obtain ⟨hW, hs, hp⟩ := link_ok hW2 har hbr heq hral hrbl
          (DS.mk (d2.parent.set rb ra) d2.rank (d2.groups - 1)) rfl rfl (Or.inl ⟨rfl, hgt⟩)
        exact key _ ⟨hW, hs, Or.inl hp⟩ rfl
      · have hu : d.unite a b = (DS.mk (d2.parent.set ra rb) d2.rank (d2.groups - 1), true) := by
          simp only [unite, hd2, hra', hrb', heq, if_false, hrk, hgt, setParent]
        rw [hu]
        obtain ⟨hW, hs, hp⟩ := link_ok hW2 hbr har (Ne.symm heq) hrbl hral
          (DS.mk (d2.parent.set ra rb) d2.rank (d2.groups - 1)) rfl rfl (Or.inl ⟨rfl, by omega⟩)
        exact key _ ⟨hW, hs, Or.inr hp⟩ rfl

theorem same_refl {d : DS} (hd : WF d) (x : Nat) : Same d x x := by
  by_cases hx : x < d.size
  · exact ⟨_, (find_spec hd hx).1, (find_spec hd hx).1⟩
  · exact ⟨x, RootOf.root (par_ge d (by omega)), RootOf.root (par_ge d (by omega))⟩

/-- Well formed on the fixed universe `{0..n-1}`; `find` and `unite` keep it (`Ok.find`, `Ok.unite`). -/
def Ok (n : Nat) (d : DS) : Prop := WF d ∧ d.size = n

theorem Ok.lt {n : Nat} {d : DS} (h : Ok n d) {e : Nat} (he : e < n) : e < d.size := h.2 ▸ he

theorem Ok.find {n : Nat} {d : DS} (h : Ok n d) {e : Nat} (he : e < n) :
    Ok n (d.find e).1 ∧ (d.find e).2 < n := by
  obtain ⟨hr, hP, hW⟩ := find_spec h.1 (h.lt he)
  exact ⟨⟨hW, hP.size.trans h.2⟩, h.2 ▸ hr.lt h.1 (h.lt he)⟩

theorem Ok.unite {n : Nat} {d : DS} (h : Ok n d) {a b : Nat} (ha : a < n) (hb : b < n) :
    Ok n (d.unite a b).1 := by
  obtain ⟨hW, hs, _⟩ := unite_spec h.1 (h.lt ha) (h.lt hb)
  exact ⟨hW, hs.trans h.2⟩

theorem Ok.groups_pos {n : Nat} {d : DS} (h : Ok n d) {e : Nat} (he : e < n) : 0 < d.groups := by
  obtain ⟨hr, _, _⟩ := find_spec h.1 (h.lt he)
  rw [h.1.grp]
  exact List.countP_pos_iff.mpr
    ⟨_, List.mem_range.mpr (hr.lt h.1 (h.lt he)), decide_eq_true hr.isRoot⟩

/-- The reflexive-symmetric-transitive closure of a list of pairs. -/
inductive Conn (ps : List (Nat × Nat)) : Nat → Nat → Prop
  | base {a b : Nat} : (a, b) ∈ ps → Conn ps a b
  | refl (a : Nat) : Conn ps a a
  | symm {a b : Nat} : Conn ps a b → Conn ps b a
  | trans {a b c : Nat} : Conn ps a b → Conn ps b c → Conn ps a c

theorem Conn.least {ps : List (Nat × Nat)} {R : Nat → Nat → Prop} (hr : ∀ a, R a a)
    (hs : ∀ a b, R a b → R b a) (ht : ∀ a b c, R a b → R b c → R a c)
    (hb : ∀ a b, (a, b) ∈ ps → R a b) {x y : Nat} (h : Conn ps x y) : R x y := by
  induction h with
  | base hm => exact hb _ _ hm
  | refl a => exact hr a
  | symm _ ih => exact hs _ _ ih
  | trans _ _ ih1 ih2 => exact ht _ _ _ ih1 ih2

theorem Conn.mono {ps qs : List (Nat × Nat)} (h : ∀ p, p ∈ ps → p ∈ qs) {a b : Nat}
    (hc : Conn ps a b) : Conn qs a b :=
  hc.least Conn.refl (fun _ _ => Conn.symm) (fun _ _ _ => Conn.trans) (fun _ _ hm => Conn.base (h _ hm))

theorem conn_nil {a b : Nat} : Conn [] a b ↔ a = b :=
  ⟨Conn.least (fun _ => rfl) (fun _ _ => Eq.symm) (fun _ _ _ => Eq.trans) (fun _ _ h => by cases h),
   fun h => h ▸ Conn.refl _⟩

def Op.inRange (n : Nat) : Op → Prop
  | .unite a b => a < n ∧ b < n
  | .find a => a < n

structure Inv (n : Nat) (d : DS) (ps : List (Nat × Nat)) : Prop where
  wf : WF d
  size : d.size = n
  same : ∀ x y, Same d x y ↔ Conn ps x y

theorem Inv.ok {n : Nat} {d : DS} {ps : List (Nat × Nat)} (h : Inv n d ps) : Ok n d := ⟨h.wf, h.size⟩

theorem par_init (n i : Nat) : (init n).par i = i := by
  simp only [par, init, List.getD_eq_getElem?_getD]
  by_cases h : i < n <;> simp [h]

theorem inv_init (n : Nat) : Inv n (init n) [] := by
  have hsz : (init n).size = n := by simp [size, init]
  have hnr : (init n).nroots = n := by
    unfold nroots
    rw [hsz]
    rw [List.countP_eq_length.mpr]
    · simp
    · intro i _; simp [par_init]
  refine ⟨⟨by simp [init], ?_, ?_, ?_, ?_⟩, hsz, ?_⟩
  · intro i hi; rw [par_init]; exact hi
  · intro i hi; exact absurd (par_init n i) hi
  · intro i hi
    rw [hnr, hsz]
    simp [rk, init, List.getD_eq_getElem?_getD]
    by_cases h : i < n <;> simp [h]
  · rw [hnr]; rfl
  · intro x y
    rw [conn_nil]
    constructor
    · rintro ⟨r, h1, h2⟩
      rw [RootOf.of_root (par_init n x) h1] at h2
      exact (RootOf.of_root (par_init n y) h2)
    · rintro rfl
      exact ⟨x, RootOf.root (par_init n x), RootOf.root (par_init n x)⟩

def Op.pairs : Op → List (Nat × Nat)
  | .unite a b => [(a, b)]
  | .find _ => []

theorem pairsOf_cons (op : Op) (ops : List Op) :
    pairsOf (op :: ops) = op.pairs ++ pairsOf ops := by
  cases op <;> simp [pairsOf, Op.pairs]

/-- The relation after `unite a b` is an equivalence that contains the old pairs and `(a, b)`, and
    each of its three cases is a path in the closure. -/
theorem inv_unite {n : Nat} {d : DS} {ps : List (Nat × Nat)} (h : Inv n d ps) {a b : Nat}
    (ha : a < n) (hb : b < n) : Inv n (d.unite a b).1 (ps ++ [(a, b)]) := by
  obtain ⟨hW, hs, hsame, _⟩ := unite_spec h.wf (h.ok.lt ha) (h.ok.lt hb)
  have hl : ∀ {x y}, Same d x y → Conn (ps ++ [(a, b)]) x y := fun hxy =>
    ((h.same _ _).mp hxy).mono (fun p hp => List.mem_append_left _ hp)
  have hab : Conn (ps ++ [(a, b)]) a b := Conn.base (by simp)
  refine ⟨hW, hs.trans h.size, fun x y => ⟨fun hxy => ?_, fun hc => ?_⟩⟩
  · rcases (hsame x y).mp hxy with h0 | ⟨h1, h2⟩ | ⟨h1, h2⟩
    · exact hl h0
    · exact ((hl h1).trans hab).trans (hl h2).symm
    · exact ((hl h1).trans hab.symm).trans (hl h2).symm
  · refine hc.least (same_refl hW) (fun _ _ => SameF.symm) (fun _ _ _ => SameF.trans) ?_
    intro u v hm
    rcases List.mem_append.mp hm with hm | hm
    · exact (hsame u v).mpr (Or.inl ((h.same u v).mpr (Conn.base hm)))
    · simp only [List.mem_singleton, Prod.mk.injEq] at hm
      obtain ⟨rfl, rfl⟩ := hm
      exact (hsame u v).mpr (Or.inr (Or.inl ⟨same_refl h.wf u, same_refl h.wf v⟩))

theorem inv_step {n : Nat} {d : DS} {ps : List (Nat × Nat)} (h : Inv n d ps) (op : Op)
    (hop : op.inRange n) :
    Inv n (d.step op) (ps ++ op.pairs) := by
  cases op with
  | unite a b => exact inv_unite h hop.1 hop.2
  | find a =>
    obtain ⟨_, hP, hW⟩ := find_spec h.wf (h.ok.lt hop)
    exact ⟨hW, hP.size.trans h.size, fun x y => by
      rw [Op.pairs, List.append_nil]; exact (hP.same x y).trans (h.same x y)⟩

theorem inv_foldl {n : Nat} : ∀ (ops : List Op) {d : DS} {ps : List (Nat × Nat)}, Inv n d ps →
    (∀ op, op ∈ ops → op.inRange n) → Inv n (ops.foldl step d) (ps ++ pairsOf ops) := by
  intro ops
  induction ops with
  | nil => intro d ps h _; simpa [pairsOf] using h
  | cons op ops ih =>
    intro d ps h hr
    rw [List.foldl_cons, pairsOf_cons, ← List.append_assoc]
    exact ih (inv_step h op (hr op (by simp))) (fun o ho => hr o (by simp [ho]))

theorem inv_run (n : Nat) (ops : List Op) (hr : ∀ op, op ∈ ops → op.inRange n) :
    Inv n (run n ops) (pairsOf ops) := by
  have := inv_foldl ops (inv_init n) hr
  simpa [run] using this

end SR.DS
