/-
  `binary()`: the recursion enumerates colourings of the class
  representatives (true = joins the `first` block, false = the `second`
  block); every result is the structure obtained by following one colouring
  (`applyCol`), and its relation is the kernel of the colouring
  (`Coloured`, `applyCol_coloured`).  Also here: the sorted list `roots`, which is what
  `list(set(...))` is in the model's order (`sortedReps_eq`).
-/
import SRVerif.Proofs.DisjointSetList

namespace SR.DS

/-- The choices made by `_binary`, without the structures. -/
def colsGo : List Nat → Option Nat → Option Nat → List (List Bool)
  | [], some _, some _ => [[]]
  | [], some _, none => []
  | [], none, _ => []
  | _ :: gs, some f, some s =>
      (colsGo gs (some f) (some s)).map (true :: ·) ++ (colsGo gs (some f) (some s)).map (false :: ·)
  | g :: gs, some f, none =>
      (colsGo gs (some f) none).map (true :: ·)
        ++ (if g > f then colsGo gs (some f) (some g) else []).map (false :: ·)
  | g :: gs, none, some s =>
      (if g < s then colsGo gs (some g) (some s) else []).map (true :: ·)
        ++ (colsGo gs none (some s)).map (false :: ·)
  | g :: gs, none, none =>
      (colsGo gs (some g) none).map (true :: ·) ++ (colsGo gs none (some g)).map (false :: ·)

/-- The structure reached by following one colouring. -/
def applyCol : List Nat → List Bool → DS → Option Nat → Option Nat → DS
  | g :: gs, true :: c, p, some f, s => applyCol gs c (p.unite f g).1 (some f) s
  | g :: gs, true :: c, p, none, s => applyCol gs c p (some g) s
  | g :: gs, false :: c, p, f, some s => applyCol gs c (p.unite s g).1 f (some s)
  | g :: gs, false :: c, p, f, none => applyCol gs c p f (some g)
  | [], _, p, _, _ => p
  | _ :: _, [], p, _, _ => p

/- After unfolding one step of both sides the two lists are maps of the same
   functions up to the defining equations of `applyCol`, hence `rfl`. -/
theorem binGo_eq : ∀ (gs : List Nat) (p : DS) (f s : Option Nat),
    binGo gs p f s = (colsGo gs f s).map (fun c => applyCol gs c p f s)
  | [], p, f, s => by cases f <;> cases s <;> rfl
  | g :: gs, p, none, none => by
    simp only [binGo, colsGo, List.map_append, List.map_map, binGo_eq gs]; rfl
  | g :: gs, p, some f, none => by
    simp only [binGo, colsGo, List.map_append, List.map_map, binGo_eq gs]
    split <;> rfl
  | g :: gs, p, none, some s => by
    simp only [binGo, colsGo, List.map_append, List.map_map, binGo_eq gs]
    split <;> rfl
  | g :: gs, p, some f, some s => by
    simp only [binGo, colsGo, List.map_append, List.map_map, binGo_eq gs]; rfl

theorem same_iff_rep {d : DS} (hd : WF d) (x y : Nat) : Same d x y ↔ rep d x = rep d y := by
  constructor
  · rintro ⟨r, h1, h2⟩
    rw [RootOf.det (rep_rootOf_all hd x) h1, RootOf.det (rep_rootOf_all hd y) h2]
  · intro h
    exact ⟨rep d x, rep_rootOf_all hd x, h ▸ rep_rootOf_all hd y⟩

theorem same_rep {d : DS} (hd : WF d) (x : Nat) : Same d x (rep d x) :=
  ⟨rep d x, rep_rootOf_all hd x, RootOf.root (rep_rootOf_all hd x).isRoot⟩

def roots (d : DS) : List Nat := (List.range d.size).filter (fun r => d.par r = r)

theorem mem_roots {d : DS} {r : Nat} : r ∈ roots d ↔ r < d.size ∧ d.par r = r := by
  simp [roots]

theorem rep_mem_roots {d : DS} (hd : WF d) {x : Nat} (hx : x < d.size) : rep d x ∈ roots d :=
  mem_roots.mpr ⟨rep_lt hd hx, (rep_rootOf_all hd _).isRoot⟩

theorem rep_of_mem_roots {d : DS} (hd : WF d) {r : Nat} (h : r ∈ roots d) : rep d r = r :=
  (rep_self_iff hd).mpr (mem_roots.mp h).2

theorem mem_roots_iff {n : Nat} {d : DS} (h : Ok n d) {r : Nat} :
    r ∈ roots d ↔ ∃ i, i < n ∧ rep d i = r :=
  ⟨fun hr => ⟨r, h.2 ▸ (mem_roots.mp hr).1, rep_of_mem_roots h.1 hr⟩,
   fun ⟨_, hi, hir⟩ => hir ▸ rep_mem_roots h.1 (h.lt hi)⟩

theorem roots_sorted (d : DS) : (roots d).Pairwise (· < ·) :=
  List.Pairwise.filter _ List.pairwise_lt_range

theorem roots_nodup (d : DS) : (roots d).Nodup :=
  List.Pairwise.filter _ List.nodup_range

theorem roots_length (d : DS) : (roots d).length = d.nroots := by
  rw [roots, nroots, List.countP_eq_length_filter]

theorem nroots_two {b : DS} {n : Nat} (hO : Ok n b) {u v : Nat} (hu : u < n) (hv : v < n)
    (huv : ¬ rep b u = rep b v) (hall : ∀ x, x < n → rep b x = rep b u ∨ rep b x = rep b v) :
    b.nroots = 2 := by
  have hW := hO.1
  have hmem : ∀ r, r ∈ roots b ↔ r ∈ [rep b u, rep b v] := by
    intro r
    simp only [List.mem_cons, List.not_mem_nil, or_false]
    constructor
    · intro hr
      rw [← rep_of_mem_roots hW hr]
      exact hall r (hO.2 ▸ (mem_roots.mp hr).1)
    · rintro (rfl | rfl)
      · exact rep_mem_roots hW (hO.lt hu)
      · exact rep_mem_roots hW (hO.lt hv)
  rw [← roots_length, ((List.perm_ext_iff_of_nodup (roots_nodup b) (by simp [huv])).mpr hmem).length_eq]
  rfl

theorem toList_two {b : DS} {n : Nat} (hO : Ok n b)
    (h : ∃ u v, u < n ∧ v < n ∧ ¬ rep b u = rep b v ∧
      ∀ x, x < n → rep b x = rep b u ∨ rep b x = rep b v) :
    ∃ g0 g1, b.toList.2 = [g0, g1] ∧ g0 ≠ [] ∧ g1 ≠ [] ∧
      g0.Pairwise (· < ·) ∧ g1.Pairwise (· < ·) ∧
      (∀ i, i ∈ g0 → i ∉ g1) ∧ (∀ i, i < n ↔ i ∈ g0 ∨ i ∈ g1) ∧
      ∀ x y, x < n → y < n → (rep b x = rep b y ↔ (x ∈ g0 ↔ y ∈ g0)) := by
  obtain ⟨u, v, hu, hv, huv, hall⟩ := h
  have hW := hO.1
  have hC := toList_isClassList hW
  have hlen : b.toList.2.length = 2 := by rw [hC.length]; exact nroots_two hO hu hv huv hall
  match hgs : b.toList.2, hlen with
  | [g0, g1], _ =>
    rw [hgs] at hC
    have m0 : g0 ∈ [g0, g1] := List.mem_cons_self
    have m1 : g1 ∈ [g0, g1] := List.mem_cons_of_mem _ List.mem_cons_self
    have hdis : ∀ i, i ∈ g0 → i ∉ g1 := by simpa using hC.disjoint
    have hcov : ∀ i, i < n → i ∈ g0 ∨ i ∈ g1 := fun i hi => by simpa using hC.cover i (hO.lt hi)
    have hlt : ∀ g, g ∈ [g0, g1] → ∀ i, i ∈ g → i < n := fun g hg i hi => by
      obtain ⟨r, _, _, hm⟩ := hC.isClass g hg
      exact hO.2 ▸ ((hm i).mp hi).1
    have hsame : ∀ g, g ∈ [g0, g1] → ∀ x y, x ∈ g → y < n → (y ∈ g ↔ rep b x = rep b y) :=
      fun g hg x y hx hy => (hC.same_iff hg hx (hO.lt hy)).trans (same_iff_rep hW x y)
    refine ⟨g0, g1, rfl, hC.ne m0, hC.ne m1, hC.sorted g0 m0, hC.sorted g1 m1, hdis,
      fun i => ⟨hcov i, fun h => h.elim (hlt g0 m0 i) (hlt g1 m1 i)⟩, fun x y hx hy => ?_⟩
    rcases hcov x hx with h0 | h1
    · rw [← hsame g0 m0 x y h0 hy]
      exact ⟨fun h => ⟨fun _ => h, fun _ => h0⟩, fun h => h.mp h0⟩
    · have hx0 : x ∉ g0 := fun h => hdis x h h1
      rw [← hsame g1 m1 x y h1 hy]
      exact ⟨fun hy1 => ⟨fun h => absurd h hx0, fun h => absurd hy1 (hdis y h)⟩,
        fun hiff => (hcov y hy).resolve_left (fun h => hx0 (hiff.mpr h))⟩

/-- The first element of `done` with colour `b`: the value of `first` (`b = true`) and `second`
    (`b = false`) in `_binary` after the prefix `done`. -/
def firstOf (κ : Nat → Bool) (b : Bool) (done : List Nat) : Option Nat := done.find? (fun g => κ g == b)

theorem firstOf_snoc (κ : Nat → Bool) (b : Bool) (done : List Nat) (g : Nat) :
    firstOf κ b (done ++ [g]) = (firstOf κ b done).or (if κ g = b then some g else none) := by
  simp only [firstOf, List.find?_append, List.find?_cons, List.find?_nil]
  cases κ g <;> cases b <;> simp

theorem firstOf_some {κ : Nat → Bool} {b : Bool} {gs : List Nat} {g : Nat}
    (h : firstOf κ b gs = some g) : g ∈ gs ∧ κ g = b :=
  ⟨List.mem_of_find?_eq_some h, by simpa using List.find?_some h⟩

/-- After the roots `done` have been handled, two elements are together iff they were, or both
    their roots are handled and have the same colour. -/
def Coloured (d : DS) (κ : Nat → Bool) (done : List Nat) (p : DS) : Prop :=
  Ok d.size p ∧ ∀ x y, Same p x y ↔
    rep d x = rep d y ∨ (rep d x ∈ done ∧ rep d y ∈ done ∧ κ (rep d x) = κ (rep d y))

/-- One step of `_binary` on the root `g`: it becomes the anchor of its colour when there is none
    yet, and is united with the anchor otherwise. -/
theorem Coloured.step {d : DS} (hd : WF d) {κ : Nat → Bool} {done : List Nat} {p : DS}
    (h : Coloured d κ done p) (hdone : ∀ r, r ∈ done → r ∈ roots d) {g : Nat} (hg : g ∈ roots d)
    (hnew : g ∉ done) :
    match firstOf κ (κ g) done with
    | none => Coloured d κ (done ++ [g]) p
    | some f => Coloured d κ (done ++ [g]) (p.unite f g).1 := by
  obtain ⟨hO, hK⟩ := h
  have hgg : rep d g = g := rep_of_mem_roots hd hg
  cases hf : firstOf κ (κ g) done with
  | none =>
    have hnone : ∀ r, r ∈ done → κ r ≠ κ g := fun r hr hc => by
      simpa [hc] using List.find?_eq_none.mp hf r hr
    refine ⟨hO, fun x y => (hK x y).trans ⟨?_, ?_⟩⟩
    · rintro (h | ⟨hx, hy, hk⟩)
      · exact Or.inl h
      · exact Or.inr ⟨List.mem_append_left _ hx, List.mem_append_left _ hy, hk⟩
    · rintro (h | ⟨hx, hy, hk⟩)
      · exact Or.inl h
      · simp only [List.mem_append, List.mem_singleton] at hx hy
        rcases hx with hx | hx <;> rcases hy with hy | hy
        · exact Or.inr ⟨hx, hy, hk⟩
        · exact absurd (hy ▸ hk) (hnone _ hx)
        · exact absurd (hx ▸ hk.symm) (hnone _ hy)
        · exact Or.inl (hx.trans hy.symm)
  | some f =>
    obtain ⟨hfm, hfk⟩ := firstOf_some hf
    have hff : rep d f = f := rep_of_mem_roots hd (hdone f hfm)
    have hfn := (mem_roots.mp (hdone f hfm)).1
    have hgn := (mem_roots.mp hg).1
    obtain ⟨_, _, hsame, _⟩ := unite_spec hO.1 (hO.lt hfn) (hO.lt hgn)
    have hxf : ∀ x, Same p x f ↔ rep d x ∈ done ∧ κ (rep d x) = κ g := by
      intro x; rw [hK, hff]
      constructor
      · rintro (h | ⟨hx, _, hk⟩)
        · rw [h]; exact ⟨hfm, hfk⟩
        · exact ⟨hx, hk.trans hfk⟩
      · rintro ⟨hx, hk⟩; exact Or.inr ⟨hx, hfm, hk.trans hfk.symm⟩
    have hxg : ∀ x, Same p x g ↔ rep d x = g := by
      intro x; rw [hK, hgg]
      exact ⟨fun h => h.elim id (fun h => absurd h.2.1 hnew), Or.inl⟩
    refine ⟨hO.unite hfn hgn, fun x y => ?_⟩
    rw [hsame, hxf, hxg, hxf, hxg, hK]
    simp only [List.mem_append, List.mem_singleton]
    constructor
    · rintro ((h | ⟨hx, hy, hk⟩) | ⟨⟨hx, hk⟩, hy⟩ | ⟨hx, hy, hk⟩)
      · exact Or.inl h
      · exact Or.inr ⟨Or.inl hx, Or.inl hy, hk⟩
      · exact Or.inr ⟨Or.inl hx, Or.inr hy, by rw [hk, hy]⟩
      · exact Or.inr ⟨Or.inr hx, Or.inl hy, by rw [hk, hx]⟩
    · rintro (h | ⟨hx | hx, hy | hy, hk⟩)
      · exact Or.inl (Or.inl h)
      · exact Or.inl (Or.inr ⟨hx, hy, hk⟩)
      · exact Or.inr (Or.inl ⟨⟨hx, by rw [hk, hy]⟩, hy⟩)
      · exact Or.inr (Or.inr ⟨hx, hy, by rw [← hk, hx]⟩)
      · exact Or.inl (Or.inl (hx.trans hy.symm))

theorem applyCol_coloured {d : DS} (hd : WF d) (κ : Nat → Bool) : ∀ (todo done : List Nat) (p : DS),
    Coloured d κ done p → (∀ r, r ∈ done ++ todo → r ∈ roots d) → (done ++ todo).Nodup →
    Coloured d κ (done ++ todo)
      (applyCol todo (todo.map κ) p (firstOf κ true done) (firstOf κ false done)) := by
  intro todo
  induction todo with
  | nil => intro done p h _ _; simpa [applyCol] using h
  | cons g todo ih =>
    intro done p h hr hn
    have hg : g ∈ roots d := hr g (by simp)
    have hnew : g ∉ done := fun hm => (List.nodup_append.mp hn).2.2 g hm g (by simp) rfl
    have hstep := h.step hd (fun r hm => hr r (List.mem_append_left _ hm)) hg hnew
    have hr' : ∀ r, r ∈ (done ++ [g]) ++ todo → r ∈ roots d := by simpa using hr
    have hn' : ((done ++ [g]) ++ todo).Nodup := by simpa using hn
    have hnext := fun p' (h' : Coloured d κ (done ++ [g]) p') => ih (done ++ [g]) p' h' hr' hn'
    rw [List.append_assoc, List.singleton_append, firstOf_snoc, firstOf_snoc] at hnext
    rw [List.map_cons]
    cases hk : κ g <;> rw [hk] at hstep hnext
    · cases hf : firstOf κ false done <;> rw [hf] at hstep hnext
      · simpa [applyCol] using hnext _ hstep
      · simpa [applyCol] using hnext _ hstep
    · cases hf : firstOf κ true done <;> rw [hf] at hstep hnext
      · simpa [applyCol] using hnext _ hstep
      · simpa [applyCol] using hnext _ hstep

theorem allReps_fold {d : DS} (hd : WF d) : ∀ k, k ≤ d.size →
    Pres d ((List.range k).foldl repsStep (d, [])).1 ∧
    WF ((List.range k).foldl repsStep (d, [])).1 ∧
    ((List.range k).foldl repsStep (d, [])).2 = (List.range k).map (rep d) := by
  intro k
  induction k with
  | zero => intro _; exact ⟨Pres.refl d, hd, rfl⟩
  | succ k ih =>
    intro hk
    obtain ⟨hP, hW, hres⟩ := ih (by omega)
    rw [List.range_succ, List.foldl_append, List.foldl_cons, List.foldl_nil]
    generalize (List.range k).foldl repsStep (d, []) = p at hP hW hres
    have hk' : k < p.1.size := by rw [hP.size]; omega
    obtain ⟨_, hP2, hW2⟩ := find_spec hW hk'
    have hrep : (p.1.find k).2 = rep d k := rep_pres hd hW hP
    refine ⟨hP.trans hP2, hW2, ?_⟩
    show p.2 ++ [(p.1.find k).2] = _
    rw [hrep, hres, List.map_append, List.map_singleton]

theorem sortedReps_eq {d : DS} (hd : WF d) :
    Pres d d.sortedReps.1 ∧ WF d.sortedReps.1 ∧ d.sortedReps.2 = roots d := by
  obtain ⟨hP, hW, hres⟩ := allReps_fold hd d.size (Nat.le_refl _)
  refine ⟨hP, hW, ?_⟩
  simp only [sortedReps, allReps, hres, roots]
  apply List.filter_congr
  intro r hr
  have hr' := List.mem_range.mp hr
  by_cases h : d.par r = r
  · have : r ∈ (List.range d.size).map (rep d) :=
      List.mem_map.mpr ⟨r, hr, (rep_self_iff hd).mpr h⟩
    simp [h, this]
  · have : r ∉ (List.range d.size).map (rep d) := by
      intro hm
      obtain ⟨i, hi, hir⟩ := List.mem_map.mp hm
      have := (rep_rootOf_all hd i).isRoot
      rw [hir] at this
      exact h this
    simp [h, this]

end SR.DS
