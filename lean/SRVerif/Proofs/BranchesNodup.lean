/-
  Uniqueness of branch keys.  Up to order, `fullPlan` is the list of the plans of the object
  nodes (`fullPlan_perm`) and the final state is `fullPlan` (`computeBranches_all`); a step owns
  its keys and a chain of `_add_losses` visits each species once, hence no object node and no
  pseudo-gene has a second branch, in any species.  No validity hypothesis is needed.
-/
import SRVerif.Proofs.BranchesPlan
import Mathlib.Data.List.Nodup
import Mathlib.Data.List.Perm.Basic

namespace SR.Layout

open SR

/-- The keys of a plan (`keysOf` for a list of branches with their species). -/
def pkeys (pl : List (Path × Branch)) : List Key := pl.map (·.2.key)

@[simp] theorem pkeys_append (a b : List (Path × Branch)) : pkeys (a ++ b) = pkeys a ++ pkeys b := by
  simp [pkeys]

@[simp] theorem pkeys_nil : pkeys [] = [] := rfl

theorem mem_pkeys {k : Key} {pl : List (Path × Branch)} :
    k ∈ pkeys pl ↔ ∃ e ∈ pl, e.2.key = k := by
  simp [pkeys]

theorem chainList_depths (g : Path) (prev : Key) (b : Path) (w : List Nat) :
    ((chainList g prev b w).map (·.1)).Pairwise (fun x y => y.length < x.length) := by
  induction w generalizing b with
  | nil => simp [chainList]
  | cons i w ih =>
    simp only [chainList, List.map_append, List.map_cons, List.map_nil, List.pairwise_append,
      List.pairwise_cons, List.Pairwise.nil, List.mem_singleton, List.not_mem_nil]
    refine ⟨ih _, by simp, ?_⟩
    rintro x hx _ rfl
    obtain ⟨⟨t, br⟩, he, rfl⟩ := List.mem_map.1 hx
    obtain ⟨w1, _, _, _, rfl, _⟩ := mem_chainList.1 he
    simp

theorem chain_pkeys_nodup (g : Path) (prev : Key) (b : Path) (w : List Nat) :
    (pkeys (chainList g prev b w)).Nodup := by
  have hk : pkeys (chainList g prev b w) = ((chainList g prev b w).map (·.1)).map (Key.loss g) := by
    simp only [pkeys, List.map_map]
    exact List.map_congr_left fun e he => (chain_valid he).1
  rw [hk]
  apply List.Nodup.map
  · intro a b hab; cases hab; rfl
  · refine List.Pairwise.imp ?_ (chainList_depths g prev b w)
    intro a b hlt hab
    subst hab
    omega

theorem two_chains_nodup {s p : Path} {b : Branch} {i j : Nat} (qA qB : Key) (bA bB : Path)
    (wA wB : List Nat) (hij : i ≠ j) (hb : b.key = .gene p) :
    (pkeys (chainList (p ++ [i]) qA bA wA ++ (chainList (p ++ [j]) qB bB wB ++ [(s, b)]))).Nodup := by
  simp only [pkeys_append]
  rw [List.nodup_append, List.nodup_append]
  refine ⟨chain_pkeys_nodup .., ⟨chain_pkeys_nodup .., by simp [pkeys], ?_⟩, ?_⟩
  · intro a ha c hc
    obtain ⟨e, he, rfl⟩ := mem_pkeys.1 ha
    simp only [pkeys, List.map_cons, List.map_nil, List.mem_singleton] at hc
    subst hc
    rw [(chain_valid he).1, hb]; simp
  · intro a ha c hc
    obtain ⟨e, he, rfl⟩ := mem_pkeys.1 ha
    rw [(chain_valid he).1]
    rcases List.mem_append.1 hc with hc | hc
    · obtain ⟨e', he', rfl⟩ := mem_pkeys.1 hc
      rw [(chain_valid he').1]
      intro h
      simp only [Key.loss.injEq] at h
      have := List.append_inj' h.1 rfl
      simp at this
      exact hij this
    · simp only [pkeys, List.map_cons, List.map_nil, List.mem_singleton] at hc
      subst hc
      rw [hb]; simp

theorem planOf_keys {s p : Path} {sub : Sol} {pl : List (Path × Branch)} (h : PlanOf s p sub pl) :
    (pkeys pl).Nodup := by
  cases h with
  | leaf sp f => simp [pkeys]
  | invalid => simp
  | spec _ _ _ hc => exact two_chains_nodup _ _ _ _ _ _ hc rfl
  | dup => exact two_chains_nodup _ _ _ _ _ _ (by omega) rfl
  | @hgt _ _ _ _ c _ _ w =>
    -- the transferred child has no chain
    simpa [chainList] using two_chains_nodup (s := s) (j := c + 1) _ (.gene p) s s w [] (by omega) rfl

theorem nodePlan_keys (s p : Path) (sub : Sol) : (pkeys (nodePlan s p sub)).Nodup :=
  planOf_keys (planOf s p sub)

theorem genesPost_paths_nodup : ∀ (sol : Sol) (p0 : Path), ((genesPost sol p0).map (·.1)).Nodup := by
  intro sol
  induction sol with
  | leaf s f => intro p0; simp [genesPost]
  | node s f l r ihl ihr =>
    intro p0
    simp only [genesPost, List.map_append, List.map_cons, List.map_nil]
    rw [List.nodup_append, List.nodup_append]
    refine ⟨⟨ihl _, ihr _, ?_⟩, by simp, ?_⟩
    · intro a ha b hb hab
      subst hab
      simp only [List.mem_map] at ha hb
      obtain ⟨⟨pa, sa⟩, ha, rfl⟩ := ha
      obtain ⟨⟨pb, sb⟩, hb, hpb⟩ := hb
      obtain ⟨qa, rfl, _⟩ := (mem_genesPost l _ _ _).1 ha
      obtain ⟨qb, rfl, _⟩ := (mem_genesPost r _ _ _).1 hb
      simp only [List.append_assoc] at hpb
      have := List.append_cancel_left hpb
      simp at this
    · intro a ha b hb hab
      subst hab
      simp only [List.mem_singleton] at hb
      simp only [List.mem_append, List.mem_map] at ha
      rcases ha with ⟨⟨pa, sa⟩, ha, rfl⟩ | ⟨⟨pa, sa⟩, ha, rfl⟩
      · obtain ⟨qa, rfl, _⟩ := (mem_genesPost l _ _ _).1 ha
        have := congrArg List.length hb
        simp at this
      · obtain ⟨qa, rfl, _⟩ := (mem_genesPost r _ _ _).1 ha
        have := congrArg List.length hb
        simp at this

theorem perm_flatMap_filter {α : Type} (c : α → Path) (G : List α) : ∀ (L : List Path), L.Nodup →
    (L.flatMap fun t => G.filter fun g => c g = t).Perm (G.filter fun g => c g ∈ L) := by
  intro L
  induction L with
  | nil => intro _; simp
  | cons t0 L ih =>
    intro hnd
    rw [List.nodup_cons] at hnd
    rw [List.flatMap_cons]
    refine (List.Perm.append_left _ (ih hnd.2)).trans ?_
    -- split the elements with key in `t0 :: L` into those with key `t0` and the others
    have h := List.filter_append_perm (fun g => decide (c g = t0)) (G.filter fun g => c g ∈ t0 :: L)
    rw [List.filter_filter, List.filter_filter] at h
    refine (List.Perm.of_eq ?_).trans h
    congr 1 <;> apply List.filter_congr <;> intro g _
    · by_cases e : c g = t0 <;> simp [e]
    · by_cases e : c g = t0
      · simp [e, hnd.1]
      · simp [e]

/-- The plans of the object nodes whose species is in `L`, node by node.  `fullPlan` lists the same
    branches species pass by species pass; what does not depend on the order (distinct keys, the
    loss records) is proved of this list, where one object node is one `nodePlan`. -/
def nodePlans (sol : Sol) (L : List Path) : List (Path × Branch) :=
  ((genesPost sol []).filter fun g => g.2.sp ∈ L).flatMap fun g => nodePlan g.2.sp g.1 g.2

theorem fullPlan_perm (sol : Sol) {L : List Path} (hL : L.Nodup) :
    (fullPlan sol L).Perm (nodePlans sol L) := by
  have e : fullPlan sol L =
      (L.flatMap fun s => (genesPost sol []).filter fun g => g.2.sp = s).flatMap
        fun g => nodePlan g.2.sp g.1 g.2 := by
    simp only [fullPlan, passPlan, List.flatMap_assoc]
    apply List.flatMap_congr
    intro s _
    apply List.flatMap_congr
    intro g hg
    simp only [List.mem_filter, decide_eq_true_eq] at hg
    rw [hg.2]
  rw [e]
  exact List.Perm.flatMap_right _ (perm_flatMap_filter _ _ L hL)

/-- All branches of a state, each with its species. -/
def stateBranches (S : RTree) (st : LState) : List (Path × Branch) :=
  S.postorder.flatMap fun t => (brs st t).map (Prod.mk t)

theorem computeBranches_all {S : RTree} {sol : Sol} {st : LState}
    (h : computeBranches S sol = .ok st) : (stateBranches S st).Perm (fullPlan sol S.postorder) := by
  obtain ⟨_, hex, hb⟩ := computeBranches_plan h
  have p := perm_flatMap_filter (fun e : Path × Branch => e.1) (fullPlan sol S.postorder) _
    (RTree.nodup_postorder S)
  rw [List.filter_eq_self.2 (fun e he => by simpa using hex e he)] at p
  refine (List.Perm.of_eq ?_).trans p
  apply List.flatMap_congr
  intro t _
  rw [hb t, planAt, List.map_map]
  conv => rhs; rw [← List.map_id (List.filter _ _)]
  apply List.map_congr_left
  intro e he
  simp only [List.mem_filter, decide_eq_true_eq] at he
  simp [← he.2]

/-- Each node plan has distinct keys, and a key determines the node that owns it. -/
theorem nodePlans_nodup (sol : Sol) (L : List Path) : (pkeys (nodePlans sol L)).Nodup := by
  unfold nodePlans pkeys
  rw [List.map_flatMap, List.nodup_flatMap]
  refine ⟨fun g _ => nodePlan_keys _ g.1 g.2, ?_⟩
  apply List.Pairwise.filter
  have hG := genesPost_paths_nodup sol []
  rw [List.Nodup, List.pairwise_map] at hG
  refine List.Pairwise.imp ?_ hG
  intro g g' hne k hk hk'
  obtain ⟨e, he, rfl⟩ := List.mem_map.1 hk
  obtain ⟨e', he', hkk⟩ := List.mem_map.1 hk'
  have h1 := (nodePlan_typed _ g.1 g.2 e he).owner
  have h2 := (nodePlan_typed _ g'.1 g'.2 e' he').owner
  rw [hkk, h1] at h2
  exact hne h2

theorem fullPlan_nodup (sol : Sol) (L : List Path) (hL : L.Nodup) : (pkeys (fullPlan sol L)).Nodup :=
  ((fullPlan_perm sol hL).map _).nodup_iff.2 (nodePlans_nodup sol L)

theorem computeBranches_keys_nodup {S : RTree} {sol : Sol} {st : LState}
    (h : computeBranches S sol = .ok st) :
    (S.postorder.flatMap fun t => keysOf (brs st t)).Nodup := by
  have e : (S.postorder.flatMap fun t => keysOf (brs st t)) = pkeys (stateBranches S st) := by
    simp [pkeys, stateBranches, keysOf, List.map_flatMap, List.map_map, Function.comp_def]
  rw [e]
  exact ((computeBranches_all h).map _).nodup_iff.2 (fullPlan_nodup sol _ (RTree.nodup_postorder S))

end SR.Layout
