/-
  C07 — definitions and path lemmas for the duplication-loss optimality of the LCA
  reconciliation: the evaluator's cost of a transfer-free valid solution as a natural number
  (`dlLocal`, `dlCost`), the potential `dlPot` with its equation at a vertical node
  (`dlPot_node`), and the classification of `internalEvent` on vertical (non-transfer) nodes.
  Also the notions the C07 statements use: `OTree.leafSpecies`, `transferFree`, `eraseFam`,
  `famsMatch`.
-/
import SRVerif.Proofs.EventAt

namespace SR

/-- The same function as `SR.leafSpecies` of `Proofs/Enum.lean` (`leafSpecies_eq`), in dot notation
    for the C07 statements. -/
def OTree.leafSpecies : OTree → List Path
  | .leaf sp _ => [sp]
  | .node l r => l.leafSpecies ++ r.leafSpecies

namespace Sol

/-- No internal node is a horizontal transfer. -/
def transferFree : Sol → Bool
  | .leaf _ _ => true
  | .node s _ l r => internalEvent s l.sp r.sp != .hgt && transferFree l && transferFree r

/-- The species mapping alone: all synteny annotations erased. -/
def eraseFam : Sol → Sol
  | .leaf s _ => .leaf s []
  | .node s _ l r => .node s [] (eraseFam l) (eraseFam r)

@[simp] theorem sp_leaf (s : Path) (f : List Nat) : (Sol.leaf s f).sp = s := rfl
@[simp] theorem sp_node (s : Path) (f : List Nat) (l r : Sol) : (Sol.node s f l r).sp = s := rfl

@[simp] theorem eraseFam_sp (s : Sol) : s.eraseFam.sp = s.sp := by cases s <;> rfl

end Sol

/-- The synteny annotations of a plain reconciliation output: the leaves carry
    the input's data, internal nodes carry nothing (what `lcaSol`,
    `Spec.allMappings` and the driver's decoding of a Python output produce). -/
def famsMatch : OTree → Sol → Bool
  | .leaf _ f, .leaf _ g => g == f
  | .node ol or, .node _ f l r => f == [] && famsMatch ol l && famsMatch or r
  | _, _ => false

/-- Local cost of a vertical (speciation / duplication) node, as a number. -/
def dlLocal (c : Costs) (s a b : Path) : Nat :=
  if specCond s a b then c.spe + c.floss * (Path.dist s a + Path.dist s b - 2)
  else c.dup + c.floss * (Path.dist s a + Path.dist s b)

/-- Cost of a transfer-free valid solution, as a number. -/
def dlCost (c : Costs) : Sol → Nat
  | .leaf _ _ => 0
  | .node s _ l r => dlLocal c s l.sp r.sp + (dlCost c l + dlCost c r)

/-- What a vertical node pays besides `floss` per level down to its children, shifted by
    `2 * floss` so that the speciation discount needs no subtraction (`dlLocal_eq_evW`). -/
def evW (c : Costs) (s a b : Path) : Nat :=
  if specCond s a b then c.spe else c.dup + 2 * c.floss

/-- The cost of a solution plus `floss` per level of its root's depth.  The losses between a
    node and its children telescope in it (`dlPot_node`), so that two solutions are compared
    node by node through `evW` and the depths alone. -/
def dlPot (c : Costs) (sol : Sol) : Nat := dlCost c sol + c.floss * sol.sp.length

namespace Path

theorem specCond_split {s a b : Path} (hs : specCond s a b = true) :
    ∃ i j u v, i ≠ j ∧ a = s ++ i :: u ∧ b = s ++ j :: v := by
  have hl : s = lcp a b := by
    simp only [specCond, Bool.and_eq_true, beq_iff_eq] at hs; exact hs.1
  have e := eventAt s a b
  rw [internalEvent_of_isAnc (hl ▸ lcp_isAnc_left a b) (hl ▸ lcp_isAnc_right a b), if_pos hs] at e
  cases e with
  | spec hx hy hij => exact ⟨_, _, _, _, hij, hx, hy⟩

theorem specCond_descend {s a b a' b' : Path} (hs : specCond s a b = true)
    (ha : isAnc a a' = true) (hb : isAnc b b' = true) :
    comparable a' b' = false := by
  obtain ⟨i, j, u, v, hij, rfl, rfl⟩ := specCond_split hs
  obtain ⟨x, rfl⟩ := (isAnc_iff_prefix _ _).mp ha
  obtain ⟨y, rfl⟩ := (isAnc_iff_prefix _ _).mp hb
  have hji : ¬ j = i := fun e => hij e.symm
  simp only [List.append_assoc, List.cons_append, comparable, isAnc_append_append]
  simp [isAnc, hij, hji]

theorem specCond_length {s a b : Path} (hs : specCond s a b = true) :
    s.length + 1 ≤ a.length ∧ s.length + 1 ≤ b.length := by
  obtain ⟨i, j, u, v, _, rfl, rfl⟩ := specCond_split hs
  simp only [List.length_append, List.length_cons]
  omega

end Path

theorem internalEvent_vertical {s a b : Path} (h1 : internalEvent s a b ≠ .invalid)
    (h2 : internalEvent s a b ≠ .hgt) :
    Path.isAnc s a = true ∧ Path.isAnc s b = true ∧
      internalEvent s a b = (if specCond s a b then .spec else .dup) := by
  have hab : Path.isAnc s a = true ∧ Path.isAnc s b = true := by
    have he := eventAt s a b
    generalize internalEvent s a b = e at he h1 h2
    cases he with
    | spec hx hy _ => subst hx hy; exact ⟨Path.isAnc_append s _, Path.isAnc_append s _⟩
    | dup hx hy _ => subst hx hy; exact ⟨Path.isAnc_append s _, Path.isAnc_append s _⟩
    | hgtLeft => exact absurd rfl h2
    | hgtRight => exact absurd rfl h2
    | invalid => exact absurd rfl h1
  exact ⟨hab.1, hab.2, internalEvent_of_isAnc hab.1 hab.2⟩

theorem localRecCost_vertical (c : Costs) {s a b : Path} (ha : Path.isAnc s a = true)
    (hb : Path.isAnc s b = true) : localRecCost c s a b = .fin (dlLocal c s a b) := by
  unfold localRecCost dlLocal
  rw [internalEvent_of_isAnc ha hb]
  cases specCond s a b <;> rfl

open Path in
theorem floss_dist (F : Nat) {s a : Path} (h : isAnc s a = true) :
    F * dist s a + F * s.length = F * a.length := by
  rw [dist_of_isAnc h, ← Nat.mul_add, Nat.sub_add_cancel (length_le_of_isAnc h)]

open Path in
theorem dlLocal_eq_evW (c : Costs) {s a b : Path} (ha : isAnc s a = true)
    (hb : isAnc s b = true) :
    dlLocal c s a b + 2 * c.floss = evW c s a b + c.floss * (dist s a + dist s b) := by
  unfold dlLocal evW
  cases hs : specCond s a b
  · simp only [Bool.false_eq_true, if_false]; omega
  · obtain ⟨la, lb⟩ := specCond_length hs
    have h2 := Nat.mul_le_mul_left c.floss
      (show 2 ≤ dist s a + dist s b by rw [dist_of_isAnc ha, dist_of_isAnc hb]; omega)
    simp only [if_true, Nat.mul_sub] at h2 ⊢; omega

open Path in
theorem dlPot_node (c : Costs) {s : Path} (g : List Nat) {l r : Sol}
    (ha : isAnc s l.sp = true) (hb : isAnc s r.sp = true) :
    dlPot c (.node s g l r) + c.floss * s.length + 2 * c.floss
      = evW c s l.sp r.sp + dlPot c l + dlPot c r := by
  have e := dlLocal_eq_evW c ha hb
  have ea := floss_dist c.floss ha
  have eb := floss_dist c.floss hb
  simp only [dlPot, dlCost, Sol.sp_node, Nat.mul_add] at e ⊢
  omega

end SR
