/-
  Unordered super-reconciliation: what `_decode_uspfs_table` (`unSol`) materialises.  On an
  admissible kind labelling `unSol` is `decodeAt`, kinds to contents along the positions; a decoded
  solution is canonical and has valid labels.  On a finite edge the DP's per-kind charges are the
  evaluator's subset tests on the decoded contents — an INHERIT node carries a family that no leaf
  below it carries, and hands such a witness on (`child_contentAt`) — so the generic cost
  `labCost (unAlg c)` is the evaluated cost of the decoded solution (`faithful_spec`, `faithful_root`).
-/
import SRVerif.Proofs.UnContent
import SRVerif.Proofs.OptAdequacy
import SRVerif.Proofs.SolverLists
import SRVerif.Proofs.LabelDPUn

namespace SR

open Path Cost

theorem annUn_node (S : RTree) (base : Bool) (whole : OTree) (p : Path) (l r : OTree) :
    annUn S base whole p (.node l r) =
      .node (annUn S base whole p (.node l r)).data (annUn S base whole (p ++ [0]) l)
        (annUn S base whole (p ++ [1]) r) := rfl

theorem annUn_allowed {c : Costs} (S : RTree) (base : Bool) (whole : OTree) (p : Path) (l r : OTree) (s : Path) :
    s ∈ (unAlg c).allowed (annUn S base whole p (.node l r)).data ↔
      (if base then s = (lcaSol (.node l r)).sp else S.isNode s = true) := by
  show s ∈ (if base then [(lcaSol (.node l r)).sp] else (allSpecies S).reverse) ↔ _
  cases base
  · simp only [Bool.false_eq_true, if_false, List.mem_reverse]
    exact RTree.mem_preorder_iff s S
  · simp

open Spec in
theorem mem_speciesSpace_iff_allowed {c : Costs} (S : RTree) (base : Bool) (whole : OTree) (p : Path)
    (l r : OTree) (s : Path) :
    s ∈ speciesSpace S base (.node l r) ↔ s ∈ (unAlg c).allowed (annUn S base whole p (.node l r)).data := by
  rw [annUn_allowed]
  cases base <;> simp [speciesSpace, allSpecies, RTree.mem_preorder_iff]

open Spec in
/-- Where the decoder, the exchange and the oracle's adequacy meet: the oracle's label space holds
    the sorted lists that are `Between`. -/
theorem mem_labelSpace_unordered {whole : OTree} {p : Path} {f : List Nat} :
    f ∈ labelSpace .unordered whole p ↔
      f.Pairwise (· < ·) ∧ (∀ x ∈ requiredContent whole p, x ∈ f) ∧
        ∀ x ∈ f, x ∈ allowedContent whole p := by
  have hnd : ∀ {extra : List Nat}, extra.Sublist ((allowedContent whole p).filter
      fun z => !(requiredContent whole p).contains z) →
      (requiredContent whole p ++ extra).Nodup := by
    intro extra hsub
    rw [List.nodup_append]
    refine ⟨nodup_requiredContent whole p, hsub.nodup ((nodup_allowedContent whole p).filter _), ?_⟩
    intro a ha b hb e
    subst e
    have := hsub.subset hb
    simp only [List.mem_filter, Bool.not_eq_true', List.contains_eq_mem,
      decide_eq_false_iff_not] at this
    exact this.2 ha
  simp only [labelSpace, List.mem_map, mem_sublists]
  constructor
  · rintro ⟨extra, hsub, rfl⟩
    refine ⟨sortNat_sorted_lt (hnd hsub), fun x hx => mem_sortNat_iff.mpr (List.mem_append_left _ hx),
      fun x hx => ?_⟩
    rcases List.mem_append.mp (mem_sortNat_iff.mp hx) with hx | hx
    · exact required_sub_allowed hx
    · exact (List.mem_filter.mp (hsub.subset hx)).1
  · rintro ⟨hsorted, hreq, hall⟩
    refine ⟨_, List.filter_sublist (p := fun z => f.contains z), ?_⟩
    refine eq_of_sorted (sortNat_sorted_lt (hnd List.filter_sublist)) hsorted fun x => ?_
    rw [mem_sortNat_iff, List.mem_append]
    simp only [List.mem_filter, Bool.not_eq_true', List.contains_eq_mem, decide_eq_false_iff_not,
      decide_eq_true_eq]
    constructor
    · rintro (h | h)
      · exact hreq x h
      · exact h.2
    · intro hx
      by_cases hr : x ∈ requiredContent whole p
      · exact Or.inl hr
      · exact Or.inr ⟨⟨hall x hx, hr⟩, hx⟩

/-- `unSol` without the annotated tree: kinds to contents, top-down along the positions. -/
def decodeAt (whole : OTree) : Path → List Nat → LSol Kind → Sol
  | p, anc, .leaf s k => .leaf s (contentAt whole p anc k)
  | p, anc, .node s k l r =>
    .node s (contentAt whole p anc k) (decodeAt whole (p ++ [0]) (contentAt whole p anc k) l)
      (decodeAt whole (p ++ [1]) (contentAt whole p anc k) r)

theorem decodeAt_sp (whole : OTree) (p : Path) (anc : List Nat) (ls : LSol Kind) :
    (decodeAt whole p anc ls).sp = ls.sp := by cases ls <;> rfl

theorem decodeAt_fam (whole : OTree) (p : Path) (anc : List Nat) (ls : LSol Kind) :
    (decodeAt whole p anc ls).fam = contentAt whole p anc ls.lab := by cases ls <;> rfl

theorem unSol_eq_decodeAt (c : Costs) (S : RTree) (base : Bool) (whole : OTree) :
    ∀ (sub : OTree) (p : Path) (anc : List Nat) (ls : LSol Kind), IsSub whole p sub →
      Adm (unAlg c) (annUn S base whole p sub) ls →
      unSol (annUn S base whole p sub) anc ls = decodeAt whole p anc ls := by
  intro sub
  induction sub with
  | leaf sp f0 =>
    intro p anc ls hsub hadm
    rw [hadm.leaf_inv]
    exact congrArg (Sol.leaf sp) (lcaSet_eq_required S base whole _ p hsub)
  | node l r ihl ihr =>
    intro p anc ls hsub hadm
    have ea := lcaSet_eq_required S base whole _ p hsub
    have eg := annUn_gain S base whole p (.node l r)
    rw [annUn_node] at hadm ⊢
    obtain ⟨s, k, x, y, rfl, -, -, ax, ay⟩ := hadm.node_inv
    cases k <;>
      simp only [unSol, decodeAt, contentAt, ea, eg, ihl _ _ x (isSub_child hsub).1 ax,
        ihr _ _ y (isSub_child hsub).2 ay]

/-- Canonicity needs neither the tree nor admissibility. -/
theorem canonicalUn_decodeAt (whole : OTree) : ∀ (ls : LSol Kind) (p : Path) (anc : List Nat),
    (p = [] → ls.lab = .lca) → Spec.canonicalUn whole p anc (decodeAt whole p anc ls) = true
  | .leaf _ _, _, _, _ => rfl
  | .node s k l r, p, anc, hroot => by
    simp only [decodeAt, Spec.canonicalUn, Bool.and_eq_true, Bool.or_eq_true, beq_iff_eq,
      Bool.not_eq_true', List.isEmpty_eq_false_iff]
    refine ⟨⟨?_, canonicalUn_decodeAt whole l _ _ (by simp)⟩,
      canonicalUn_decodeAt whole r _ _ (by simp)⟩
    cases k with
    | lca => exact Or.inl rfl
    | inh =>
      have hne : p ≠ [] := fun e => nomatch (hroot e)
      exact Or.inr ⟨hne, rfl⟩

/-- C04's unordered clause for decoded solutions. -/
theorem decodeAt_valid (c : Costs) (S : RTree) (base : Bool) (whole : OTree) :
    ∀ (sub : OTree) (p : Path) (anc : List Nat) (ls : LSol Kind), IsSub whole p sub →
      Adm (unAlg c) (annUn S base whole p sub) ls → Between whole p (contentAt whole p anc ls.lab) →
      Spec.validUnLabels whole p sub (decodeAt whole p anc ls) = true := by
  intro sub
  induction sub with
  | leaf sp f0 =>
    intro p anc ls hsub hadm _
    rw [hadm.leaf_inv]
    have e : decodeAt whole p anc (.leaf sp .lca) = .leaf sp (sortNat (dedup f0)) :=
      congrArg (Sol.leaf sp) (requiredContent_leaf hsub)
    exact e ▸ by simp [Spec.validUnLabels]
  | node l r ihl ihr =>
    intro p anc ls hsub hadm hb
    rw [annUn_node] at hadm
    obtain ⟨s, k, x, y, rfl, -, -, ax, ay⟩ := hadm.node_inv
    obtain ⟨bx, ex⟩ := hb.child 0 x.lab
    obtain ⟨by', ey⟩ := hb.child 1 y.lab
    have vx := ihl _ _ x (isSub_child hsub).1 ax bx
    have vy := ihr _ _ y (isSub_child hsub).2 ay by'
    simp only [decodeAt, Spec.validUnLabels, Bool.and_eq_true, List.all_eq_true,
      List.contains_iff_mem, decodeAt_fam]
    exact ⟨⟨⟨⟨hb.all, ex⟩, ey⟩, vx⟩, vy⟩

/-- Witness carried by an INHERIT node: a family of its content that no leaf below it
    carries. -/
def InhWitness (whole : OTree) (p : Path) (content : List Nat) : Prop :=
  ∃ w ∈ content, ∀ q f, (q, f) ∈ leafPaths whole → isAnc p q = true → w ∉ f

theorem subsetB_contentAt_inh (whole : OTree) (q : Path) (P : List Nat) :
    subsetB P (contentAt whole q P .inh) = true :=
  subsetB_eq_true_iff.mpr fun _ hx => mem_contentAt_inh.mpr (Or.inl hx)

theorem un_conserv_ll (c : Costs) (a ca : UnAnn) : (unAlg c).conserv a .lca ca .lca =
    if subsetB a.lcaSet ca.lcaSet then .fin 0 else .fin c.sloss := rfl

theorem un_conserv_li (c : Costs) (a ca : UnAnn) : (unAlg c).conserv a .lca ca .inh =
    if subsetB a.lcaSet ca.lcaSet then .inf else .fin 0 := rfl

theorem un_segment_li (c : Costs) (a ca : UnAnn) : (unAlg c).segment a .lca ca .inh =
    if subsetB a.lcaSet ca.lcaSet then .inf else .fin 0 := rfl

/-- The one infinite charge: LCA → INHERIT with `lcaSet parent ⊆ lcaSet child`. -/
theorem conserv_eq_inf {c : Costs} {a ca : UnAnn} {k kc : Kind}
    (h : (unAlg c).conserv a k ca kc = .inf) :
    k = .lca ∧ kc = .inh ∧ subsetB a.lcaSet ca.lcaSet = true := by
  cases k <;> cases kc
  · rw [un_conserv_ll] at h
    split at h <;> cases h
  · rw [un_conserv_li] at h
    split at h
    · exact ⟨rfl, rfl, ‹_›⟩
    · cases h
  · cases h
  · cases h

theorem un_edge_inf (c : Costs) (a ca : UnAnn) (k kc : Kind)
    (h : (unAlg c).conserv a k ca kc = .inf) : (unAlg c).segment a k ca kc = .inf := by
  obtain ⟨rfl, rfl, hs⟩ := conserv_eq_inf h
  rw [un_segment_li, if_pos hs]

/-- On a finite edge the DP's charges are the evaluator's subset test on the decoded contents —
    provided an INHERIT parent is not contained in an LCA child. -/
theorem edge_contentAt (c : Costs) {whole : OTree} {p : Path} {i : Nat} {a ca : UnAnn}
    (ea : a.lcaSet = sortNat (Spec.requiredContent whole p))
    (eca : ca.lcaSet = sortNat (Spec.requiredContent whole (p ++ [i]))) (anc : List Nat)
    (k kc : Kind) (hfin : (unAlg c).conserv a k ca kc ≠ .inf)
    (hns : k = .inh → kc = .lca →
      subsetB (contentAt whole p anc .inh) (sortNat (Spec.requiredContent whole (p ++ [i]))) = false) :
    (unAlg c).conserv a k ca kc =
      .fin ((if subsetB (contentAt whole p anc k)
        (contentAt whole (p ++ [i]) (contentAt whole p anc k) kc) then 0 else 1) * c.sloss) ∧
    (unAlg c).segment a k ca kc = .fin 0 := by
  have fin0 : ∀ {b : Bool}, b = true → Cost.fin 0 = .fin ((if b then 0 else 1) * c.sloss) :=
    fun h => by rw [if_pos h, Nat.zero_mul]
  have fin1 : ∀ {b : Bool}, b = false → Cost.fin c.sloss = .fin ((if b then 0 else 1) * c.sloss) :=
    fun h => by rw [h, if_neg Bool.false_ne_true, Nat.one_mul]
  cases k <;> cases kc
  · refine ⟨?_, rfl⟩
    rw [un_conserv_ll, ea, eca]
    cases hs : subsetB (sortNat (Spec.requiredContent whole p))
      (sortNat (Spec.requiredContent whole (p ++ [i])))
    · exact fin1 hs
    · exact fin0 hs
  · have hs : ¬ subsetB a.lcaSet ca.lcaSet = true := fun hs =>
      hfin (by rw [un_conserv_li, if_pos hs])
    rw [un_conserv_li, un_segment_li, if_neg hs]
    exact ⟨fin0 (subsetB_contentAt_inh ..), rfl⟩
  · exact ⟨fin1 (hns rfl rfl), rfl⟩
  · exact ⟨fin0 (subsetB_contentAt_inh ..), rfl⟩

/-- One child edge along the tree.  An INHERIT parent carries a witness (a family of its content
    that no leaf below it carries), which no LCA child holds: so a finite edge is charged as the
    evaluator charges it, and it hands an INHERIT child a witness again. -/
theorem child_contentAt (c : Costs) {whole : OTree} {p : Path} {i : Nat} {a ca : UnAnn}
    (ea : a.lcaSet = sortNat (Spec.requiredContent whole p))
    (eca : ca.lcaSet = sortNat (Spec.requiredContent whole (p ++ [i]))) (anc : List Nat)
    (k kc : Kind) (hw : k = .inh → InhWitness whole p (contentAt whole p anc .inh))
    (hfin : (unAlg c).conserv a k ca kc ≠ .inf) :
    ((unAlg c).conserv a k ca kc =
        .fin ((if subsetB (contentAt whole p anc k)
          (contentAt whole (p ++ [i]) (contentAt whole p anc k) kc) then 0 else 1) * c.sloss) ∧
      (unAlg c).segment a k ca kc = .fin 0) ∧
    (kc = .inh →
      InhWitness whole (p ++ [i]) (contentAt whole (p ++ [i]) (contentAt whole p anc k) .inh)) := by
  refine ⟨edge_contentAt c ea eca anc k kc hfin fun hk _ => ?_, fun hkc => ?_⟩
  · obtain ⟨w, hwf, hwl⟩ := hw hk
    refine subsetB_eq_false_iff.mpr ⟨w, hwf, fun hmem => ?_⟩
    obtain ⟨_, _, q, f, hm, hq, hx⟩ := mem_requiredContent.mp (mem_sortNat_iff.mp hmem)
    exact hwl q f hm (isAnc_of_snoc hq) hx
  · subst hkc
    cases k with
    | inh =>
      obtain ⟨w, hwf, hwl⟩ := hw rfl
      exact ⟨w, mem_contentAt_inh.mpr (Or.inl hwf), fun q f hm hq => hwl q f hm (isAnc_of_snoc hq)⟩
    | lca =>
      cases hs : subsetB a.lcaSet ca.lcaSet with
      | true => exact absurd (by rw [un_conserv_li, if_pos hs]) hfin
      | false =>
        rw [ea, eca] at hs
        obtain ⟨w, hwa, hwc⟩ := subsetB_eq_false_iff.mp hs
        exact ⟨w, mem_contentAt_inh.mpr (Or.inl hwa), fun _ _ hm ha hx =>
          hwc (mem_sortNat_iff.mpr (required_down (mem_sortNat_iff.mp hwa) hm ha hx))⟩

theorem gl_unordered (c : Costs) (s x y : Path) (f fl fr : List Nat) :
    gl c s x (.fin ((if subsetB f fl then 0 else 1) * c.sloss)) (.fin 0) y
        (.fin ((if subsetB f fr then 0 else 1) * c.sloss)) (.fin 0) =
      match localUnordLosses (internalEvent s x y) (comparable s x) f fl fr with
      | some k => localRecCost c s x y + .fin (k * c.sloss)
      | none => .inf := by
  rw [gl_shift]
  cases hev : internalEvent s x y with
  | leaf => rfl
  | invalid => rfl
  | spec => simp only [localUnordLosses, Nat.add_mul]
  | dup => simp only [localUnordLosses, Nat.add_zero, Nat.zero_add, Nat.mul_min_mul_right]
  | hgt =>
    simp only [localUnordLosses]
    rw [(internalEvent_hgt_sides hev).2.1]
    cases isAnc s x <;> simp

theorem localCost_unordered_eq_gl (c : Costs) {whole : OTree} {p s : Path} {f : List Nat}
    {a : Path} {fa : List Nat} {b : Path} {fb : List Nat}
    (h0 : Spec.edgeOk .unordered whole (p ++ [0]) f fa = true)
    (h1 : Spec.edgeOk .unordered whole (p ++ [1]) f fb = true) :
    Spec.localCost c .unordered whole p s f a fa b fb =
      gl c s a (.fin ((if subsetB f fa then 0 else 1) * c.sloss)) (.fin 0) b
        (.fin ((if subsetB f fb then 0 else 1) * c.sloss)) (.fin 0) := by
  rw [gl_unordered]
  simp only [Spec.localCost, h0, h1, Bool.and_self, Bool.not_true, Bool.false_eq_true, if_false]
  rfl

/-- Every edge has a finite DP charge (no LCA → INHERIT edge with
    `lcaSet parent ⊆ lcaSet child`). -/
def EdgesFinite (c : Costs) : ATree UnAnn → LSol Kind → Prop
  | .node a tl tr, .node _ k l r =>
    (unAlg c).conserv a k tl.data l.lab ≠ .inf ∧ (unAlg c).conserv a k tr.data r.lab ≠ .inf ∧
      EdgesFinite c tl l ∧ EdgesFinite c tr r
  | _, _ => True

theorem genLocal_un_fin (c : Costs) {a la ra : UnAnn} {s x y : Path} {k lx ly : Kind}
    (hg : genLocal (unAlg c) c a s k la x lx ra y ly ≠ .inf) :
    (unAlg c).conserv a k la lx ≠ .inf ∧ (unAlg c).conserv a k ra ly ≠ .inf := by
  unfold genLocal at hg
  refine ⟨fun e => hg ?_, fun e => hg ?_⟩
  · rw [e, un_edge_inf c _ _ _ _ e]; exact gl_inf_left ..
  · rw [e, un_edge_inf c _ _ _ _ e]; exact gl_inf_right ..

theorem edgesFinite_of_finite (c : Costs) : ∀ (t : ATree UnAnn) (ls : LSol Kind),
    labCost (unAlg c) c t ls ≠ .inf → EdgesFinite c t ls
  | .node a tl tr, .node s k l r, h => by
    obtain ⟨hg, hch⟩ := add_ne_inf h
    obtain ⟨hl, hr⟩ := add_ne_inf hch
    exact ⟨(genLocal_un_fin c hg).1, (genLocal_un_fin c hg).2, edgesFinite_of_finite c tl l hl,
      edgesFinite_of_finite c tr r hr⟩
  | .leaf _ _, _, _ => trivial
  | .node _ _ _, .leaf _ _, _ => trivial

/-- Kinds faithful, against the oracle's cost: node by node the DP's charge IS the oracle's local
    cost on the decoded contents. -/
theorem faithful_spec (c : Costs) (S : RTree) (base : Bool) (whole : OTree) :
    ∀ (sub : OTree) (p : Path) (anc : List Nat) (ls : LSol Kind),
      IsSub whole p sub → Adm (unAlg c) (annUn S base whole p sub) ls →
      EdgesFinite c (annUn S base whole p sub) ls →
      Between whole p (contentAt whole p anc ls.lab) →
      (ls.lab = .inh → InhWitness whole p (contentAt whole p anc .inh)) →
      Spec.specCost c .unordered whole p (decodeAt whole p anc ls) =
        labCost (unAlg c) c (annUn S base whole p sub) ls := by
  intro sub
  induction sub with
  | leaf sp f0 =>
    intro p anc ls _ hadm _ _ _
    rw [hadm.leaf_inv]
    rfl
  | node l r ihl ihr =>
    intro p anc ls hsub hadm hedges hb hw
    obtain ⟨hl, hr⟩ := isSub_child hsub
    have ea := lcaSet_eq_required S base whole _ p hsub
    rw [annUn_node] at hadm hedges ⊢
    obtain ⟨s, k, x, y, rfl, -, -, ax, ay⟩ := hadm.node_inv
    obtain ⟨fx, fy, edx, edy⟩ := hedges
    replace hb : Between whole p (contentAt whole p anc k) := hb
    obtain ⟨⟨cx1, cx2⟩, wx⟩ :=
      child_contentAt c ea (lcaSet_eq_required S base whole _ _ hl) anc k x.lab hw fx
    obtain ⟨⟨cy1, cy2⟩, wy⟩ :=
      child_contentAt c ea (lcaSet_eq_required S base whole _ _ hr) anc k y.lab hw fy
    obtain ⟨bx, ex⟩ := hb.child 0 x.lab
    obtain ⟨by', ey⟩ := hb.child 1 y.lab
    simp only [labCost, genLocal, decodeAt, Spec.specCost, decodeAt_sp, decodeAt_fam]
    rw [cx1, cx2, cy1, cy2, localCost_unordered_eq_gl c ex ey,
      ihl _ _ x hl ax edx bx wx, ihr _ _ y hr ay edy by' wy]

theorem recCost_node_invalid (c : Costs) (ol or : OTree) (s : Path) (f : List Nat) (l r : Sol)
    (h : internalEvent s l.sp r.sp = .invalid) :
    recCost c (.node ol or) (.node s f l r) = .inf := by
  simp [recCost, h]

/-- The evaluator's recursion at an internal node, in the shape of `specCost`. -/
theorem totalCost_unordered_node (c : Costs) (ol or : OTree) (s : Path) (f : List Nat) (x y : Sol) :
    totalCost c .unordered (.node ol or) (.node s f x y) =
      (match localUnordLosses (internalEvent s x.sp y.sp) (comparable s x.sp) f x.fam y.fam with
        | some k => localRecCost c s x.sp y.sp + .fin (k * c.sloss)
        | none => .inf) +
        (totalCost c .unordered ol x + totalCost c .unordered or y) := by
  simp only [totalCost, labelingCost, unordLosses, recCost_node]
  cases localUnordLosses (internalEvent s x.sp y.sp) (comparable s x.sp) f x.fam y.fam <;>
    cases unordLosses x <;> cases unordLosses y <;>
    simp only [Option.map, inf_add, add_inf, Nat.add_mul, ← fin_add_fin_eq]
  ac_rfl

theorem specCost_unordered_eq_totalCost (c : Costs) (whole : OTree) :
    ∀ (sub : OTree) (p : Path) (σ : Sol), Spec.validUnLabels whole p sub σ = true →
      Spec.validRec sub σ = true →
      Spec.specCost c .unordered whole p σ = totalCost c .unordered sub σ := by
  intro sub
  induction sub with
  | leaf sp f0 =>
    intro p σ _ hr
    cases σ with
    | node => simp [Spec.validRec] at hr
    | leaf s g =>
      simp only [Spec.validRec, beq_iff_eq] at hr
      simp [Spec.specCost, totalCost, labelingCost, unordLosses, recCost, hr]
  | node l r ihl ihr =>
    intro p σ hv hr
    cases σ with
    | leaf => simp [Spec.validRec] at hr
    | node s f x y =>
      simp only [Spec.validUnLabels, Bool.and_eq_true] at hv
      simp only [Spec.validRec, Bool.and_eq_true] at hr
      rw [Spec.specCost, ihl _ x hv.1.2 hr.1.2, ihr _ y hv.2 hr.2, totalCost_unordered_node,
        localCost_unordered_eq_gl c hv.1.1.1.2 hv.1.1.2, gl_unordered]

/-- Kinds faithful at the root: the form C03 and C10 use. -/
theorem faithful_root (c : Costs) (S : RTree) (base : Bool) (o : OTree) (ls : LSol Kind)
    (hadm : Adm (unAlg c) (annUn S base o [] o) ls) (hroot : ls.lab = .lca)
    (hfin : labCost (unAlg c) c (annUn S base o [] o) ls ≠ .inf) :
    totalCost c .unordered o (unSol (annUn S base o [] o) (annUn S base o [] o).data.lcaSet ls) =
      labCost (unAlg c) c (annUn S base o [] o) ls := by
  have hb : Between o [] (contentAt o [] (annUn S base o [] o).data.lcaSet ls.lab) := by
    rw [hroot]; exact between_lca ..
  have hrec := validRec_unSol c S base o o [] (annUn S base o [] o).data.lcaSet ls hadm
    (valid_of_labCost_fin _ c _ ls hfin)
  rw [unSol_eq_decodeAt c S base o o [] _ ls (isSub_root o) hadm] at hrec ⊢
  rw [← specCost_unordered_eq_totalCost c o o [] _
    (decodeAt_valid c S base o o [] _ ls (isSub_root o) hadm hb) hrec]
  exact faithful_spec c S base o o [] _ ls (isSub_root o) hadm (edgesFinite_of_finite c _ ls hfin) hb
    (fun h => nomatch hroot ▸ h)

end SR
