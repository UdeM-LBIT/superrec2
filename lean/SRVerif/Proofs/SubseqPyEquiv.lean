/-
  The functions generated from `superrec2/utils/subsequences.py` (`Generated/SubseqPy.lean`) equal
  the model `Model/Subseq.lean` on ALL inputs, exceptions included: one lemma per generated loop
  (`mask_loop`, `from_loop`, `seg_loop`; induction on the iterated list or on the fuel), then one
  theorem per Python function.  `subseq_from_mask` raises `IndexError` exactly when the model is
  `none`, and its fuel `bit_length(child)` suffices.  How these proofs depend on the printed text:
  head of `Proofs/PyRt.lean`.
-/
import SRVerif.Generated.SubseqPy
import SRVerif.Proofs.SubseqSeq
import SRVerif.Proofs.PyRt

namespace SR.SubseqPyProofs
open SR SR.Py SR.Gen.Subseq SR.SubseqProofs

theorem py_bitLength_eq (n : Nat) : Py.bitLength n = SR.bitLength n := by
  unfold Py.bitLength
  split
  · subst_vars; unfold SR.bitLength; rfl
  · rename_i h; rw [bitLength_eq n h]

variable {α : Type} [DecidableEq α]

theorem subseq_complete_eq (s : List α) :
    subseq_complete s = .ok ((subseqComplete s : Nat) : Int) := by
  unfold subseq_complete subseqComplete
  rw [Nat.one_shiftLeft]
  have : 0 < 2 ^ s.length := Nat.two_pow_pos _
  congr 1; omega

theorem maskFromSubseq_nil_right (c : List α) : maskFromSubseq c [] = 0 :=
  SubseqProofs.maskFromSubseq_nil_right c

theorem or_shift_eq {m k : Nat} (hm : m < 2 ^ k) : m ||| 1 <<< k = m + 2 ^ k := by
  rw [Nat.or_comm, ← Nat.shiftLeft_add_eq_or_of_lt hm, Nat.one_shiftLeft, Nat.add_comm]

theorem mask_loop (child : List α) : ∀ (ps : List α) (k ci m : Nat), ci ≤ child.length → m < 2 ^ k →
    ∃ ci', mask_from_subseq.loop1 child (ps.zipIdx k) (ci, m)
      = .next (ci', m + 2 ^ k * maskFromSubseq (child.drop ci) ps) := by
  intro ps
  induction ps with
  | nil => intro k ci m _ _; exact ⟨ci, by simp [mask_from_subseq.loop1]⟩
  | cons p ps ih =>
    intro k ci m hci hm
    rw [List.zipIdx_cons, mask_from_subseq.loop1]
    by_cases hlen : ci = child.length
    · refine ⟨ci, ?_⟩
      simp [hlen]
    · have hlt : ci < child.length := by omega
      rw [if_neg hlen, List.getElem?_eq_getElem hlt, List.drop_eq_getElem_cons hlt]
      simp only []
      by_cases hp : child[ci] = p
      · simp only [hp, if_true]
        obtain ⟨ci', h⟩ := ih (k + 1) (ci + 1) (m ||| 1 <<< k) (by omega)
          (by rw [or_shift_eq hm, Nat.pow_succ]; omega)
        refine ⟨ci', ?_⟩
        rw [h, or_shift_eq hm, maskFromSubseq_cons_self, Nat.pow_succ, Nat.mul_add, Nat.mul_one,
          Nat.mul_assoc, Nat.add_assoc]
      · simp only [hp, if_false]
        obtain ⟨ci', h⟩ := ih (k + 1) ci m hci (by rw [Nat.pow_succ]; omega)
        refine ⟨ci', ?_⟩
        rw [h, maskFromSubseq_cons_ne hp, Nat.pow_succ, Nat.mul_assoc, ← List.drop_eq_getElem_cons hlt]

theorem mask_from_subseq_eq (child parent : List α) :
    mask_from_subseq child parent = .ok (maskFromSubseq child parent) := by
  unfold mask_from_subseq
  obtain ⟨ci', h⟩ := mask_loop child parent 0 0 0 (Nat.zero_le _) (by simp)
  simp only [h]
  simp

theorem py_bitLength_zero : Py.bitLength 0 = 0 := rfl

/-- The `while child:` loop from any state: it shifts `child` down to 0, one bit per round, so
    `bit_length(child)` rounds of fuel suffice. -/
theorem from_loop (parent : List α) : ∀ (fuel c : Nat) (res : List α) (i : Nat), Py.bitLength c ≤ fuel →
    subseq_from_mask.loop1 parent fuel (c, res, i) =
      match subseqFromMask c (parent.drop i) with
      | none => .err .IndexError
      | some r => .next (0, res ++ r, i + Py.bitLength c) := by
  intro fuel
  induction fuel with
  | zero =>
    intro c res i h
    obtain rfl : c = 0 := Py.bitLength_eq_zero (by omega)
    simp [subseq_from_mask.loop1, subseqFromMask_zero, py_bitLength_zero]
  | succ fuel ih =>
    intro c res i h
    by_cases hc : c = 0
    · subst hc
      simp [subseq_from_mask.loop1, subseqFromMask_zero, py_bitLength_zero]
    · have hb := Py.bitLength_half hc
      rw [subseq_from_mask.loop1]
      simp only [ne_eq, hc, not_false_eq_true, if_true, Nat.and_one_is_mod,
        Nat.shiftRight_eq_div_pow, Nat.pow_one, ih (c / 2) _ (i + 1) (by omega), hb,
        ← Nat.add_assoc, Nat.add_right_comm i _ 1]
      cases hi : parent[i]? with
      | none =>
        -- past the end of the parent: the model fails, the code fails at the next set bit
        have hlen := List.getElem?_eq_none_iff.1 hi
        rw [List.drop_eq_nil_of_le hlen, List.drop_eq_nil_of_le (by omega), subseqFromMask_nil,
          subseqFromMask_nil, if_neg hc]
        by_cases hodd : c % 2 = 0
        · rw [if_neg (by omega), if_neg (by omega)]
        · rw [if_pos hodd]
      | some x =>
        obtain ⟨hlt, rfl⟩ := List.getElem?_eq_some_iff.1 hi
        rw [List.drop_eq_getElem_cons hlt, subseqFromMask_cons]
        by_cases hb : c % 2 = 1 <;>
          cases subseqFromMask (c / 2) (List.drop (i + 1) parent) <;> simp [hb]

theorem subseq_from_mask_eq (child : Nat) (parent : List α) :
    subseq_from_mask child parent = Py.ofOption .IndexError (subseqFromMask child parent) := by
  unfold subseq_from_mask
  simp only [from_loop parent _ child [] 0 (Nat.le_refl _), List.drop_zero]
  cases subseqFromMask child parent <;> simp [Py.ofOption]

/-- The model's `segLoop` result as the outcome of the generated loop: `none` is the early
    `return -1`, a state is the tuple of loop-carried variables. -/
def segOut : Option SegState → Ctl (Nat × Nat × Bool × Int) Int
  | none => .ret (-1)
  | some st => .next (st.child, st.parent, st.inSegm, st.dist)

theorem seg_loop : ∀ (l : List Nat) (c p : Nat) (s : Bool) (d : Int),
    subseq_segment_dist.loop1 l (c, p, s, d)
      = segOut (segLoop l.length { child := c, parent := p, inSegm := s, dist := d }) := by
  intro l
  induction l with
  | nil => intro c p s d; simp [subseq_segment_dist.loop1, segLoop, segOut]
  | cons x l ih =>
    intro c p s d
    rw [subseq_segment_dist.loop1, List.length_cons, segLoop, segStep]
    simp only [Nat.and_one_is_mod, Nat.shiftRight_eq_div_pow, Nat.pow_one]
    have hc : c % 2 = 0 ∨ c % 2 = 1 := by omega
    have hp : p % 2 = 0 ∨ p % 2 = 1 := by omega
    rcases hc with hc | hc <;> rcases hp with hp | hp <;> cases s <;>
      simp [hc, hp, ih, segOut]

theorem subseq_segment_dist_eq (child parent : Nat) (edges : Bool) :
    subseq_segment_dist child parent edges = .ok (subseqSegmentDist child parent edges) := by
  unfold subseq_segment_dist subseqSegmentDist
  simp only [py_bitLength_eq, seg_loop, List.length_range]
  by_cases h : bitLength parent < bitLength child
  · simp [h]
  · simp only [h, if_false]
    cases segLoop (bitLength parent) { child := child, parent := parent, inSegm := !edges, dist := 0 } with
    | none => simp [segOut]
    | some st => cases edges <;> cases hs : st.inSegm <;> simp [segOut, hs]

end SR.SubseqPyProofs
