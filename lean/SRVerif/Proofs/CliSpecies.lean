/-
  C12: the prefixes `get_species_mapping` tries for a leaf name (`split("_")`,
  then `"_".join(parts[:i])` for `i = 1 … len(parts) - 1`) are the prefixes of the
  name that are followed by an underscore, shortest first.
-/
import SRVerif.Model.Serialize

namespace SR.Cli

open SR.Ser

/-- Specification: the prefixes of `nm` immediately followed by `'_'`, by increasing length. -/
def underscorePrefixes : List Char → List (List Char)
  | [] => []
  | c :: cs =>
    if c == '_' then [] :: (underscorePrefixes cs).map (c :: ·)
    else (underscorePrefixes cs).map (c :: ·)

theorem mem_underscorePrefixes : ∀ (nm p : List Char),
    p ∈ underscorePrefixes nm ↔ ∃ rest, nm = p ++ '_' :: rest
  | [], p => by simp [underscorePrefixes]
  | c :: cs, [] => by
    by_cases hc : c = '_' <;> simp [underscorePrefixes, hc]
  | c :: cs, d :: p => by
    have ih := mem_underscorePrefixes cs p
    -- both sides say `c = d` and `p ∈ underscorePrefixes cs`, in opposite orders
    by_cases hc : c = '_' <;> simp [underscorePrefixes, hc, ih] <;> exact and_comm

theorem underscorePrefixes_sorted : ∀ nm : List Char,
    (underscorePrefixes nm).Pairwise (fun a b => a.length < b.length)
  | [] => by simp [underscorePrefixes]
  | c :: cs => by
    have ih := underscorePrefixes_sorted cs
    by_cases hc : c = '_' <;> simp [underscorePrefixes, hc, List.pairwise_map, ih]

theorem splitU_ne_nil : ∀ cs : List Char, ∃ p ps, splitU cs = p :: ps
  | [] => ⟨[], [], rfl⟩
  | c :: cs => by
    obtain ⟨p, ps, h⟩ := splitU_ne_nil cs
    simp only [splitU, h]
    split <;> exact ⟨_, _, rfl⟩

theorem joinU_cons_cons (c : Char) (p : List Char) (r : List (List Char)) :
    joinU ((c :: p) :: r) = c :: joinU (p :: r) := by
  cases r <;> simp [joinU]

/-- The candidates before lower-casing, the index counted from 0. -/
def cands0 (nm : List Char) : List (List Char) :=
  (List.range ((splitU nm).length - 1)).map (fun i => joinU ((splitU nm).take (i + 1)))

theorem cands0_eq : ∀ nm : List Char, cands0 nm = underscorePrefixes nm
  | [] => by simp [cands0, splitU, underscorePrefixes]
  | c :: cs => by
    have ih := cands0_eq cs
    obtain ⟨p, ps, hs⟩ := splitU_ne_nil cs
    simp only [cands0, hs, List.length_cons, Nat.add_sub_cancel, List.take_succ_cons] at ih
    simp only [cands0, splitU, hs, underscorePrefixes, ← ih]
    -- an underscore opens a new first part: one more candidate, the others shift by one
    by_cases hc : c = '_'
    · simp [hc, List.range_succ_eq_map, List.take_succ_cons, joinU, Function.comp_def]
    · simp [hc, List.take_succ_cons, joinU_cons_cons, Function.comp_def]

theorem prefixCands_eq (nm : List Char) : prefixCands nm = (underscorePrefixes nm).map lowerChars := by
  rw [← cands0_eq]
  simp [prefixCands, cands0, List.range'_eq_map_range, List.map_map, Function.comp_def, Nat.add_comm]

end SR.Cli
