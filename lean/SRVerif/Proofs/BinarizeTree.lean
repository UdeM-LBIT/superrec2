/-
  C08, `binarize` on trees of arbitrary arity: every member has the leaves of the input,
  keeps every clade with its annotation and carries no other annotation (`binarize_sound`);
  there are Π (2k−3)‼ of them; the executable specification (`isRefinementB`, `keepsAnnB`)
  agrees with the propositional one.
-/
import SRVerif.Proofs.Binarize

namespace SR.Bin

open BTree

theorem leaves_subst (s : BTree BinT) : (subst s).leaves = s.items.flatMap BinT.leaves := by
  induction s with
  | item d => simp [subst, BTree.items]
  | node l r ihl ihr => simp [subst, BTree.items, BinT.leaves, ihl, ihr]

theorem BinT.leaves_setAnn (a : Option Nat) (b : BinT) : (b.setAnn a).leaves = b.leaves := by
  cases b <;> rfl

theorem inner_subst_of_mem {s : BTree BinT} {d : BinT} (hd : d ∈ s.items)
    {c : List Nat × Option Nat} (hc : c ∈ d.inner) : c ∈ (subst s).inner := by
  induction s with
  | item d' =>
    simp only [BTree.items, List.mem_singleton] at hd
    subst hd; exact hc
  | node l r ihl ihr =>
    simp only [BTree.items, List.mem_append] at hd
    simp only [subst, BinT.inner, List.mem_cons, List.mem_append]
    rcases hd with hd | hd
    · exact Or.inr (Or.inl (ihl hd))
    · exact Or.inr (Or.inr (ihr hd))

theorem mem_inner_subst {s : BTree BinT} {c : List Nat × Option Nat} (hc : c ∈ (subst s).inner) :
    (∃ d ∈ s.items, c ∈ d.inner) ∨
      (c.2 = none ∧ ∃ d₁ d₂, [d₁, d₂].Sublist s.items ∧
        (∀ x ∈ d₁.leaves, x ∈ c.1) ∧ ∀ x ∈ d₂.leaves, x ∈ c.1) := by
  induction s with
  | item d => exact Or.inl ⟨d, BTree.mem_item d, hc⟩
  | node l r ihl ihr =>
    simp only [subst, BinT.inner, List.mem_cons, List.mem_append] at hc
    rcases hc with rfl | hc | hc
    · obtain ⟨d₁, hd₁⟩ := BTree.exists_mem_items l
      obtain ⟨d₂, hd₂⟩ := BTree.exists_mem_items r
      exact Or.inr ⟨rfl, d₁, d₂,
        (List.singleton_sublist.mpr hd₁).append (List.singleton_sublist.mpr hd₂),
        fun x hx => List.mem_append_left _ (leaves_subst l ▸ List.mem_flatMap.mpr ⟨d₁, hd₁, hx⟩),
        fun x hx => List.mem_append_right _ (leaves_subst r ▸ List.mem_flatMap.mpr ⟨d₂, hd₂, hx⟩)⟩
    · rcases ihl hc with ⟨d, hd, h⟩ | ⟨hn, d₁, d₂, hs, h⟩
      · exact Or.inl ⟨d, BTree.mem_node_left hd, h⟩
      · exact Or.inr ⟨hn, d₁, d₂, hs.trans (List.sublist_append_left _ _), h⟩
    · rcases ihr hc with ⟨d, hd, h⟩ | ⟨hn, d₁, d₂, hs, h⟩
      · exact Or.inl ⟨d, BTree.mem_node_right hd, h⟩
      · exact Or.inr ⟨hn, d₁, d₂, hs.trans (List.sublist_append_right _ _), h⟩

theorem BTree.eq_node_of_two_le {α : Type} (s : BTree α) (h : 2 ≤ s.items.length) :
    ∃ l r, s = .node l r := by
  cases s with
  | item a => simp [BTree.items] at h
  | node l r => exact ⟨l, r, rfl⟩

theorem mem_binarizeChildren_cons {c : NTree} {cs : List NTree} {descs : List BinT} :
    descs ∈ binarizeChildren (c :: cs) ↔
      ∃ d ds, descs = d :: ds ∧ d ∈ binarize c ∧ ds ∈ binarizeChildren cs := by
  rw [binarizeChildren]
  simp only [List.mem_flatMap, List.mem_map]
  constructor
  · rintro ⟨d, hd, ds, hds, rfl⟩; exact ⟨d, ds, rfl, hd, hds⟩
  · rintro ⟨d, ds, rfl, hd, hds⟩; exact ⟨d, hd, ds, hds, rfl⟩

theorem mem_binarizeChildren_nil {descs : List BinT} : descs ∈ binarizeChildren [] ↔ descs = [] := by
  rw [binarizeChildren]; simp

theorem mem_binarize_node {a : Option Nat} {cs : List NTree} {b : BinT} :
    b ∈ binarize (.node a cs) ↔
      ∃ descs ∈ binarizeChildren cs, ∃ s ∈ arrange descs, b = (subst s).setAnn a := by
  rw [binarize]
  simp only [List.mem_flatMap, List.mem_map]
  constructor
  · rintro ⟨descs, hd, s, hs, rfl⟩; exact ⟨descs, hd, s, hs, rfl⟩
  · rintro ⟨descs, hd, s, hs, rfl⟩; exact ⟨descs, hd, s, hs, rfl⟩

/-- What a member `b` of `binarize t` satisfies. -/
def Sound (b : BinT) (t : NTree) : Prop :=
  b.leaves.Perm t.leaves ∧
  (∀ c ∈ t.inner, ∃ c' ∈ b.inner, c'.1.Perm c.1 ∧ c'.2 = c.2) ∧
  (∀ c' ∈ b.inner, c'.2 ≠ none → ∃ c ∈ t.inner, c'.1.Perm c.1 ∧ c'.2 = c.2)

/-- The same for a tuple of refinements of the children. -/
def SoundL (descs : List BinT) (cs : List NTree) : Prop :=
  descs.length = cs.length ∧
  (descs.flatMap BinT.leaves).Perm (NTree.leavesList cs) ∧
  (∀ c ∈ NTree.innerList cs, ∃ d ∈ descs, ∃ c' ∈ d.inner, c'.1.Perm c.1 ∧ c'.2 = c.2) ∧
  (∀ d ∈ descs, ∀ c' ∈ d.inner, c'.2 ≠ none →
    ∃ c ∈ NTree.innerList cs, c'.1.Perm c.1 ∧ c'.2 = c.2)

theorem sound_node {a : Option Nat} {cs : List NTree} (hk : 2 ≤ cs.length) {descs : List BinT}
    (hl : SoundL descs cs) {s : BTree BinT} (hs : s ∈ arrange descs) :
    Sound ((subst s).setAnn a) (.node a cs) := by
  obtain ⟨hlen, hleaves, hkeep, hfrom⟩ := hl
  have hp := items_arrange hs
  obtain ⟨l, r, rfl⟩ := BTree.eq_node_of_two_le s (by rw [hp.length_eq, hlen]; exact hk)
  have hlv : ((subst (.node l r)).setAnn a).leaves.Perm (NTree.leavesList cs) := by
    rw [BinT.leaves_setAnn, leaves_subst]
    exact (hp.flatMap_right _).trans hleaves
  have hroot : ((subst (.node l r)).setAnn a).inner =
      (((subst (.node l r)).setAnn a).leaves, a) :: ((subst l).inner ++ (subst r).inner) := rfl
  refine ⟨by rw [NTree.leaves]; exact hlv, ?_, ?_⟩
  · intro c hc
    rw [NTree.inner, List.mem_cons] at hc
    rcases hc with rfl | hc
    · exact ⟨(((subst (.node l r)).setAnn a).leaves, a), by rw [hroot]; exact List.mem_cons_self,
        hlv, rfl⟩
    · obtain ⟨d, hd, c', hc', h⟩ := hkeep c hc
      have hdi : d ∈ (BTree.node l r).items := hp.mem_iff.mpr hd
      refine ⟨c', ?_, h⟩
      rw [hroot, List.mem_cons, List.mem_append]
      right
      simp only [BTree.items, List.mem_append] at hdi
      rcases hdi with hdi | hdi
      · exact Or.inl (inner_subst_of_mem hdi hc')
      · exact Or.inr (inner_subst_of_mem hdi hc')
  · intro c' hc' hne
    rw [hroot, List.mem_cons, List.mem_append] at hc'
    rcases hc' with rfl | hc'
    · exact ⟨(NTree.leavesList cs, a), by rw [NTree.inner]; exact List.mem_cons_self, hlv, rfl⟩
    · have hmem : ∃ d ∈ (BTree.node l r).items, c' ∈ d.inner := by
        rcases hc' with hc' | hc'
        · rcases mem_inner_subst hc' with ⟨d, hd, h⟩ | ⟨h, _⟩
          · exact ⟨d, BTree.mem_node_left hd, h⟩
          · exact absurd h hne
        · rcases mem_inner_subst hc' with ⟨d, hd, h⟩ | ⟨h, _⟩
          · exact ⟨d, BTree.mem_node_right hd, h⟩
          · exact absurd h hne
      obtain ⟨d, hd, hcd⟩ := hmem
      obtain ⟨c, hc, h⟩ := hfrom d (hp.mem_iff.mp hd) c' hcd hne
      exact ⟨c, by rw [NTree.inner]; exact List.mem_cons_of_mem _ hc, h⟩

mutual
  theorem binarize_sound : ∀ (t : NTree), t.WF = true → ∀ b ∈ binarize t, Sound b t
    | .leaf i, _, b, hb => by
      rw [binarize, List.mem_singleton] at hb
      subst hb
      exact ⟨.refl _, fun _ h => absurd h List.not_mem_nil,
        fun _ h => absurd h List.not_mem_nil⟩
    | .node a cs, hwf, b, hb => by
      rw [NTree.WF, Bool.and_eq_true, decide_eq_true_eq] at hwf
      obtain ⟨descs, hd, s, hs, rfl⟩ := mem_binarize_node.mp hb
      exact sound_node hwf.1 (binarizeChildren_sound cs hwf.2 descs hd) hs
  theorem binarizeChildren_sound : ∀ (cs : List NTree), NTree.WFList cs = true →
      ∀ descs ∈ binarizeChildren cs, SoundL descs cs
    | [], _, descs, hd => by
      rw [mem_binarizeChildren_nil] at hd
      subst hd
      exact ⟨rfl, .refl _, fun _ h => absurd h List.not_mem_nil,
        fun _ h => absurd h List.not_mem_nil⟩
    | c :: cs, hwf, descs, hd => by
      rw [NTree.WFList, Bool.and_eq_true] at hwf
      obtain ⟨d, ds, rfl, hdc, hds⟩ := mem_binarizeChildren_cons.mp hd
      obtain ⟨h1, h2, h3⟩ := binarize_sound c hwf.1 d hdc
      obtain ⟨g0, g1, g2, g3⟩ := binarizeChildren_sound cs hwf.2 ds hds
      refine ⟨congrArg (· + 1) g0, ?_, ?_, ?_⟩
      · rw [List.flatMap_cons, NTree.leavesList]; exact h1.append g1
      · intro x hx
        rw [NTree.innerList, List.mem_append] at hx
        rcases hx with hx | hx
        · obtain ⟨c', hc', h⟩ := h2 x hx
          exact ⟨d, List.mem_cons_self, c', hc', h⟩
        · obtain ⟨d', hd', c', hc', h⟩ := g2 x hx
          exact ⟨d', List.mem_cons_of_mem _ hd', c', hc', h⟩
      · intro d' hd' c' hc' hne
        rw [NTree.innerList]
        rcases List.mem_cons.mp hd' with rfl | hd'
        · obtain ⟨x, hx, h⟩ := h3 c' hc' hne
          exact ⟨x, List.mem_append_left _ hx, h⟩
        · obtain ⟨x, hx, h⟩ := g3 d' hd' c' hc' hne
          exact ⟨x, List.mem_append_right _ hx, h⟩
end

mutual
  theorem length_binarize : ∀ (t : NTree), t.WF = true → (binarize t).length = Spec.refCount t
    | .leaf i, _ => rfl
    | .node a cs, hwf => by
      rw [NTree.WF, Bool.and_eq_true, decide_eq_true_eq] at hwf
      obtain ⟨hlen, hprod⟩ := length_binarizeChildren cs hwf.2
      rw [binarize, Spec.refCount,
        length_flatMap_const _ _ (Spec.dfact (2 * cs.length - 3)), hprod, Nat.mul_comm]
      intro descs hd
      have hl := hlen descs hd
      rw [List.length_map, length_arrange descs (by intro h; rw [h] at hl; simp at hl; omega), hl]
  theorem length_binarizeChildren : ∀ (cs : List NTree), NTree.WFList cs = true →
      (∀ descs ∈ binarizeChildren cs, descs.length = cs.length) ∧
      (binarizeChildren cs).length = Spec.refCountList cs
    | [], _ => ⟨fun descs hd => by rw [mem_binarizeChildren_nil.mp hd]; rfl, rfl⟩
    | c :: cs, hwf => by
      rw [NTree.WFList, Bool.and_eq_true] at hwf
      obtain ⟨hlen, hprod⟩ := length_binarizeChildren cs hwf.2
      refine ⟨?_, ?_⟩
      · intro descs hd
        obtain ⟨d, ds, rfl, _, hds⟩ := mem_binarizeChildren_cons.mp hd
        rw [List.length_cons, hlen ds hds, List.length_cons]
      · rw [binarizeChildren, Spec.refCountList,
          length_flatMap_const _ _ (Spec.refCountList cs), length_binarize c hwf.1]
        intro d _
        rw [List.length_map, hprod]
end

theorem sortIds_eq_iff {l l' : List Nat} : Spec.sortIds l = Spec.sortIds l' ↔ l.Perm l' := by
  unfold Spec.sortIds
  constructor
  · intro h
    exact (List.mergeSort_perm l _).symm.trans (h ▸ List.mergeSort_perm l' _)
  · intro h
    have hs : ∀ l : List Nat, (l.mergeSort (fun a b => decide (a ≤ b))).Pairwise
        (fun a b => decide (a ≤ b) = true) := fun l =>
      List.pairwise_mergeSort (fun a b c hab hbc => by simp at *; omega)
        (fun a b => by simp; omega) l
    refine List.Perm.eq_of_pairwise (le := fun a b => decide (a ≤ b) = true) ?_ (hs l) (hs l') ?_
    · intro a b _ _ h1 h2; simp at h1 h2; omega
    · exact (List.mergeSort_perm l _).trans (h.trans (List.mergeSort_perm l' _).symm)

theorem isRefinementB_iff (b t : NTree) : Spec.isRefinementB b t = true ↔ Spec.IsRefinement b t := by
  simp only [Spec.isRefinementB, Spec.IsRefinement, Bool.and_eq_true, List.all_eq_true,
    List.any_eq_true, beq_iff_eq, sortIds_eq_iff, and_assoc]

theorem keepsAnnB_iff (b t : NTree) : Spec.keepsAnnB b t = true ↔ Spec.KeepsAnn b t := by
  simp only [Spec.keepsAnnB, Spec.KeepsAnn, Bool.and_eq_true, List.all_eq_true,
    List.any_eq_true, beq_iff_eq, sortIds_eq_iff, Bool.or_eq_true]
  constructor
  · rintro ⟨h1, h2⟩
    refine ⟨h1, fun c' hc' hne => ?_⟩
    rcases h2 c' hc' with h | h
    · exact absurd h hne
    · exact h
  · rintro ⟨h1, h2⟩
    refine ⟨h1, fun c' hc' => ?_⟩
    by_cases hne : c'.2 = none
    · exact Or.inl hne
    · exact Or.inr (h2 c' hc' hne)

theorem BinT.leaves_toN (b : BinT) : b.toN.leaves = b.leaves := by
  induction b with
  | leaf i => rfl
  | node a l r ihl ihr => simp [BinT.toN, NTree.leaves, NTree.leavesList, BinT.leaves, ihl, ihr]

theorem BinT.inner_toN (b : BinT) : b.toN.inner = b.inner := by
  induction b with
  | leaf i => rfl
  | node a l r ihl ihr =>
    simp [BinT.toN, NTree.inner, NTree.innerList, NTree.leavesList, BinT.inner, ihl, ihr,
      BinT.leaves_toN]

theorem BinT.WF_toN (b : BinT) : b.toN.WF = true := by
  induction b with
  | leaf i => rfl
  | node a l r ihl ihr => simp [BinT.toN, NTree.WF, NTree.WFList, ihl, ihr]

theorem BinT.isBinary_toN (b : BinT) : b.toN.isBinary = true := by
  induction b with
  | leaf i => rfl
  | node a l r ihl ihr => simp [BinT.toN, NTree.isBinary, NTree.isBinaryList, ihl, ihr]

end SR.Bin
