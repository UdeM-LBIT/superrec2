/-
  Basic lemmas on paths: `isAnc` is the prefix relation (`isAnc_iff_prefix`, or `x = s ++ t`:
  `isAnc_iff_append`), `lcp` the greatest common prefix, `dist` the length difference below an
  ancestor; how they behave under a common prefix `s ++ ·`; a path against its children
  `p ++ [i]` (stated with `isAnc` or with `<+:`, whichever the users speak).
-/
import SRVerif.Model.Paths

namespace SR.Path

theorem isAnc_iff_prefix (p q : Path) : isAnc p q = true ↔ p <+: q := by
  induction p generalizing q with
  | nil => simp [isAnc]
  | cons a p ih =>
    cases q with
    | nil => simp [isAnc]
    | cons b q =>
      simp only [isAnc, Bool.and_eq_true, beq_iff_eq, ih, List.cons_prefix_cons]

theorem isAnc_refl (p : Path) : isAnc p p = true := by
  rw [isAnc_iff_prefix]; exact List.prefix_refl p

theorem isAnc_nil (p : Path) : isAnc [] p = true := by simp [isAnc]

theorem isAnc_trans {p q r : Path} (h1 : isAnc p q = true) (h2 : isAnc q r = true) :
    isAnc p r = true := by
  rw [isAnc_iff_prefix] at *; exact List.IsPrefix.trans h1 h2

theorem isAnc_antisymm {p q : Path} (h1 : isAnc p q = true) (h2 : isAnc q p = true) : p = q := by
  rw [isAnc_iff_prefix] at *
  exact List.IsPrefix.eq_of_length_le h1 h2.length_le

theorem lcp_isAnc_left (p q : Path) : isAnc (lcp p q) p = true := by
  induction p generalizing q with
  | nil => cases q <;> simp [lcp, isAnc]
  | cons a p ih =>
    cases q with
    | nil => simp [lcp, isAnc]
    | cons b q =>
      simp only [lcp]
      split
      · simp [isAnc, ih]
      · simp [isAnc]

theorem lcp_comm (p q : Path) : lcp p q = lcp q p := by
  induction p generalizing q with
  | nil => cases q <;> simp [lcp]
  | cons a p ih =>
    cases q with
    | nil => simp [lcp]
    | cons b q =>
      simp only [lcp]
      by_cases h : a = b
      · subst h; simp [ih]
      · have h' : ¬ b = a := fun e => h e.symm
        simp [h, h']

theorem lcp_isAnc_right (p q : Path) : isAnc (lcp p q) q = true := by
  rw [lcp_comm]; exact lcp_isAnc_left q p

theorem isAnc_lcp {r p q : Path} (h1 : isAnc r p = true) (h2 : isAnc r q = true) :
    isAnc r (lcp p q) = true := by
  induction r generalizing p q with
  | nil => simp [isAnc]
  | cons a r ih =>
    cases p with
    | nil => simp [isAnc] at h1
    | cons b p =>
      cases q with
      | nil => simp [isAnc] at h2
      | cons c q =>
        simp only [isAnc, Bool.and_eq_true, beq_iff_eq] at h1 h2
        obtain ⟨rfl, h1⟩ := h1
        obtain ⟨rfl, h2⟩ := h2
        simp only [lcp, beq_self_eq_true, if_true, isAnc, ih h1 h2, Bool.and_self]

theorem lcp_nil_right (p : Path) : lcp p [] = [] := by cases p <;> rfl

theorem lcp_self (p : Path) : lcp p p = p := by
  induction p with
  | nil => simp [lcp]
  | cons a p ih => simp [lcp, ih]

theorem lcp_eq_left_of_isAnc {p q : Path} (h : isAnc p q = true) : lcp p q = p := by
  apply isAnc_antisymm (lcp_isAnc_left p q)
  exact isAnc_lcp (isAnc_refl p) h

theorem isStrictAnc_iff (p q : Path) : isStrictAnc p q = true ↔ isAnc p q = true ∧ p ≠ q := by
  simp [isStrictAnc]

theorem length_le_of_isAnc {p q : Path} (h : isAnc p q = true) : p.length ≤ q.length := by
  rw [isAnc_iff_prefix] at h; exact h.length_le

theorem dist_of_isAnc {p q : Path} (h : isAnc p q = true) : dist p q = q.length - p.length := by
  simp only [dist, lcp_eq_left_of_isAnc h]
  have := length_le_of_isAnc h
  omega

theorem isAnc_iff_append {s x : Path} : isAnc s x = true ↔ ∃ t, x = s ++ t := by
  rw [isAnc_iff_prefix]
  exact ⟨fun ⟨t, h⟩ => ⟨t, h.symm⟩, fun ⟨t, h⟩ => ⟨t, h.symm⟩⟩

theorem isAnc_append (s t : Path) : isAnc s (s ++ t) = true :=
  (isAnc_iff_prefix _ _).mpr (List.prefix_append s t)

theorem isAnc_append_append (s a b : Path) : isAnc (s ++ a) (s ++ b) = isAnc a b := by
  rw [Bool.eq_iff_iff, isAnc_iff_prefix, isAnc_iff_prefix, List.prefix_append_right_inj]

theorem isAnc_cons_cons (i j : Nat) (a b : Path) : isAnc (i :: a) (j :: b) = (i == j && isAnc a b) := rfl

theorem isAnc_snoc_cons (s : Path) (i j : Nat) (w : Path) :
    isAnc (s ++ [i]) (s ++ j :: w) = decide (i = j) := by
  rw [isAnc_append_append, isAnc_cons_cons, isAnc_nil, Bool.and_true]
  rfl

theorem lcp_append_append (s a b : Path) : lcp (s ++ a) (s ++ b) = s ++ lcp a b := by
  induction s with
  | nil => rfl
  | cons i s ih => simp only [List.cons_append, lcp, beq_self_eq_true, if_true, ih]

theorem dist_append (s t : Path) : dist s (s ++ t) = t.length := by
  rw [dist_of_isAnc (isAnc_append s t)]; simp

theorem isAnc_of_snoc {p q : Path} {i : Nat} (h : isAnc (p ++ [i]) q = true) : isAnc p q = true :=
  isAnc_trans (isAnc_append p [i]) h

theorem prefix_of_snoc_prefix {p q : Path} {i : Nat} (h : p ++ [i] <+: q) : p <+: q :=
  (List.prefix_append p [i]).trans h

theorem snoc_ne_self (p : Path) (i : Nat) : p ++ [i] ≠ p := by
  intro h
  have := congrArg List.length h
  simp at this

theorem not_snoc_prefix_self (p : Path) (i : Nat) : ¬ p ++ [i] <+: p := by
  intro h
  have := h.length_le
  rw [List.length_append, List.length_singleton] at this
  omega

theorem not_snoc_prefix_sibling {p w : Path} {i j : Nat} (hij : i ≠ j) :
    ¬ p ++ [i] <+: p ++ j :: w := by
  rw [← isAnc_iff_prefix, isAnc_snoc_cons]
  simpa using hij

theorem not_snoc_prefix_of_snoc_prefix {p q : Path} {i j : Nat} (hij : i ≠ j) (h : p ++ [i] <+: q) :
    ¬ p ++ [j] <+: q := by
  obtain ⟨t, rfl⟩ := h
  rw [List.append_assoc]
  exact not_snoc_prefix_sibling (Ne.symm hij)

theorem not_isAnc_child0_of_child1 {s x : Path} (h : isAnc (s ++ [1]) x = true) :
    isAnc (s ++ [0]) x = false := by
  obtain ⟨t, rfl⟩ := isAnc_iff_append.mp h
  rw [List.append_assoc, isAnc_append_append]
  simp [isAnc]

theorem dist_child_pos {s x : Path} {i : Nat} (h : isAnc (s ++ [i]) x = true) :
    ∃ k, dist s x = k + 1 := by
  obtain ⟨t, rfl⟩ := isAnc_iff_append.mp h
  rw [List.append_assoc, dist_append]
  exact ⟨t.length, by simp⟩

theorem isAnc_false_iff {s x : Path} : isAnc s x = false ↔ ¬ isAnc s x = true := by simp

theorem isStrictAnc_false_of_isAnc {s a : Path} (h : isAnc s a = true) :
    isStrictAnc a s = false := by
  cases hs : isStrictAnc a s
  · rfl
  · rw [isStrictAnc_iff] at hs
    exact absurd (isAnc_antisymm hs.1 h) hs.2

theorem isStrictAnc_self_append (s t : Path) : isStrictAnc (s ++ t) s = false :=
  isStrictAnc_false_of_isAnc (isAnc_append s t)

theorem isAnc_total_of_isAnc {p q r : Path} (hp : isAnc p r = true) (hq : isAnc q r = true) :
    isAnc p q = true ∨ isAnc q p = true := by
  simp only [isAnc_iff_prefix] at *
  exact List.prefix_or_prefix_of_prefix hp hq

theorem isAnc_lcp_iff (r p q : Path) :
    isAnc r (lcp p q) = true ↔ isAnc r p = true ∧ isAnc r q = true :=
  ⟨fun h => ⟨isAnc_trans h (lcp_isAnc_left p q), isAnc_trans h (lcp_isAnc_right p q)⟩,
   fun h => isAnc_lcp h.1 h.2⟩

theorem isAnc_foldl_lcp (r : Path) (rest : List Path) (p : Path) :
    isAnc r (rest.foldl lcp p) = true ↔ isAnc r p = true ∧ ∀ q ∈ rest, isAnc r q = true := by
  induction rest generalizing p with
  | nil => simp
  | cons x xs ih =>
    simp only [List.foldl_cons, ih, isAnc_lcp_iff, List.mem_cons, forall_eq_or_imp]
    exact and_assoc

theorem eq_of_isAnc_of_length_le {p q : Path} (h : isAnc p q = true) (hl : q.length ≤ p.length) :
    p = q := by
  rw [isAnc_iff_prefix] at h
  exact List.IsPrefix.eq_of_length_le h hl

end SR.Path
