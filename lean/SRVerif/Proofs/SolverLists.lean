/-
  The list helpers of the solver models (`subsetB` of Model/Rec, `insertNew`/`dedup` of Model/LabelDP, `isSublist`,
  `sortNat`, `permutations`, `lcpAll` of Model/Solvers) tied to the shared forms of `Proofs/ListAux`, or
  characterised (`lcpAll` is an ancestor of every path it is taken over: hence the import of Proofs/Paths).
-/
import SRVerif.Proofs.ListAux
import SRVerif.Model.Solvers
import SRVerif.Proofs.Paths

namespace SR

theorem insertNew_eq_addNew {β : Type} [DecidableEq β] : @insertNew β _ = List.addNew := rfl

theorem dedup_eq_foldl_addNew {β : Type} [DecidableEq β] (l : List β) :
    dedup l = l.foldl List.addNew [] := rfl

theorem subsetB_eq_true_iff {a b : List Nat} : subsetB a b = true ↔ ∀ x ∈ a, x ∈ b := by
  simp only [subsetB, List.all_eq_true, List.contains_iff_mem]

theorem subsetB_eq_false_iff {a b : List Nat} : subsetB a b = false ↔ ∃ x ∈ a, x ∉ b := by
  rw [← Bool.not_eq_true, subsetB_eq_true_iff]
  simp only [Classical.not_forall, exists_prop]

theorem subsetB_eq_of_mem_iff {a a' b b' : List Nat} (ha : ∀ x, x ∈ a ↔ x ∈ a')
    (hb : ∀ x, x ∈ b ↔ x ∈ b') : subsetB a b = subsetB a' b' := by
  rw [Bool.eq_iff_iff, subsetB_eq_true_iff, subsetB_eq_true_iff]
  simp only [ha, hb]

theorem isSublist_eq (a b : List Nat) : isSublist a b = a.isSublist b := by
  induction b generalizing a with
  | nil => cases a <;> rfl
  | cons y b ih =>
    cases a with
    | nil => rfl
    | cons x a => rw [isSublist, List.isSublist, ih, ih]

theorem isSublist_iff_sublist {a b : List Nat} : isSublist a b = true ↔ a.Sublist b := by
  rw [isSublist_eq, List.isSublist_iff_sublist]

theorem sortNat_insert_perm (acc : List Nat) (x : Nat) :
    (acc.takeWhile (· < x) ++ [x] ++ acc.dropWhile (· < x)).Perm (x :: acc) := by
  rw [List.append_assoc, List.singleton_append]
  exact List.perm_middle.trans (by rw [List.takeWhile_append_dropWhile])

theorem sortNat_insert_sorted {acc : List Nat} (x : Nat) (h : acc.Pairwise (· ≤ ·)) :
    (acc.takeWhile (· < x) ++ [x] ++ acc.dropWhile (· < x)).Pairwise (· ≤ ·) := by
  induction acc with
  | nil => exact List.pairwise_singleton _ x
  | cons a acc ih =>
    rw [List.pairwise_cons] at h
    by_cases hax : a < x
    · have ht : (a :: acc).takeWhile (· < x) = a :: acc.takeWhile (· < x) :=
        List.takeWhile_cons_of_pos (decide_eq_true hax)
      have hd : (a :: acc).dropWhile (· < x) = acc.dropWhile (· < x) :=
        List.dropWhile_cons_of_pos (decide_eq_true hax)
      rw [ht, hd, List.cons_append, List.cons_append, List.pairwise_cons]
      refine ⟨fun b hb => ?_, ih h.2⟩
      rcases List.mem_cons.mp ((sortNat_insert_perm acc x).mem_iff.mp hb) with rfl | hb
      · exact Nat.le_of_lt hax
      · exact h.1 b hb
    · have ht : (a :: acc).takeWhile (· < x) = [] :=
        List.takeWhile_cons_of_neg (by simpa using hax)
      have hd : (a :: acc).dropWhile (· < x) = a :: acc :=
        List.dropWhile_cons_of_neg (by simpa using hax)
      have hxa : x ≤ a := Nat.le_of_not_lt hax
      rw [ht, hd, List.nil_append, List.singleton_append, List.pairwise_cons]
      refine ⟨fun b hb => ?_, List.pairwise_cons.mpr h⟩
      rcases List.mem_cons.mp hb with rfl | hb
      · exact hxa
      · exact Nat.le_trans hxa (h.1 b hb)

theorem sortNat_perm (l : List Nat) : (sortNat l).Perm l := by
  suffices ∀ acc : List Nat,
      (l.foldl (fun acc x => acc.takeWhile (· < x) ++ [x] ++ acc.dropWhile (· < x)) acc).Perm
        (l ++ acc) from (this []).trans (.of_eq (List.append_nil l))
  induction l with
  | nil => exact fun acc => .refl acc
  | cons x l ih =>
    exact fun acc => (ih _).trans (((sortNat_insert_perm acc x).append_left l).trans List.perm_middle)

theorem sortNat_sorted_le (l : List Nat) : (sortNat l).Pairwise (· ≤ ·) := by
  suffices ∀ acc : List Nat, acc.Pairwise (· ≤ ·) →
      (l.foldl (fun acc x => acc.takeWhile (· < x) ++ [x] ++ acc.dropWhile (· < x)) acc).Pairwise
        (· ≤ ·) from this [] .nil
  induction l with
  | nil => exact fun _ h => h
  | cons x l ih => exact fun acc h => ih _ (sortNat_insert_sorted x h)

theorem mem_sortNat_iff {l : List Nat} {x : Nat} : x ∈ sortNat l ↔ x ∈ l := (sortNat_perm l).mem_iff

theorem sortNat_sorted_lt {l : List Nat} (h : l.Nodup) : (sortNat l).Pairwise (· < ·) :=
  ((sortNat_sorted_le l).and ((sortNat_perm l).nodup_iff.mpr h)).imp
    fun hab => Nat.lt_of_le_of_ne hab.1 hab.2

theorem eq_of_sorted {l1 l2 : List Nat} (h1 : l1.Pairwise (· < ·)) (h2 : l2.Pairwise (· < ·))
    (h : ∀ x, x ∈ l1 ↔ x ∈ l2) : l1 = l2 :=
  List.eq_of_pairwise_of_mem_iff Nat.lt_irrefl (fun _ _ h h' => absurd h (Nat.lt_asymm h')) h1 h2 h

theorem sortNat_congr {l1 l2 : List Nat} (h1 : l1.Nodup) (h2 : l2.Nodup)
    (h : ∀ x, x ∈ l1 ↔ x ∈ l2) : sortNat l1 = sortNat l2 :=
  eq_of_sorted (sortNat_sorted_lt h1) (sortNat_sorted_lt h2)
    (fun x => by rw [mem_sortNat_iff, mem_sortNat_iff]; exact h x)

theorem perm_of_mem_insertEverywhere {β : Type} (x : β) (ys q : List β)
    (h : q ∈ insertEverywhere x ys) : q.Perm (x :: ys) := by
  induction ys generalizing q with
  | nil =>
    simp only [insertEverywhere, List.mem_singleton] at h
    subst h; exact .refl _
  | cons y ys ih =>
    simp only [insertEverywhere, List.mem_cons, List.mem_map] at h
    rcases h with rfl | ⟨q', hq', rfl⟩
    · exact .refl _
    · exact ((ih q' hq').cons y).trans (.swap x y ys)

theorem perm_of_mem_permutations {β : Type} (l p : List β) (h : p ∈ permutations l) : p.Perm l := by
  induction l generalizing p with
  | nil =>
    simp only [permutations, List.mem_singleton] at h
    subst h; exact .refl _
  | cons x xs ih =>
    simp only [permutations, List.mem_flatMap] at h
    obtain ⟨q, hq, hp⟩ := h
    exact (perm_of_mem_insertEverywhere x q p hp).trans ((ih q hq).cons x)

open Path in
theorem isAnc_lcpAll (r : Path) {ps : List Path} (h : ps ≠ []) :
    isAnc r (lcpAll ps) = true ↔ ∀ q ∈ ps, isAnc r q = true := by
  cases ps with
  | nil => exact absurd rfl h
  | cons p rest => simp only [lcpAll, isAnc_foldl_lcp, List.mem_cons, forall_eq_or_imp]

theorem mem_insertEverywhere_mid {β : Type} (x : β) (a b : List β) :
    a ++ x :: b ∈ insertEverywhere x (a ++ b) := by
  induction a with
  | nil =>
    cases b with
    | nil => simp [insertEverywhere]
    | cons y ys => simp [insertEverywhere]
  | cons y a ih =>
    simp only [List.cons_append, insertEverywhere, List.mem_cons, List.mem_map]
    exact Or.inr ⟨_, ih, rfl⟩

theorem mem_permutations_of_perm {β : Type} : ∀ (l p : List β), p.Perm l → p ∈ permutations l := by
  intro l
  induction l with
  | nil => intro p h; rw [List.Perm.eq_nil h]; simp [permutations]
  | cons x xs ih =>
    intro p h
    have hx : x ∈ p := h.mem_iff.mpr (by simp)
    obtain ⟨a, b, rfl⟩ := List.append_of_mem hx
    have h' : (a ++ b).Perm xs := (List.perm_middle.symm.trans h).cons_inv
    simp only [permutations, List.mem_flatMap]
    exact ⟨a ++ b, ih _ h', mem_insertEverywhere_mid x a b⟩

end SR
