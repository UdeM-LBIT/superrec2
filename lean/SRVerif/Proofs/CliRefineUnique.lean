/-
  C12 ∘ C08: a clade identifies a node.  In a name tree in which every node has no child or
  at least two and whose leaf names are pairwise distinct, no two nodes have the same clade,
  so "the node of the output with the clade of this input node" is well defined.
-/
import SRVerif.Proofs.CliRefineCompose

namespace SR.Cli

open SR.Ser

mutual
  theorem lvs_ne_nil : ∀ t : NT, lvs t ≠ []
    | .node n c [] => by simp [lvs]
    | .node n c (k :: ks) => by
      rw [lvs]; exact lvsL_ne_nil (k :: ks) (by simp)
  theorem lvsL_ne_nil : ∀ ks : List NT, ks ≠ [] → lvsL ks ≠ []
    | [], h => absurd rfl h
    | k :: ks, _ => by
      rw [lvsL]
      intro h
      exact lvs_ne_nil k (List.append_eq_nil_iff.mp h).1
end

mutual
  theorem cn_bounds : ∀ (t : NT) (x : List String × String), x ∈ cn t →
      x.1 ≠ [] ∧ x.1.Sublist (lvs t)
    | .node n c ks, x, hx => by
      rw [cn, List.mem_cons] at hx
      rcases hx with rfl | hx
      · exact ⟨lvs_ne_nil _, List.Sublist.refl _⟩
      · cases ks with
        | nil => simp [cnL] at hx
        | cons k ks => rw [lvs]; exact cnL_bounds (k :: ks) x hx
  theorem cnL_bounds : ∀ (ks : List NT) (x : List String × String), x ∈ cnL ks →
      x.1 ≠ [] ∧ x.1.Sublist (lvsL ks)
    | [], x, hx => by simp [cnL] at hx
    | k :: ks, x, hx => by
      rw [cnL, List.mem_append] at hx
      rw [lvsL]
      rcases hx with hx | hx
      · exact ⟨(cn_bounds k x hx).1, (cn_bounds k x hx).2.trans (List.sublist_append_left _ _)⟩
      · exact ⟨(cnL_bounds ks x hx).1, (cnL_bounds ks x hx).2.trans (List.sublist_append_right _ _)⟩
end

theorem cnL_lt : ∀ (ks : List NT), 2 ≤ ks.length → ∀ x ∈ cnL ks, x.1.length < (lvsL ks).length
  | [], h, _, _ => by simp at h
  | [_], h, _, _ => by simp at h
  | k :: k' :: ks, _, x, hx => by
    rw [cnL, List.mem_append] at hx
    rw [lvsL, List.length_append]
    have hk : 0 < (lvs k).length := List.length_pos_iff.mpr (lvs_ne_nil k)
    have hk' : 0 < (lvsL (k' :: ks)).length :=
      List.length_pos_iff.mpr (lvsL_ne_nil (k' :: ks) (by simp))
    rcases hx with hx | hx
    · have := (cn_bounds k x hx).2.length_le; omega
    · have := (cnL_bounds (k' :: ks) x hx).2.length_le; omega

/-- Two nodes with the same clade (as sets of leaf names). -/
def SameClade (x y : List String × String) : Prop := x.1.Perm y.1

mutual
  theorem cn_pairwise : ∀ t : NT, wf2 t = true → (lvs t).Nodup →
      (cn t).Pairwise (fun x y => ¬ SameClade x y)
    | .node n c [], _, _ => by simp [cn, cnL]
    | .node n c (k :: ks), hwf, hnd => by
      simp only [wf2, Bool.and_eq_true, Bool.or_eq_true, decide_eq_true_eq] at hwf
      have h2 : 2 ≤ (k :: ks).length := hwf.1.resolve_left (by simp)
      rw [cn, List.pairwise_cons]
      rw [lvs] at hnd ⊢
      refine ⟨fun x hx hp => ?_, cnL_pairwise (k :: ks) hwf.2 hnd⟩
      have := cnL_lt (k :: ks) h2 x hx
      have hl : (lvsL (k :: ks)).length = x.1.length := hp.length_eq
      omega
  theorem cnL_pairwise : ∀ ks : List NT, wf2L ks = true → (lvsL ks).Nodup →
      (cnL ks).Pairwise (fun x y => ¬ SameClade x y)
    | [], _, _ => by simp [cnL]
    | k :: ks, hwf, hnd => by
      simp only [wf2L, Bool.and_eq_true] at hwf
      rw [lvsL, List.nodup_append] at hnd
      rw [cnL, List.pairwise_append]
      refine ⟨cn_pairwise k hwf.1 hnd.1, cnL_pairwise ks hwf.2 hnd.2.1, ?_⟩
      intro x hx y hy hp
      obtain ⟨hx1, hx2⟩ := cn_bounds k x hx
      obtain ⟨a, ha⟩ := List.exists_mem_of_ne_nil _ hx1
      exact hnd.2.2 a (hx2.subset ha) a ((cnL_bounds ks y hy).2.subset (hp.mem_iff.mp ha)) rfl
end

mutual
  theorem wf2_of_isBin : ∀ t : NT, isBin t = true → wf2 t = true
    | .node n c ks, h => by
      simp only [isBin, Bool.and_eq_true, Bool.or_eq_true, beq_iff_eq] at h
      simp only [wf2, Bool.and_eq_true, Bool.or_eq_true, beq_iff_eq, decide_eq_true_eq]
      exact ⟨h.1.imp_right fun h1 => by omega, wf2L_of_isBinL ks h.2⟩
  theorem wf2L_of_isBinL : ∀ ks : List NT, isBinL ks = true → wf2L ks = true
    | [], _ => rfl
    | k :: ks, h => by
      simp only [isBinL, Bool.and_eq_true] at h
      simp only [wf2L, Bool.and_eq_true]
      exact ⟨wf2_of_isBin k h.1, wf2L_of_isBinL ks h.2⟩
end

mutual
  theorem lvs_sublist : ∀ t : NT, (lvs t).Sublist ((cn t).map (·.2))
    | .node n c [] => by simp [lvs, cn, cnL]
    | .node n c (k :: ks) => by
      rw [lvs, cn, List.map_cons]
      exact (lvsL_sublist (k :: ks)).cons _
  theorem lvsL_sublist : ∀ ks : List NT, (lvsL ks).Sublist ((cnL ks).map (·.2))
    | [] => by simp [lvsL, cnL]
    | k :: ks => by
      rw [lvsL, cnL, List.map_append]
      exact (lvs_sublist k).append (lvsL_sublist ks)
end

theorem lvs_nodup_of_given {t : NT} (hleaf : ∀ x ∈ lvs t, isUnnamed x = false)
    (hg : (given t).Nodup) : (lvs t).Nodup := by
  have h1 : (lvs t).Sublist t.names := by rw [names_eq_cn]; exact lvs_sublist t
  have h2 : ((lvs t).filter (fun nm => !isUnnamed nm)).Sublist (given t) := h1.filter _
  rw [List.filter_eq_self.mpr (fun x hx => by simp [hleaf x hx])] at h2
  exact h2.nodup hg

theorem Refined.clades_unique {pfx : String} {t t₁ b₁ : NT} (h : Refined pfx t t₁ b₁)
    (hleaf : ∀ x ∈ lvs t, isUnnamed x = false) (hg : (given t).Nodup) :
    (cn b₁).Pairwise (fun x y => ¬ SameClade x y) :=
  cn_pairwise b₁ (wf2_of_isBin b₁ h.binary)
    (h.leaves.nodup_iff.mpr (lvs_nodup_of_given hleaf hg))

end SR.Cli
