/-
  A label-DP solver (`Proofs/DPSolver.lean`) under the retention policy ANY: the tables are
  built by `dpTableAny`, the result entry is `rankAny`.  `groups` lists what each root cell
  decodes to under ALL; under ANY each cell contributes one representative (`repG`), and inside
  the coherent region the evaluated cost is constant on each group (`uniform`), which is all
  that `Proofs/LabelDPAnyRank.lean` needs.
-/
import SRVerif.Proofs.DPSolver
import SRVerif.Proofs.LabelDPAnyRank

namespace SR

open Cost

theorem Uniform.of_cells {Lab : Type} {cost : Sol → Cost} {cells : List (DCell Lab)}
    {dec : LSol Lab → Sol} (v : DCell Lab → Cost)
    (h : ∀ d ∈ cells, ∀ ls ∈ d.sols, cost (dec ls) = v d) :
    Uniform cost (cells.map fun d => d.sols.map dec) := by
  intro g hg x hx y hy
  obtain ⟨d, hd, rfl⟩ := List.mem_map.mp hg
  obtain ⟨lx, hlx, rfl⟩ := List.mem_map.mp hx
  obtain ⟨ly, hly, rfl⟩ := List.mem_map.mp hy
  rw [h d hd lx hlx, h d hd ly hly]

namespace DPSolver

variable {α Lab ι : Type} [DecidableEq Lab] (D : DPSolver α Lab ι) (c : Costs) (S : RTree)

def groups : List (List Sol) :=
  D.idx.flatMap fun i => (D.cells c S true i).map (fun d => d.sols.map (D.dec i))

/-- The outputs offered to the result entry under ANY (not `SR.candsAny`, the tag pairs of one
    table entry). -/
def candsAny (P : Picker Lab) : List Sol :=
  D.idx.flatMap fun i => ((dpTableAny P D.A c S (D.tree i)).filter (fun d => D.root i d.lab)).flatMap
    (fun d => d.sols.map (D.dec i))

theorem mem_cands_iff_groups (σ : Sol) : σ ∈ D.cands c S ↔ ∃ g ∈ D.groups c S, σ ∈ g := by
  simp only [cands, groups, List.mem_flatMap, List.mem_map]
  constructor
  · rintro ⟨i, hi, d, hd, h⟩; exact ⟨_, ⟨i, hi, d, hd, rfl⟩, List.mem_map.mpr h⟩
  · rintro ⟨_, ⟨i, hi, d, hd, rfl⟩, h⟩; exact ⟨i, hi, d, hd, List.mem_map.mp h⟩

theorem repG (P : Picker Lab) (hP : P.Ok) : RepG (D.candsAny c S P) (D.groups c S) :=
  RepG.flatMap _ _ _ fun i _ =>
    ((dpTableAny_rep P hP D.A c S (D.tree i)).filter_lab (D.root i)).repG (D.dec i)

/-- The bridge is asked for decoded labellings only: the hypothesis `KindsFaithfulAt` of the
    `…_partial` statements of `C05Any.lean` gives no more. -/
theorem uniform {K : Nat} (hK : D.A.Slack K) (hb : S.isBinary = true)
    (hok : ∀ i ∈ D.idx, SpOk D.A S (D.tree i)) (hcoh : c.spe + K ≤ c.dup + 2 * c.floss)
    {mode : LabelMode} {o : OTree}
    (hbrd : ∀ i ∈ D.idx, ∀ d ∈ D.cells c S true i, ∀ ls ∈ d.sols,
      totalCost c mode o (D.dec i ls) = labCost D.A c (D.tree i) ls) :
    Uniform (totalCost c mode o) (D.groups c S) :=
  Uniform.flatMap _ _ _ fun i hi => Uniform.of_cells (·.cost) fun d hd ls hls => by
    rw [hbrd i hi d hd ls hls, D.cost_of_decoded c S hK hb hok hcoh hi hd hls]

end DPSolver

end SR
