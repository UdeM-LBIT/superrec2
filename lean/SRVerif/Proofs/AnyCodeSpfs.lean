/-
  `_spfs` (`Model/SpfsCode.lean`) under `RetentionPolicy.ANY` against the same model under
  `RetentionPolicy.ALL`: the dicts of the two runs have the same keys in the same order and
  related entries (`CellsAL`), because the role entries depend on the keys and VALUES of the
  child cells only; hence ANY decodes a subset of what ALL decodes, non-empty together.
-/
import SRVerif.Proofs.AnyCodeEntry
import SRVerif.Proofs.SpfsCodeTop

namespace SR.SpfsCode

open Cost Path AnyCode

/-- The cells of one object node under ANY and under ALL ("AL"): same keys in the same order,
    entries related by `AnySub`. -/
inductive CellsAL : List TCell → List TCell → Prop
  | nil : CellsAL [] []
  | cons {a l : TCell} {as ls : List TCell} : a.sp = l.sp → a.syn = l.syn →
      AnySub .min a.entry l.entry → CellsAL as ls → CellsAL (a :: as) (l :: ls)

theorem CellsAL.append {a l a' l' : List TCell} (h : CellsAL a l) (h' : CellsAL a' l') :
    CellsAL (a ++ a') (l ++ l') := by
  induction h with
  | nil => exact h'
  | cons h1 h2 h3 _ ih => exact .cons h1 h2 h3 ih

theorem CellsAL.filter (p : Path → Nat → Bool) {a l : List TCell} (h : CellsAL a l) :
    CellsAL (a.filter fun d => p d.sp d.syn) (l.filter fun d => p d.sp d.syn) := by
  induction h with
  | nil => exact .nil
  | cons h1 h2 h3 _ ih =>
    simp only [List.filter_cons, h1, h2]
    split
    · exact .cons h1 h2 h3 ih
    · exact ih

theorem CellsAL.flatMap {α : Type} (xs : List α) (f g : α → List TCell)
    (h : ∀ x ∈ xs, CellsAL (f x) (g x)) : CellsAL (xs.flatMap f) (xs.flatMap g) := by
  induction xs with
  | nil => exact .nil
  | cons x xs ih =>
    simp only [List.flatMap_cons]
    exact (h x (by simp)).append (ih fun y hy => h y (by simp [hy]))

theorem CellsAL.childCells (S : RTree) {a l : List TCell} (h : CellsAL a l) :
    CellsAL (childCells S a) (childCells S l) :=
  CellsAL.flatMap _ _ _ fun x _ => h.filter (fun sp _ => sp == x)

theorem lookup_al {a l : List TCell} (h : CellsAL a l) (sp : Path) (syn : Nat) :
    CellSub .min (lookup a sp syn) (lookup l sp syn) := by
  induction h with
  | nil => exact Or.inl ⟨rfl, rfl⟩
  | cons h1 h2 h3 _ ih =>
    simp only [lookup, List.find?_cons, h1, h2]
    split
    · exact Or.inr ⟨_, _, rfl, rfl, h3⟩
    · exact ih

section roles

variable (c : Costs) (S : RTree) (s : Path) (m : Nat)

theorem cv_congr (ρ : RoleId) {a l : TCell} (h1 : a.sp = l.sp) (h2 : a.syn = l.syn)
    (h3 : a.entry.value = l.entry.value) : cv c S s m ρ a = cv c S s m ρ l := by
  unfold cv; rw [h1, h2, h3]

theorem codeCands_al (ρ : RoleId) {a l : List TCell} (h : CellsAL a l) :
    codeCands c S s m ρ a = codeCands c S s m ρ l := by
  induction h with
  | nil => rfl
  | cons h1 h2 h3 _ ih =>
    simp only [codeCands, List.filterMap_cons] at ih ⊢
    rw [cv_congr c S s m ρ h1 h2 h3.value, ih]
    simp only [cellAsg, h1, h2]

theorem role_anySub (ρ : RoleId) {a l : List TCell} (h : CellsAL a l) :
    AnySub .min ((choices c S .any s m a).get ρ) ((choices c S .all s m l).get ρ) := by
  have iA := choices_inv c S s m .any ρ a
  have iL := choices_inv c S s m .all ρ l
  rw [codeCands_al c S s m ρ (h.childCells S)] at iA
  exact iA.anySub iL (BRel.refl _)

end roles

theorem batch_bRel (c : Costs) {s0 s0' s1 s1' : Choices}
    (h0 : ∀ ρ, AnySub .min (s0.get ρ) (s0'.get ρ)) (h1 : ∀ ρ, AnySub .min (s1.get ρ) (s1'.get ρ)) :
    BRel (batch c s0 s1) (batch c s0' s1') := by
  rw [batch_eq, batch_eq]
  exact BRel.flatMap _ _ _ fun ev _ => cands_bRel (combine_anySub (h0 _) (h1 _) _
    (fun x y => ev.1.toExt + x + y) Prod.mk fun _ _ _ _ => rfl)

theorem computeEntry_al (c : Costs) (S : RTree) (s : Path) (m : Nat) {L L' R R' : List TCell}
    (hL : CellsAL L L') (hR : CellsAL R R') :
    AnyCode.CellRel .min (computeEntry c S .any s m L R) (computeEntry c S .all s m L' R') :=
  cellRel_update .none
    (batch_bRel c (fun ρ => role_anySub c S s m ρ hL) (fun ρ => role_anySub c S s m ρ hR))

theorem mkCells_al (sp : Path) (syn : Nat) {cA cL : Cell CAsg} (h : AnyCode.CellRel .min cA cL) :
    CellsAL (mkCells sp syn cA) (mkCells sp syn cL) := by
  cases h with
  | none => exact .nil
  | some iA iL hr => exact .cons rfl rfl (iA.anySub iL hr) .nil

/-- Two tables, under ANY and under ALL, with `CellsAL` cells at every object node. -/
inductive TabAL : Tab → Tab → Prop
  | leaf {a l : List TCell} : CellsAL a l → TabAL (.leaf a) (.leaf l)
  | node {a l : List TCell} {la ll ra rl : Tab} : CellsAL a l → TabAL la ll → TabAL ra rl →
      TabAL (.node a la ra) (.node l ll rl)

theorem TabAL.cells {tA tL : Tab} (h : TabAL tA tL) : CellsAL tA.cells tL.cells := by
  cases h <;> assumption

theorem computeTable_al (c : Costs) (S : RTree) (base : Bool) (order : List Nat) (o : OTree) :
    ∀ isRoot, TabAL (computeTable c S base .any order isRoot o)
      (computeTable c S base .all order isRoot o) := by
  induction o with
  | leaf sp f =>
    intro isRoot
    exact .leaf (mkCells_al _ _ (cellRel_update .none (BRel.refl _)))
  | node l r ihl ihr =>
    intro isRoot
    rw [computeTable_node, computeTable_node]
    refine .node ?_ (ihl false) (ihr false)
    apply CellsAL.flatMap
    intro rootSp _
    apply CellsAL.flatMap
    intro rootSyn _
    exact mkCells_al _ _ (computeEntry_al c S rootSp rootSyn (ihl false).cells (ihr false).cells)

theorem decode_sub (order : List Nat) {tA tL : Tab} (h : TabAL tA tL) :
    ∀ sp syn, ∀ sol ∈ decodeTable order tA sp syn, sol ∈ decodeTable order tL sp syn := by
  induction h with
  | leaf hc =>
    intro sp syn sol hsol
    simp only [decodeTable] at hsol ⊢
    rw [← (lookup_al hc sp syn).spec.2.1]; exact hsol
  | node hc _ _ ihl ihr =>
    intro sp syn sol hsol
    rw [mem_decode_node] at hsol ⊢
    obtain ⟨info, hi, ml, hml, mr, hmr, rfl⟩ := hsol
    exact ⟨info, (lookup_al hc sp syn).spec.2.2.2.1 info hi, ml, ihl _ _ ml hml, mr, ihr _ _ mr hmr, rfl⟩

theorem lookup_ne_none_of_decode (order : List Nat) (t : Tab) (sp : Path) (syn : Nat)
    (h : decodeTable order t sp syn ≠ []) : lookup t.cells sp syn ≠ none := by
  intro hn
  apply h
  cases t with
  | leaf cells =>
    simp only [Tab.cells] at hn
    simp [decodeTable, hn, Cell.value, ExtInt.isInfinite]
  | node cells l r =>
    simp only [Tab.cells] at hn
    simp [decodeTable, hn, Cell.infos]

theorem batch_prov (c : Costs) (S : RTree) (ret : Retain) (s : Path) (m : Nat) (L R : List TCell) :
    ∀ x ∈ batch c (choices c S ret s m L) (choices c S ret s m R), ∃ t, x.info = some t ∧
      (x.value ≠ .posInf → lookup L t.1.1 t.1.2 ≠ none ∧ lookup R t.2.1 t.2.2 ≠ none) := by
  intro x hx
  rw [batch_eq] at hx
  obtain ⟨ev, _, h⟩ := List.mem_flatMap.mp hx
  obtain ⟨t, ht, rfl⟩ := List.mem_map.mp h
  obtain ⟨t0, t1, rfl, c0, hc0, c1, hc1, hi0, hi1, _⟩ :=
    combine_prov (choices_inv c S s m ret ev.2.1 L) (choices_inv c S s m ret ev.2.2 R)
      (eventComb ev.1.toExt) (fun a b => ev.1.toExt + a + b) Prod.mk (fun _ _ _ _ => rfl) t ht
  obtain ⟨cl, hcl, _, _, rfl⟩ := mem_codeCands.mp hc0
  obtain ⟨cr, hcr, _, _, rfl⟩ := mem_codeCands.mp hc1
  cases hi0; cases hi1
  exact ⟨_, rfl, fun _ => ⟨fun hn => lookup_none hn cl ((mem_childCells S L cl).mp hcl).1 ⟨rfl, rfl⟩,
    fun hn => lookup_none hn cr ((mem_childCells S R cr).mp hcr).1 ⟨rfl, rfl⟩⟩⟩

theorem decode_ne_nil (c : Costs) (S : RTree) (base : Bool) (ret : Retain) (hr : ret ≠ .none)
    (order : List Nat) (o : OTree) : ∀ isRoot sp syn,
    lookup (computeTable c S base ret order isRoot o).cells sp syn ≠ none →
    decodeTable order (computeTable c S base ret order isRoot o) sp syn ≠ [] := by
  induction o with
  | leaf sp0 f =>
    intro isRoot sp syn h
    obtain ⟨e, he⟩ := Option.ne_none_iff_exists'.mp h
    rw [computeTable_leaf] at he ⊢
    obtain ⟨cc, hcc, _, _, rfl⟩ := lookup_some he
    simp only [Tab.cells, List.mem_singleton] at hcc
    subst hcc
    simp only [Tab.cells] at he
    simp [decodeTable, he, Cell.value, ExtInt.isInfinite]
  | node l r ihl ihr =>
    intro isRoot sp syn h
    have hnode := lookup_node c S base order ret isRoot l r sp syn
    split at hnode
    swap
    · exact absurd hnode h
    obtain ⟨t, ht, hl, hrr⟩ := update_tag hr hnode h (batch_prov c S ret sp syn _ _)
    obtain ⟨ml, hml⟩ := List.exists_mem_of_ne_nil _ (ihl false _ _ hl)
    obtain ⟨mr, hmr⟩ := List.exists_mem_of_ne_nil _ (ihr false _ _ hrr)
    apply List.ne_nil_of_mem (a := Sol.node sp ((subseqFromMask syn order).getD []) ml mr)
    rw [computeTable_node] at ht ⊢
    exact (mem_decode_node order _ _ _ sp syn _).mpr ⟨t, ht, ml, hml, mr, hmr, rfl⟩

theorem decodings (c : Costs) (S : RTree) (base : Bool) (order : List Nat) (o : OTree) (isRoot : Bool)
    (s : Path) (m : Nat) :
    (∀ sol ∈ decodeTable order (computeTable c S base .any order isRoot o) s m,
      sol ∈ decodeTable order (computeTable c S base .all order isRoot o) s m) ∧
    (decodeTable order (computeTable c S base .all order isRoot o) s m ≠ [] →
      decodeTable order (computeTable c S base .any order isRoot o) s m ≠ []) :=
  have hal := computeTable_al c S base order o isRoot
  ⟨decode_sub order hal s m, fun h => decode_ne_nil c S base .any (by simp) order o isRoot s m fun hn =>
    lookup_ne_none_of_decode order _ _ _ h ((lookup_al hal.cells _ _).spec.1.mp hn)⟩

/-- The (root order, root species) pairs visited by the loops of `_spfs`. -/
def rootKeys (S : RTree) (orders : List (List Nat)) : List (List Nat × Path) :=
  orders.flatMap fun order => (levelorder S).map fun sp => (order, sp)

/-- The outputs decoded for one (root order, root species). -/
def rootDecode (c : Costs) (S : RTree) (base : Bool) (ret : Retain) (o : OTree)
    (k : List Nat × Path) : List Sol :=
  decodeTable k.1 (computeTable c S base ret k.1 true o) k.2 (subseqComplete k.1)

theorem allOutputs_eq (c : Costs) (S : RTree) (base : Bool) (ret : Retain) (o : OTree)
    (orders : List (List Nat)) :
    allOutputs c S base ret o orders =
      outCands (fun out => (totalCost c .ordered o out).toExt) (rootKeys S orders)
        (rootDecode c S base ret o) := by
  unfold allOutputs outCands rootKeys
  rw [List.flatMap_assoc]
  congr 1
  funext order
  rw [List.flatMap_map]
  rfl

theorem results_inv (c : Costs) (S : RTree) (base : Bool) (ret : Retain) (o : OTree)
    (orders : List (List Nat)) :
    Entry.Inv .min ret
      (outCands (fun out => (totalCost c .ordered o out).toExt) (rootKeys S orders)
        (rootDecode c S base ret o))
      (results c S base ret o orders) := by
  rw [results_eq, allOutputs_eq]
  exact Entry.inv_fresh .min ret _

theorem results_rel (c : Costs) (S : RTree) (base : Bool) (o : OTree) (orders : List (List Nat)) :
    (results c S base .any o orders).infos.length ≤ 1 ∧
    ((results c S base .any o orders).infos = [] ↔ (results c S base .all o orders).infos = []) ∧
    ((∀ k ∈ rootKeys S orders, ∀ x ∈ rootDecode c S base .all o k,
        ∀ y ∈ rootDecode c S base .all o k,
        totalCost c .ordered o x = totalCost c .ordered o y) →
      (results c S base .any o orders).value = (results c S base .all o orders).value ∧
      ∀ sol ∈ (results c S base .any o orders).infos,
        sol ∈ (results c S base .all o orders).infos) :=
  result_rel (totalCost c .ordered o) (rootKeys S orders) (rootDecode c S base .any o)
    (rootDecode c S base .all o) (fun k _ => decodings c S base k.1 o true k.2 _)
    _ _ (results_inv c S base .any o orders) (results_inv c S base .all o orders)

end SR.SpfsCode
