/-
  C11 (Newick codec) — the reader's three nested `split`s as one left-to-right scan.

  `Newick.readFromString` is written as ete3 is: `split("(")`, per chunk `split(",")`,
  the test on the last sub-chunk, then the loop over the sub-chunks.  For the proofs
  the same computation is expressed as a scan `scan st acc rest` over the characters
  (`acc`: the current sub-chunk, reversed); `runChunks_eq_scan` says that the two
  agree on EVERY string.
-/
import SRVerif.Model.Newick

namespace SR.Newick

open SR.Ser (NT Err)

theorem splitAux_ne_nil (d : Char) (s acc : Chars) : splitAux d s acc ≠ [] := by
  induction s generalizing acc with
  | nil => simp [splitAux]
  | cons c cs ih =>
    unfold splitAux
    split
    · simp
    · exact ih _

theorem splitAux_skip (d : Char) (y rest acc : Chars) (hy : ∀ c ∈ y, c ≠ d) :
    splitAux d (y ++ rest) acc = splitAux d rest (y.reverse ++ acc) := by
  induction y generalizing acc with
  | nil => rfl
  | cons c cs ih =>
    have hc : (c == d) = false := by simpa using hy c (by simp)
    simp only [List.cons_append, splitAux, hc, Bool.false_eq_true, if_false]
    rw [ih _ (fun x hx => hy x (by simp [hx]))]
    simp

theorem splitAux_sep (d : Char) (y z acc : Chars) :
    splitAux d (y ++ d :: z) acc = splitAux d y acc ++ splitAux d z [] := by
  induction y generalizing acc with
  | nil => simp [splitAux]
  | cons c cs ih =>
    by_cases hc : (c == d) = true
    · simp only [List.cons_append, splitAux, hc, if_true, ih, List.cons_append]
    · simp only [List.cons_append, splitAux, hc, Bool.false_eq_true, if_false, ih]

theorem splitAux_none (d : Char) (y acc : Chars) (hy : ∀ c ∈ y, c ≠ d) :
    splitAux d y acc = [acc.reverse ++ y] := by
  have := splitAux_skip d y [] acc hy
  simp only [List.append_nil] at this
  rw [this]
  simp [splitAux]

/-- What the loop does with the last sub-chunk of a chunk (already stripped). -/
def procLast (st : St) (s : Chars) : Except Err St :=
  if s.isEmpty then pure st else procSub st s

/-- The test on the last sub-chunk of the chunk that begins the text. -/
def chunkOk (s : Chars) : Bool :=
  lastOk ((splitOn ',' (s.takeWhile (· != '('))).map strip)

/-- The whole text after an opening parenthesis whose chunk passed the test. -/
def scan (st : St) : Chars → Chars → Except Err St
  | acc, [] => procLast st (strip acc.reverse)
  | acc, c :: cs =>
    if c == '(' then
      procLast st (strip acc.reverse) >>= fun st' =>
        if chunkOk cs then scan st'.openChunk [] cs else .error .newickError
    else if c == ',' then procSub st (strip acc.reverse) >>= fun st' => scan st' [] cs
    else scan st (c :: acc) cs

theorem procSubs_eq_scan (st : St) (y acc : Chars) (hy : ∀ c ∈ y, c ≠ '(') :
    procSubs st ((splitAux ',' y acc).map strip) = scan st acc y := by
  induction y generalizing st acc with
  | nil => simp [splitAux, procSubs, scan, procLast]
  | cons c cs ih =>
    have hp : (c == '(') = false := by simpa using hy c (by simp)
    have hcs : ∀ x ∈ cs, x ≠ '(' := fun x hx => hy x (by simp [hx])
    by_cases hc : (c == ',') = true
    · simp only [splitAux, hc, if_true, scan, hp, Bool.false_eq_true, if_false, List.map_cons]
      obtain ⟨a, l, hl⟩ := List.exists_cons_of_ne_nil (splitAux_ne_nil ',' cs [])
      have key : ∀ st', procSubs st' (strip a :: l.map strip) = scan st' [] cs := by
        intro st'
        have := ih st' [] hcs
        rwa [hl, List.map_cons] at this
      simp only [hl, List.map_cons, procSubs]
      congr 1
      funext st'
      exact key st'
    · simp only [splitAux, hc, Bool.false_eq_true, if_false, scan, hp]
      exact ih _ _ hcs

theorem scan_paren (st : St) (y r acc : Chars) (hy : ∀ c ∈ y, c ≠ '(') :
    scan st acc (y ++ '(' :: r) = scan st acc y >>= fun st' =>
      if chunkOk r then scan st'.openChunk [] r else .error .newickError := by
  induction y generalizing st acc with
  | nil => simp [scan]
  | cons c cs ih =>
    have hc : (c == '(') = false := by simpa using hy c (by simp)
    have hcs : ∀ x ∈ cs, x ≠ '(' := fun x hx => hy x (by simp [hx])
    simp only [List.cons_append, scan, hc, Bool.false_eq_true, if_false]
    split
    · rw [bind_assoc]; congr 1; funext st'; exact ih _ _ hcs
    · exact ih _ _ hcs

theorem procChunk_eq (st : St) (y : Chars) (hy : ∀ c ∈ y, c ≠ '(') :
    procChunk st y = if lastOk ((splitOn ',' y).map strip) then scan st.openChunk [] y
      else .error .newickError := by
  unfold procChunk
  simp only [splitOn, procSubs_eq_scan _ _ _ hy]
  rfl

theorem takeWhile_append_stop (v rest : Chars) (d : Char) (hv : ∀ c ∈ v, c ≠ d) :
    (v ++ d :: rest).takeWhile (· != d) = v := by
  rw [List.takeWhile_append_of_pos (by simpa using hv)]
  simp

theorem dropWhile_append_stop (v rest : Chars) (d : Char) (hv : ∀ c ∈ v, c ≠ d) :
    (v ++ d :: rest).dropWhile (· != d) = d :: rest := by
  rw [List.dropWhile_append_of_pos (by simpa using hv)]
  simp

theorem takeWhile_noparen (y : Chars) (hy : ∀ c ∈ y, c ≠ '(') : y.takeWhile (· != '(') = y := by
  have := List.takeWhile_append_of_pos (l₂ := []) (show ∀ c ∈ y, (c != '(') = true by simpa using hy)
  simpa using this

theorem split_first_paren (s : Chars) :
    (∀ c ∈ s, c ≠ '(') ∨ ∃ y r, s = y ++ '(' :: r ∧ (∀ c ∈ y, c ≠ '(') ∧ r.length < s.length := by
  induction s with
  | nil => left; simp
  | cons c cs ih =>
    by_cases hc : c = '('
    · right; exact ⟨[], cs, by simp [hc], by simp, by simp⟩
    · rcases ih with h | ⟨y, r, h1, h2, h3⟩
      · left; intro x hx; rcases List.mem_cons.1 hx with rfl | hx
        · exact hc
        · exact h x hx
      · right; refine ⟨c :: y, r, by simp [h1], ?_, by simp; omega⟩
        intro x hx; rcases List.mem_cons.1 hx with rfl | hx
        · exact hc
        · exact h2 x hx

theorem runChunks_eq_scan (st : St) (s : Chars) :
    (splitOn '(' s).foldlM procChunk st = if chunkOk s then scan st.openChunk [] s else .error .newickError := by
  induction h : s.length using Nat.strongRecOn generalizing st s with
  | _ n ih =>
    rcases split_first_paren s with hs | ⟨y, r, rfl, hy, hlen⟩
    · have h1 : splitOn '(' s = [s] := by
        unfold splitOn; rw [splitAux_none _ _ _ hs]; simp
      rw [h1]
      simp only [List.foldlM_cons, List.foldlM_nil, bind_pure, procChunk_eq _ _ hs, chunkOk,
        takeWhile_noparen s hs]
    · have h1 : splitOn '(' (y ++ '(' :: r) = y :: splitOn '(' r := by
        unfold splitOn
        rw [splitAux_sep, splitAux_none _ _ _ hy]; simp
      rw [h1]
      simp only [List.foldlM_cons, procChunk_eq _ _ hy, chunkOk, takeWhile_append_stop y r _ hy]
      split
      · rw [scan_paren _ _ _ _ hy]
        congr 1; funext st'
        have := ih r.length (by omega) st' r rfl
        simpa [chunkOk] using this
      · rfl

end SR.Newick
