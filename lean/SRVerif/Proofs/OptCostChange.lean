/-
  The oracle under a change of the unit costs (C09).
  Scaling by `k > 0` multiplies every cell of `Spec.optTable` by `k` and keeps its species, label
  and solutions (as lists: by induction on the table), hence scales `Spec.optimum` and keeps its
  optimal set.  Raising unit costs (pointwise, the transfer cost in the extended order) never
  lowers `Spec.optimum`; a cell may disappear (become infinite) when the transfer cost becomes
  infinite, so the tables are related by domination, not cell by cell: here nothing is inducted,
  `Feasible` does not depend on the costs and `specCost` is monotone solution by solution.
-/
import SRVerif.Proofs.EventLogCost
import SRVerif.Proofs.OptAdequacy

namespace SR

open SR.EventLog

namespace Spec

theorem localCost_scale (k : Nat) (c : Costs) (md : ModeData) (whole : OTree) (p s : Path)
    (f : List Nat) (a : Path) (fa : List Nat) (b : Path) (fb : List Nat) :
    localCost (scaleCosts k c) md whole p s f a fa b fb
      = Cost.scale k (localCost c md whole p s f a fa b fb) := by
  unfold localCost
  split
  · rfl
  · simp only []
    split
    · rename_i n hn
      simp only [localRecCost_scale, Cost.scale_add, Cost.scale_fin]
      congr 2
      simp [scaleCosts, Nat.mul_left_comm]
    · rfl

def scCell (k : Nat) (d : OCell) : OCell := { d with cost := Cost.scale k d.cost }

@[simp] theorem scCell_sp (k : Nat) (d : OCell) : (scCell k d).sp = d.sp := rfl
@[simp] theorem scCell_fam (k : Nat) (d : OCell) : (scCell k d).fam = d.fam := rfl
@[simp] theorem scCell_cost (k : Nat) (d : OCell) : (scCell k d).cost = Cost.scale k d.cost := rfl
@[simp] theorem scCell_sols (k : Nat) (d : OCell) : (scCell k d).sols = d.sols := rfl

section

variable {k : Nat} (c : Costs) (md : ModeData) (whole : OTree) (p s : Path) (f : List Nat)
  (L R : List OCell)

theorem cands_scale :
    cands (scaleCosts k c) md whole p s f (L.map (scCell k)) (R.map (scCell k)) =
      (cands c md whole p s f L R).map fun x => (Cost.scale k x.1, scCell k x.2.1, scCell k x.2.2) := by
  simp only [cands, List.flatMap_map, List.map_flatMap, List.map_map]
  congr 1; funext cl
  congr 1; funext cr
  simp [localCost_scale, Cost.scale_add]

theorem bestOf_scale (hk : 0 < k) :
    bestOf (scaleCosts k c) md whole p s f (L.map (scCell k)) (R.map (scCell k)) =
      Cost.scale k (bestOf c md whole p s f L R) := by
  rw [bestOf, cands_scale, List.map_map, bestOf, ← Cost.scale_minList hk, List.map_map]
  rfl

theorem solsOf_scale (hk : 0 < k) (keep : Bool) :
    solsOf (scaleCosts k c) md whole keep p s f (L.map (scCell k)) (R.map (scCell k)) =
      solsOf c md whole keep p s f L R := by
  unfold solsOf
  rw [bestOf_scale c md whole p s f L R hk, cands_scale, List.filter_map, List.flatMap_map]
  congr 3
  funext x
  simp [Cost.scale_inj hk]

theorem nodeCell_scale (hk : 0 < k) (keep : Bool) :
    nodeCell (scaleCosts k c) md whole keep p s f (L.map (scCell k)) (R.map (scCell k)) =
      (nodeCell c md whole keep p s f L R).map (scCell k) := by
  simp only [nodeCell, bestOf_scale c md whole p s f L R hk, solsOf_scale c md whole p s f L R hk,
    Cost.scale_isInf]
  split <;> rfl

end

theorem optTable_scale {k : Nat} (hk : 0 < k) (c : Costs) (S : RTree) (md : ModeData)
    (base keep : Bool) (whole : OTree) (p : Path) (o : OTree) :
    optTable (scaleCosts k c) S md base keep whole p o
      = (optTable c S md base keep whole p o).map (scCell k) := by
  induction o generalizing p with
  | leaf sp f => simp [optTable, scCell, Cost.scale]
  | node l r ihl ihr =>
    rw [optTable_node, optTable_node, ihl, ihr, List.map_flatMap]
    congr 1; funext s
    rw [List.map_filterMap]
    congr 1; funext f
    exact nodeCell_scale c md whole p s f _ _ hk keep

theorem optimum_scale {k : Nat} (hk : 0 < k) (c : Costs) (S : RTree) (mode : LabelMode)
    (base keep : Bool) (o : OTree) (pre : Option (List Nat)) :
    optimum (scaleCosts k c) S mode base keep o pre
      = (Cost.scale k (optimum c S mode base keep o pre).1, (optimum c S mode base keep o pre).2) := by
  unfold optimum
  have hcells : ((modeDatas mode o pre).flatMap fun md =>
        optTable (scaleCosts k c) S md base keep o [] o)
      = ((modeDatas mode o pre).flatMap fun md => optTable c S md base keep o [] o).map
          (scCell k) := by
    rw [List.map_flatMap]; congr 1; funext md; exact optTable_scale hk c S md base keep o [] o
  simp only [hcells]
  generalize ((modeDatas mode o pre).flatMap fun md => optTable c S md base keep o [] o) = cells
  have hb : Cost.minList ((cells.map (scCell k)).map (·.cost))
      = Cost.scale k (Cost.minList (cells.map (·.cost))) := by
    rw [← Cost.scale_minList hk, List.map_map, List.map_map]; rfl
  rw [hb]
  congr 2
  rw [List.filter_map, List.flatMap_map]
  congr 1
  congr 1; funext d; simp [Cost.scale_inj hk]

theorem localCost_mono {c d : Costs} (h : leCosts c d) (md : ModeData) (whole : OTree) (p s : Path)
    (f : List Nat) (a : Path) (fa : List Nat) (b : Path) (fb : List Nat) :
    Cost.le (localCost c md whole p s f a fa b fb) (localCost d md whole p s f a fa b fb) = true := by
  unfold localCost
  split
  · exact Cost.le_refl _
  · simp only []
    split
    · exact Cost.add_le_add (localRecCost_mono h _ _ _)
        ((Cost.fin_le_fin _ _).mpr (Nat.mul_le_mul_left _ h.2.2.2.2))
    · exact Cost.le_refl _

/-- Table `T` dominates table `T'`: every cell of `T'` has a cell of `T` with the
    same root state and no larger value. -/
def Dominates (T T' : List OCell) : Prop :=
  ∀ d' ∈ T', ∃ d ∈ T, d.sp = d'.sp ∧ d.fam = d'.fam ∧ Cost.le d.cost d'.cost = true

theorem Dominates.refl (T : List OCell) : Dominates T T :=
  fun d hd => ⟨d, hd, rfl, rfl, Cost.le_refl _⟩

theorem specCost_mono {c d : Costs} (h : leCosts c d) (md : ModeData) (whole : OTree) :
    ∀ (p : Path) (sol : Sol), Cost.le (specCost c md whole p sol) (specCost d md whole p sol) = true
  | _, .leaf _ _ => Cost.le_refl _
  | p, .node s f sl sr =>
    Cost.add_le_add (localCost_mono h md whole p s f _ _ _ _)
      (Cost.add_le_add (specCost_mono h md whole _ sl) (specCost_mono h md whole _ sr))

/-- The table under the smaller costs dominates the table under the larger
    ones (any `keep` flags: solutions are not compared): a cell under the larger costs is
    attained by a feasible solution, which costs no more under the smaller costs, where the cell
    of its root state bounds it from below. -/
theorem optTable_mono {c d : Costs} (h : leCosts c d) (S : RTree) (md : ModeData)
    (base keep keep' : Bool) (whole : OTree) (p : Path) (o : OTree) :
    Dominates (optTable c S md base keep whole p o) (optTable d S md base keep' whole p o) := by
  intro d' hd'
  obtain ⟨hfin, sol, hf, hsp, hfam, hc⟩ := optTable_attained d S md base whole keep' o p d' hd'
  have hle := specCost_mono h md whole p sol
  rw [hc] at hle
  obtain ⟨cell, hcell, hsp', hfam', hle', _⟩ :=
    optTable_lower_complete c S md base whole keep o p sol hf (Cost.ne_inf_of_le hle hfin)
  exact ⟨cell, hcell, hsp'.trans hsp, hfam'.trans hfam, Cost.le_trans hle' hle⟩

theorem optimum_mono {c d : Costs} (h : leCosts c d) (S : RTree) (mode : LabelMode)
    (base keep keep' : Bool) (o : OTree) (pre : Option (List Nat)) :
    Cost.le (optimum c S mode base keep o pre).1 (optimum d S mode base keep' o pre).1 = true := by
  refine Cost.le_of_ne_inf fun hinf => ?_
  obtain ⟨md, hmd, sol, hf, hc⟩ := optimum_attained d S base mode keep' o pre hinf
  rw [← hc]
  exact Cost.le_trans (optimum_le c S base mode keep o pre md hmd sol hf) (specCost_mono h md o [] sol)

end Spec

end SR
