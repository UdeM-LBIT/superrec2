/-
  One species `s` at one internal object node: the cell the code writes
  (`trySpeciation` then `tryDuplicationTransfer`) against the label DP's
  `entry thlAlg … s ()`, given that the rows of the two child nodes carry the values of
  the child tables (`RowOk`).  Two `cands` are in scope: `ThlCode.cands` (the candidates an
  entry unpacks to, `Entry.__iter__`) and the label DP's, written `SR.cands`.
-/
import SRVerif.Proofs.ThlCodeCell
import SRVerif.Proofs.CodeCellOK

namespace SR

open Path Cost

namespace ThlCode

/-- The value of the cell at species `x` (`inf` when there is none). -/
def cellCost (cells : List (DCell Unit)) (x : Path) : Cost :=
  match findCell cells (x, ()) with
  | some d => d.cost
  | none => .inf

theorem cellCost_eq (cells : List (DCell Unit)) (x : Path) : cellCost cells x = costAt cells (x, ()) := by
  unfold cellCost costAt
  cases findCell cells (x, ()) <;> rfl

/-- The species offered to a role of `s` by the code. -/
def roleList (S : RTree) (s : Path) : RoleId → List Path
  | .left => S.traverseAt (s ++ [0])
  | .right => S.traverseAt (s ++ [1])
  | .cons => belowOf S s
  | .seg => belowOf S s
  | .sep => sepOf S s

/-- The full losses the code charges when it offers the child placed at `x` to a role of `s`. -/
def lossOf (c : Costs) (s : Path) : RoleId → Path → Nat
  | .left | .right => fun x => c.floss * (dist s x - 1)
  | .cons | .seg => fun x => c.floss * dist s x
  | .sep => fun _ => 0

/-- The value with which the code offers the child placed at `x` to a role of `s`. -/
def roleW (c : Costs) (s : Path) (fl : Path → Cost) (ρ : RoleId) (x : Path) : Cost :=
  fl x + .fin (lossOf c s ρ x)

theorem mem_belowOf {S : RTree} {s x : Path} :
    x ∈ belowOf S s ↔ isAnc s x = true ∧ S.isNode x = true := by
  simp [belowOf, RTree.mem_levelorder, and_comm]

theorem mem_sepOf {S : RTree} {s x : Path} :
    x ∈ sepOf S s ↔ (isAnc s x = false ∧ isAnc x s = false) ∧ S.isNode x = true := by
  simp [sepOf, RTree.mem_levelorder, and_comm]

section roles

variable (c : Costs) (S : RTree) (a ca : List Path) (s : Path) (L : List (DCell Unit))
  {val : Path → Unit → ExtInt}

theorem rvBase_thl {x : Path} (hnode : S.isNode x = true) (ρ : RoleId)
    (hleaf : (ρ = .left ∨ ρ = .right) → S.isLeafAt s = false) :
    rvBase c S s ρ x = if x ∈ roleList S s ρ then some (lossOf c s ρ x) else none := by
  cases ρ <;>
    simp only [rvBase, roleList, lossOf, RTree.mem_traverseAt, mem_belowOf, mem_sepOf, hnode, and_true]
  · have hl : speciesIsLeaf S s = false := hleaf (.inl rfl)
    by_cases ha : isAnc (s ++ [0]) x = true
    · simp [ha, isAnc_of_snoc ha, hl]
    · simp [ha]
  · have hl : speciesIsLeaf S s = false := hleaf (.inr rfl)
    by_cases ha : isAnc (s ++ [1]) x = true
    · simp [ha, isAnc_of_snoc ha, hl, not_isAnc_child0_of_child1 ha]
    · simp [ha]
  · simp

theorem role_rel (hrel : RowOk S val L) (ρ : RoleId)
    (hleaf : (ρ = .left ∨ ρ = .right) → S.isLeafAt s = false) :
    RelOn (fun x : Path => (x, ()))
      (aggOf .all (roleList S s ρ) (fun x => (roleW c s (cellCost L) ρ x).toExt))
      ((roles thlAlg c S a s () ca L).get ρ) := by
  rw [roles_get]
  have hnode : ∀ x ∈ roleList S s ρ, S.isNode x = true := by
    intro x hx
    cases ρ <;> simp only [roleList, RTree.mem_traverseAt, mem_belowOf, mem_sepOf] at hx <;> exact hx.2
  have hbase : ∀ x, S.isNode x = true → baseE c S s ρ x =
      if x ∈ roleList S s ρ then some (.fin ((lossOf c s ρ x : Nat) : Int)) else none := by
    intro x hx
    rw [baseE_eq, rvBase_thl c S s hx ρ hleaf]
    split <;> rfl
  have hval : ∀ x, (roleW c s (cellCost L) ρ x).toExt =
      ExtInt.fin ((lossOf c s ρ x : Nat) : Int) + val x () +
        Cost.toExt (if ρ.isCons then thlAlg.conserv a () ca () else thlAlg.segment a () ca ()) := by
    intro x
    rw [hrel.value, ← Cost.toExt_fin, ← Cost.toExt_add, ← Cost.toExt_add, roleW, cellCost_eq]
    congr 1
    simp [thlAlg, add_comm]
  refine relOn_of_corrOn (role_corr thlAlg c S a s () ca ρ hrel (φ := fun x : Path => (x, ()))
    (fun u => ⟨u.1, rfl⟩) ?_ ?_)
  · intro cd hcd
    obtain ⟨x, hx, rfl⟩ := List.mem_map.mp hcd
    exact ⟨x, _, by rw [hbase x (hnode x hx), if_pos hx], congrArg (Cand.mk · (some x)) (hval x)⟩
  · intro x b n hx hb hv
    rw [hbase x hx] at hb
    split at hb
    · rename_i hm
      obtain rfl := Option.some.inj hb
      exact List.mem_map.mpr ⟨x, hm, congrArg (Cand.mk · (some x)) ((hval x).trans hv)⟩
    · cases hb

theorem roles_seg_eq_cons :
    (roles thlAlg c S a s () ca L).get .seg = (roles thlAlg c S a s () ca L).get .cons := by
  rw [roles_get, roles_get]
  congr 1

theorem roles_leaf (hleaf : S.isLeafAt s = true) (ρ : RoleId) (hρ : ρ = .left ∨ ρ = .right) :
    ((roles thlAlg c S a s () ca L).get ρ).tags = [] := by
  rw [roles_get]
  have : roleCands thlAlg c S a s () ca ρ L = [] := by
    unfold roleCands
    rw [List.filterMap_eq_nil_iff]
    intro cell _
    have hl : speciesIsLeaf S s = true := hleaf
    rcases hρ with rfl | rfl <;> simp [roleVal, rv, hl]
  rw [this]; rfl

end roles

section batch

variable (c : Costs) (S : RTree) (s : Path) (fl fr : Path → Cost) (gl gr : Path → ExtInt)

theorem skip1_eq {x : Path} {i : Nat} (h : isAnc (s ++ [i]) x = true) :
    ExtInt.fin ((c.floss : Int) * ((dist s x : Int) - 1)) =
      (Cost.fin (c.floss * (dist s x - 1))).toExt := by
  obtain ⟨k, hk⟩ := dist_child_pos h
  rw [hk]
  simp

theorem agg_child (g : Path → ExtInt) (f : Path → Cost) (hg : ∀ x, g x = (f x).toExt) (i : Nat)
    (ρ : RoleId) (hρ : (ρ = .left ∧ i = 0) ∨ (ρ = .right ∧ i = 1)) :
    aggOf .all (S.traverseAt (s ++ [i]))
        (fun x => g x + ExtInt.fin ((c.floss : Int) * ((dist s x : Int) - 1))) =
      aggOf .all (roleList S s ρ) (fun x => (roleW c s f ρ x).toExt) := by
  have hl : roleList S s ρ = S.traverseAt (s ++ [i]) := by
    rcases hρ with ⟨rfl, rfl⟩ | ⟨rfl, rfl⟩ <;> rfl
  rw [hl]
  apply aggOf_congr
  intro x hx
  obtain ⟨ha, _⟩ := (RTree.mem_traverseAt S _ _).mp hx
  rw [skip1_eq c s ha, hg]
  rcases hρ with ⟨rfl, rfl⟩ | ⟨rfl, rfl⟩ <;> simp only [roleW, lossOf, toExt_add]

theorem agg_below (g : Path → ExtInt) (f : Path → Cost) (hg : ∀ x, g x = (f x).toExt) :
    aggOf .all (belowOf S s) (fun x => g x + ExtInt.fin ((c.floss : Int) * (dist s x : Int))) =
      aggOf .all (roleList S s .cons) (fun x => (roleW c s f .cons x).toExt) := by
  apply aggOf_congr
  intro x _
  simp [hg, roleW, lossOf, toExt_add]

theorem agg_sep (g : Path → ExtInt) (f : Path → Cost) (hg : ∀ x, g x = (f x).toExt) :
    aggOf .all (sepOf S s) g =
      aggOf .all (roleList S s .sep) (fun x => (roleW c s f .sep x).toExt) := by
  apply aggOf_congr
  intro x _
  rw [hg]; simp [roleW, lossOf]

end batch

theorem mem_cands_thl (c : Costs) (S : RTree) (a la ra : List Path) (s : Path)
    (L R : List (DCell Unit)) (p : Cost × ((Path × Unit) × (Path × Unit))) :
    p ∈ SR.cands thlAlg c S a s () la ra L R ↔
      p ∈ (Agg.comb (.fin c.spe) ((roles thlAlg c S a s () la L).get .left)
            ((roles thlAlg c S a s () ra R).get .right) ++
          Agg.comb (.fin c.spe) ((roles thlAlg c S a s () la L).get .right)
            ((roles thlAlg c S a s () ra R).get .left)) ++
        (Agg.comb (.fin c.dup) ((roles thlAlg c S a s () la L).get .cons)
            ((roles thlAlg c S a s () ra R).get .cons) ++
          Agg.comb c.hgt ((roles thlAlg c S a s () la L).get .sep)
            ((roles thlAlg c S a s () ra R).get .cons) ++
          Agg.comb c.hgt ((roles thlAlg c S a s () la L).get .cons)
            ((roles thlAlg c S a s () ra R).get .sep)) := by
  have e1 : (roles thlAlg c S a s () la L).seg = (roles thlAlg c S a s () la L).cons :=
    roles_seg_eq_cons ..
  have e2 : (roles thlAlg c S a s () ra R).seg = (roles thlAlg c S a s () ra R).cons :=
    roles_seg_eq_cons ..
  simp only [SR.cands, entryCands, Roles.get, List.mem_append, e1, e2]
  -- the duplication combination occurs twice, the two transfers are swapped
  constructor
  · rintro (((((h | h) | h) | h) | h) | h)
    · exact .inl (.inl h)
    · exact .inl (.inr h)
    · exact .inr (.inl (.inl h))
    · exact .inr (.inl (.inl h))
    · exact .inr (.inr h)
    · exact .inr (.inl (.inr h))
  · rintro ((h | h) | (h | h) | h)
    · exact .inl (.inl (.inl (.inl (.inl h))))
    · exact .inl (.inl (.inl (.inl (.inr h))))
    · exact .inl (.inl (.inl (.inr h)))
    · exact .inr h
    · exact .inl (.inr h)

/-- The batches the code writes to the cell of species `s`. -/
def batches (r : Retain) (c : Costs) (S : RTree) (s : Path) (gl gr : Path → ExtInt) :
    List (List (Cand MappingInfo)) :=
  (if S.isLeafAt s then [] else [speBatch r c S s gl gr]) ++ [dtBatch r c S s gl gr]

section agree

variable (c : Costs) (S : RTree) (a la ra : List Path) (s : Path) (L R : List (DCell Unit))
  (gl gr : Path → ExtInt) (hl : RowOk S (fun x _ => gl x) L) (hr : RowOk S (fun x _ => gr x) R)
include hl hr

theorem combine_corr (ρ0 ρ1 : RoleId)
    (h0 : (ρ0 = .left ∨ ρ0 = .right) → S.isLeafAt s = false)
    (h1 : (ρ1 = .left ∨ ρ1 = .right) → S.isLeafAt s = false) (k : Cost) :
    CorrOn pairOf
      (ThlCode.cands ((aggOf .all (roleList S s ρ0) fun x => (roleW c s (cellCost L) ρ0 x).toExt).combine
        (aggOf .all (roleList S s ρ1) fun x => (roleW c s (cellCost R) ρ1 x).toExt)
        (combinator k.toExt)))
      (Agg.comb k ((roles thlAlg c S a s () la L).get ρ0) ((roles thlAlg c S a s () ra R).get ρ1)) :=
  corrOn_combine (role_rel c S a la s L hl ρ0 h0) (role_rel c S a ra s R hr ρ1 h1) k
    (mk := MappingInfo.mk) (fun _ _ _ _ => rfl) (fun _ _ => rfl) pairOf_injective
    (fun u => ⟨u.1, rfl⟩)

theorem batches_corr :
    CorrOn pairOf (batches .all c S s gl gr).flatten (SR.cands thlAlg c S a s () la ra L R) := by
  have hgl : ∀ x, gl x = (cellCost L x).toExt := fun x => by rw [cellCost_eq]; exact hl.value x ()
  have hgr : ∀ x, gr x = (cellCost R x).toExt := fun x => by rw [cellCost_eq]; exact hr.value x ()
  have comb := combine_corr c S a la ra s L R gl gr hl hr
  have hspe : CorrOn pairOf (if S.isLeafAt s then [] else [speBatch .all c S s gl gr]).flatten
      (Agg.comb (.fin c.spe) ((roles thlAlg c S a s () la L).get .left)
          ((roles thlAlg c S a s () ra R).get .right) ++
        Agg.comb (.fin c.spe) ((roles thlAlg c S a s () la L).get .right)
          ((roles thlAlg c S a s () ra R).get .left)) := by
    by_cases hleaf : S.isLeafAt s = true
    · -- leaf species: no speciation batch, and nothing is offered to `left` / `right`
      have e0 := roles_leaf c S a la s L hleaf .left (.inl rfl)
      have e1 := roles_leaf c S a la s L hleaf .right (.inr rfl)
      simp only [hleaf, if_true, Agg.comb, e0, e1, List.flatMap_nil, List.append_nil, List.flatten_nil]
      exact CorrOn.nil
    · have hleaf' : S.isLeafAt s = false := by simpa using hleaf
      simp only [hleaf', Bool.false_eq_true, if_false, List.flatten_cons, List.flatten_nil,
        List.append_nil]
      unfold speBatch
      simp only [agg_child c S s gl _ hgl 0 .left (.inl ⟨rfl, rfl⟩),
        agg_child c S s gr _ hgr 1 .right (.inr ⟨rfl, rfl⟩),
        agg_child c S s gl _ hgl 1 .right (.inr ⟨rfl, rfl⟩),
        agg_child c S s gr _ hgr 0 .left (.inl ⟨rfl, rfl⟩)]
      exact (comb .left .right (fun _ => hleaf') (fun _ => hleaf') (.fin c.spe)).append
        (comb .right .left (fun _ => hleaf') (fun _ => hleaf') (.fin c.spe))
  have hb : (batches .all c S s gl gr).flatten =
      (if S.isLeafAt s then [] else [speBatch .all c S s gl gr]).flatten ++ dtBatch .all c S s gl gr := by
    simp only [batches, List.flatten_append, List.flatten_cons, List.flatten_nil, List.append_nil]
  rw [hb]
  refine (hspe.append ?_).congr (mem_cands_thl c S a la ra s L R)
  unfold dtBatch
  simp only [agg_below c S s gl _ hgl, agg_below c S s gr _ hgr, agg_sep c S s gl _ hgl,
    agg_sep c S s gr _ hgr]
  exact ((comb .cons .cons (by simp) (by simp) (.fin c.dup)).append
    (comb .sep .cons (by simp) (by simp) c.hgt)).append (comb .cons .sep (by simp) (by simp) c.hgt)

end agree

end ThlCode

end SR
