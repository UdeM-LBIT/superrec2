/-
  `tikz.render` (statement kinds of `_tikz_draw_branches`) on the output of
  `layout.compute`: every dictionary look-up succeeds, and the emitted
  statements are, branch by branch, an optional `\path` followed by the
  statements `coreStmts` determined by the branch alone; how many event nodes,
  loss markers and transfer arrows one branch contributes (`count_*`).
-/
import SRVerif.Proofs.BranchesWire
import SRVerif.Proofs.BranchesLayout
import Mathlib.Data.List.Basic

namespace SR.Layout

open SR

theorem isNode_of_mem_postorderList : ∀ (cs : List RTree) (k : Nat) (p : Path),
      p ∈ RTree.postorderList cs k → ∃ i q c, p = (k + i) :: q ∧ cs[i]? = some c ∧ c.isNode q = true :=
  RTree.isNode_of_mem_postorderList

theorem preorder_perm_postorder (S : RTree) : S.preorder.Perm S.postorder :=
  (List.perm_ext_iff_of_nodup (RTree.nodup_preorder S) (RTree.nodup_postorder S)).2 fun p => by
    rw [RTree.mem_preorder_iff, RTree.mem_postorder_iff]

theorem hasKey_iff_mem {β : Type} (l : List (Key × β)) (k : Key) : hasKey l k = true ↔ k ∈ l.map (·.1) := by
  rw [hasKey, lookupKey_eq_lookup]; exact List.lookup_isSome_iff_mem_keys

theorem fbLookup_isSome_iff (l : List FBranch) (k : Key) :
    (fbLookup l k).isSome = true ↔ k ∈ (l.map FBranch.asBranch).map (·.key) := by
  rw [fbLookup_eq_find?, List.find?_key_isSome_iff_mem_keys, List.map_map]
  rfl

theorem spOfSol_eq_subAt (sol : Sol) (p : Path) : spOfSol sol p = (subAt sol p).map Sol.sp := by
  induction p generalizing sol with
  | nil => cases sol <;> rfl
  | cons i p ih =>
    cases sol with
    | leaf s f => rfl
    | node s f l r =>
      simp only [spOfSol, subAt]
      split
      · exact ih l
      · split
        · exact ih r
        · rfl

theorem BNeeds.mono {b : Branch} {ks ks' : List Key} (h : BNeeds b ks) (hsub : ∀ k ∈ ks, k ∈ ks') :
    BNeeds b ks' := by
  unfold BNeeds at h ⊢
  split
  · rename_i hk
    simp only [hk] at h
    obtain ⟨k1, k2, a, b', c, d⟩ := h
    exact ⟨k1, k2, a, b', hsub _ c, hsub _ d⟩
  · rename_i hk
    simp only [hk] at h
    obtain ⟨k1, a, c⟩ := h
    exact ⟨k1, a, hsub _ c⟩
  · trivial

theorem Ordered.needs_mem {l : List Branch} (h : Ordered l) {b : Branch} (hb : b ∈ l) :
    BNeeds b (keysOf l) := by
  obtain ⟨pre, post, rfl⟩ := List.append_of_mem hb
  exact (h pre b post rfl).mono (by intro k hk; rw [keysOf_append]; exact List.mem_append_left _ hk)

/-- The statements a branch contributes after the optional anchor `\path`. -/
def coreStmts (b : Branch) : List Stmt :=
  match b.kind with
  | .leaf => [.event b.key .leaf]
  | .loss => [.path, .lossMarker b.key, .path]
  | .spec => [.path, .event b.key .spec]
  | .dup => [.path, .event b.key .dup]
  | .hgt =>
    match b.right with
    | some t => [.path, .transfer b.key t, .event b.key .hgt]
    | none => []

def preStmts (lay : SubLayout) (b : FBranch) : List Stmt :=
  if hasKey lay.anchors b.key then [.path] else []

/-- What the drawing lemmas use of a good input, a state `st` and a layout `all`: one entry of
    `all` per species, each agreeing with `st` (`skel`), the wiring and the order of `st`.  That
    `st` and `all` come from `_compute_branches` and `layout.compute` is not part of it
    (`compute_ctx` supplies such a pair). -/
structure Ctx (S : RTree) (sol : Sol) (st : LState) (all : List SubLayout) : Prop where
  good : Good S sol
  species : all.map (·.sp) = S.preorder
  skel : ∀ sl ∈ all, Skel st sl
  wire : Wiring S sol st
  ord : Ord st

theorem Ctx.anchor_lookup {S : RTree} {sol : Sol} {st : LState} {all : List SubLayout}
    (c : Ctx S sol st all) {t : Path} {kk : Key} (hn : S.isNode t = true)
    (hk : kk ∈ keysOf (brs st t)) (ha : kk ∈ ancs st t) :
    ∃ sl, slLookup all t = some sl ∧ kk ∈ sl.anchors.map (·.1) := by
  obtain ⟨sl, h1, h2, h3⟩ := slLookup_of_mem (all := all) (s := t)
    (by rw [c.species, RTree.mem_preorder_iff]; exact hn)
  refine ⟨sl, h1, ?_⟩
  rw [(c.skel sl h2).anchors, h3, List.mem_filter]
  exact ⟨hk, by simpa using ha⟩

theorem Ctx.anchorIn {S : RTree} {sol : Sol} {st : LState} {all : List SubLayout}
    (c : Ctx S sol st all) {t : Path} {kk : Key} (hn : S.isNode t = true)
    (hk : kk ∈ keysOf (brs st t)) (ha : kk ∈ ancs st t) :
    anchorIn (slLookup all t) (some kk) = .ok () := by
  obtain ⟨sl, h1, h2⟩ := c.anchor_lookup hn hk ha
  simp [h1, SR.Layout.anchorIn, (hasKey_iff_mem _ _).2 h2]

theorem Ctx.mem_brs {S : RTree} {sol : Sol} {st : LState} {all : List SubLayout}
    (c : Ctx S sol st all) {lay : SubLayout} (hl : lay ∈ all) {b : FBranch} (hb : b ∈ lay.branches) :
    b.asBranch ∈ brs st lay.sp := by
  rw [← (c.skel lay hl).branches]; exact List.mem_map.2 ⟨b, hb, rfl⟩

theorem Ctx.keys {S : RTree} {sol : Sol} {st : LState} {all : List SubLayout}
    (c : Ctx S sol st all) {lay : SubLayout} (hl : lay ∈ all) :
    keysOf (brs st lay.sp) = lay.branches.map (·.key) := by
  rw [← (c.skel lay hl).branches, keysOf, List.map_map]; rfl

theorem Ctx.branchIn {S : RTree} {sol : Sol} {st : LState} {all : List SubLayout}
    (c : Ctx S sol st all) {lay : SubLayout} (hl : lay ∈ all) {k : Key}
    (hk : k ∈ keysOf (brs st lay.sp)) : branchIn lay (some k) = .ok () := by
  have : (fbLookup lay.branches k).isSome = true := by
    rw [fbLookup_isSome_iff, (c.skel lay hl).branches]; exact hk
  simp [SR.Layout.branchIn, this]

theorem Ctx.drawBranch {S : RTree} {sol : Sol} {st : LState} {all : List SubLayout}
    (c : Ctx S sol st all) {lay : SubLayout} (hl : lay ∈ all) {b : FBranch} (hb : b ∈ lay.branches) :
    drawBranch all (spOfSol sol) lay
      (if (S.sub lay.sp).any RTree.isLeaf then none else slLookup all (lay.sp ++ [0]))
      (if (S.sub lay.sp).any RTree.isLeaf then none else slLookup all (lay.sp ++ [1])) b =
      .ok (preStmts lay b ++ coreStmts b.asBranch) := by
  have hbb := c.mem_brs hl hb
  have hneeds := (c.ord lay.sp).needs_mem hbb
  unfold SR.Layout.drawBranch preStmts coreStmts
  cases hk : b.kind with
  | leaf => simp [FBranch.asBranch, hk]
  | loss =>
    obtain ⟨j, kk, hj, hn, hleft, hright, hkey, hanc⟩ := c.wire.loss _ _ hbb hk
    have hnl := RTree.not_isLeaf_of_child hn
    simp only [FBranch.asBranch] at hleft hright
    rcases hj with rfl | rfl
    · simp only [if_true] at hleft
      simp only [Nat.zero_ne_one, if_false] at hright
      simp [FBranch.asBranch, hk, hleft, hright, hnl, c.anchorIn hn hkey hanc]
    · simp only [Nat.one_ne_zero, if_false] at hleft
      simp only [if_true] at hright
      simp [FBranch.asBranch, hk, hleft, hright, hnl, c.anchorIn hn hkey hanc]
  | spec =>
    obtain ⟨k1, k2, hleft, hright, n1, n2, a1, b1, a2, b2⟩ := c.wire.spec _ _ hbb hk
    have hnl := RTree.not_isLeaf_of_child n1
    simp only [FBranch.asBranch] at hleft hright
    simp [FBranch.asBranch, hk, hleft, hright, hnl, c.anchorIn n1 a1 b1, c.anchorIn n2 a2 b2]
  | dup =>
    simp only [BNeeds, FBranch.asBranch, hk] at hneeds
    obtain ⟨k1, k2, hleft, hright, m1, m2⟩ := hneeds
    simp [FBranch.asBranch, hk, hleft, hright, c.branchIn hl m1, c.branchIn hl m2]
  | hgt =>
    simp only [BNeeds, FBranch.asBranch, hk] at hneeds
    obtain ⟨k1, hleft, m1⟩ := hneeds
    obtain ⟨g, sub, hright, hsub, hkey, hanc⟩ := c.wire.hgt _ _ hbb hk
    simp only [FBranch.asBranch] at hright
    have hsp : spOfSol sol g = some sub.sp := by rw [spOfSol_eq_subAt, hsub]; rfl
    obtain ⟨fl, h1, h2⟩ := c.anchor_lookup (c.good _ _ hsub).1 hkey hanc
    have hfl := (hasKey_iff_mem _ _).2 h2
    simp [FBranch.asBranch, hk, hleft, hright, hsp, h1, hfl, c.branchIn hl m1]

theorem Ctx.drawBranches {S : RTree} {sol : Sol} {st : LState} {all : List SubLayout}
    (c : Ctx S sol st all) {lay : SubLayout} (hl : lay ∈ all) :
    ∀ bs : List FBranch, (∀ b ∈ bs, b ∈ lay.branches) →
      drawBranches all (spOfSol sol) lay
        (if (S.sub lay.sp).any RTree.isLeaf then none else slLookup all (lay.sp ++ [0]))
        (if (S.sub lay.sp).any RTree.isLeaf then none else slLookup all (lay.sp ++ [1])) bs =
        .ok (bs.flatMap fun b => preStmts lay b ++ coreStmts b.asBranch) := by
  intro bs
  induction bs with
  | nil => intro _; rfl
  | cons b bs ih =>
    intro h
    simp only [SR.Layout.drawBranches, c.drawBranch hl (h b (List.mem_cons_self ..)),
      ih (fun x hx => h x (List.mem_cons_of_mem _ hx)), List.flatMap_cons]

theorem Ctx.drawAll {S : RTree} {sol : Sol} {st : LState} {all : List SubLayout}
    (c : Ctx S sol st all) : ∀ L : List SubLayout, (∀ lay ∈ L, lay ∈ all) →
      drawAll S sol all L = .ok (L.flatMap fun lay =>
        lay.branches.flatMap fun b => preStmts lay b ++ coreStmts b.asBranch) := by
  intro L
  induction L with
  | nil => intro _; rfl
  | cons lay L ih =>
    intro h
    simp only [SR.Layout.drawAll, c.drawBranches (h lay (List.mem_cons_self ..)) lay.branches
      (fun _ hb => hb), ih (fun x hx => h x (List.mem_cons_of_mem _ hx)), List.flatMap_cons]

/-- All branches of a state, species by species in post-order (`stateBranches` without the
    species). -/
def allBranches (S : RTree) (st : LState) : List Branch := S.postorder.flatMap (brs st)

theorem compute_ctx {S : RTree} {sol : Sol} {st : LState} (o : Orientation) (P : Params)
    (sizes : Key → Size) (hgood : Good S sol) (hbin : S.isBinary = true)
    (h : computeBranches S sol = .ok st) :
    ∃ all, compute o P sizes S sol = .ok all ∧ Ctx S sol st all := by
  obtain ⟨all, hc, hsp, hsk⟩ := compute_succeeds o P sizes hbin h
  exact ⟨all, hc, hgood, hsp, hsk, computeBranches_wiring hgood hbin h, (computeBranches_ord h).2⟩

/-- `tikz.render` succeeds on a valid reconciliation in a binary species
    tree, for both orientations, and — `\path` statements aside — emits exactly
    the `coreStmts` of the branches of the state. -/
theorem render_succeeds {S : RTree} {sol : Sol} {st : LState} (o : Orientation) (P : Params)
    (sizes : Key → Size) (hgood : Good S sol) (hbin : S.isBinary = true)
    (h : computeBranches S sol = .ok st) :
    ∃ ss, render o P sizes S sol = .ok ss ∧
      ∀ q : Stmt → Bool, q .path = false →
        (ss.filter q).Perm ((allBranches S st).flatMap fun b => (coreStmts b).filter q) := by
  obtain ⟨all, hc, c⟩ := compute_ctx o P sizes hgood hbin h
  refine ⟨_, by simp only [render, hc]; exact c.drawAll all (fun _ hl => hl), ?_⟩
  intro q hq
  have e1 : (all.flatMap fun lay =>
      lay.branches.flatMap fun b => preStmts lay b ++ coreStmts b.asBranch).filter q =
      (S.preorder.flatMap (brs st)).flatMap fun b => (coreStmts b).filter q := by
    rw [← c.species, List.flatMap_map, List.flatMap_assoc, List.filter_flatMap]
    apply List.flatMap_congr
    intro lay hl
    rw [← (c.skel lay hl).branches, List.flatMap_map, List.filter_flatMap]
    apply List.flatMap_congr
    intro b _
    -- the optional `\path` in front is filtered out
    unfold preStmts
    split <;> simp [hq]
  rw [e1]
  exact List.Perm.flatMap_right _ (List.Perm.flatMap_right _ (preorder_perm_postorder S))

theorem render_ctx {S : RTree} {sol : Sol} (o : Orientation) (P : Params) (sizes : Key → Size)
    (hgood : Good S sol) (hbin : S.isBinary = true) :
    ∃ st all ss, computeBranches S sol = .ok st ∧ compute o P sizes S sol = .ok all ∧
      Ctx S sol st all ∧ render o P sizes S sol = .ok ss := by
  obtain ⟨st, hst⟩ := computeBranches_succeeds hgood
  obtain ⟨all, hc, c⟩ := compute_ctx o P sizes hgood hbin hst
  exact ⟨st, all, _, hst, hc, c, by simp only [render, hc]; exact c.drawAll all (fun _ hl => hl)⟩

/-- The three filters of `C13_tikz_statement`: the event node of object node `k`, a loss marker, the
    arrow from `src` to `tgt`. -/
def isEventOf (k : Key) : Stmt → Bool
  | .event k' _ => k' == k
  | _ => false

def isLossStmt : Stmt → Bool
  | .lossMarker _ => true
  | _ => false

def isTransferTo (src tgt : Key) : Stmt → Bool
  | .transfer a b => a == src && b == tgt
  | _ => false

theorem count_event (k : Key) (b : Branch) (h1 : b.kind ≠ .loss)
    (h2 : b.kind = .hgt → ∃ t, b.right = some t) :
    ((coreStmts b).filter (isEventOf k)).length = if b.key = k then 1 else 0 := by
  obtain ⟨key, kind, left, right⟩ := b
  cases kind
  case loss => exact absurd rfl h1
  case hgt =>
    obtain ⟨t, ht⟩ := h2 rfl
    simp only at ht
    subst ht
    by_cases hk : key = k <;> simp [coreStmts, isEventOf, hk]
  all_goals by_cases hk : key = k <;> simp [coreStmts, isEventOf, hk]

theorem count_event_loss (k : Key) (b : Branch) (h1 : b.kind = .loss) :
    ((coreStmts b).filter (isEventOf k)).length = 0 := by
  obtain ⟨key, kind, left, right⟩ := b
  simp only at h1
  subst h1
  simp [coreStmts, isEventOf]

theorem count_lossMarker (b : Branch) :
    ((coreStmts b).filter isLossStmt).length = if b.kind = .loss then 1 else 0 := by
  obtain ⟨key, kind, left, right⟩ := b
  cases kind
  case hgt => cases right <;> rfl
  all_goals rfl

theorem count_transfer_ne (src tgt : Key) (b : Branch) (h : b.key ≠ src) :
    ((coreStmts b).filter (isTransferTo src tgt)).length = 0 := by
  obtain ⟨key, kind, left, right⟩ := b
  simp only at h
  cases kind
  case hgt => cases right <;> simp [coreStmts, isTransferTo, h]
  all_goals simp [coreStmts, isTransferTo]

theorem count_transfer_eq (src tgt : Key) (b : Branch) (hk : b.key = src) (hkind : b.kind = .hgt)
    (hr : b.right = some tgt) : ((coreStmts b).filter (isTransferTo src tgt)).length = 1 := by
  obtain ⟨key, kind, left, right⟩ := b
  simp only at hk hkind hr
  subst hk hkind hr
  simp [coreStmts, isTransferTo]

theorem mem_allBranches {S : RTree} {st : LState} {b : Branch} :
    b ∈ allBranches S st ↔ ∃ t ∈ S.postorder, b ∈ brs st t := by
  simp [allBranches, List.mem_flatMap]

theorem length_filter_of_perm {ss : List Stmt} {B : List Branch} {q : Stmt → Bool}
    (h : (ss.filter q).Perm (B.flatMap fun b => (coreStmts b).filter q)) :
    (ss.filter q).length = (B.map fun b => ((coreStmts b).filter q).length).sum := by
  rw [h.length_eq, List.length_flatMap]

end SR.Layout
