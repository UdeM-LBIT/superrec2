/-
  The sparse table of `RangeMinQuery` answers range-minimum queries.

  Stated for a comparison that may raise (`Lt α`) and a key function into a
  linear order: as long as the comparison is only *needed* on pairs where it
  is defined (`CmpOK`), neither construction nor query raises and the answer
  is a key-minimal element of exactly the requested range.  The instances are in
  `Proofs/Lca.lean`: a comparison that never raises and orders by a key (`cmpOK_key`;
  `cmpOK_total` for `key = id`) and Euler-tour entries (`cmpOK_tour`, `key = level`).
-/
import SRVerif.Model.Lca
import Mathlib.Order.Defs.LinearOrder

-- in the namespace of the property C17, whose statements are phrased with it
/-- The half-open range `data[start:stop]`. -/
def SR.C17.slice {α : Type} (data : List α) (start stop : Nat) : List α :=
  (data.drop start).take (stop - start)

namespace SR.Lca

open C17 (slice)

theorem ilog2Aux_spec : ∀ f v, 0 < v → v ≤ f →
    2 ^ ilog2Aux f v ≤ v ∧ v < 2 ^ (ilog2Aux f v + 1)
  | 0, v, h0, h => by omega
  | f + 1, v, h0, h => by
    unfold ilog2Aux
    split
    · simp; omega
    · have ih := ilog2Aux_spec f (v / 2) (by omega) (by omega)
      rw [Nat.pow_succ, Nat.pow_succ]
      rw [Nat.pow_succ] at ih
      exact ⟨(Nat.le_div_iff_mul_le Nat.two_pos).1 ih.1, (Nat.div_lt_iff_lt_mul Nat.two_pos).1 ih.2⟩

theorem ilog2_spec {v : Nat} (h : 0 < v) : 2 ^ ilog2 v ≤ v ∧ v < 2 ^ (ilog2 v + 1) :=
  ilog2Aux_spec v v h (Nat.le_refl _)

theorem ilog2_mono {a b : Nat} (ha : 0 < a) (hab : a ≤ b) : ilog2 a ≤ ilog2 b := by
  have h1 := (ilog2_spec ha).1
  have h2 := (ilog2_spec (Nat.lt_of_lt_of_le ha hab)).2
  have : 2 ^ ilog2 a < 2 ^ (ilog2 b + 1) := by omega
  have := (Nat.pow_lt_pow_iff_right (by decide : 1 < 2)).1 this
  omega

theorem mapE_length {α β : Type} (f : α → Except PyErr β) :
    ∀ (l : List α) (ys : List β), mapE f l = .ok ys → ys.length = l.length
  | [], _, h => by cases h; rfl
  | x :: xs, ys, h => by
    unfold mapE at h
    cases hx : f x <;> cases hxs : mapE f xs <;> simp only [hx, hxs, reduceCtorEq] at h
    cases h
    exact congrArg (· + 1) (mapE_length f xs _ hxs)

theorem mapE_ok {α β : Type} {f : α → Except PyErr β} {P : α → β → Prop} :
    ∀ l : List α, (∀ x ∈ l, ∃ y, f x = .ok y ∧ P x y) →
      ∃ ys, mapE f l = .ok ys ∧
        ∀ (k : Nat) (x : α), l[k]? = some x → ∃ y, ys[k]? = some y ∧ P x y
  | [], _ => ⟨[], rfl, by simp⟩
  | x :: xs, h => by
    obtain ⟨y, hy, hp⟩ := h x List.mem_cons_self
    obtain ⟨ys, hys, hall⟩ := mapE_ok xs (fun z hz => h z (List.mem_cons_of_mem _ hz))
    refine ⟨y :: ys, by simp only [mapE, hy, hys], fun k z hk => ?_⟩
    cases k with
    | zero =>
      cases hk
      exact ⟨y, rfl, hp⟩
    | succ k => exact hall k z hk

/-- `mapE_ok` read on members instead of positions. -/
theorem mapE_ok_mem {α β : Type} {f : α → Except PyErr β} {P : α → β → Prop} (l : List α)
    (h : ∀ x ∈ l, ∃ y, f x = .ok y ∧ P x y) :
    ∃ ys, mapE f l = .ok ys ∧ (∀ y ∈ ys, ∃ x ∈ l, P x y) ∧ (∀ x ∈ l, ∃ y ∈ ys, P x y) := by
  obtain ⟨ys, hys, hall⟩ := mapE_ok l h
  have hlen := mapE_length f l ys hys
  refine ⟨ys, hys, fun y hy => ?_, fun x hx => ?_⟩
  · obtain ⟨k, hk, rfl⟩ := List.getElem_of_mem hy
    have hk' : k < l.length := by rw [← hlen]; exact hk
    obtain ⟨y', hy', hp⟩ := hall k l[k] (List.getElem?_eq_getElem hk')
    rw [List.getElem?_eq_getElem hk] at hy'
    cases hy'
    exact ⟨l[k], List.getElem_mem _, hp⟩
  · obtain ⟨k, hk, rfl⟩ := List.getElem_of_mem hx
    obtain ⟨y, hy, hp⟩ := hall k l[k] (List.getElem?_eq_getElem hk)
    exact ⟨y, List.mem_of_getElem? hy, hp⟩

/-- Two windows of width `P`, at `s` and at `j`, that overlap or touch make up the window of
    width `w` at `s` (the two halves of a row of the table; the two ends of a query). -/
theorem cover_window {s w P j : Nat} (hj : j + P = s + w) (hPw : P ≤ w) (hw : w ≤ P + P) (k : Nat) :
    (s ≤ k ∧ k < s + w) ↔ ((s ≤ k ∧ k < s + P) ∨ (j ≤ k ∧ k < j + P)) := by
  have hsj : s ≤ j := by omega
  have hjs : j ≤ s + P := by omega
  rw [hj]
  constructor
  · rintro ⟨h1, h2⟩
    rcases Nat.lt_or_ge k (s + P) with h | h
    · exact .inl ⟨h1, h⟩
    · exact .inr ⟨Nat.le_trans hjs h, h2⟩
  · rintro (⟨h1, h2⟩ | ⟨h1, h2⟩)
    · exact ⟨h1, Nat.lt_of_lt_of_le h2 (Nat.add_le_add_left hPw s)⟩
    · exact ⟨Nat.le_trans hsj h1, h2⟩

section Generic

variable {α κ : Type} [LinearOrder κ] (key : α → κ) (data : List α)

/-- `m` is an element of `data[i : i + w]` whose key is minimal there. -/
def IsMinAt (i w : Nat) (m : α) : Prop :=
  (∃ k, i ≤ k ∧ k < i + w ∧ data[k]? = some m) ∧
    ∀ k e, i ≤ k → k < i + w → data[k]? = some e → key m ≤ key e

/-- The comparison is defined, and agrees with the keys, wherever the sparse
    table needs it: on elements with different keys, and on two key-minimal
    elements of one and the same contiguous range. -/
structure CmpOK (lt : Lt α) : Prop where
  ne : ∀ a b, key a ≠ key b → lt b a = .ok (decide (key b < key a))
  eqmin : ∀ i w a b, IsMinAt key data i w a → IsMinAt key data i w b → lt b a = .ok false

variable {key data}

theorem IsMinAt.union_left {i1 w1 i2 w2 i w : Nat} {a b : α}
    (ha : IsMinAt key data i1 w1 a) (hb : IsMinAt key data i2 w2 b) (hab : key a ≤ key b)
    (hcover : ∀ k, (i ≤ k ∧ k < i + w) ↔ ((i1 ≤ k ∧ k < i1 + w1) ∨ (i2 ≤ k ∧ k < i2 + w2))) :
    IsMinAt key data i w a := by
  obtain ⟨⟨ka, h1, h2, h3⟩, hmin⟩ := ha
  refine ⟨⟨ka, ((hcover ka).2 (Or.inl ⟨h1, h2⟩)).1, ((hcover ka).2 (Or.inl ⟨h1, h2⟩)).2, h3⟩, ?_⟩
  intro k e hk1 hk2 he
  rcases (hcover k).1 ⟨hk1, hk2⟩ with h | h
  · exact hmin k e h.1 h.2 he
  · exact le_trans hab (hb.2 k e h.1 h.2 he)

theorem IsMinAt.union_right {i1 w1 i2 w2 i w : Nat} {a b : α}
    (ha : IsMinAt key data i1 w1 a) (hb : IsMinAt key data i2 w2 b) (hab : key b ≤ key a)
    (hcover : ∀ k, (i ≤ k ∧ k < i + w) ↔ ((i1 ≤ k ∧ k < i1 + w1) ∨ (i2 ≤ k ∧ k < i2 + w2))) :
    IsMinAt key data i w b :=
  IsMinAt.union_left hb ha hab (fun k => by rw [hcover k]; exact Or.comm)

theorem pyMin_spec {lt : Lt α} (h : CmpOK key data lt) {i1 w1 i2 w2 i w : Nat} {a b : α}
    (ha : IsMinAt key data i1 w1 a) (hb : IsMinAt key data i2 w2 b)
    (hcover : ∀ k, (i ≤ k ∧ k < i + w) ↔ ((i1 ≤ k ∧ k < i1 + w1) ∨ (i2 ≤ k ∧ k < i2 + w2))) :
    ∃ m, pyMin lt a b = .ok m ∧ IsMinAt key data i w m := by
  rcases lt_trichotomy (key a) (key b) with hlt | heq | hgt
  · refine ⟨a, ?_, IsMinAt.union_left ha hb (le_of_lt hlt) hcover⟩
    have : lt b a = .ok false := by
      rw [h.ne a b (ne_of_lt hlt)]
      simp [not_lt.2 (le_of_lt hlt)]
    simp [pyMin, this]
  · refine ⟨a, ?_, IsMinAt.union_left ha hb (le_of_eq heq) hcover⟩
    have := h.eqmin i w a b (IsMinAt.union_left ha hb (le_of_eq heq) hcover)
      (IsMinAt.union_right ha hb (le_of_eq heq.symm) hcover)
    simp [pyMin, this]
  · refine ⟨b, ?_, IsMinAt.union_right ha hb (le_of_lt hgt) hcover⟩
    have : lt b a = .ok true := by
      rw [h.ne a b (ne_of_gt hgt)]
      simp [hgt]
    simp [pyMin, this]

/-- Row `d` of the table: cell `i` holds a minimum of `data[i : i + 2^d]`
    whenever that window fits. -/
def RowOK (key : α → κ) (data : List α) (d : Nat) (row : List (Option α)) : Prop :=
  ∀ i, i + 2 ^ d ≤ data.length → ∃ m, row[i]? = some (some m) ∧ IsMinAt key data i (2 ^ d) m

theorem rowOK_zero : RowOK key data 0 (data.map some) := by
  intro i hi
  have hlt : i < data.length := by simp at hi; omega
  refine ⟨data[i], by simp [hlt], ⟨i, by omega, by omega, by simp [hlt]⟩, ?_⟩
  intro k e h1 h2 he
  have : k = i := by omega
  subst this
  simp [hlt] at he
  subst he
  exact le_refl _

theorem cell_ok {row : List (Option α)} {i : Nat} {m : α} (h : row[i]? = some (some m)) :
    cell row i = .ok m := by
  simp [cell, h]

theorem nextRow_ok {lt : Lt α} (h : CmpOK key data lt) {d : Nat} {prev : List (Option α)}
    (hp : RowOK key data d prev) :
    ∃ row, nextRow lt data.length prev (d + 1) = .ok row ∧ RowOK key data (d + 1) row := by
  have hpow : 2 ^ (d + 1) = 2 ^ d + 2 ^ d := by rw [Nat.pow_succ, Nat.mul_two]
  have hle : 2 ^ d ≤ 2 ^ (d + 1) := hpow ▸ Nat.le_add_right _ _
  -- the positions of the row are those where the window of width `2 ^ (d + 1)` fits
  have hfit : ∀ i, i < data.length + 1 - 2 ^ (d + 1) ↔ i + 2 ^ (d + 1) ≤ data.length := fun i =>
    Nat.lt_sub_iff_add_lt.trans Nat.lt_succ_iff
  have hm := mapE_ok (f := rowCell lt prev (d + 1))
    (P := fun i m => IsMinAt key data i (2 ^ (d + 1)) m)
    (List.range (data.length + 1 - 2 ^ (d + 1))) (by
      intro i hi
      have hi' := (hfit i).1 (List.mem_range.1 hi)
      obtain ⟨l, hl, hlm⟩ := hp i (Nat.le_trans (Nat.add_le_add_left hle i) hi')
      obtain ⟨r, hr, hrm⟩ := hp (i + 2 ^ d) (by rw [Nat.add_assoc, ← hpow]; exact hi')
      obtain ⟨m, hm1, hm2⟩ := pyMin_spec h hlm hrm (i := i) (w := 2 ^ (d + 1))
        (cover_window (by rw [hpow, Nat.add_assoc]) hle (Nat.le_of_eq hpow))
      refine ⟨m, ?_, hm2⟩
      simp [rowCell, cell_ok hl, cell_ok hr, hm1])
  obtain ⟨vals, hv, hall⟩ := hm
  have hlen := mapE_length _ _ _ hv
  refine ⟨vals.map some ++ List.replicate (data.length - vals.length) none, ?_, ?_⟩
  · simp only [nextRow, hv]
  intro i hi
  have hi' := (hfit i).2 hi
  obtain ⟨m, hm1, hm2⟩ := hall i i (by rw [List.getElem?_range hi'])
  refine ⟨m, ?_, hm2⟩
  have hil : i < (vals.map some).length := by
    rw [List.length_map, hlen, List.length_range]; exact hi'
  rw [List.getElem?_append_left hil]
  simp [hm1]

theorem buildFrom_ok {lt : Lt α} (h : CmpOK key data lt) :
    ∀ (n d : Nat) (prev : List (Option α)), RowOK key data d prev →
      ∃ tbl, buildFrom lt data.length n d prev = .ok tbl ∧
        ∀ j, j ≤ n → ∃ row, tbl[j]? = some row ∧ RowOK key data (d + j) row
  | 0, d, prev, hp => by
    refine ⟨[prev], rfl, fun j hj => ?_⟩
    obtain rfl := Nat.le_zero.1 hj
    exact ⟨prev, rfl, hp⟩
  | n + 1, d, prev, hp => by
    obtain ⟨row, hrow, hrok⟩ := nextRow_ok h hp
    obtain ⟨rest, hrest, hall⟩ := buildFrom_ok h n (d + 1) row hrok
    refine ⟨prev :: rest, by simp only [buildFrom, hrow, hrest], fun j hj => ?_⟩
    cases j with
    | zero => exact ⟨prev, rfl, hp⟩
    | succ j =>
      obtain ⟨r, hr1, hr2⟩ := hall j (Nat.le_of_succ_le_succ hj)
      rw [Nat.add_right_comm] at hr2
      exact ⟨r, hr1, hr2⟩

/-- What `RangeMinQuery.__init__` establishes: every row `j ≤ ilog2 n` is there and is `RowOK`. -/
def TableOK (key : α → κ) (data : List α) (tbl : List (List (Option α))) : Prop :=
  ∀ j, j ≤ ilog2 data.length → ∃ row, tbl[j]? = some row ∧ RowOK key data j row

theorem build_ok {lt : Lt α} (h : CmpOK key data lt) (hne : data ≠ []) :
    ∃ tbl, build lt data = .ok tbl ∧ TableOK key data tbl := by
  have hlen : data.length ≠ 0 := by
    intro h0
    exact hne (List.length_eq_zero_iff.1 h0)
  obtain ⟨tbl, h1, h2⟩ := buildFrom_ok h (ilog2 data.length) 0 (data.map some) rowOK_zero
  refine ⟨tbl, by simp [build, hlen, h1], ?_⟩
  intro j hj
  have := h2 j hj
  rwa [Nat.zero_add] at this

theorem query_ok {lt : Lt α} (h : CmpOK key data lt) {tbl : List (List (Option α))}
    (ht : TableOK key data tbl) {start stop : Nat} (h1 : start < stop)
    (h2 : stop ≤ data.length) :
    ∃ m, query lt tbl start stop = .ok (some m) ∧ IsMinAt key data start (stop - start) m := by
  have hle := Nat.le_of_lt h1
  have hs := ilog2_spec (Nat.sub_pos_of_lt h1)
  have hd : ilog2 (stop - start) ≤ ilog2 data.length :=
    ilog2_mono (Nat.sub_pos_of_lt h1) (Nat.le_trans (Nat.sub_le _ _) h2)
  obtain ⟨row, hrow, hrok⟩ := ht _ hd
  rw [Nat.pow_succ, Nat.mul_two] at hs
  -- the answer is the `min` of the two windows of width `2 ^ ilog2 (stop - start)`, the one at
  -- `start` and the one ending at `stop`
  have hstop : start + (stop - start) = stop := Nat.add_sub_cancel' hle
  have hP : 2 ^ ilog2 (stop - start) ≤ stop := Nat.le_trans hs.1 (Nat.sub_le _ _)
  obtain ⟨a, ha, ham⟩ := hrok start
    (Nat.le_trans (Nat.add_le_add_left hs.1 _) (by rw [hstop]; exact h2))
  obtain ⟨b, hb, hbm⟩ := hrok (stop - 2 ^ ilog2 (stop - start)) (by rw [Nat.sub_add_cancel hP]; exact h2)
  obtain ⟨m, hm1, hm2⟩ := pyMin_spec h ham hbm (i := start) (w := stop - start)
    (cover_window ((Nat.sub_add_cancel hP).trans hstop.symm) hs.1 (Nat.le_of_lt hs.2))
  refine ⟨m, ?_, hm2⟩
  simp [query, Nat.not_le.2 h1, hrow, ha, hb, pyMinCell, hm1]

end Generic

theorem mem_slice {α : Type} {data : List α} {i w : Nat} {e : α} :
    e ∈ (data.drop i).take w ↔ ∃ k, i ≤ k ∧ k < i + w ∧ data[k]? = some e := by
  rw [List.mem_iff_getElem?]
  constructor
  · rintro ⟨j, hj⟩
    rw [List.getElem?_take] at hj
    split at hj
    · rw [List.getElem?_drop] at hj
      exact ⟨i + j, by omega, by omega, hj⟩
    · simp at hj
  · rintro ⟨k, h1, h2, h3⟩
    refine ⟨k - i, ?_⟩
    rw [List.getElem?_take, if_pos (by omega), List.getElem?_drop]
    have : i + (k - i) = k := by omega
    rw [this]
    exact h3

theorem isMinAt_iff_slice {α κ : Type} [LinearOrder κ] {key : α → κ} {data : List α}
    {start stop : Nat} {m : α} :
    IsMinAt key data start (stop - start) m ↔
      m ∈ slice data start stop ∧ ∀ e ∈ slice data start stop, key m ≤ key e := by
  constructor
  · rintro ⟨h1, h2⟩
    refine ⟨mem_slice.2 h1, ?_⟩
    intro e he
    obtain ⟨k, hk1, hk2, hk3⟩ := mem_slice.1 he
    exact h2 k e hk1 hk2 hk3
  · rintro ⟨h1, h2⟩
    exact ⟨mem_slice.1 h1, fun k e hk1 hk2 hk3 => h2 e (mem_slice.2 ⟨k, hk1, hk2, hk3⟩)⟩

/-- The range-minimum theorem for any comparison that is defined where the sparse table needs it. -/
theorem table_ok {α κ : Type} [LinearOrder κ] {key : α → κ} {data : List α} {lt : Lt α}
    (h : CmpOK key data lt) (hne : data ≠ []) :
    ∃ tbl, build lt data = .ok tbl ∧ ∀ start stop, start < stop → stop ≤ data.length →
      ∃ m, query lt tbl start stop = .ok (some m) ∧ m ∈ slice data start stop ∧
        ∀ x ∈ slice data start stop, key m ≤ key x := by
  obtain ⟨tbl, hb, ht⟩ := build_ok h hne
  refine ⟨tbl, hb, fun start stop h1 h2 => ?_⟩
  obtain ⟨m, hq, hm⟩ := query_ok h ht h1 h2
  exact ⟨m, hq, isMinAt_iff_slice.1 hm⟩

end SR.Lca
