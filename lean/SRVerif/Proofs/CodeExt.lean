/-
  Bridge between the `ExtInt`-valued `Entry`s of the code-structured models
  (`Model/ThlCode.lean`, `Model/SpfsCode.lean`, `Model/UspfsCode.lean`, all built on
  `Model/Entry.lean`) and the `Cost`-valued MIN / ALL aggregates of the label DP (`Agg`), shared
  by the three refinement proofs.  The code also offers candidates of infinite value (sub-costs
  of table cells that do not exist), which the label DP never forms: `CorrOn φ cs xs` says that
  the two candidate lists agree on their FINITE members, the code's tags read through `φ`;
  values, tags, `combine` and the instantiation of a cell are transported along it.  Also here:
  the distance the code offers to a role (`baseE`, `baseE_eq`), the result entry
  (`Entry.result_spec`), the level order of `Model/UspfsCode.lean` (`UspfsCode.mem_levelOrder`,
  the reason for that import) and `UspfsCode.Corr` with `transfer`, the case of equal tag types.
-/
import SRVerif.Model.UspfsCode
import SRVerif.Proofs.Entry
import SRVerif.Proofs.Agg
import SRVerif.Proofs.RTree
import SRVerif.Proofs.ListAux
import SRVerif.Proofs.LabelDPRoles

namespace SR

namespace ExtInt

theorem fin_add_fin (a b : Int) : (ExtInt.fin a + ExtInt.fin b) = ExtInt.fin (a + b) := rfl

end ExtInt

/-- `table[…] = Candidate(0)` on a cell that does not exist yet (a leaf of the object tree). -/
theorem Cell.update_leaf {τ : Type} [DecidableEq τ] (r : Retain) :
    Cell.update .min r (none : Cell τ) [{ value := .fin 0, info := none }] =
      some { value := .fin 0, infos := [], merge := .min, retain := r } := by
  cases r <;> rfl

/-- What `*a.combine(b, comb)` unpacks to under MIN / ALL, for an event combinator
    `(lv, li, rv, ri) ↦ Candidate(g lv rv, mk li ri)`: one candidate per pair of retained
    tags, all with the value `g a.value b.value`. -/
theorem mem_combine_cands {τ σ : Type} [DecidableEq τ] [DecidableEq σ] {a b : Entry τ}
    (hm : a.merge = .min) (hr : a.retain = .all) {f : ExtInt → τ → ExtInt → τ → Cand σ}
    {g : ExtInt → ExtInt → ExtInt} {mk : τ → τ → σ}
    (hf : ∀ av x bv y, f av x bv y = ⟨g av bv, some (mk x y)⟩) (c : Cand σ) :
    c ∈ (a.combine b f).infos.map (fun t => (⟨(a.combine b f).value, some t⟩ : Cand σ)) ↔
      ∃ x ∈ a.infos, ∃ y ∈ b.infos, c = ⟨g a.value b.value, some (mk x y)⟩ := by
  have inv : Entry.Inv .min .all (C16.pairCands a b f) (a.combine b f) :=
    hm ▸ hr ▸ C16.combine_inv a b f
  have hpc : ∀ pc, pc ∈ C16.pairCands a b f ↔
      ∃ x ∈ a.infos, ∃ y ∈ b.infos, pc = ⟨g a.value b.value, some (mk x y)⟩ := by
    intro pc; rw [C16.mem_pairCands]; simp only [hf]
  simp only [List.mem_map]
  constructor
  · rintro ⟨t, ht, rfl⟩
    obtain ⟨pc, hpc', h1, h2⟩ := (inv.all rfl t).mp ht
    obtain ⟨x, hx, y, hy, rfl⟩ := (hpc pc).mp hpc'
    simp only [Option.some.injEq] at h1
    exact ⟨x, hx, y, hy, by rw [← h2, ← h1]⟩
  · rintro ⟨x, hx, y, hy, rfl⟩
    have hmem := (hpc _).mpr ⟨x, hx, y, hy, rfl⟩
    -- all the candidates carry the same value, which is therefore the entry's
    have hval : (a.combine b f).value = g a.value b.value := by
      rcases inv.attained with h | ⟨pc, hpc', h⟩
      · exact h.trans (inv.value_posInf h _ hmem).symm
      · obtain ⟨x', _, y', _, rfl⟩ := (hpc pc).mp hpc'
        exact h.symm
    refine ⟨mk x y, (inv.all rfl _).mpr ⟨_, hmem, rfl, hval.symm⟩, ?_⟩
    rw [hval]

open Cost in
/-- A MIN entry whose candidates all carry `Cost`s holds a `Cost`: a lower bound of theirs that
    is `inf` or attained, i.e. their minimum. -/
theorem Entry.Inv.cost_min {τ : Type} {r : Retain} {cs : List (Cand τ)}
    {e : Entry τ} (hI : Entry.Inv .min r cs e) (hshape : ∀ c ∈ cs, ∃ v : Cost, c.value = v.toExt) :
    ∃ v : Cost, e.value = v.toExt ∧ (∀ c ∈ cs, ∀ w : Cost, c.value = w.toExt → v ≼ w) ∧
      (v = .inf ∨ ∃ c ∈ cs, c.value = v.toExt) := by
  have hv : ∃ v : Cost, e.value = v.toExt ∧ (v = .inf ∨ ∃ c ∈ cs, c.value = v.toExt) := by
    rcases hI.attained with h | ⟨c, hc, h⟩
    · exact ⟨.inf, by simpa [Entry.sentinel] using h, .inl rfl⟩
    · obtain ⟨v, hv⟩ := hshape c hc
      exact ⟨v, by rw [← h, hv], .inr ⟨c, hc, hv⟩⟩
  obtain ⟨v, hv, hatt⟩ := hv
  refine ⟨v, hv, fun c hc w hw => ?_, hatt⟩
  have := hI.optimal c hc
  rw [hv, hw, Entry.better, toExt_lt] at this
  exact le_of_not_lt this

open Cost in
theorem Entry.result_spec {σ : Type} [DecidableEq σ] (cost : σ → Cost) (D : List σ) :
    let res := Entry.update (Entry.init .min .all)
      (D.map fun out => (⟨(cost out).toExt, some out⟩ : Cand σ))
    (∀ sol, sol ∈ res.infos ↔ sol ∈ D ∧ ∀ out ∈ D, cost sol ≼ cost out) ∧
    (∀ sol ∈ res.infos, res.value = (cost sol).toExt) ∧
    res.infos.Nodup := by
  intro res
  have inv : Entry.Inv .min .all
      (D.map fun out => (⟨(cost out).toExt, some out⟩ : Cand σ)) res :=
    Entry.inv_fresh .min .all _
  have hcand : ∀ out ∈ D, (⟨(cost out).toExt, some out⟩ : Cand σ) ∈
      D.map fun out => (⟨(cost out).toExt, some out⟩ : Cand σ) :=
    fun out hout => List.mem_map.mpr ⟨out, hout, rfl⟩
  obtain ⟨v, hv, hlb, hatt⟩ := inv.cost_min fun c hc => by
    obtain ⟨out, _, rfl⟩ := List.mem_map.mp hc
    exact ⟨_, rfl⟩
  have hmem : ∀ sol, sol ∈ res.infos ↔ sol ∈ D ∧ (cost sol).toExt = res.value := by
    intro sol
    rw [inv.all rfl]
    constructor
    · rintro ⟨cnd, hc, h1, h2⟩
      obtain ⟨out, hout, rfl⟩ := List.mem_map.mp hc
      simp only [Option.some.injEq] at h1
      subst h1
      exact ⟨hout, h2⟩
    · rintro ⟨h1, h2⟩
      exact ⟨_, hcand sol h1, rfl, h2⟩
  refine ⟨fun sol => ?_, fun sol hsol => ((hmem sol).mp hsol).2.symm, inv.nodup⟩
  rw [hmem sol, hv]
  refine and_congr_right fun h1 => ⟨fun h2 out hout => ?_, fun h2 => ?_⟩
  · rw [toExt_inj h2]
    exact hlb _ (hcand out hout) _ rfl
  · refine congrArg Cost.toExt (le_antisymm ?_ (hlb _ (hcand sol h1) _ rfl))
    rcases hatt with rfl | ⟨cnd, hc, h⟩
    · exact le_inf _
    · obtain ⟨out, hout, rfl⟩ := List.mem_map.mp hc
      rw [← toExt_inj h]
      exact h2 out hout

end SR

namespace SR.UspfsCode

open SR Cost

theorem toExt_inj {a b : Cost} (h : Cost.toExt a = Cost.toExt b) : a = b := Cost.toExt_inj h

theorem add_def (a b : ExtInt) : a + b = ExtInt.add a b := rfl

theorem toExt_lt (a b : Cost) : ExtInt.lt (Cost.toExt a) (Cost.toExt b) = Cost.lt a b :=
  Cost.toExt_lt a b

@[simp] theorem toExt_fin (n : Nat) : Cost.toExt (.fin n) = .fin (n : Int) := rfl
@[simp] theorem toExt_inf : Cost.toExt .inf = .posInf := rfl

theorem toExt_eq_posInf {a : Cost} : Cost.toExt a = .posInf ↔ a = .inf := Cost.toExt_eq_posInf

theorem toExt_ne_negInf (a : Cost) : Cost.toExt a ≠ .negInf := Cost.toExt_ne_negInf a

theorem toExt_isInfinite (a : Cost) : (Cost.toExt a).isInfinite = a.isInf := Cost.toExt_isInfinite a

@[simp] theorem ext_add_zero (v : ExtInt) : v + .fin 0 = v := by
  cases v <;> simp [add_def, ExtInt.add]

@[simp] theorem ext_zero_add (v : ExtInt) : ExtInt.fin 0 + v = v := by
  cases v <;> simp [add_def, ExtInt.add]

theorem mem_levelOrder (S : RTree) (p : Path) : p ∈ levelOrder S ↔ S.isNode p = true := by
  rw [← RTree.mem_preorder_iff]
  simp only [levelOrder, List.mem_flatMap, List.mem_range, List.mem_filter, beq_iff_eq]
  constructor
  · rintro ⟨_, _, hp, _⟩; exact hp
  · intro hp
    have h := (List.foldl_max_spec (S.preorder.map List.length) 0).2 p.length
      (List.mem_cons_of_mem _ (List.mem_map_of_mem hp))
    rw [List.foldl_map] at h
    exact ⟨p.length, Nat.lt_succ_of_le h, hp, rfl⟩

end SR.UspfsCode

namespace SR

open Cost UspfsCode

open Path in
/-- The distance part of the value offered to role `ρ` of species `s` by a child placed
    at `x`, as the code computes it; `none` when nothing is offered to that role. -/
def baseE (c : Costs) (S : RTree) (s : Path) (ρ : RoleId) (x : Path) : Option ExtInt :=
  match ρ with
  | .cons => if isAnc s x then some (.fin ((dist s x : Nat) * (c.floss : Nat))) else none
  | .seg => if isAnc s x then some (.fin ((dist s x : Nat) * (c.floss : Nat))) else none
  | .left =>
    if isAnc s x && !speciesIsLeaf S s && isAnc (s ++ [0]) x then
      some (.fin ((dist s x : Nat) * (c.floss : Nat) - (c.floss : Nat))) else none
  | .right =>
    if isAnc s x && !speciesIsLeaf S s && !isAnc (s ++ [0]) x && isAnc (s ++ [1]) x then
      some (.fin ((dist s x : Nat) * (c.floss : Nat) - (c.floss : Nat))) else none
  | .sep => if !isAnc s x && !isAnc x s then some (.fin 0) else none

theorem int_dist (f d : Nat) (hd : 1 ≤ d) :
    ((f * (d - 1) : Nat) : Int) = (d : Int) * (f : Int) - (f : Int) := by
  cases d with
  | zero => omega
  | succ e =>
    simp only [Nat.add_sub_cancel]
    push_cast
    rw [Int.add_mul, Int.one_mul, Int.mul_comm]
    omega

open Path in
/-- The code's distances (`Int` arithmetic, `- floss` below a child) are the branch losses
    of the label DP. -/
theorem baseE_eq (c : Costs) (S : RTree) (s : Path) (ρ : RoleId) (x : Path) :
    baseE c S s ρ x = (rvBase c S s ρ x).map fun b : Nat => ExtInt.fin (b : Int) := by
  have child : ∀ i, isAnc (s ++ [i]) x = true →
      (dist s x : Int) * (c.floss : Int) - (c.floss : Int) = ((c.floss * (dist s x - 1) : Nat) : Int) := by
    intro i hi
    obtain ⟨t, rfl⟩ := isAnc_iff_append.mp hi
    rw [List.append_assoc, dist_append]
    exact (int_dist _ _ (by simp)).symm
  have above : (dist s x : Int) * (c.floss : Int) = ((c.floss * dist s x : Nat) : Int) := by
    rw [Nat.mul_comm]; push_cast; rfl
  cases ρ <;> simp only [baseE, rvBase, Option.map_if]
  · split
    · rename_i h
      simp only [Bool.and_eq_true] at h
      rw [child 0 h.2]
    · rfl
  · split
    · rename_i h
      simp only [Bool.and_eq_true] at h
      rw [child 1 h.2]
    · rfl
  · rw [above]
  · rw [above]
  · rfl

variable {τ : Type}

/-- `cs` (tagged `ExtInt` candidates) and `xs` (`Cost` candidates) have the same finite
    members; every member of `cs` is tagged and has a non-negative or `+∞` value. -/
structure UspfsCode.Corr (cs : List (Cand τ)) (xs : List (Cost × τ)) : Prop where
  shape : ∀ c ∈ cs, ∃ v t, c = { value := Cost.toExt v, info := some t }
  fin : ∀ (n : Nat) (t : τ),
    ({ value := .fin (n : Int), info := some t } : Cand τ) ∈ cs ↔ (Cost.fin n, t) ∈ xs

theorem UspfsCode.Corr.nil : Corr ([] : List (Cand τ)) [] := ⟨by simp, by simp⟩

variable {σ : Type}

/-- `Corr` when the code tags its candidates in `τ` and the label DP in `σ`: `φ` embeds the
    code's tags, and every finite candidate of the label DP carries a tag of the code (`onto`).
    The three refinements go through this relation. -/
structure CorrOn (φ : τ → σ) (cs : List (Cand τ)) (xs : List (Cost × σ)) : Prop where
  shape : ∀ c ∈ cs, ∃ v t, c = { value := Cost.toExt v, info := some t }
  fin : ∀ (n : Nat) (t : τ),
    ({ value := .fin (n : Int), info := some t } : Cand τ) ∈ cs ↔ (Cost.fin n, φ t) ∈ xs
  onto : ∀ (n : Nat) (u : σ), (Cost.fin n, u) ∈ xs → ∃ t, φ t = u

theorem UspfsCode.Corr.on {cs : List (Cand τ)} {xs : List (Cost × τ)} (h : Corr cs xs) : CorrOn id cs xs :=
  ⟨h.shape, h.fin, fun _ u _ => ⟨u, rfl⟩⟩

theorem CorrOn.nil {φ : τ → σ} : CorrOn φ ([] : List (Cand τ)) [] :=
  ⟨fun _ h => (List.not_mem_nil h).elim,
    fun _ _ => ⟨fun h => (List.not_mem_nil h).elim, fun h => (List.not_mem_nil h).elim⟩,
    fun _ _ h => (List.not_mem_nil h).elim⟩

theorem CorrOn.append {φ : τ → σ} {cs1 cs2 : List (Cand τ)} {xs1 xs2 : List (Cost × σ)}
    (h1 : CorrOn φ cs1 xs1) (h2 : CorrOn φ cs2 xs2) : CorrOn φ (cs1 ++ cs2) (xs1 ++ xs2) := by
  refine ⟨fun c hc => ?_, fun n t => ?_, fun n u hu => ?_⟩
  · rcases List.mem_append.mp hc with hc | hc
    · exact h1.shape c hc
    · exact h2.shape c hc
  · simp only [List.mem_append, h1.fin n t, h2.fin n t]
  · rcases List.mem_append.mp hu with hu | hu
    · exact h1.onto n u hu
    · exact h2.onto n u hu

theorem CorrOn.flatMap {α : Type} {φ : τ → σ} (l : List α) {f : α → List (Cand τ)}
    {g : α → List (Cost × σ)} (h : ∀ x ∈ l, CorrOn φ (f x) (g x)) :
    CorrOn φ (l.flatMap f) (l.flatMap g) := by
  induction l with
  | nil => exact CorrOn.nil
  | cons x l ih =>
    rw [List.flatMap_cons, List.flatMap_cons]
    exact (h x List.mem_cons_self).append (ih fun y hy => h y (List.mem_cons_of_mem _ hy))

theorem CorrOn.congr {φ : τ → σ} {cs : List (Cand τ)} {xs xs' : List (Cost × σ)}
    (h : CorrOn φ cs xs) (hm : ∀ p, p ∈ xs' ↔ p ∈ xs) : CorrOn φ cs xs' :=
  ⟨h.shape, fun n t => by rw [hm]; exact h.fin n t, fun n u hu => h.onto n u ((hm _).mp hu)⟩

theorem minall_of_corrOn {φ : τ → σ} {cs : List (Cand τ)} {xs : List (Cost × σ)} {e : Entry τ}
    (hI : Entry.Inv .min .all cs e) (hC : CorrOn φ cs xs) :
    e.value = Cost.toExt (minList (xs.map (·.1))) ∧
    (minList (xs.map (·.1)) ≠ .inf →
      ∀ t, t ∈ e.infos ↔ (minList (xs.map (·.1)), φ t) ∈ xs) := by
  obtain ⟨v, hv, hlb, hatt⟩ := hI.cost_min fun c hc => by
    obtain ⟨w, t, rfl⟩ := hC.shape c hc
    exact ⟨w, rfl⟩
  -- `v` is the minimum of the label DP's candidates: the finite members are the same
  have hmin : minList (xs.map (·.1)) = v := by
    refine minList_eq (fun w hw => ?_) ?_
    · obtain ⟨⟨w', u⟩, hp, rfl⟩ := List.mem_map.mp hw
      cases w' with
      | inf => exact le_inf _
      | fin k =>
        obtain ⟨t, rfl⟩ := hC.onto k u hp
        exact hlb _ ((hC.fin k t).mpr hp) _ rfl
    · rcases hatt with h | ⟨c, hc, h⟩
      · exact .inl h
      · cases v with
        | inf => exact .inl rfl
        | fin k =>
          obtain ⟨w, t, rfl⟩ := hC.shape c hc
          rw [toExt_eq_fin.mp h] at hc
          exact .inr (List.mem_map.mpr ⟨_, (hC.fin k t).mp hc, rfl⟩)
  rw [hmin]
  refine ⟨hv, fun hfin t => ?_⟩
  obtain ⟨n, rfl⟩ := ne_inf_iff.mp hfin
  rw [hI.all rfl t, hv]
  constructor
  · rintro ⟨c, hc, hi, hval⟩
    obtain ⟨w, t', rfl⟩ := hC.shape c hc
    simp only [Option.some.injEq] at hi
    subst hi
    rw [toExt_eq_fin.mp hval] at hc
    exact (hC.fin n t').mp hc
  · intro hx
    exact ⟨_, (hC.fin n t).mpr hx, rfl, rfl⟩

set_option linter.unusedSectionVars false

variable [DecidableEq τ] [DecidableEq σ]

/-- A MIN / ALL entry of the code model and an aggregate of the label DP hold the
    same value, and the same tags (across `φ`) as soon as the value is finite. -/
structure RelOn (φ : τ → σ) (e : Entry τ) (a : Agg σ) : Prop where
  merge : e.merge = .min
  retain : e.retain = .all
  value : e.value = Cost.toExt a.val
  tags : a.val ≠ .inf → ∀ t, t ∈ e.infos ↔ φ t ∈ a.tags

theorem relOn_of_corrOn {φ : τ → σ} {cs : List (Cand τ)} {xs : List (Cost × σ)}
    (hC : CorrOn φ cs xs) : RelOn φ (Entry.update (Entry.init .min .all) cs) (Agg.ofList xs) := by
  have hI := Entry.inv_fresh .min .all cs
  have hA := Agg.inv_ofList xs
  obtain ⟨hv, ht⟩ := minall_of_corrOn hI hC
  refine ⟨hI.merge, hI.retain, by rw [hv, hA.val_eq], ?_⟩
  intro hfin t
  rw [hA.val_eq] at hfin
  rw [ht hfin t, hA.tags (φ t), hA.val_eq]
  constructor
  · intro h; exact ⟨_, h, rfl, rfl⟩
  · rintro ⟨⟨v, t'⟩, hp, rfl, hv'⟩
    simp only at hv'
    rw [← hv']; exact hp

/-- `*a.combine(b, comb)` of related entries against `Agg.comb`; `ψ` embeds the tags `mk x y`
    made by the combinator. -/
theorem corrOn_combine {φ : τ → σ} {a b : Entry τ} {A B : Agg σ} (ha : RelOn φ a A)
    (hb : RelOn φ b B) (e : Cost) {τ' : Type} [DecidableEq τ']
    {f : ExtInt → τ → ExtInt → τ → Cand τ'} {mk : τ → τ → τ'} {ψ : τ' → σ × σ}
    (hf : ∀ av x bv y, f av x bv y = ⟨Cost.toExt e + av + bv, some (mk x y)⟩)
    (hψ : ∀ x y, ψ (mk x y) = (φ x, φ y)) (hinj : Function.Injective ψ)
    (hφ : Function.Surjective φ) :
    CorrOn ψ ((a.combine b f).infos.map fun t => (⟨(a.combine b f).value, some t⟩ : Cand τ'))
      (Agg.comb e A B) := by
  have hv : Cost.toExt e + a.value + b.value = Cost.toExt (e + A.val + B.val) := by
    rw [ha.value, hb.value, toExt_add, toExt_add]
  have hmem := fun cd => mem_combine_cands (b := b) ha.merge ha.retain
    (g := fun x y => Cost.toExt e + x + y) (mk := mk) hf cd
  -- a finite sum has finite summands, at which the tags of entry and aggregate agree
  have hfin : ∀ {n : Nat}, e + A.val + B.val = .fin n → A.val ≠ .inf ∧ B.val ≠ .inf := by
    intro n hsum
    obtain ⟨_, _, hAB, hB, _⟩ := add_eq_fin hsum
    obtain ⟨_, _, _, hA, _⟩ := add_eq_fin hAB
    exact ⟨by rw [hA]; simp, by rw [hB]; simp⟩
  refine ⟨fun cd hcd => ?_, fun n m => ?_, fun n u _ => ?_⟩
  · obtain ⟨x, _, y, _, rfl⟩ := (hmem cd).mp hcd
    exact ⟨_, _, by rw [hv]⟩
  · rw [hmem, hv]
    constructor
    · rintro ⟨x, hx, y, hy, h⟩
      simp only [Cand.mk.injEq, Option.some.injEq] at h
      obtain ⟨hval, rfl⟩ := h
      have hsum : e + A.val + B.val = .fin n := toExt_eq_fin.mp hval.symm
      rw [hψ, Agg.mem_comb]
      exact ⟨(ha.tags (hfin hsum).1 _).mp hx, (hb.tags (hfin hsum).2 _).mp hy, hsum.symm⟩
    · intro h
      obtain ⟨x, hx⟩ := hφ (ψ m).1
      obtain ⟨y, hy⟩ := hφ (ψ m).2
      obtain rfl : mk x y = m := hinj (by rw [hψ, hx, hy])
      rw [hψ, Agg.mem_comb] at h
      obtain ⟨hx', hy', hsum⟩ := h
      exact ⟨x, (ha.tags (hfin hsum.symm).1 _).mpr hx', y, (hb.tags (hfin hsum.symm).2 _).mpr hy',
        by rw [← hsum]; rfl⟩
  · obtain ⟨x, hx⟩ := hφ u.1
    obtain ⟨y, hy⟩ := hφ u.2
    exact ⟨mk x y, by rw [hψ, hx, hy]⟩

theorem CorrOn.any_finite_iff {φ : τ → σ} {batch : List (Cand τ)} {xs : List (Cost × σ)}
    (hC : CorrOn φ batch xs) :
    batch.any (fun x => !x.value.isInfinite) = true ↔ minList (xs.map (·.1)) ≠ .inf := by
  rw [List.any_eq_true, Ne, minList_eq_inf_iff]
  constructor
  · rintro ⟨cd, hcd, hfin⟩ hall
    obtain ⟨v, t, rfl⟩ := hC.shape cd hcd
    cases v with
    | inf => simp [ExtInt.isInfinite] at hfin
    | fin n => cases hall _ (List.mem_map.mpr ⟨_, (hC.fin n t).mp hcd, rfl⟩)
  · intro hne
    obtain ⟨x, hx, hxne⟩ : ∃ x ∈ xs.map (·.1), x ≠ .inf :=
      Classical.byContradiction fun h =>
        hne fun x hx => Classical.byContradiction fun hx' => h ⟨x, hx, hx'⟩
    obtain ⟨⟨v, u⟩, hp, rfl⟩ := List.mem_map.mp hx
    obtain ⟨n, rfl⟩ := ne_inf_iff.mp hxne
    obtain ⟨t, rfl⟩ := hC.onto n u hp
    exact ⟨_, (hC.fin n t).mpr hp, by simp [ExtInt.isInfinite]⟩

theorem CorrOn.written {φ : τ → σ} {bs : List (List (Cand τ))} {xs : List (Cost × σ)}
    (hC : CorrOn φ bs.flatten xs) : CorrOn φ (bs.filter (·.any fun x => !x.value.isInfinite)).flatten xs := by
  have hsub : ∀ cd ∈ (bs.filter (·.any fun x => !x.value.isInfinite)).flatten, cd ∈ bs.flatten :=
    fun _ h => C16.mem_written_flatten h
  refine ⟨fun cd h => hC.shape cd (hsub cd h), fun n t => ?_, hC.onto⟩
  rw [← hC.fin n t]
  refine ⟨hsub _, fun h => ?_⟩
  obtain ⟨b, hb, hc⟩ := List.mem_flatten.mp h
  exact List.mem_flatten.mpr ⟨b, List.mem_filter.mpr ⟨hb,
    List.any_eq_true.mpr ⟨_, hc, by simp [ExtInt.isInfinite]⟩⟩, hc⟩

theorem cell_of_corrOn {φ : τ → σ} {bs : List (List (Cand τ))} {xs : List (Cost × σ)}
    (hC : CorrOn φ bs.flatten xs) :
    (minList (xs.map (·.1)) = .inf → bs.foldl (Cell.update .min .all) none = none) ∧
    (minList (xs.map (·.1)) ≠ .inf →
      ∃ e, bs.foldl (Cell.update .min .all) none = some e ∧
        e.value = Cost.toExt (minList (xs.map (·.1))) ∧
        ∀ t, t ∈ e.infos ↔ (minList (xs.map (·.1)), φ t) ∈ xs) := by
  have hW := hC.written
  have hany := hW.any_finite_iff
  -- no batch is written iff the label DP's minimum is infinite
  have hw : bs.filter (·.any fun x => !x.value.isInfinite) = [] ↔ minList (xs.map (·.1)) = .inf := by
    constructor
    · intro hnil
      rw [hnil] at hany
      exact Classical.byContradiction fun hb => absurd (hany.mpr hb) (by simp)
    · intro hb
      rw [List.eq_nil_iff_forall_not_mem]
      intro b hb'
      obtain ⟨cnd, hc, hf⟩ := List.any_eq_true.mp (List.mem_filter.mp hb').2
      exact hany.mp (List.any_eq_true.mpr ⟨cnd, List.mem_flatten.mpr ⟨b, hb', hc⟩, hf⟩) hb
  have inv : Entry.Inv .min .all (bs.filter (·.any fun x => !x.value.isInfinite)).flatten
      (Entry.update (Entry.init .min .all) (bs.filter (·.any fun x => !x.value.isInfinite)).flatten) :=
    Entry.inv_fresh .min .all _
  obtain ⟨hv, ht⟩ := minall_of_corrOn inv hW
  rw [C16.cell_fold]
  unfold C16.writes
  exact ⟨fun hb => by rw [if_pos (hw.mpr hb)],
    fun hb => ⟨_, by rw [if_neg (fun h => hb (hw.mp h))]; rfl, hv, ht hb⟩⟩

section transfer

variable {τ : Type}

theorem transfer {cs : List (Cand τ)} {e : Entry τ} {xs : List (Cost × τ)}
    (inv : Entry.Inv .min .all cs e)
    (h1 : ∀ c ∈ cs, ∃ p ∈ xs, c.value = p.1.toExt ∧ c.info = some p.2)
    (h2 : ∀ p ∈ xs, p.1 ≠ .inf → ∃ c ∈ cs, c.value = p.1.toExt ∧ c.info = some p.2) :
    e.value = (Cost.minList (xs.map (·.1))).toExt ∧
    (Cost.minList (xs.map (·.1)) ≠ .inf →
      ∀ t, t ∈ e.infos ↔ ∃ p ∈ xs, p.2 = t ∧ p.1 = Cost.minList (xs.map (·.1))) := by
  have hC : UspfsCode.Corr cs xs := by
    constructor
    · intro c hc
      obtain ⟨p, _, hv, hi⟩ := h1 c hc
      exact ⟨p.1, p.2, by rw [← hv, ← hi]⟩
    · intro n t
      constructor
      · intro hc
        obtain ⟨⟨v, t'⟩, hp, hv, hi⟩ := h1 _ hc
        simp only [Option.some.injEq] at hi
        have hvn : v = .fin n := Cost.toExt_eq_fin.mp hv.symm
        rw [hi, ← hvn]; exact hp
      · intro hp
        obtain ⟨c, hc, hv, hi⟩ := h2 _ hp (by simp)
        rw [← Cost.toExt_fin, ← hv, ← hi]; exact hc
  obtain ⟨hv, ht⟩ := minall_of_corrOn inv hC.on
  refine ⟨hv, fun hfin t => ?_⟩
  rw [ht hfin t]
  constructor
  · intro h; exact ⟨_, h, rfl, rfl⟩
  · rintro ⟨⟨v, t'⟩, hp, rfl, hv'⟩
    rw [← show v = _ from hv']; exact hp

end transfer

end SR
