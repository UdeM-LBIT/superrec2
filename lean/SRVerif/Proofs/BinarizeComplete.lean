/-
  C08, completeness of `binarize`.  Laminarity (`decomp`): a binary tree with distinct leaves
  whose leaf set is partitioned by non-empty sets, each a single leaf or a clade of the tree, is
  an arrangement of subtrees carrying exactly those sets.  Node case (`complete_node`): cut the
  refinement at the clades of the children of the root; each piece refines its child, so by
  induction is equivalent to a member of the child's `binarize`, and `arrange_complete` arranges
  those members.  `binarize` of a binary tree is that tree, so completeness there says that
  equality up to child order is read off the clades (`ref_toN_iff_equiv`).
-/
import SRVerif.Proofs.BinarizeUniq

namespace SR.Bin

open BTree

mutual
  theorem NTree.inner_sub_leaves : ∀ (t : NTree) (x : List Nat × Option Nat), x ∈ t.inner →
      ∀ y ∈ x.1, y ∈ t.leaves
    | .leaf _, x, hx => absurd hx List.not_mem_nil
    | .node a cs, x, hx => by
      rw [NTree.inner, List.mem_cons] at hx
      rw [NTree.leaves]
      rcases hx with rfl | hx
      · intro y hy; exact hy
      · exact NTree.innerList_sub_leaves cs x hx
  theorem NTree.innerList_sub_leaves : ∀ (cs : List NTree) (x : List Nat × Option Nat),
      x ∈ NTree.innerList cs → ∀ y ∈ x.1, y ∈ NTree.leavesList cs
    | [], x, hx => absurd hx List.not_mem_nil
    | c :: cs, x, hx => by
      rw [NTree.innerList, List.mem_append] at hx
      intro y hy
      rw [NTree.leavesList, List.mem_append]
      rcases hx with hx | hx
      · exact Or.inl (NTree.inner_sub_leaves c x hx y hy)
      · exact Or.inr (NTree.innerList_sub_leaves cs x hx y hy)
end

theorem BinT.inner_sub_leaves {b : BinT} {c : List Nat × Option Nat} (hc : c ∈ b.inner) :
    ∀ x ∈ c.1, x ∈ b.leaves := by
  rw [← BinT.leaves_toN]
  exact NTree.inner_sub_leaves b.toN c (by rw [BinT.inner_toN]; exact hc)

theorem BinT.inner_exists_mem {b : BinT} {c : List Nat × Option Nat} (hc : c ∈ b.inner) :
    ∃ x, x ∈ c.1 := by
  induction b with
  | leaf i => simp [BinT.inner] at hc
  | node a l r ihl ihr =>
    simp only [BinT.inner, List.mem_cons, List.mem_append] at hc
    rcases hc with rfl | hc | hc
    · obtain ⟨x, hx⟩ := BinT.exists_mem_leaves l
      exact ⟨x, by simp [hx]⟩
    · exact ihl hc
    · exact ihr hc

theorem BinT.leaves_eq_of_skel {a b : BinT} (h : a.skel = b.skel) : a.leaves = b.leaves := by
  rw [← BinT.items_skel, ← BinT.items_skel, h]

/-- Leaf sets of the internal nodes of an arrangement of leaves. -/
def BTree.clades : BTree Nat → List (List Nat)
  | .item _ => []
  | .node l r => (l.items ++ r.items) :: (l.clades ++ r.clades)

theorem BinT.clades_skel (b : BinT) : b.skel.clades = b.inner.map Prod.fst := by
  induction b with
  | leaf i => rfl
  | node a l r ihl ihr =>
    simp [BinT.skel, BTree.clades, BinT.inner, BinT.items_skel, ihl, ihr]

theorem BinT.clades_eq_of_skel {a b : BinT} (h : a.skel = b.skel) :
    a.inner.map Prod.fst = b.inner.map Prod.fst := by
  rw [← BinT.clades_skel, ← BinT.clades_skel, h]

theorem BinT.eq_leaf_of_length {b : BinT} (h : b.leaves.length = 1) : ∃ i, b = .leaf i := by
  cases b with
  | leaf i => exact ⟨i, rfl⟩
  | node a l r =>
    obtain ⟨x, hx⟩ := BTree.eq_item_of_length (t := (BinT.node a l r).skel)
      (by rw [BinT.items_skel]; exact h)
    cases hx

/-- A node of `subst σ` whose clade lies inside the leaves of the item `d` is a node of `d`: a
    node of another item shares no leaf with `d`, and a fresh node holds the leaves of two items. -/
theorem inner_of_subst (σ : BTree BinT) (hnd : (σ.items.flatMap BinT.leaves).Nodup)
    {c : List Nat × Option Nat} (hc : c ∈ (subst σ).inner) {d : BinT} (hd : d ∈ σ.items)
    (hsub : ∀ x ∈ c.1, x ∈ d.leaves) : c ∈ d.inner := by
  have hD := disjFam_of_nodup hnd
  rcases mem_inner_subst hc with ⟨d', hd', h⟩ | ⟨_, d₁, d₂, hs, h₁, h₂⟩
  · obtain ⟨x, hx⟩ := BinT.inner_exists_mem h
    exact eq_of_share hD hd' hd (BinT.inner_sub_leaves h x hx) (hsub x hx) ▸ h
  · obtain ⟨x₁, hx₁⟩ := BinT.exists_mem_leaves d₁
    obtain ⟨x₂, hx₂⟩ := BinT.exists_mem_leaves d₂
    have e₁ : d₁ = d := eq_of_share hD (hs.subset List.mem_cons_self) hd hx₁ (hsub x₁ (h₁ x₁ hx₁))
    have e₂ : d₂ = d := eq_of_share hD (hs.subset (List.mem_cons_of_mem _ List.mem_cons_self)) hd
      hx₂ (hsub x₂ (h₂ x₂ hx₂))
    rw [e₁, e₂] at hs
    exact absurd List.mem_cons_self (List.nodup_cons.mp ((nodup_of_leaves_nodup hnd).sublist hs)).1

section Fam

variable {γ : Type} (key : γ → List Nat)

theorem fam_eq_singleton {F : List γ} (hne : ∀ c ∈ F, key c ≠ []) {c : γ} (hc : c ∈ F)
    (h : (key c).length = (F.flatMap key).length) : F = [c] := by
  obtain ⟨s, t, rfl⟩ := List.append_of_mem hc
  simp only [List.flatMap_append, List.flatMap_cons, List.length_append] at h
  -- the other members have no room, and none of them is empty
  have hnil : ∀ u : List γ, (∀ c' ∈ u, c' ∈ s ++ c :: t) → (u.flatMap key).length = 0 → u = [] :=
    fun u hu h0 => List.eq_nil_iff_forall_not_mem.mpr fun c' hc' =>
      hne c' (hu c' hc') (List.flatMap_eq_nil_iff.mp (List.eq_nil_of_length_eq_zero h0) c' hc')
  have hs : s = [] := hnil s (fun _ h => List.mem_append_left _ h) (by omega)
  have ht : t = [] := hnil t (fun _ h => List.mem_append_right _ (List.mem_cons_of_mem _ h)) (by omega)
  subst hs; subst ht; rfl

theorem All2.merge {β : Type} {R : β → γ → Prop} (p : γ → Bool) :
    ∀ (F : List γ) (xs ys : List β), All2 R xs (F.filter p) →
      All2 R ys (F.filter (fun c => !p c)) → ∃ zs, zs.Perm (xs ++ ys) ∧ All2 R zs F
  | [], xs, ys, hx, hy => by
    cases hx; cases hy; exact ⟨[], .refl _, All2.nil⟩
  | c :: F, xs, ys, hx, hy => by
    cases hp : p c
    · simp only [List.filter_cons, hp, Bool.false_eq_true, if_false, Bool.not_false, if_true] at hx hy
      cases hy with
      | cons hh ht =>
        obtain ⟨zs, hz, ha⟩ := All2.merge p F xs _ hx ht
        exact ⟨_ :: zs, (hz.cons _).trans List.perm_middle.symm, All2.cons hh ha⟩
    · simp only [List.filter_cons, hp, if_true, Bool.not_true, Bool.false_eq_true, if_false] at hx hy
      cases hx with
      | cons hh ht =>
        obtain ⟨zs, hz, ha⟩ := All2.merge p F _ ys ht hy
        exact ⟨_ :: zs, hz.cons _, All2.cons hh ha⟩

end Fam

theorem All2.flatMap_perm {β γ : Type} {f : β → List Nat} {g : γ → List Nat} {xs : List β}
    {ys : List γ} (h : All2 (fun x y => (f x).Perm (g y)) xs ys) :
    (xs.flatMap f).Perm (ys.flatMap g) := by
  induction h with
  | nil => exact .refl _
  | cons hh _ ih => simp only [List.flatMap_cons]; exact hh.append ih

theorem perm_of_append_perm {A B A' B' : List Nat} (hA : A.Nodup) (hB : B.Nodup)
    (hdis : ∀ x, x ∈ A → x ∈ B → False) (hp : (A' ++ B').Perm (A ++ B))
    (hA' : ∀ x ∈ A', x ∈ A) (hB' : ∀ x ∈ B', x ∈ B) : A.Perm A' ∧ B.Perm B' := by
  have hnd : (A' ++ B').Nodup :=
    hp.nodup_iff.mpr (List.nodup_append.mpr ⟨hA, hB, fun x hx y hy e => hdis x hx (e ▸ hy)⟩)
  rw [List.nodup_append] at hnd
  constructor
  · refine (List.perm_ext_iff_of_nodup hA hnd.1).mpr fun x => ⟨fun hx => ?_, hA' x⟩
    rcases List.mem_append.mp (hp.mem_iff.mpr (List.mem_append_left _ hx)) with h | h
    · exact h
    · exact (hdis x hx (hB' x h)).elim
  · refine (List.perm_ext_iff_of_nodup hB hnd.2.1).mpr fun x => ⟨fun hx => ?_, hB' x⟩
    rcases List.mem_append.mp (hp.mem_iff.mpr (List.mem_append_right _ hx)) with h | h
    · exact (hdis x (hA' x h) hx).elim
    · exact h

/-- The set `key c` lies below `b`, as a single leaf or as a clade. -/
def Fits {γ : Type} (key : γ → List Nat) (b : BinT) (c : γ) : Prop :=
  (∀ x ∈ key c, x ∈ b.leaves) ∧ ((key c).length = 1 ∨ ∃ c' ∈ b.inner, c'.1.Perm (key c))

theorem decomp {γ : Type} (key : γ → List Nat) (n : BinT) :
    ∀ (F : List γ), n.leaves.Nodup → n.leaves.Perm (F.flatMap key) →
      (∀ c ∈ F, key c ≠ []) →
      (∀ c ∈ F, (key c).length = 1 ∨ ∃ c' ∈ n.inner, c'.1.Perm (key c)) →
      ∃ σ : BTree BinT, (subst σ).skel = n.skel ∧
        ∃ ds, σ.items.Perm ds ∧ All2 (fun d c => d.leaves.Perm (key c)) ds F := by
  induction n with
  | leaf i =>
    intro F _ hp hne _
    have hc : ∃ c, c ∈ F := by
      cases F with
      | nil => simp [BinT.leaves] at hp
      | cons c _ => exact ⟨c, by simp⟩
    obtain ⟨c, hc⟩ := hc
    have hlen := hp.length_eq
    have h1 : 0 < (key c).length := List.length_pos_iff.mpr (hne c hc)
    have h2 : (key c).length ≤ (F.flatMap key).length := by
      obtain ⟨s, t, rfl⟩ := List.append_of_mem hc
      simp only [List.flatMap_append, List.flatMap_cons, List.length_append]; omega
    simp only [BinT.leaves, List.length_singleton] at hlen
    have hF := fam_eq_singleton key hne hc (by omega)
    subst hF
    refine ⟨.item (.leaf i), rfl, [.leaf i], .refl _, All2.cons ?_ All2.nil⟩
    simpa using hp
  | node a l r ihl ihr =>
    intro F hnd hp hne hcl
    by_cases hone : ∃ c, F = [c]
    · obtain ⟨c, rfl⟩ := hone
      refine ⟨.item (.node a l r), rfl, [.node a l r], .refl _, All2.cons ?_ All2.nil⟩
      simpa using hp
    · simp only [BinT.leaves, List.nodup_append] at hnd
      obtain ⟨hndl, hndr, hdis⟩ := hnd
      have hdis' : ∀ x, x ∈ l.leaves → x ∈ r.leaves → False := fun x h1 h2 => hdis x h1 x h2 rfl
      -- every member lies on one side, and is a singleton or a clade of that side
      have hside : ∀ c ∈ F, Fits key l c ∨ Fits key r c := by
        intro c hc
        rcases hcl c hc with h1 | ⟨c', hc', hpc⟩
        · obtain ⟨x, hx⟩ : ∃ x, key c = [x] := List.length_eq_one_iff.mp h1
          have : x ∈ (BinT.node a l r).leaves :=
            hp.mem_iff.mpr (List.mem_flatMap.mpr ⟨c, hc, by simp [hx]⟩)
          simp only [BinT.leaves, List.mem_append] at this
          rcases this with h | h
          · exact Or.inl ⟨by simp [hx, h], Or.inl h1⟩
          · exact Or.inr ⟨by simp [hx, h], Or.inl h1⟩
        · simp only [BinT.inner, List.mem_cons, List.mem_append] at hc'
          rcases hc' with rfl | hc' | hc'
          · -- the root clade would be the only member
            exact absurd ⟨c, fam_eq_singleton key hne hc (hpc.symm.trans hp).length_eq⟩ hone
          · exact Or.inl ⟨fun x hx => BinT.inner_sub_leaves hc' x (hpc.mem_iff.mpr hx),
              Or.inr ⟨c', hc', hpc⟩⟩
          · exact Or.inr ⟨fun x hx => BinT.inner_sub_leaves hc' x (hpc.mem_iff.mpr hx),
              Or.inr ⟨c', hc', hpc⟩⟩
      let p : γ → Bool := fun c => (key c).all (fun x => l.leaves.contains x)
      have hp_iff : ∀ c, p c = true ↔ ∀ x ∈ key c, x ∈ l.leaves := fun c => by
        simp only [p, List.all_eq_true, List.contains_iff_mem]
      have hT : ∀ c ∈ F.filter p, Fits key l c := by
        intro c hc
        rw [List.mem_filter] at hc
        rcases hside c hc.1 with hs | ⟨hr, _⟩
        · exact hs
        · obtain ⟨x, hx⟩ := List.exists_mem_of_ne_nil _ (hne c hc.1)
          exact (hdis' x ((hp_iff c).mp hc.2 x hx) (hr x hx)).elim
      have hF : ∀ c ∈ F.filter (fun c => !p c), Fits key r c := by
        intro c hc
        rw [List.mem_filter, Bool.not_eq_true'] at hc
        rcases hside c hc.1 with ⟨hl, _⟩ | hs
        · rw [(hp_iff c).mpr hl] at hc; exact absurd hc.2 (by decide)
        · exact hs
      obtain ⟨hpl, hpr⟩ := perm_of_append_perm hndl hndr hdis'
        (List.flatMap_append ▸ ((List.filter_append_perm p F).flatMap_right key).trans hp.symm)
        (fun x hx => by obtain ⟨c, hc, hxc⟩ := List.mem_flatMap.mp hx; exact (hT c hc).1 x hxc)
        (fun x hx => by obtain ⟨c, hc, hxc⟩ := List.mem_flatMap.mp hx; exact (hF c hc).1 x hxc)
      obtain ⟨σl, hsl, dsl, hdl, hal⟩ := ihl (F.filter p) hndl hpl
        (fun c hc => hne c (List.mem_filter.mp hc).1) (fun c hc => (hT c hc).2)
      obtain ⟨σr, hsr, dsr, hdr, har⟩ := ihr (F.filter (fun c => !p c)) hndr hpr
        (fun c hc => hne c (List.mem_filter.mp hc).1) (fun c hc => (hF c hc).2)
      obtain ⟨zs, hz, ha⟩ := All2.merge p F dsl dsr hal har
      refine ⟨.node σl σr, by simp [subst, BinT.skel, hsl, hsr], zs, ?_, ha⟩
      simp only [BTree.items]
      exact (hdl.append hdr).trans hz.symm

theorem NTree.leavesList_eq (cs : List NTree) : NTree.leavesList cs = cs.flatMap NTree.leaves := by
  induction cs with
  | nil => rfl
  | cons c cs ih => rw [NTree.leavesList, ih, List.flatMap_cons]

theorem NTree.innerList_eq (cs : List NTree) : NTree.innerList cs = cs.flatMap NTree.inner := by
  induction cs with
  | nil => rfl
  | cons c cs ih => rw [NTree.innerList, ih, List.flatMap_cons]

theorem NTree.WFList_iff (cs : List NTree) : NTree.WFList cs = true ↔ ∀ c ∈ cs, c.WF = true := by
  induction cs with
  | nil => simp [NTree.WFList]
  | cons c cs ih => rw [NTree.WFList, Bool.and_eq_true, ih]; simp

mutual
  theorem NTree.leaves_ne_nil_of_WF : ∀ (t : NTree), t.WF = true → t.leaves ≠ []
    | .leaf _, _ => List.cons_ne_nil _ _
    | .node a cs, h => by
      rw [NTree.WF, Bool.and_eq_true, decide_eq_true_eq] at h
      rw [NTree.leaves]
      exact NTree.leavesList_ne_nil_of_WF cs h.2 (by intro h0; rw [h0] at h; simp at h)
  theorem NTree.leavesList_ne_nil_of_WF : ∀ (cs : List NTree), NTree.WFList cs = true → cs ≠ [] →
      NTree.leavesList cs ≠ []
    | [], _, h => absurd rfl h
    | c :: cs, h, _ => by
      rw [NTree.WFList, Bool.and_eq_true] at h
      rw [NTree.leavesList]
      intro h0
      exact NTree.leaves_ne_nil_of_WF c h.1 (List.append_eq_nil_iff.mp h0).1
end

theorem All2.exists_fun {β : Type} [DecidableEq β] {R : β → β → Prop} {us ds : List β}
    (h : All2 R us ds) (hnd : ds.Nodup) : ∃ g : β → β, ds.map g = us ∧ ∀ d ∈ ds, R (g d) d := by
  induction h with
  | nil => exact ⟨id, rfl, by simp⟩
  | @cons u d us ds hh _ ih =>
    rw [List.nodup_cons] at hnd
    obtain ⟨g, hg, hR⟩ := ih hnd.2
    refine ⟨fun x => if x = d then u else g x, ?_, ?_⟩
    · rw [List.map_cons, ← hg]
      simp only
      congr 1
      apply List.map_congr_left
      intro x hx
      have hne : x ≠ d := fun h => hnd.1 (h ▸ hx)
      simp only [if_neg hne]
    · intro x hx
      by_cases hxd : x = d
      · subst hxd; simp only; exact hh
      · simp only [if_neg hxd]
        rcases List.mem_cons.mp hx with h | h
        · exact absurd h hxd
        · exact hR x h

theorem join_map_equiv (σ : BTree BinT) (g : BinT → BinT)
    (h : ∀ d ∈ σ.items, BinT.Equiv (g d) d) :
    BTree.Equiv (join ((σ.map g).map BinT.skel)) (join (σ.map BinT.skel)) := by
  induction σ with
  | item d => exact h d (BTree.mem_item _)
  | node l r ihl ihr =>
    exact .congr (ihl fun d hd => h d (BTree.mem_node_left hd))
      (ihr fun d hd => h d (BTree.mem_node_right hd))

/-- `b` carries the leaves of `t` and every clade of `t` (`Spec.IsRefinement`
    for a `BinT`, which is binary by type). -/
def Ref (b : BinT) (t : NTree) : Prop :=
  b.leaves.Perm t.leaves ∧ ∀ x ∈ t.inner, ∃ x' ∈ b.inner, x'.1.Perm x.1

theorem mem_binarizeChildren_of_all2 : ∀ {cs : List NTree} {ds : List BinT},
    All2 (fun d c => d ∈ binarize c) ds cs → ds ∈ binarizeChildren cs
  | _, _, .nil => mem_binarizeChildren_nil.mpr rfl
  | _, _, .cons hh ht =>
    mem_binarizeChildren_cons.mpr ⟨_, _, rfl, hh, mem_binarizeChildren_of_all2 ht⟩

theorem complete_node {a : Option Nat} {cs : List NTree} (hwf : NTree.WFList cs = true)
    (hnd : (NTree.leavesList cs).Nodup)
    (hch : ∀ ds, All2 Ref ds cs → ∃ us ∈ binarizeChildren cs, All2 BinT.Equiv us ds)
    (b : BinT) (hb : Ref b (.node a cs)) : ∃ u ∈ binarize (.node a cs), BinT.Equiv u b := by
  obtain ⟨hbl, hbc⟩ := hb
  rw [NTree.leaves] at hbl
  have hbnd : b.leaves.Nodup := hbl.nodup_iff.mpr hnd
  have hwf' := (NTree.WFList_iff cs).mp hwf
  -- cut `b` at the clades of the children
  obtain ⟨σ, hσ, ds, hds, hal⟩ := decomp NTree.leaves b cs hbnd
    (by rw [← NTree.leavesList_eq]; exact hbl)
    (fun c hc => NTree.leaves_ne_nil_of_WF c (hwf' c hc))
    (by
      intro c hc
      cases c with
      | leaf i => exact Or.inl rfl
      | node a' cs' =>
        right
        have hm : (NTree.leavesList cs', a') ∈ (NTree.node a cs).inner := by
          rw [NTree.inner, NTree.innerList_eq]
          refine List.mem_cons_of_mem _ (List.mem_flatMap.mpr ⟨_, hc, ?_⟩)
          rw [NTree.inner]; exact List.mem_cons_self
        obtain ⟨c', hc', hp⟩ := hbc _ hm
        exact ⟨c', hc', by rw [NTree.leaves]; exact hp⟩)
  have hσnd : (σ.items.flatMap BinT.leaves).Nodup := by
    rw [← leaves_subst, BinT.leaves_eq_of_skel hσ]; exact hbnd
  have hdsnd : (ds.flatMap BinT.leaves).Nodup := (hds.flatMap_right _).nodup_iff.mp hσnd
  -- each piece refines its child
  have href : All2 Ref ds cs := by
    refine hal.imp_of_mem fun d hd c hc hp => ⟨hp, fun x hx => ?_⟩
    have hm : x ∈ (NTree.node a cs).inner := by
      rw [NTree.inner, NTree.innerList_eq]
      exact List.mem_cons_of_mem _ (List.mem_flatMap.mpr ⟨c, hc, hx⟩)
    obtain ⟨x', hx', hpx⟩ := hbc x hm
    have hx1 : x'.1 ∈ (subst σ).inner.map Prod.fst := by
      rw [BinT.clades_eq_of_skel hσ]; exact List.mem_map.mpr ⟨x', hx', rfl⟩
    obtain ⟨x'', hx'', he⟩ := List.mem_map.mp hx1
    refine ⟨x'', inner_of_subst σ hσnd hx'' (hds.mem_iff.mpr hd) ?_, by rw [he]; exact hpx⟩
    intro y hy
    rw [he] at hy
    exact hp.mem_iff.mpr (NTree.inner_sub_leaves c x hx y (hpx.mem_iff.mp hy))
  -- replace each piece by the equivalent member of the child's `binarize`
  obtain ⟨us, hus, heq⟩ := hch ds href
  obtain ⟨g, hg, hgR⟩ := All2.exists_fun heq (nodup_of_leaves_nodup hdsnd)
  have hitems : (σ.map g).items.Perm us := by
    rw [BTree.items_map, ← hg]; exact hds.map g
  obtain ⟨s, hs, hes⟩ := arrange_complete us (σ.map g) hitems
  refine ⟨(subst s).setAnn a, mem_binarize_node.mpr ⟨us, hus, s, hs, rfl⟩, ?_⟩
  unfold BinT.Equiv
  rw [skel_subst_setAnn, ← hσ, skel_subst]
  exact (equiv_join_map BinT.skel hes).trans
    (join_map_equiv σ g fun d hd => hgR d (hds.mem_iff.mp hd))

mutual
  theorem binarize_complete : ∀ (t : NTree), t.WF = true → t.leaves.Nodup →
      ∀ b : BinT, Ref b t → ∃ u ∈ binarize t, BinT.Equiv u b
    | .leaf i, _, _, b, hb => by
      have hl : b.leaves.Perm [i] := hb.1
      obtain ⟨j, rfl⟩ := BinT.eq_leaf_of_length (b := b) (by rw [hl.length_eq]; rfl)
      have : j = i := by simpa [BinT.leaves] using hl.mem_iff (a := j)
      subst this
      exact ⟨.leaf j, by simp [binarize], BTree.Equiv.refl _⟩
    | .node a cs, hwf, hnd, b, hb => by
      rw [NTree.WF, Bool.and_eq_true, decide_eq_true_eq] at hwf
      rw [NTree.leaves] at hnd
      exact complete_node hwf.2 hnd (fun ds h => binarizeChildren_complete cs hwf.2 hnd ds h) b hb
  theorem binarizeChildren_complete : ∀ (cs : List NTree), NTree.WFList cs = true →
      (NTree.leavesList cs).Nodup → ∀ ds : List BinT, All2 Ref ds cs →
      ∃ us ∈ binarizeChildren cs, All2 BinT.Equiv us ds
    | [], _, _, ds, h => by
      cases h
      exact ⟨[], mem_binarizeChildren_nil.mpr rfl, All2.nil⟩
    | c :: cs, hwf, hnd, ds, h => by
      rw [NTree.WFList, Bool.and_eq_true] at hwf
      rw [NTree.leavesList, List.nodup_append] at hnd
      cases h with
      | @cons d _ ds' _ hh ht =>
        obtain ⟨u, hu, he⟩ := binarize_complete c hwf.1 hnd.1 d hh
        obtain ⟨us, hus, hes⟩ := binarizeChildren_complete cs hwf.2 hnd.2.1 ds' ht
        exact ⟨u :: us, mem_binarizeChildren_cons.mpr ⟨u, us, rfl, hu, hus⟩, All2.cons he hes⟩
end

theorem BTree.Equiv.clades {s t : BTree Nat} (h : BTree.Equiv s t) :
    ∀ c ∈ s.clades, ∃ c' ∈ t.clades, c'.Perm c := by
  induction h with
  | item a => intro c hc; simp [BTree.clades] at hc
  | congr h1 h2 ih1 ih2 =>
    intro c hc
    simp only [BTree.clades, List.mem_cons, List.mem_append] at hc
    rcases hc with rfl | hc | hc
    · exact ⟨_, by simp [BTree.clades], (h1.items_perm.append h2.items_perm).symm⟩
    · obtain ⟨c', hc', hp⟩ := ih1 c hc
      exact ⟨c', by simp [BTree.clades, hc'], hp⟩
    · obtain ⟨c', hc', hp⟩ := ih2 c hc
      exact ⟨c', by simp [BTree.clades, hc'], hp⟩
  | swap h1 h2 ih1 ih2 =>
    intro c hc
    simp only [BTree.clades, List.mem_cons, List.mem_append] at hc
    rcases hc with rfl | hc | hc
    · exact ⟨_, by simp [BTree.clades],
        ((h1.items_perm.append h2.items_perm).trans List.perm_append_comm).symm⟩
    · obtain ⟨c', hc', hp⟩ := ih1 c hc
      exact ⟨c', by simp [BTree.clades, hc'], hp⟩
    · obtain ⟨c', hc', hp⟩ := ih2 c hc
      exact ⟨c', by simp [BTree.clades, hc'], hp⟩

theorem BinT.Equiv.inner {a b : BinT} (h : BinT.Equiv a b) :
    ∀ c ∈ a.inner, ∃ c' ∈ b.inner, c'.1.Perm c.1 := by
  intro c hc
  have hm : c.1 ∈ a.skel.clades := by
    rw [BinT.clades_skel]; exact List.mem_map.mpr ⟨c, hc, rfl⟩
  obtain ⟨L, hL, hp⟩ := BTree.Equiv.clades h c.1 hm
  rw [BinT.clades_skel] at hL
  obtain ⟨c', hc', rfl⟩ := List.mem_map.mp hL
  exact ⟨c', hc', hp⟩

theorem Ref.of_equiv {b b' : BinT} {t : NTree} (h : Ref b t) (he : BinT.Equiv b b') : Ref b' t := by
  refine ⟨he.symm.leaves_perm.trans h.1, fun x hx => ?_⟩
  obtain ⟨x1, hx1, hp1⟩ := h.2 x hx
  obtain ⟨x2, hx2, hp2⟩ := he.inner x1 hx1
  exact ⟨x2, hx2, hp2.trans hp1⟩

theorem binarize_toN (b : BinT) : binarize b.toN = [b] := by
  induction b with
  | leaf i => rfl
  | node a l r ihl ihr =>
    simp [BinT.toN, binarize, binarizeChildren, ihl, ihr, arrange, graft, subst, BinT.setAnn]

theorem ref_toN_iff_equiv {b b' : BinT} (hnd : b.leaves.Nodup) :
    Ref b' b.toN ↔ BinT.Equiv b b' := by
  refine ⟨fun h => ?_, fun he => ?_⟩
  · -- `binarize` of the binary tree `b` is `[b]`, and it is complete
    obtain ⟨u, hu, he⟩ := binarize_complete b.toN (BinT.WF_toN b)
      (by rw [BinT.leaves_toN]; exact hnd) b' h
    rw [binarize_toN, List.mem_singleton] at hu
    subst hu; exact he
  · refine Ref.of_equiv ⟨by rw [BinT.leaves_toN], fun x hx => ?_⟩ he
    rw [BinT.inner_toN] at hx
    exact ⟨x, hx, .refl _⟩

theorem ref_of_isRefinement {b : BinT} {t : NTree} (h : Spec.IsRefinement b.toN t) : Ref b t := by
  obtain ⟨_, h1, h2⟩ := h
  rw [BinT.leaves_toN] at h1
  rw [BinT.inner_toN] at h2
  exact ⟨h1, h2⟩

theorem isRefinement_of_ref {b : BinT} {t : NTree} (h : Ref b t) : Spec.IsRefinement b.toN t :=
  ⟨BinT.isBinary_toN b, by rw [BinT.leaves_toN]; exact h.1, by rw [BinT.inner_toN]; exact h.2⟩

theorem binarize_exactlyOnce (t : NTree) (hwf : t.WF = true) (hnd : t.leaves.Nodup) :
    ExactlyOnce BinT.Equiv (fun b => Spec.IsRefinement b.toN t) (binarize t) := by
  refine ⟨fun x hx => ?_, binarize_pairwise t hwf hnd,
    fun b hb => binarize_complete t hwf hnd b (ref_of_isRefinement hb)⟩
  obtain ⟨h1, h2, _⟩ := binarize_sound t hwf x hx
  exact isRefinement_of_ref ⟨h1, fun c hc => (h2 c hc).imp fun _ h => ⟨h.1, h.2.1⟩⟩

end SR.Bin
