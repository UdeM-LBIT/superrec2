/-
  Brace balance: the depth scan is additive, balanced insertions are invisible to it; hence a
  template with balanced literal pieces, instantiated with admissible fillings, is balanced.
-/
import SRVerif.Proofs.TikzJoin

namespace SR.Tikz

theorem balAux_nil (d : Nat) : balAux d [] = some d := rfl

theorem balAux_cons (d : Nat) (c : Char) (r : Str) :
    balAux d (c :: r) =
      if c = '{' then balAux (d + 1) r
      else if c = '}' then (if d = 0 then none else balAux (d - 1) r)
      else balAux d r := by
  simp [balAux]

theorem balAux_append (s t : Str) (d : Nat) :
    balAux d (s ++ t) = (balAux d s).bind (fun d' => balAux d' t) := by
  induction s generalizing d with
  | nil => simp [balAux_nil]
  | cons c r ih =>
    rw [List.cons_append, balAux_cons, balAux_cons]
    by_cases h1 : c = '{'
    · simp [h1, ih]
    · by_cases h2 : c = '}'
      · by_cases h3 : d = 0
        · simp [h2, h3]
        · have : ('}' : Char) ≠ '{' := by decide
          simp [h2, h3, ih, this]
      · simp [h1, h2, ih]

theorem depth_append (s t : Str) : depth (s ++ t) = depth s + depth t := by
  induction s with
  | nil => simp [depth]
  | cons c r ih => simp [depth, ih]; omega

theorem depth_nil : depth [] = 0 := rfl

theorem depth_cons (c : Char) (r : Str) :
    depth (c :: r) = (if c = '{' then 1 else if c = '}' then -1 else 0) + depth r := rfl

theorem prefix_cons_forall (c : Char) (r : Str) (P : Str → Prop) :
    (∀ p, p <+: c :: r → P p) ↔ (P [] ∧ ∀ q, q <+: r → P (c :: q)) := by
  constructor
  · intro h
    exact ⟨h [] (List.nil_prefix), fun q hq => h (c :: q) (by simpa using hq)⟩
  · intro h p hp
    cases p with
    | nil => exact h.1
    | cons a q =>
      rw [List.cons_prefix_cons] at hp
      obtain ⟨rfl, hq⟩ := hp
      exact h.2 q hq

theorem balAux_step (d : Nat) (c : Char) (r : Str) (e : Int)
    (he : e = if c = '{' then 1 else if c = '}' then -1 else 0) :
    balAux d (c :: r) = if 0 ≤ (d : Int) + e then balAux ((d : Int) + e).toNat r else none := by
  have hne : ('}' : Char) ≠ '{' := by decide
  rw [balAux]
  by_cases h1 : c = '{'
  · simp only [h1, if_true] at he ⊢
    rw [if_pos (by omega)]; congr 1; omega
  · by_cases h2 : c = '}'
    · subst h2
      simp only [hne, if_false, if_true] at he ⊢
      by_cases h3 : d = 0
      · rw [if_pos h3, if_neg (by omega)]
      · rw [if_neg h3, if_pos (by omega)]; congr 1; omega
    · simp only [h1, h2, if_false] at he ⊢
      rw [if_pos (by omega)]; congr 1; omega

theorem balAux_some_iff (s : Str) (d d' : Nat) :
    balAux d s = some d' ↔
      ((d : Int) + depth s = d' ∧ ∀ p, p <+: s → 0 ≤ (d : Int) + depth p) := by
  induction s generalizing d with
  | nil =>
    simp only [balAux_nil, depth_nil, Option.some.injEq, List.prefix_nil]
    constructor
    · intro h; subst h; exact ⟨by omega, fun p hp => by subst hp; simp [depth_nil]⟩
    · intro h; omega
  | cons c r ih =>
    obtain ⟨e, he⟩ : ∃ e : Int, e = if c = '{' then 1 else if c = '}' then -1 else 0 := ⟨_, rfl⟩
    rw [balAux_step d c r e he, prefix_cons_forall]
    simp only [depth_cons, depth_nil, ← he]
    by_cases h0 : 0 ≤ (d : Int) + e
    · rw [if_pos h0, ih]
      constructor
      · rintro ⟨h, hp⟩
        refine ⟨by omega, by omega, fun q hq => ?_⟩
        have := hp q hq
        omega
      · rintro ⟨h, _, hp⟩
        refine ⟨by omega, fun q hq => ?_⟩
        have := hp q hq
        omega
    · rw [if_neg h0]
      constructor
      · intro h; cases h
      · rintro ⟨_, _, hp⟩
        have := hp [] List.nil_prefix
        rw [depth_nil] at this
        omega

theorem balAux_shift (s : Str) (d d' k : Nat) (h : balAux d s = some d') :
    balAux (k + d) s = some (k + d') := by
  rw [balAux_some_iff] at h ⊢
  refine ⟨by omega, fun p hp => ?_⟩
  have := h.2 p hp
  omega

theorem isBalanced_iff (s : Str) : isBalanced s = true ↔ balAux 0 s = some 0 := by
  simp [isBalanced]

theorem balAux_of_balanced (s : Str) (h : isBalanced s = true) (d : Nat) : balAux d s = some d := by
  exact balAux_shift s 0 0 d ((isBalanced_iff s).1 h)

theorem isBrace_false_iff (c : Char) : isBrace c = false ↔ c ≠ '{' ∧ c ≠ '}' := by
  simp [isBrace]

theorem balAux_of_braceFree (s : Str) (h : braceFree s = true) (d : Nat) : balAux d s = some d := by
  induction s with
  | nil => rfl
  | cons c r ih =>
    simp only [braceFree, List.all_cons, Bool.and_eq_true, Bool.not_eq_true'] at h
    have hc := (isBrace_false_iff c).1 h.1
    rw [balAux_cons]
    simp only [hc.1, hc.2, if_false]
    exact ih (by simpa [braceFree] using h.2)

theorem isBalanced_of_braceFree (s : Str) (h : braceFree s = true) : isBalanced s = true :=
  (isBalanced_iff s).2 (balAux_of_braceFree s h 0)

theorem balAux_insert (a t b : Str) (ht : isBalanced t = true) (d : Nat) :
    balAux d (a ++ t ++ b) = balAux d (a ++ b) := by
  rw [List.append_assoc, balAux_append, balAux_append a b]
  cases balAux d a with
  | none => rfl
  | some d1 =>
    simp only [Option.bind_some]
    rw [balAux_append, balAux_of_balanced t ht]
    rfl

theorem isBalanced_append (a b : Str) (ha : isBalanced a = true) (hb : isBalanced b = true) :
    isBalanced (a ++ b) = true := by
  rw [isBalanced_iff, balAux_append, balAux_of_balanced a ha]
  exact (isBalanced_iff b).1 hb

theorem braceFree_of_all (p : Char → Bool) (h1 : p '{' = false) (h2 : p '}' = false) (s : Str)
    (h : s.all p = true) : braceFree s = true := by
  simp only [braceFree, List.all_eq_true] at h ⊢
  intro c hc
  have := h c hc
  simp only [Bool.not_eq_true', isBrace_false_iff]
  constructor
  · intro e; subst e; simp [h1] at this
  · intro e; subst e; simp [h2] at this

theorem braceFree_of_fillOK {k : HoleKind} {f : Str} (hk : Template.holeOK k = true)
    (hl : k ≠ .label) (hf : fillOK k f = true) : braceFree f = true := by
  cases k with
  | coord => exact braceFree_of_all _ (by decide) (by decide) f hf
  | num => exact braceFree_of_all _ (by decide) (by decide) f hf
  | unit => exact hf
  | color => exact braceFree_of_all _ (by decide) (by decide) f hf
  | label => exact absurd rfl hl
  | index => exact braceFree_of_all _ (by decide) (by decide) f hf
  | html => exact braceFree_of_all _ (by decide) (by decide) f hf
  | kw cs =>
    simp only [Template.holeOK, Bool.and_eq_true, List.all_eq_true] at hk
    simp only [fillOK, List.contains_iff_mem] at hf
    exact hk.2 f hf
  | other => simp [fillOK] at hf

theorem isBalanced_of_fillOK (k : HoleKind) (f : Str) (hk : Template.holeOK k = true)
    (hf : fillOK k f = true) : isBalanced f = true := by
  by_cases hl : k = .label
  · subst hl; exact hf
  · exact isBalanced_of_braceFree f (braceFree_of_fillOK hk hl hf)

theorem balAux_instantiate (t : Template) (fills : List Str) (hh : t.holesOK = true)
    (hf : fillsOK t.holes fills = true) (d : Nat) :
    balAux d (t.instantiate fills) = Template.balT d t := by
  induction t generalizing d fills with
  | nil => cases fills <;> simp [Template.instantiate, Template.balT, balAux_nil]
  | cons p r ih =>
    cases p with
    | lit s =>
      have hh' : Template.holesOK r = true := by
        simpa [Template.holesOK] using hh
      have hf' : fillsOK (Template.holes r) fills = true := by simpa [Template.holes] using hf
      simp only [Template.instantiate, Template.balT]
      rw [balAux_append]
      cases balAux d s with
      | none => rfl
      | some d1 => simpa using ih fills hh' hf' d1
    | hole k =>
      have hk : Template.holeOK k = true ∧ Template.holesOK r = true := by
        simpa [Template.holesOK] using hh
      cases fills with
      | nil => simp [Template.holes, fillsOK] at hf
      | cons f fs =>
        have hf' : fillOK k f = true ∧ fillsOK (Template.holes r) fs = true := by
          simpa [Template.holes, fillsOK] using hf
        simp only [Template.instantiate, Template.balT]
        rw [balAux_append, balAux_of_balanced f (isBalanced_of_fillOK k f hk.1 hf'.1)]
        simpa using ih fs hk.2 hf'.2 d

theorem isBalanced_instantiate (t : Template) (fills : List Str) (hb : t.litBalanced = true)
    (hh : t.holesOK = true) (hf : fillsOK t.holes fills = true) :
    isBalanced (t.instantiate fills) = true := by
  rw [isBalanced_iff, balAux_instantiate t fills hh hf]
  simpa [Template.litBalanced] using hb

theorem isBalanced_intercalate (sep : Str) (blocks : List Str) (hs : isBalanced sep = true)
    (hb : ∀ b ∈ blocks, isBalanced b = true) : isBalanced (List.intercalate sep blocks) = true :=
  intercalate_closed (P := fun s => isBalanced s = true) rfl isBalanced_append hs blocks hb

theorem isBalanced_spec (s : Str) :
    isBalanced s = true ↔ (depth s = 0 ∧ ∀ p, p <+: s → 0 ≤ depth p) := by
  rw [isBalanced_iff, balAux_some_iff]
  simp

end SR.Tikz
