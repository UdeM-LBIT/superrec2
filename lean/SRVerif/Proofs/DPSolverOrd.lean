/-
  The ordered solvers (`spfs`, base and extended) as a label-DP solver: one table per root
  order tried, mask labels, the root cells with the complete mask.
-/
import SRVerif.Proofs.DPSolver
import SRVerif.Proofs.LabelDPOrdValid

namespace SR

open Cost

abbrev spfsD (c : Costs) (S : RTree) (base : Bool) (o : OTree) (pre : Option (List Nat)) :
    DPSolver OrdAnn Nat (List Nat) :=
  { A := ordAlg c, idx := rootOrders o pre, tree := fun order => annOrd S base order true o,
    root := fun order l => l == 2 ^ order.length - 1, dec := ordSol }

variable (c : Costs) (S : RTree) (base : Bool) (o : OTree) (pre : Option (List Nat))

theorem spfsD_spOk (hS : ∀ p ∈ leafSpecies o, S.isNode p = true) :
    ∀ i ∈ (spfsD c S base o pre).idx, SpOk (spfsD c S base o pre).A S ((spfsD c S base o pre).tree i) :=
  fun order _ => spOk_annOrd c S base order o hS true

theorem ordSol_cand {order : List Nat} (hnd : order.Nodup) (hlv : LeavesOk order o) {ls : LSol Nat}
    (adm : Adm (ordAlg c) (annOrd S base order true o) ls) (hroot : ls.lab = 2 ^ order.length - 1)
    (hfin : labCost (ordAlg c) c (annOrd S base order true o) ls ≠ .inf) :
    NZ ls ∧ Spec.validRec o (ordSol order ls) = true ∧ (ordSol order ls).fam = order ∧
      Spec.validOrdLabels o (ordSol order ls) = true ∧
      totalCost c .ordered o (ordSol order ls) =
        labCost (ordAlg c) c (annOrd S base order true o) ls := by
  have hnz := nz_of_finite c S base order o hlv true ls adm hfin
  refine ⟨hnz, validRec_ordSol c S base order o true ls adm
      (valid_of_labCost_fin (ordAlg c) c _ ls hfin), ?_,
    validOrdLabels_of_finite c S base order o hlv true ls adm hnz hfin,
    totalCost_ordSol c S base hnd o ls adm hnz hroot⟩
  rw [ordSol_fam, hroot, SubseqProofs.subseqFromMask_complete]; rfl

theorem leaves_ne_of_leavesOk {order : List Nat} : ∀ t : OTree, LeavesOk order t →
    ∀ f ∈ leafSyntenies t, f ≠ []
  | .leaf _ g, h, f, hf => by
    rw [List.mem_singleton.mp hf]; exact h.1
  | .node l r, h, f, hf => by
    rcases List.mem_append.mp hf with hf | hf
    · exact leaves_ne_of_leavesOk l h.1 f hf
    · exact leaves_ne_of_leavesOk r h.2 f hf

/-! `C02.OrdersOk` is the guard on the root orders in the statements of C02, C05, C09, C10 and
  C12; it and the two lemmas that discharge it stand here, under the names those statements use,
  because the solver's theorems below need it. -/

namespace C02

/-- Every root order tried is duplicate-free and contains every leaf synteny as a
    non-empty subsequence. -/
def OrdersOk (o : OTree) (pre : Option (List Nat)) : Prop :=
  ∀ order ∈ rootOrders o pre, order.Nodup ∧ LeavesOk order o

theorem C02_orders_ok (o : OTree) (hne : ∀ f ∈ leafSyntenies o, f ≠ []) : OrdersOk o none :=
  rootOrders_ok o hne

theorem C02_orders_ok_prescribed (o : OTree) (r : List Nat) (hnd : r.Nodup)
    (h : ∀ f ∈ leafSyntenies o, f ≠ [] ∧ f.Sublist r) : OrdersOk o (some r) := by
  intro order ho
  rw [rootOrders, List.mem_singleton] at ho
  rw [ho]
  exact ⟨hnd, leavesOk_of_all _ o h⟩

end C02

variable (hord : C02.OrdersOk o pre)
include hord

theorem spfsD_bridge : ∀ k, (spfsD c S base o pre).Cand c k →
    totalCost c .ordered o ((spfsD c S base o pre).out k) = (spfsD c S base o pre).lc c k :=
  fun _ h => (ordSol_cand c S base o (hord _ h.1).1 (hord _ h.1).2 h.2.1 (eq_of_beq h.2.2.1)
    h.2.2.2).2.2.2.2

theorem spfs_exact (hb : S.isBinary = true) (hS : ∀ p ∈ leafSpecies o, S.isNode p = true) :
    Exact (c.spe + 2 * c.sloss ≤ c.dup + 2 * c.floss) (spfs c S base o pre)
      (totalCost c .ordered o) (spfsD c S base o pre).out ((spfsD c S base o pre).Cand c)
      ((spfsD c S base o pre).lc c) :=
  (spfsD c S base o pre).exact c S (ord_slack c) hb (spfsD_spOk c S base o pre hS)
    (spfsD_bridge c S base o pre hord)

end SR
