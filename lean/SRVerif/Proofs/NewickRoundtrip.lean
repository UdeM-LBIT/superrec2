/-
  C11 (Newick codec) — the reader gives back every tree the writer wrote, provided
  its names and colour values are safe (`safeTree`).

  Route: `read` = scan (`NewickScan`), and the scan of the text of a subtree,
  followed by the closing texts `)name…` of the ancestors it is the last child of
  (`render C`) and by what comes next (`,…` or the final `;`), adds the subtree
  to the current node and closes those ancestors (`scan_tree`, `scan_kids`:
  structural induction on the tree, any arity, any depth).
-/
import SRVerif.Proofs.NewickNode

namespace SR.Newick

open SR.Ser (NT Err)

/-- Name and colour of a node. -/
abbrev Lbl := String × Option String

/-- The text that closes the given ancestors, innermost first. -/
def render : List Lbl → Chars
  | [] => []
  | a :: C => ')' :: (atom a.1 a.2 ++ render C)

/-- The reader on the closing text of one ancestor. -/
def closeStep (st : St) (a : Lbl) : Except Err St := readClosing st (atom a.1 a.2)

/-- Every ancestor still to close is a `SafeNode`. -/
def SafeLbls (C : List Lbl) : Prop := ∀ a ∈ C, SafeNode a.1 a.2

theorem safeLbls_cons {a : Lbl} {C : List Lbl} :
    SafeLbls (a :: C) ↔ SafeNode a.1 a.2 ∧ SafeLbls C := List.forall_mem_cons

/-- None of the characters the reader splits on or deletes. -/
def Plain (s : Chars) : Prop :=
  ∀ ch ∈ s, ch ≠ '(' ∧ ch ≠ ')' ∧ ch ≠ ',' ∧ ch ≠ '\n' ∧ ch ≠ '\r' ∧ ch ≠ '\t'

theorem plain_append {a b : Chars} (ha : Plain a) (hb : Plain b) : Plain (a ++ b) :=
  List.forall_mem_append.2 ⟨ha, hb⟩

theorem plain_of_safeChars {s : Chars} (hs : safeChars s = true) : Plain s := fun _ hch =>
  have hl := safeChars_mem hs hch
  ⟨ne_of_legal hl rfl, ne_of_legal hl rfl, ne_of_legal hl rfl, ne_of_legal hl rfl,
    ne_of_legal hl rfl, ne_of_legal hl rfl⟩

theorem plain_atom (n : String) (c : Option String) : Plain (atom n c) := by
  have hn : Plain (nameOut n) := by
    simp only [nameOut]
    split
    · unfold Plain noName; decide
    · exact plain_of_safeChars (safeChars_sanitize _)
  refine plain_append hn ?_
  cases c with
  | none => exact fun _ hch => nomatch hch
  | some v =>
    exact plain_append (plain_append (a := nhxOpen ++ colorEq) (by unfold Plain; decide)
      (plain_of_safeChars (safeChars_sanitize _))) (by unfold Plain; decide)

/-- No `(` and no `,`: what the closing texts satisfy. -/
def NoOpen (s : Chars) : Prop := ∀ ch ∈ s, ch ≠ '(' ∧ ch ≠ ','

theorem noOpen_atom (n : String) (c : Option String) : NoOpen (atom n c) :=
  fun ch hch => ⟨(plain_atom n c ch hch).1, (plain_atom n c ch hch).2.2.1⟩

theorem noOpen_render (C : List Lbl) : NoOpen (render C) := by
  induction C with
  | nil => exact fun _ hch => nomatch hch
  | cons a C ih =>
    intro ch hch
    simp only [render, List.mem_cons, List.mem_append] at hch
    rcases hch with rfl | h | h
    · exact ⟨by decide, by decide⟩
    · exact noOpen_atom _ _ ch h
    · exact ih ch h

theorem noOpen_append {a b : Chars} (ha : NoOpen a) (hb : NoOpen b) : NoOpen (a ++ b) :=
  List.forall_mem_append.2 ⟨ha, hb⟩

theorem chunkOk_paren (r : Chars) : chunkOk ('(' :: r) = true := by
  simp [chunkOk, splitOn, splitAux, lastOk, strip, lstrip, rstrip]

theorem chunkOk_comma (y r : Chars) (hy : ∀ c ∈ y, c ≠ '(') : chunkOk (y ++ ',' :: r) = chunkOk r := by
  unfold chunkOk
  have h1 : (y ++ ',' :: r).takeWhile (· != '(') = y ++ ',' :: r.takeWhile (· != '(') := by
    rw [List.takeWhile_append_of_pos (by intro a ha; simpa using hy a ha)]
    simp
  rw [h1]
  unfold splitOn
  rw [splitAux_sep, List.map_append]
  unfold lastOk
  obtain ⟨b, hb⟩ := Option.isSome_iff_exists.1 (List.getLast?_isSome.2 fun h =>
    splitAux_ne_nil ',' (r.takeWhile (· != '(')) [] (List.map_eq_nil_iff.1 h : _ = []))
  rw [List.getLast?_append, hb]
  rfl

theorem lstrip_snoc_semi (y : Chars) : ∃ y', lstrip (y ++ [';']) = y' ++ [';'] := by
  induction y with
  | nil => exact ⟨[], by simp [lstrip, isSpace]⟩
  | cons a y ih =>
    by_cases ha : isSpace a = true
    · obtain ⟨y', h⟩ := ih
      exact ⟨y', by simpa [lstrip, ha] using h⟩
    · exact ⟨a :: y, by simp [lstrip, ha]⟩

theorem chunkOk_end (y : Chars) (hy : NoOpen y) : chunkOk (y ++ [';']) = true := by
  unfold chunkOk
  have hno : NoOpen (y ++ [';']) := noOpen_append hy (by unfold NoOpen; decide)
  rw [takeWhile_noparen _ fun c hc => (hno c hc).1]
  unfold splitOn
  rw [splitAux_none _ _ _ fun c hc => (hno c hc).2]
  obtain ⟨y', hy'⟩ := lstrip_snoc_semi y
  have : strip (y ++ [';']) = y' ++ [';'] := by
    unfold strip
    rw [hy', rstrip_snoc_nonspace _ _ (by decide)]
  simp [lastOk, this]

/-- What may follow a subtree and the closing texts of its ancestors. -/
def Term (T : Chars) : Prop := T = [';'] ∨ ∃ R, T = ',' :: R ∧ chunkOk R = true

theorem chunkOk_plain (y T : Chars) (hy : NoOpen y) (hT : Term T) : chunkOk (y ++ T) = true := by
  rcases hT with rfl | ⟨R, rfl, hR⟩
  · exact chunkOk_end y hy
  · rw [chunkOk_comma y R (fun c hc => (hy c hc).1)]; exact hR

theorem safeTree_node {n : String} {c : Option String} {ks : List NT}
    (h : safeTree (.node n c ks) = true) : SafeNode n c ∧ safeTrees ks = true := by
  simp only [safeTree, Bool.and_eq_true] at h
  refine ⟨⟨h.1.1, ?_⟩, h.2⟩
  intro v hv
  subst hv
  exact h.1.2

theorem safeTrees_cons {k : NT} {ks : List NT} (h : safeTrees (k :: ks) = true) :
    safeTree k = true ∧ safeTrees ks = true :=
  Bool.and_eq_true_iff.1 h

theorem chunkOk_tree (t : NT) (z T : Chars) (hz : NoOpen z) (hT : Term T) :
    chunkOk (writeNode t ++ (z ++ T)) = true := by
  match t with
  | .node n c [] =>
    rw [writeNode, ← List.append_assoc]
    exact chunkOk_plain _ _ (noOpen_append (noOpen_atom n c) hz) hT
  | .node n c (k :: ks) => exact chunkOk_paren _

theorem chunkOk_kids (k : NT) (ks : List NT) (z T : Chars) (hz : NoOpen z) (hT : Term T) :
    chunkOk (writeKids (k :: ks) ++ (z ++ T)) = true := by
  induction ks generalizing k with
  | nil => exact chunkOk_tree k z T hz hT
  | cons k' ks ih =>
    have := chunkOk_tree k [] (',' :: (writeKids (k' :: ks) ++ (z ++ T)))
      (fun _ hch => nomatch hch) (Or.inr ⟨_, rfl, ih k'⟩)
    simpa [writeKids] using this

/-- The pieces of `acc.reverse ++ render C ++ sfx` between the closing parentheses. -/
def pieces : Chars → List Lbl → Chars → List Chars
  | acc, [], sfx => [acc.reverse ++ sfx]
  | acc, a :: C, sfx => acc.reverse :: pieces (atom a.1 a.2).reverse C sfx

theorem splitAux_render (C : List Lbl) (sfx acc : Chars) (hs : ∀ c ∈ sfx, c ≠ ')') :
    splitAux ')' (render C ++ sfx) acc = pieces acc C sfx := by
  induction C generalizing acc with
  | nil => simp [render, pieces, splitAux_none _ _ _ hs]
  | cons a C ih =>
    have ha : ∀ c ∈ atom a.1 a.2, c ≠ ')' := fun c hc => (plain_atom _ _ c hc).2.1
    simp only [render, List.cons_append, splitAux, beq_self_eq_true, if_true, pieces, List.append_assoc]
    rw [splitAux_skip _ _ _ _ ha, ih]
    simp

theorem fold_pieces (st : St) (a : Lbl) (C : List Lbl) (sfx : Chars) (hs : sfx = [] ∨ sfx = [';']) :
    (pieces (atom a.1 a.2).reverse C sfx).foldlM readClosing st = (a :: C).foldlM closeStep st := by
  induction C generalizing st a with
  | nil =>
    simp only [pieces, List.reverse_reverse, List.foldlM_cons, List.foldlM_nil, bind_pure, closeStep]
    rcases hs with rfl | rfl
    · rw [List.append_nil]
    · rw [readClosing_semi]
  | cons b C ih =>
    rw [pieces, List.reverse_reverse, List.foldlM_cons, List.foldlM_cons]
    exact bind_congr fun st' => ih st' b

theorem procSub_leaf {n : String} {c : Option String} (h : SafeNode n c) (C : List Lbl)
    (sfx : Chars) (hs : sfx = [] ∨ sfx = [';']) (hne : sfx = [';'] → C ≠ []) (f : Frame) (below : List Frame) :
    procSub (.opened f below) (atom n c ++ (render C ++ sfx))
      = C.foldlM closeStep (.opened (f.addKid (withLabel n c {}).toRT) below) := by
  have hsp : ∀ ch ∈ sfx, ch ≠ ')' := by
    rcases hs with rfl | rfl
    · simp
    · decide
  have ha : ∀ ch ∈ atom n c, ch ≠ ')' := fun ch hch => (plain_atom n c ch hch).2.1
  unfold procSub splitOn
  rw [splitAux_skip _ _ _ _ ha, splitAux_render C sfx _ hsp]
  cases C with
  | nil =>
    have : sfx = [] := by
      rcases hs with rfl | rfl
      · rfl
      · exact absurd rfl (hne rfl)
    subst this
    simp [pieces, readLeaf_atom h, bind, Except.bind, pure, Except.pure]
  | cons a C =>
    simp only [pieces, List.append_nil, List.reverse_reverse, readLeaf_atom h, bind, Except.bind]
    exact fold_pieces _ a C sfx hs

theorem ends_render (C : List Lbl) (hC : SafeLbls C) (hne : C ≠ []) :
    ∃ m z, render C = m ++ [z] ∧ isSpace z = false := by
  induction C with
  | nil => exact absurd rfl hne
  | cons a C ih =>
    by_cases hC' : C = []
    · subst hC'
      obtain ⟨m, z, h1, h2, _⟩ := atom_end (safeLbls_cons.1 hC).1
      exact ⟨')' :: m, z, by simp [render, h1], h2⟩
    · obtain ⟨m, z, h1, h2⟩ := ih (safeLbls_cons.1 hC).2 hC'
      exact ⟨')' :: (atom a.1 a.2 ++ m), z, by simp [render, h1], h2⟩

theorem strip_sub {n : String} {c : Option String} (h : SafeNode n c) (C : List Lbl) (hC : SafeLbls C)
    (sfx : Chars) (hs : sfx = [] ∨ sfx = [';']) :
    strip (atom n c ++ (render C ++ sfx)) = atom n c ++ (render C ++ sfx) := by
  obtain ⟨x, m, h1, h2, _⟩ := atom_start h
  apply strip_self
  · exact ⟨x, m ++ (render C ++ sfx), by simp [h1], h2⟩
  · rcases hs with rfl | rfl
    · by_cases hC' : C = []
      · subst hC'
        obtain ⟨m', z, h3, h4, _⟩ := atom_end h
        exact ⟨m', z, by simp [render, h3], h4⟩
      · obtain ⟨m', z, h3, h4⟩ := ends_render C hC hC'
        exact ⟨atom n c ++ m', z, by simp [h3], h4⟩
    · exact ⟨atom n c ++ render C, ';', by simp, by decide⟩

theorem scan_skip (st : St) (y rest acc : Chars) (hy : NoOpen y) :
    scan st acc (y ++ rest) = scan st (y.reverse ++ acc) rest := by
  induction y generalizing acc with
  | nil => rfl
  | cons a y ih =>
    have h1 : (a == '(') = false := by simpa using (hy a (by simp)).1
    have h2 : (a == ',') = false := by simpa using (hy a (by simp)).2
    simp only [List.cons_append, scan, h1, h2, Bool.false_eq_true, if_false]
    rw [ih _ (fun x hx => hy x (by simp [hx]))]
    simp

/-- `add_child` for each tree of `l`, in order. -/
def addKids (f : Frame) (l : List RT) : Frame := { f with kids := f.kids ++ l }

/-- What follows: the next sibling, or the end of the text. -/
def contT (r : Except Err St) (T : Chars) : Except Err St :=
  r >>= fun st =>
    match T with
    | ',' :: R => scan st [] R
    | _ => pure st

theorem contT_comma (st : St) (R : Chars) : contT (pure st) (',' :: R) = scan st [] R := rfl

theorem withLabel_toRT (n : String) (c : Option String) (ks : List NT) :
    (withLabel n c (addKids {} (RT.ofNTs ks))).toRT = RT.ofNT (.node n c ks) := by
  cases c <;> simp [withLabel, addKids, Frame.toRT, RT.ofNT, SR.Ser.Dict.set]

theorem withLabel_toRT_leaf (n : String) (c : Option String) : (withLabel n c {}).toRT = RT.ofNT (.node n c []) :=
  withLabel_toRT n c []

theorem scan_leaf {n : String} {c : Option String} (h : SafeNode n c) (f : Frame) (below : List Frame)
    (C : List Lbl) (T : Chars) (hC : SafeLbls C) (hT : Term T) (hne : T = [';'] → C ≠ []) :
    scan (.opened f below) [] (atom n c ++ (render C ++ T))
      = contT (C.foldlM closeStep (.opened (f.addKid (RT.ofNT (.node n c []))) below)) T := by
  have hy : NoOpen (atom n c ++ render C) := noOpen_append (noOpen_atom n c) (noOpen_render C)
  rcases hT with rfl | ⟨R, rfl, _⟩
  · have := scan_skip (.opened f below) (atom n c ++ (render C ++ [';'])) [] []
      (by
        rw [← List.append_assoc]
        exact noOpen_append hy (by unfold NoOpen; decide))
    simp only [List.append_nil] at this
    rw [this]
    simp only [scan, List.reverse_reverse, strip_sub h C hC [';'] (Or.inr rfl), procLast]
    have hne' : (atom n c ++ (render C ++ [';'])).isEmpty = false := by
      obtain ⟨x, m, h1, _, _⟩ := atom_start h
      simp [h1]
    simp only [hne', Bool.false_eq_true, if_false]
    rw [procSub_leaf h C [';'] (Or.inr rfl) (fun _ => hne rfl), withLabel_toRT_leaf]
    simp [contT]
  · have := scan_skip (.opened f below) (atom n c ++ render C) (',' :: R) [] hy
    simp only [List.append_nil, List.append_assoc] at this
    rw [this]
    have e : (atom n c ++ render C) = atom n c ++ (render C ++ []) := by simp
    simp only [scan, List.reverse_reverse, Char.reduceBEq, Bool.false_eq_true, if_false,
      beq_self_eq_true, if_true]
    rw [e, strip_sub h C hC [] (Or.inl rfl),
      procSub_leaf h C [] (Or.inl rfl) (fun hh => by simp at hh), withLabel_toRT_leaf]
    rfl

theorem closeStep_open {n : String} {c : Option String} (h : SafeNode n c) (g f : Frame)
    (below : List Frame) :
    closeStep (.opened g (f :: below)) (n, c) = .ok (.opened (f.addKid (withLabel n c g).toRT) below) := by
  simp [closeStep, readClosing_atom h, St.up]

mutual
  /-- The text of a subtree, then of the ancestors it closes, then `T`.  `T = [';'] → C ≠ []`:
      inside the parentheses the final `;` always follows a closing text; a one-node text never
      reaches the scan (`readChars_leaf`). -/
  theorem scan_tree : ∀ (t : NT), safeTree t = true → ∀ (f : Frame) (below : List Frame) (C : List Lbl)
      (T : Chars), SafeLbls C → Term T → (T = [';'] → C ≠ []) →
      scan (.opened f below) [] (writeNode t ++ (render C ++ T))
        = contT (C.foldlM closeStep (.opened (f.addKid (RT.ofNT t)) below)) T
    | .node n c [], ht, f, below, C, T, hC, hT, hne => by
      simp only [writeNode]
      exact scan_leaf (safeTree_node ht).1 f below C T hC hT hne
    | .node n c (k :: ks), ht, f, below, C, T, hC, hT, hne => by
      obtain ⟨hs, hks⟩ := safeTree_node ht
      have hC' : SafeLbls ((n, c) :: C) := safeLbls_cons.2 ⟨hs, hC⟩
      have hok : chunkOk (writeKids (k :: ks) ++ (render ((n, c) :: C) ++ T)) = true :=
        chunkOk_kids k ks _ T (noOpen_render _) hT
      have e : writeNode (.node n c (k :: ks)) ++ (render C ++ T)
          = '(' :: (writeKids (k :: ks) ++ (render ((n, c) :: C) ++ T)) := by
        simp [writeNode, render]
      rw [e]
      have ih := scan_kids (k :: ks) hks (by simp) {} (f :: below) ((n, c) :: C) T hC' hT (by simp)
      simp only [scan, beq_self_eq_true, if_true, List.reverse_nil, procLast, hok]
      have hstrip : strip ([] : Chars) = [] := by simp [strip, lstrip, rstrip]
      simp only [hstrip, List.isEmpty_nil, if_true, pure_bind, St.openChunk]
      rw [ih]
      simp only [List.foldlM_cons, closeStep_open hs, withLabel_toRT]
      rfl
  theorem scan_kids : ∀ (ks : List NT), safeTrees ks = true → ks ≠ [] → ∀ (f : Frame) (below : List Frame)
      (C : List Lbl) (T : Chars), SafeLbls C → Term T → (T = [';'] → C ≠ []) →
      scan (.opened f below) [] (writeKids ks ++ (render C ++ T))
        = contT (C.foldlM closeStep (.opened (addKids f (RT.ofNTs ks)) below)) T
    | [], _, hne', _, _, _, _, _, _, _ => absurd rfl hne'
    | [k], hks, _, f, below, C, T, hC, hT, hne => by
      simp only [writeKids]
      rw [scan_tree k (safeTrees_cons hks).1 f below C T hC hT hne]
      simp [addKids, Frame.addKid, RT.ofNTs]
    | k :: k' :: ks, hks, _, f, below, C, T, hC, hT, hne => by
      obtain ⟨hk, hks'⟩ := safeTrees_cons hks
      have hok : chunkOk (writeKids (k' :: ks) ++ (render C ++ T)) = true :=
        chunkOk_kids k' ks _ T (noOpen_render C) hT
      have e : writeKids (k :: k' :: ks) ++ (render C ++ T)
          = writeNode k ++ (render [] ++ (',' :: (writeKids (k' :: ks) ++ (render C ++ T)))) := by
        simp [writeKids, render]
      rw [e, scan_tree k hk f below [] _ (by intro a ha; simp at ha) (Or.inr ⟨_, rfl, hok⟩) (by simp)]
      simp only [List.foldlM_nil]
      rw [contT_comma, scan_kids (k' :: ks) hks' (by simp) (f.addKid (RT.ofNT k)) below C T hC hT hne]
      simp [addKids, Frame.addKid, RT.ofNTs]
end

end SR.Newick
