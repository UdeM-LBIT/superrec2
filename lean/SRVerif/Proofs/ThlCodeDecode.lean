/-
  `_decode_thl_table` and the result entry of `reconcile_thl` (policy ALL) against the label-DP
  model: the mappings generated from the tags of a cell are the solutions stored in the label
  DP's cell; hence `thlCode` and `thl` have the same members.
-/
import SRVerif.Proofs.ThlCodeTable

namespace SR

open Path Cost

namespace ThlCode

theorem decode_ok (c : Costs) (S : RTree) (tbl : Table) : ∀ (t : OTree) (w : Path),
    (∀ p ∈ postorderNodes t w, RowAgrees c S tbl p.1 p.2) →
    ∀ s sol, sol ∈ decode tbl t w s ↔
      ∃ d, findCell (thlCells c S true t) (s, ()) = some d ∧ ∃ ls ∈ d.sols, sol = plainSol t ls := by
  intro t
  induction t with
  | leaf sp f =>
    intro w hrows s sol
    have hrow := hrows _ (root_mem_postorderNodes (.leaf sp f) w)
    rw [decode, Table.value, hrow s, thlCells, annPlain, findCell_dpTable_leaf]
    by_cases hs : s = sp
    · subst hs
      simp [thlAlg, Cell.value, ExtInt.isInfinite, plainSol]
    · simp [hs, thlAlg, Cell.value, ExtInt.isInfinite]
  | node l r ihl ihr =>
    intro w hrows s sol
    have hrow := hrows _ (root_mem_postorderNodes (.node l r) w) s
    have IHl := ihl (w ++ [0]) (fun p hp => hrows p (by simp [postorderNodes, hp]))
    have IHr := ihr (w ++ [1]) (fun p hp => hrows p (by simp [postorderNodes, hp]))
    simp only [decode, List.mem_flatMap, List.mem_map]
    rw [findCell_thlCells_node]
    by_cases hs : s ∈ allSpecies S
    · rw [if_pos hs]
      -- `DL` … `mat` are given: found by unification against the unfolded decoder they are slow
      exact (hrow.1 hs).decode pairOf_surjective (mk := Sol.node s [])
        (DL := fun t ml => ml ∈ decode tbl l (w ++ [0]) t.1)
        (DR := fun t mr => mr ∈ decode tbl r (w ++ [1]) t.1)
        (fL := plainSol l) (fR := plainSol r) (mat := plainSol (.node l r))
        (fun t ml => IHl t.1 ml) (fun t mr => IHr t.1 mr) (fun _ _ => rfl) sol
    · rw [if_neg hs]
      simp [Table.infos, hrow.2 hs, Cell.infos]

theorem reconcile_eq (r : Retain) (c : Costs) (S : RTree) (o : OTree) :
    reconcile r c S o =
      Entry.update (Entry.init .min r)
        (S.levelorder.flatMap fun s => (decode (computeTable r c S o) o [] s).map fun out =>
          (⟨(recCost c o out).toExt, some out⟩ : Cand Sol)) :=
  Entry.foldl_update_flatMap _ _ _

/-- The outputs decoded at the root over all root species: what `reconcile_thl` offers to its
    result entry (`decodedAll` for spfs; not `UspfsCode.offered`, the candidates of a role). -/
def offered (c : Costs) (S : RTree) (o : OTree) : List Sol :=
  S.levelorder.flatMap (fun s => decode (computeTable .all c S o) o [] s)

theorem mem_offered (c : Costs) (S : RTree) (o : OTree)
    (hS : ∀ p ∈ leafSpecies o, S.isNode p = true) (sol : Sol) :
    sol ∈ offered c S o ↔
      sol ∈ (thlCells c S true o).flatMap (fun d => d.sols.map (plainSol o)) := by
  have h := mem_flatMap_decode thlAlg c S (annPlain S o) () (RTree.mem_levelorder S)
    (fun d hd => dp_isNode c S true _ (annPlain_internal_spOk S _ hS) hd)
    (decode_ok c S (computeTable .all c S o) o [] (computeTable_ok c S o hS)) sol
  rwa [show ∀ L : List (DCell Unit), L.filter (fun d => d.lab == ()) = L from
    fun L => List.filter_eq_self.mpr fun _ _ => rfl] at h

theorem result_spec (c : Costs) (S : RTree) (o : OTree) :
    let res := reconcile .all c S o
    (∀ sol, sol ∈ res.infos ↔ sol ∈ offered c S o ∧
      ∀ out ∈ offered c S o, recCost c o sol ≼ recCost c o out) ∧
    (∀ sol ∈ res.infos, res.value = (recCost c o sol).toExt) ∧
    res.infos.Nodup := by
  rw [reconcile_eq, ← List.map_flatMap]
  exact Entry.result_spec (recCost c o) (offered c S o)

theorem thlCode_eq_thl (c : Costs) (S : RTree) (o : OTree)
    (hS : ∀ p ∈ leafSpecies o, S.isNode p = true) (sol : Sol) :
    sol ∈ thlCode c S o ↔ sol ∈ thl c S o := by
  unfold thlCode thl
  rw [(result_spec c S o).1 sol, mem_rankByCost]
  simp only [totalCost_plain, mem_offered c S o hS]

end ThlCode

end SR
