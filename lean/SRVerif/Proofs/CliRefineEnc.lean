/-
  C12 ∘ C08: a canonical code of a name tree, so that the composition is stated for EVERY
  name tree with no hypothesis about codes: `encode t` numbers the nodes in pre-order,
  `decOf t` reads an index back in the table of (name, colour).  With it, and with the Newick
  codec of the model, `refine_cli_full` is the composition as the command-line tool runs it.
-/
import SRVerif.Proofs.CliRefineNewick
import SRVerif.Proofs.CliRefineUnique

namespace SR.Cli

open SR.Ser SR.Bin

mutual
  /-- (name, colour) of the nodes in pre-order: the table `decOf` reads codes in (labels only,
      no clades, so not an instance of `cg`). -/
  def lab : NT → List (String × Option String)
    | .node n c ks => (n, c) :: labL ks
  def labL : List NT → List (String × Option String)
    | [] => []
    | k :: ks => lab k ++ labL ks
end

mutual
  theorem length_lab : ∀ t : NT, (lab t).length = t.size
    | .node n c ks => by simp [lab, NT.size, length_labL ks]; omega
  theorem length_labL : ∀ ks : List NT, (labL ks).length = NT.sizeL ks
    | [] => rfl
    | k :: ks => by simp [labL, NT.sizeL, length_lab k, length_labL ks]
end

mutual
  /-- Code of the subtree whose root has pre-order index `k`. -/
  def encAt : NT → Nat → NTree
    | .node _ _ [], k => .leaf k
    | .node _ _ (c :: cs), k => .node (some k) (encAtL (c :: cs) (k + 1))
  def encAtL : List NT → Nat → List NTree
    | [], _ => []
    | c :: cs, k => encAt c k :: encAtL cs (k + c.size)
end

/-- The canonical code of a name tree. -/
def encode (t : NT) : NTree := encAt t 0

/-- Codes are indices in a table. -/
def tblDec (tbl : List (String × Option String)) : Dec :=
  { leaf := fun i => tbl[i]?.getD ("", none), ann := fun i => tbl[i]?.getD ("", none) }

/-- The meaning of the canonical code of `t`. -/
def decOf (t : NT) : Dec := tblDec (lab t)

theorem prefix_drop_append {α : Type} {a b tbl : List α} {k : Nat} (h : a ++ b <+: tbl.drop k) :
    a <+: tbl.drop k ∧ b <+: tbl.drop (k + a.length) := by
  refine ⟨(List.prefix_append a b).trans h, ?_⟩
  obtain ⟨s, hs⟩ := h
  refine ⟨s, ?_⟩
  have : (tbl.drop k).drop a.length = b ++ s := by
    rw [← hs, List.append_assoc, List.drop_left]
  rw [← this, List.drop_drop]

theorem prefix_drop_cons {α : Type} {x : α} {r tbl : List α} {k : Nat} (h : x :: r <+: tbl.drop k) :
    tbl[k]? = some x ∧ r <+: tbl.drop (k + 1) := by
  obtain ⟨h1, h2⟩ := prefix_drop_append (a := [x]) h
  exact ⟨by simpa using List.prefix_iff_getElem?.1 h1 0 (by simp), h2⟩

mutual
  theorem decN_encAt (tbl : List (String × Option String)) : ∀ (s : NT) (k : Nat),
      lab s <+: tbl.drop k → decN (tblDec tbl) (encAt s k) = s
    | .node n c [], k, h => by
      have := (prefix_drop_cons (by simpa [lab, labL] using h)).1
      simp [encAt, decN, tblDec, this]
    | .node n c (c1 :: cs), k, h => by
      rw [lab] at h
      obtain ⟨h1, h2⟩ := prefix_drop_cons h
      have := decNL_encAtL tbl (c1 :: cs) (k + 1) h2
      simp [encAt, decN, Dec.annOf, tblDec, h1] at this ⊢
      exact this
  theorem decNL_encAtL (tbl : List (String × Option String)) : ∀ (ks : List NT) (k : Nat),
      labL ks <+: tbl.drop k → decNL (tblDec tbl) (encAtL ks k) = ks
    | [], _, _ => rfl
    | c :: cs, k, h => by
      rw [labL] at h
      obtain ⟨h1, h2⟩ := prefix_drop_append h
      rw [length_lab] at h2
      simp only [encAtL, decNL, decN_encAt tbl c k h1, decNL_encAtL tbl cs (k + c.size) h2]
end

theorem decN_encode (t : NT) : decN (decOf t) (encode t) = t :=
  decN_encAt (lab t) t 0 (by simp)

theorem length_encAtL : ∀ (ks : List NT) (k : Nat), (encAtL ks k).length = ks.length
  | [], _ => rfl
  | c :: cs, k => by simp [encAtL, length_encAtL cs]

mutual
  theorem wf_encAt : ∀ (s : NT) (k : Nat), wf2 s = true → (encAt s k).WF = true
    | .node n c [], k, _ => rfl
    | .node n c (c1 :: cs), k, h => by
      simp only [wf2, Bool.and_eq_true, Bool.or_eq_true, decide_eq_true_eq] at h
      simp only [encAt, NTree.WF, Bool.and_eq_true, decide_eq_true_eq, length_encAtL]
      exact ⟨h.1.resolve_left (by simp), wfL_encAtL (c1 :: cs) (k + 1) h.2⟩
  theorem wfL_encAtL : ∀ (ks : List NT) (k : Nat), wf2L ks = true →
      NTree.WFList (encAtL ks k) = true
    | [], _, _ => rfl
    | c :: cs, k, h => by
      simp only [wf2L, Bool.and_eq_true] at h
      simp only [encAtL, NTree.WFList, Bool.and_eq_true]
      exact ⟨wf_encAt c k h.1, wfL_encAtL cs _ h.2⟩
end

theorem wf_encode (t : NT) (h : wf2 t = true) : (encode t).WF = true := wf_encAt t 0 h

mutual
  theorem okPair_lab : ∀ t : NT, Newick.safeTree t = true → ∀ x ∈ lab t, okPair x = true
    | .node n c ks, h, x, hx => by
      simp only [Newick.safeTree, Bool.and_eq_true] at h
      rw [lab, List.mem_cons] at hx
      rcases hx with rfl | hx
      · simp only [okPair, Bool.and_eq_true, Bool.or_eq_true]
        exact ⟨Or.inr h.1.1, h.1.2⟩
      · exact okPair_labL ks h.2 x hx
  theorem okPair_labL : ∀ ks : List NT, Newick.safeTrees ks = true → ∀ x ∈ labL ks, okPair x = true
    | [], _, x, hx => by simp [labL] at hx
    | k :: ks, h, x, hx => by
      simp only [Newick.safeTrees, Bool.and_eq_true] at h
      rw [labL, List.mem_append] at hx
      rcases hx with hx | hx
      · exact okPair_lab k h.1 x hx
      · exact okPair_labL ks h.2 x hx
end

theorem safe_tblDec {tbl : List (String × Option String)} (h : ∀ x ∈ tbl, okPair x = true) :
    (tblDec tbl).Safe := by
  have key : ∀ i : Nat, okPair (tbl[i]?.getD ("", none)) = true := by
    intro i
    cases hi : tbl[i]? with
    | none => rfl
    | some x => exact h x (List.mem_of_getElem? hi)
  exact fun i => ⟨key i, key i⟩

/-- The composition as `reconcile` runs it on one tree; `C12_refine_cli_full` is this statement
    with `Refined` and `RefinedCol` written out. -/
theorem refine_cli_full (pfx : String) (hpfx : pfx.toList.all NT.safeChar = true) (t : NT)
    (hwf : wf2 t = true) (hsafe : safeTreeE t = true)
    (hleaf : ∀ x ∈ lvs t, isUnnamed x = false) (hg : (given t).Nodup)
    (b : BinT) (hb : b ∈ binarize (encode (labelTree pfx t))) :
    ∃ r, Newick.readNT (Newick.write (decB (decOf (labelTree pfx t)) b)) = .ok r ∧
      Refined pfx t (labelTree pfx t) (labelTree pfx r) ∧
      RefinedCol t (labelTree pfx t) (labelTree pfx r) ∧
      (cn (labelTree pfx r)).Pairwise (fun x y => ¬ SameClade x y) := by
  have hs1 : Newick.safeTree (labelTree pfx t) = true := safeTree_labelTree hpfx t hsafe
  have hwf1 : wf2 (labelTree pfx t) = true := by
    rw [(Relab.arity _ _ (labelTree_relab pfx t)).2]; exact hwf
  have hB := binarize_isRefinement (decOf (labelTree pfx t)) (wf_encode _ hwf1) hb
  rw [decN_encode] at hB
  have h1 := refine_compose pfx t hleaf hg _ hB _ (relab_fixEmpty _)
  exact ⟨fixEmpty (decB (decOf (labelTree pfx t)) b),
    reparse _ (safeTreeE_decB (safe_tblDec (okPair_lab _ hs1)) b), h1,
    refine_colours pfx t hleaf _ hB _ (relab_fixEmpty _), h1.clades_unique hleaf hg⟩

end SR.Cli
