/-
  Unordered super-reconciliation: restricting to canonical labellings loses nothing (the exchange
  argument behind SuperDTL), against the oracle's solution space `Spec.Feasible … .unordered`.
  Keep the species of a feasible `σ` and relabel top-down by kinds (`exKinds`): the root is LCA; a
  child is INHERIT when its edge is free in `σ` (parent's label ⊆ child's) and it is internal, LCA
  otherwise.  Every new content lies in the old one and every free edge stays free; the local cost
  `gl` is monotone in the edge costs (`gl_mono`) and the events are unchanged: `exchange_spec`.
-/
import SRVerif.Proofs.UnContentCanon
import SRVerif.Proofs.OptAdequacy
import SRVerif.Proofs.DPCostChange

namespace SR

open Path Cost Spec

/-- INHERIT exactly on the internal children whose edge is free in the given solution. -/
def childKind (f : List Nat) : Sol → Kind
  | .leaf _ _ => .lca
  | .node _ fc _ _ => if subsetB f fc then .inh else .lca

/-- The kind labelling the exchange argument assigns (own kind `k`). -/
def exKinds : Kind → Sol → LSol Kind
  | _, .leaf s _ => .leaf s .lca
  | k, .node s f l r => .node s k (exKinds (childKind f l) l) (exKinds (childKind f r) r)

theorem exKinds_sp (k : Kind) (σ : Sol) : (exKinds k σ).sp = σ.sp := by
  cases σ <;> rfl

theorem exKinds_child_lab (f : List Nat) (ch : Sol) :
    (exKinds (childKind f ch) ch).lab = childKind f ch := by
  cases ch <;> rfl

theorem adm_exKinds (c : Costs) (S : RTree) (base : Bool) (whole : OTree) :
    ∀ (sub : OTree) (p : Path) (k : Kind) (σ : Sol), Feasible S .unordered base whole p sub σ →
      Adm (unAlg c) (annUn S base whole p sub) (exKinds k σ) := by
  intro sub
  induction sub with
  | leaf sp f0 =>
    intro p k σ hf
    cases σ with
    | node => simp [Feasible] at hf
    | leaf s g =>
      exact ⟨hf.1, rfl⟩
  | node l r ihl ihr =>
    intro p k σ hf
    cases σ with
    | leaf => simp [Feasible] at hf
    | node s f x y =>
      simp only [Feasible] at hf
      have hs := (mem_speciesSpace_iff_allowed (c := c) S base whole p l r s).mp hf.1
      rw [annUn_node] at hs ⊢
      refine ⟨hs, ?_, ihl _ _ x hf.2.2.1, ihr _ _ y hf.2.2.2⟩
      show k ∈ [Kind.lca, Kind.inh]
      cases k <;> simp

theorem valid_exKinds (c : Costs) (whole : OTree) :
    ∀ (σ : Sol) (p : Path) (k : Kind), specCost c .unordered whole p σ ≠ .inf →
      (exKinds k σ).Valid := by
  intro σ
  induction σ with
  | leaf s g => intro p k _; simp [exKinds, LSol.Valid]
  | node s f x y ihx ihy =>
    intro p k hfin
    simp only [specCost] at hfin
    obtain ⟨h0, hch⟩ := add_ne_inf hfin
    obtain ⟨hx, hy⟩ := add_ne_inf hch
    refine ⟨?_, ihx _ _ hx, ihy _ _ hy⟩
    rw [exKinds_sp, exKinds_sp]
    exact (localCost_ne_inf h0).2.2

theorem feasible_required (S : RTree) (base : Bool) (whole : OTree) (sub : OTree) (p : Path) (σ : Sol)
    (hsub : IsSub whole p sub) (hf : Feasible S .unordered base whole p sub σ) :
    ∀ x ∈ requiredContent whole p, x ∈ σ.fam := by
  cases sub with
  | leaf sp f0 =>
    cases σ with
    | node => simp [Feasible] at hf
    | leaf s g =>
      exact hf.2 ▸ required_leaf hsub
  | node l r =>
    cases σ with
    | leaf => simp [Feasible] at hf
    | node s f x y =>
      simp only [Feasible] at hf
      exact (mem_labelSpace_unordered.mp hf.2.1).2.1

theorem lossBit_le (n : Nat) {a b : Bool} (h : b = true → a = true) :
    Cost.fin ((if a then 0 else 1) * n) ≼ .fin ((if b then 0 else 1) * n) :=
  (fin_le_fin _ _).mpr (Nat.mul_le_mul_right _ (by cases a <;> cases b <;> simp_all))

/-- One child `z` (at `q`) of a node labelled `f` in the given solution and `A ⊆ f` after
    relabelling: the child's new content stays inside its old one, and an edge that was free
    stays free. -/
theorem exchange_child {S : RTree} {base : Bool} {whole : OTree} {q : Path} {ch : OTree} {z : Sol}
    {f A : List Nat} (hch : IsSub whole q ch) (hfz : Feasible S .unordered base whole q ch z)
    (hinv : ∀ w ∈ A, w ∈ f) :
    (∀ w ∈ contentAt whole q A (childKind f z), w ∈ z.fam) ∧
    (subsetB f z.fam = true → subsetB A (contentAt whole q A (childKind f z)) = true) := by
  have hreqz := feasible_required S base whole ch q z hch hfz
  cases z with
  | leaf sz gz =>
    cases ch with
    | node => exact hfz.elim
    | leaf spz fz0 =>
      refine ⟨fun w hw => hreqz w (mem_contentAt_lca.mp hw), fun hs => ?_⟩
      rw [subsetB_eq_true_iff] at hs ⊢
      intro w hw
      have := hs w (hinv w hw)
      rw [show gz = sortNat (dedup fz0) from hfz.2, ← requiredContent_leaf hch] at this
      exact this
  | node sz fz zl zr =>
    simp only [childKind, Sol.fam]
    cases hs : subsetB f fz with
    | true =>
      refine ⟨fun w hw => (mem_contentAt_inh.mp hw).elim
        (fun h1 => subsetB_eq_true_iff.mp hs w (hinv w h1))
        (fun h1 => hreqz w (gains_sub_required h1)), fun _ => subsetB_contentAt_inh ..⟩
    | false => exact ⟨fun w hw => hreqz w (mem_contentAt_lca.mp hw), fun h => by cases h⟩

/-- The exchange argument, the oracle's cost on both sides: node by node the same `gl`, at smaller
    edge costs. -/
theorem exchange_spec (c : Costs) (S : RTree) (base : Bool) (whole : OTree) :
    ∀ (sub : OTree) (p : Path) (anc : List Nat) (k : Kind) (σ : Sol), IsSub whole p sub →
      Feasible S .unordered base whole p sub σ →
      Between whole p (contentAt whole p anc k) → (∀ x ∈ contentAt whole p anc k, x ∈ σ.fam) →
      specCost c .unordered whole p (decodeAt whole p anc (exKinds k σ)) ≼
        specCost c .unordered whole p σ := by
  intro sub
  induction sub with
  | leaf sp f0 =>
    intro p anc k σ _ hf _ _
    cases σ with
    | node => exact hf.elim
    | leaf s g => exact le_refl _
  | node l r ihl ihr =>
    intro p anc k σ hsub hf hb hinv
    obtain ⟨hl, hr⟩ := isSub_child hsub
    cases σ with
    | leaf => exact hf.elim
    | node s f x y =>
      obtain ⟨_, _, hfx, hfy⟩ := hf
      by_cases hfin : specCost c .unordered whole p (.node s f x y) = .inf
      · rw [hfin]; exact le_inf _
      obtain ⟨e0, e1, _⟩ := localCost_ne_inf (add_ne_inf hfin).1
      obtain ⟨ix, dx⟩ := exchange_child (f := f) hl hfx hinv
      obtain ⟨iy, dy⟩ := exchange_child (f := f) hr hfy hinv
      obtain ⟨bx, ex⟩ := hb.child 0 (childKind f x)
      obtain ⟨by', ey⟩ := hb.child 1 (childKind f y)
      simp only [exKinds, decodeAt, specCost, decodeAt_sp, decodeAt_fam, exKinds_sp,
        exKinds_child_lab]
      rw [localCost_unordered_eq_gl c e0 e1, localCost_unordered_eq_gl c ex ey]
      exact add_le_add
        (gl_mono (EventLog.leCosts_refl c) _ _ _ (lossBit_le _ dx) (le_refl _) (lossBit_le _ dy)
          (le_refl _))
        (add_le_add (ihl _ _ _ x hl hfx bx ix) (ihr _ _ _ y hr hfy by' iy))

end SR
