/-
  The unordered instance (`unAlg`, `uspfs`; labels = LCA / INHERIT kinds): the edge-cost law
  `conserv ≤ segment + sloss`, and decoded solutions are valid reconciliations (the
  reconciliation part of C04).
-/
import SRVerif.Proofs.LabelDPMain
import SRVerif.Spec.Opt

namespace SR

open Cost Path

theorem un_slack (c : Costs) : (unAlg c).Slack c.sloss := by
  intro a k ca kc
  simp only [unAlg]
  cases k <;> cases kc <;> simp <;> split <;> simp

/-- `unAlg` only looks at the `lcaSet` of the annotations. -/
theorem unAlg_congr (c : Costs) {a a' b b' : UnAnn} (h1 : a.lcaSet = a'.lcaSet)
    (h2 : b.lcaSet = b'.lcaSet) (k kc : Kind) :
    (unAlg c).conserv a k b kc = (unAlg c).conserv a' k b' kc ∧
    (unAlg c).segment a k b kc = (unAlg c).segment a' k b' kc := by
  simp only [unAlg, h1, h2, and_self]

theorem unSol_sp (t : ATree UnAnn) (anc : List Nat) (ls : LSol Kind) :
    (unSol t anc ls).sp = ls.sp := by
  cases t <;> cases ls <;> rfl

theorem validRec_unSol (c : Costs) (S : RTree) (base : Bool) (whole : OTree) (o : OTree) :
    ∀ (p : Path) (anc : List Nat) (ls : LSol Kind),
      Adm (unAlg c) (annUn S base whole p o) ls → ls.Valid →
      Spec.validRec o (unSol (annUn S base whole p o) anc ls) = true := by
  induction o with
  | leaf sp f =>
    intro p anc ls h _
    obtain rfl := h.leaf_inv
    simp [annUn, unSol, Spec.validRec]
  | node l r ihl ihr =>
    intro p anc ls h hv
    obtain ⟨s, lab, x, y, rfl, _, _, ax, ay⟩ := h.node_inv
    simp only [annUn, unSol, Spec.validRec, unSol_sp, ihl _ _ x ax hv.2.1, ihr _ _ y ay hv.2.2,
      Bool.and_true, bne_iff_ne]
    exact hv.1

end SR
