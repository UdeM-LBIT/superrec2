/-
  Unordered super-reconciliation: what `_compute_lca_sets` / `_compute_gain_sets` (`annUn`,
  `gainsAt`) compute, in terms of the paths of the leaves that carry a family (`leafPaths`).  The
  `lcaSet` of the node at `p` is the sorted `Spec.requiredContent whole p` (`lcaSet_eq_required`),
  so the contents `_decode_uspfs_table` materialises are a function of the position alone
  (`contentAt`); `Between` says which contents may stand at a position.
-/
import SRVerif.Proofs.SolverLists
import SRVerif.Proofs.Cost
import SRVerif.Spec.Opt

namespace SR

open Path

/-- The LCA (longest common prefix of the object paths) of the leaves carrying `x`. -/
def gainNode (whole : OTree) (x : Nat) : Path :=
  lcpAll (((leafPaths whole).filter (fun p => p.2.contains x)).map (·.1))

theorem mem_gainsAt {whole : OTree} {p : Path} {x : Nat} :
    x ∈ gainsAt whole p ↔ x ∈ families whole ∧ gainNode whole x = p := by
  simp [gainsAt, gainNode, List.mem_filter]

theorem mem_allowedContent {whole : OTree} {p : Path} {x : Nat} :
    x ∈ Spec.allowedContent whole p ↔ x ∈ families whole ∧ isAnc (gainNode whole x) p = true := by
  simp [Spec.allowedContent, gainNode, List.mem_filter]

theorem mem_requiredContent {whole : OTree} {p : Path} {x : Nat} :
    x ∈ Spec.requiredContent whole p ↔
      x ∈ families whole ∧ isAnc (gainNode whole x) p = true ∧
      ∃ q f, (q, f) ∈ leafPaths whole ∧ isAnc p q = true ∧ x ∈ f := by
  simp only [Spec.requiredContent, List.mem_filter, mem_allowedContent, List.any_eq_true,
    Bool.and_eq_true, List.contains_iff_mem, Prod.exists, and_assoc]

theorem leafSyn_of_leafPaths {o : OTree} {q : Path} {f : List Nat} (h : (q, f) ∈ leafPaths o) :
    f ∈ leafSyntenies o := by
  induction o generalizing q with
  | leaf sp g =>
    simp only [leafPaths, List.mem_singleton, Prod.mk.injEq] at h
    simp [leafSyntenies, h.2]
  | node l r ihl ihr =>
    simp only [leafPaths, List.mem_append, List.mem_map, Prod.mk.injEq, Prod.exists] at h
    simp only [leafSyntenies, List.mem_append]
    rcases h with ⟨q', f', hm, _, rfl⟩ | ⟨q', f', hm, _, rfl⟩
    · exact Or.inl (ihl hm)
    · exact Or.inr (ihr hm)

theorem family_of_leaf {whole : OTree} {q : Path} {f : List Nat} {x : Nat}
    (h : (q, f) ∈ leafPaths whole) (hx : x ∈ f) :
    x ∈ families whole ∧ isAnc (gainNode whole x) q = true := by
  constructor
  · simp only [families, mem_dedup, List.mem_flatten]
    exact ⟨f, leafSyn_of_leafPaths h, hx⟩
  · have hq : q ∈ ((leafPaths whole).filter (fun p => p.2.contains x)).map (·.1) := by
      simp only [List.mem_map, List.mem_filter, List.contains_iff_mem, Prod.exists]
      exact ⟨q, f, ⟨h, hx⟩, rfl⟩
    have hne : ((leafPaths whole).filter (fun p => p.2.contains x)).map (·.1) ≠ [] :=
      List.ne_nil_of_mem hq
    exact (isAnc_lcpAll _ hne).mp (isAnc_refl _) q hq

/-- `sub` has the leaves (paths and syntenies) of the subtree of `whole` at the object path `p`: all
    that the contents depend on; the leaf species of `sub` are not constrained. -/
def IsSub (whole : OTree) (p : Path) (sub : OTree) : Prop :=
  ∀ q f, ((q, f) ∈ leafPaths whole ∧ isAnc p q = true) ↔
    ∃ q', q = p ++ q' ∧ (q', f) ∈ leafPaths sub

theorem isSub_root (whole : OTree) : IsSub whole [] whole := by
  intro q f
  simp [isAnc_nil]

theorem IsSub.child {whole : OTree} {p : Path} {sub ch : OTree} {i : Nat} (h : IsSub whole p sub)
    (hch : ∀ q f, (q, f) ∈ leafPaths ch ↔ (i :: q, f) ∈ leafPaths sub) :
    IsSub whole (p ++ [i]) ch := by
  intro q f
  constructor
  · rintro ⟨hm, ha⟩
    obtain ⟨q', rfl, hq'⟩ := (h q f).mp ⟨hm, isAnc_of_snoc ha⟩
    rw [isAnc_append_append] at ha
    cases q' with
    | nil => simp [isAnc] at ha
    | cons j q'' =>
      obtain rfl : i = j := by simpa [isAnc] using ha
      exact ⟨q'', by simp, (hch q'' f).mpr hq'⟩
  · rintro ⟨q', rfl, hq'⟩
    have h2 := (h (p ++ i :: q') f).mpr ⟨i :: q', rfl, (hch q' f).mp hq'⟩
    exact ⟨by simpa using h2.1, isAnc_append _ _⟩

theorem isSub_child {whole : OTree} {p : Path} {l r : OTree} (h : IsSub whole p (.node l r)) :
    IsSub whole (p ++ [0]) l ∧ IsSub whole (p ++ [1]) r :=
  ⟨h.child (by simp [leafPaths]), h.child (by simp [leafPaths])⟩

theorem below_child {whole : OTree} {p : Path} {l r : OTree} (h : IsSub whole p (.node l r))
    {q : Path} {f : List Nat} (hm : (q, f) ∈ leafPaths whole) (ha : isAnc p q = true) :
    isAnc (p ++ [0]) q = true ∨ isAnc (p ++ [1]) q = true := by
  obtain ⟨q', rfl, hq'⟩ := (h q f).mp ⟨hm, ha⟩
  simp only [leafPaths, List.mem_append, List.mem_map, Prod.mk.injEq, Prod.exists] at hq'
  rcases hq' with ⟨q'', f', _, rfl, rfl⟩ | ⟨q'', f', _, rfl, rfl⟩
  · left
    rw [List.append_cons p 0 q'']
    exact isAnc_append _ _
  · right
    rw [List.append_cons p 1 q'']
    exact isAnc_append _ _

theorem below_leaf {whole : OTree} {p : Path} {sp : Path} {f0 : List Nat}
    (h : IsSub whole p (.leaf sp f0)) (q : Path) (f : List Nat) :
    ((q, f) ∈ leafPaths whole ∧ isAnc p q = true) ↔ (q = p ∧ f = f0) := by
  rw [h q f]
  simp only [leafPaths, List.mem_singleton, Prod.mk.injEq]
  constructor
  · rintro ⟨q', rfl, rfl, rfl⟩
    simp
  · rintro ⟨rfl, rfl⟩
    exact ⟨[], by simp, rfl, rfl⟩

theorem isAnc_snoc_cases {g p : Path} {i : Nat} (h : isAnc g (p ++ [i]) = true) :
    g = p ++ [i] ∨ isAnc g p = true := by
  rw [isAnc_iff_prefix] at h
  rcases List.prefix_concat_iff.mp h with h | h
  · exact Or.inl h
  · exact Or.inr ((isAnc_iff_prefix _ _).mpr h)

theorem ne_snoc_of_isAnc {g p : Path} {i : Nat} (h : isAnc g p = true) : g ≠ p ++ [i] := by
  intro e
  have := length_le_of_isAnc h
  rw [e] at this
  simp at this
  omega

theorem required_sub_allowed {whole : OTree} {p : Path} {x : Nat}
    (h : x ∈ Spec.requiredContent whole p) : x ∈ Spec.allowedContent whole p := by
  rw [mem_requiredContent] at h
  exact mem_allowedContent.mpr ⟨h.1, h.2.1⟩

theorem gains_sub_allowed {whole : OTree} {p : Path} {x : Nat}
    (h : x ∈ gainsAt whole p) : x ∈ Spec.allowedContent whole p := by
  rw [mem_gainsAt] at h
  exact mem_allowedContent.mpr ⟨h.1, by rw [h.2]; exact isAnc_refl _⟩

theorem allowed_mono {whole : OTree} {p : Path} (i : Nat) {x : Nat}
    (h : x ∈ Spec.allowedContent whole p) : x ∈ Spec.allowedContent whole (p ++ [i]) := by
  rw [mem_allowedContent] at h ⊢
  exact ⟨h.1, isAnc_trans h.2 (isAnc_append p [i])⟩

theorem required_child {whole : OTree} {p : Path} {i : Nat} {x : Nat}
    (h : x ∈ Spec.requiredContent whole (p ++ [i])) :
    x ∈ Spec.requiredContent whole p ∨ x ∈ gainsAt whole (p ++ [i]) := by
  rw [mem_requiredContent] at h
  obtain ⟨hf, hanc, q, f, hm, ha, hx⟩ := h
  rcases isAnc_snoc_cases hanc with e | e
  · exact Or.inr (mem_gainsAt.mpr ⟨hf, e⟩)
  · exact Or.inl (mem_requiredContent.mpr ⟨hf, e, q, f, hm, isAnc_of_snoc ha, hx⟩)

theorem required_down {whole : OTree} {p : Path} {i : Nat} {x : Nat}
    (h : x ∈ Spec.requiredContent whole p) {q : Path} {f : List Nat} (hm : (q, f) ∈ leafPaths whole)
    (ha : isAnc (p ++ [i]) q = true) (hx : x ∈ f) : x ∈ Spec.requiredContent whole (p ++ [i]) := by
  rw [mem_requiredContent] at h
  exact mem_requiredContent.mpr ⟨h.1, isAnc_trans h.2.1 (isAnc_append p [i]), q, f, hm, ha, hx⟩

theorem required_node_cases {whole : OTree} {p : Path} {l r : OTree} (hsub : IsSub whole p (.node l r))
    {x : Nat} (h : x ∈ Spec.requiredContent whole p) :
    x ∈ Spec.requiredContent whole (p ++ [0]) ∨ x ∈ Spec.requiredContent whole (p ++ [1]) := by
  obtain ⟨_, _, q, f, hm, ha, hx⟩ := mem_requiredContent.mp h
  exact (below_child hsub hm ha).imp (required_down h hm · hx) (required_down h hm · hx)

theorem not_gained_child {whole : OTree} {p : Path} {i : Nat} {x : Nat}
    (h : x ∈ Spec.requiredContent whole p) : x ∉ gainsAt whole (p ++ [i]) :=
  fun hg => ne_snoc_of_isAnc (mem_requiredContent.mp h).2.1 (mem_gainsAt.mp hg).2

theorem annUn_gain (S : RTree) (base : Bool) (whole : OTree) (p : Path) (sub : OTree) :
    (annUn S base whole p sub).data.gain = gainsAt whole p := by
  cases sub <;> rfl

theorem annUn_node_lcaSet (S : RTree) (base : Bool) (whole : OTree) (p : Path) (l r : OTree) :
    (annUn S base whole p (.node l r)).data.lcaSet =
      sortNat ((dedup ((annUn S base whole (p ++ [0]) l).data.lcaSet ++
          (annUn S base whole (p ++ [1]) r).data.lcaSet)).filter
        (fun f => !((annUn S base whole (p ++ [0]) l).data.gain ++
          (annUn S base whole (p ++ [1]) r).data.gain).contains f)) := rfl

theorem annUn_leaf_lcaSet (S : RTree) (base : Bool) (whole : OTree) (p : Path) (sp : Path)
    (f : List Nat) : (annUn S base whole p (.leaf sp f)).data.lcaSet = sortNat (dedup f) := rfl

theorem mem_lcaSet (S : RTree) (base : Bool) (whole : OTree) :
    ∀ (sub : OTree) (p : Path), IsSub whole p sub → ∀ x,
      x ∈ (annUn S base whole p sub).data.lcaSet ↔ x ∈ Spec.requiredContent whole p := by
  intro sub
  induction sub with
  | leaf sp f0 =>
    intro p hsub x
    simp only [annUn_leaf_lcaSet, mem_sortNat_iff, mem_dedup, mem_requiredContent]
    have hself := (below_leaf hsub p f0).mpr ⟨rfl, rfl⟩
    constructor
    · intro hx
      obtain ⟨h1, h2⟩ := family_of_leaf hself.1 hx
      exact ⟨h1, h2, p, f0, hself.1, hself.2, hx⟩
    · rintro ⟨_, _, q, f, hm, ha, hx⟩
      obtain ⟨_, rfl⟩ := (below_leaf hsub q f).mp ⟨hm, ha⟩
      exact hx
  | node l r ihl ihr =>
    intro p hsub x
    obtain ⟨hl, hr⟩ := isSub_child hsub
    rw [annUn_node_lcaSet, annUn_gain, annUn_gain]
    simp only [mem_sortNat_iff, List.mem_filter, mem_dedup, List.mem_append,
      Bool.not_eq_true', List.contains_eq_mem, decide_eq_false_iff_not, not_or]
    rw [ihl _ hl, ihr _ hr]
    constructor
    · rintro ⟨h | h, hg0, hg1⟩
      · exact (required_child h).resolve_right hg0
      · exact (required_child h).resolve_right hg1
    · exact fun h => ⟨required_node_cases hsub h, not_gained_child h, not_gained_child h⟩

/-- The `lcaSet` does not read `S` and `base`: any values serve (here and in `requiredContent_leaf`). -/
theorem required_leaf {whole : OTree} {p sp : Path} {f0 : List Nat}
    (hsub : IsSub whole p (.leaf sp f0)) : ∀ x ∈ Spec.requiredContent whole p, x ∈ sortNat (dedup f0) :=
  fun x hx => (mem_lcaSet (.node []) false whole _ p hsub x).mpr hx

theorem nodup_families (o : OTree) : (families o).Nodup := nodup_dedup _

theorem nodup_requiredContent (whole : OTree) (p : Path) : (Spec.requiredContent whole p).Nodup := by
  unfold Spec.requiredContent Spec.allowedContent
  exact ((nodup_families whole).filter _).filter _

theorem lcaSet_sorted (S : RTree) (base : Bool) (whole : OTree) (p : Path) (sub : OTree) :
    (annUn S base whole p sub).data.lcaSet.Pairwise (· < ·) := by
  cases sub with
  | leaf sp f => rw [annUn_leaf_lcaSet]; exact sortNat_sorted_lt (nodup_dedup _)
  | node l r => rw [annUn_node_lcaSet]; exact sortNat_sorted_lt ((nodup_dedup _).filter _)

theorem lcaSet_eq_required (S : RTree) (base : Bool) (whole : OTree) (sub : OTree) (p : Path)
    (h : IsSub whole p sub) :
    (annUn S base whole p sub).data.lcaSet = sortNat (Spec.requiredContent whole p) :=
  eq_of_sorted (lcaSet_sorted S base whole p sub) (sortNat_sorted_lt (nodup_requiredContent whole p))
    (fun x => by rw [mem_sortNat_iff]; exact mem_lcaSet S base whole sub p h x)

theorem nodup_allowedContent (whole : OTree) (p : Path) : (Spec.allowedContent whole p).Nodup :=
  (nodup_families whole).filter _

theorem gains_sub_required {whole : OTree} {p : Path} {x : Nat} (h : x ∈ gainsAt whole p) :
    x ∈ Spec.requiredContent whole p := by
  obtain ⟨hf, hg⟩ := mem_gainsAt.mp h
  simp only [families, mem_dedup, List.mem_flatten, ← leafPaths_snd, List.mem_map] at hf
  obtain ⟨f, ⟨⟨q, f'⟩, hm, rfl⟩, hx⟩ := hf
  have hanc := (family_of_leaf hm hx).2
  rw [hg] at hanc
  exact mem_requiredContent.mpr
    ⟨(family_of_leaf hm hx).1, by rw [hg]; exact isAnc_refl _, q, f', hm, hanc, hx⟩

/-- The content `_decode_uspfs_table` gives the node at `p` of kind `k` whose parent holds `anc`. -/
def contentAt (whole : OTree) (p : Path) (anc : List Nat) : Kind → List Nat
  | .lca => sortNat (Spec.requiredContent whole p)
  | .inh => sortNat (dedup (anc ++ gainsAt whole p))

theorem mem_contentAt_lca {whole : OTree} {p : Path} {anc : List Nat} {x : Nat} :
    x ∈ contentAt whole p anc .lca ↔ x ∈ Spec.requiredContent whole p := mem_sortNat_iff

theorem mem_contentAt_inh {whole : OTree} {p : Path} {anc : List Nat} {x : Nat} :
    x ∈ contentAt whole p anc .inh ↔ x ∈ anc ∨ x ∈ gainsAt whole p := by
  simp [contentAt, mem_sortNat_iff, mem_dedup]

theorem contentAt_sorted (whole : OTree) (p : Path) (anc : List Nat) (k : Kind) :
    (contentAt whole p anc k).Pairwise (· < ·) := by
  cases k
  · exact sortNat_sorted_lt (nodup_requiredContent whole p)
  · exact sortNat_sorted_lt (nodup_dedup _)

theorem requiredContent_leaf {whole : OTree} {p sp : Path} {f0 : List Nat}
    (h : IsSub whole p (.leaf sp f0)) :
    sortNat (Spec.requiredContent whole p) = sortNat (dedup f0) :=
  (lcaSet_eq_required (.node []) false whole _ p h).symm

/-- `f` may stand at `p`: it holds the required content and nothing that is not allowed. -/
structure Between (whole : OTree) (p : Path) (f : List Nat) : Prop where
  req : ∀ x ∈ Spec.requiredContent whole p, x ∈ f
  all : ∀ x ∈ f, x ∈ Spec.allowedContent whole p

theorem between_lca (whole : OTree) (p : Path) (anc : List Nat) :
    Between whole p (contentAt whole p anc .lca) :=
  ⟨fun _ hx => mem_contentAt_lca.mpr hx, fun _ hx => required_sub_allowed (mem_contentAt_lca.mp hx)⟩

theorem required_contentAt_child {whole : OTree} {p : Path} {f : List Nat}
    (h : ∀ x ∈ Spec.requiredContent whole p, x ∈ f) (i : Nat) (k : Kind) :
    ∀ x ∈ Spec.requiredContent whole (p ++ [i]), x ∈ contentAt whole (p ++ [i]) f k := by
  intro x hx
  cases k with
  | lca => exact mem_contentAt_lca.mpr hx
  | inh => exact mem_contentAt_inh.mpr ((required_child hx).imp_left (h x))

theorem Between.child {whole : OTree} {p : Path} {f : List Nat} (h : Between whole p f) (i : Nat)
    (k : Kind) :
    Between whole (p ++ [i]) (contentAt whole (p ++ [i]) f k) ∧
      Spec.edgeOk .unordered whole (p ++ [i]) f (contentAt whole (p ++ [i]) f k) = true := by
  simp only [Spec.edgeOk, List.all_eq_true, Bool.or_eq_true, List.contains_iff_mem]
  refine ⟨⟨required_contentAt_child h.req i k, ?_⟩, ?_⟩ <;> cases k
  · exact (between_lca ..).all
  · exact fun x hx =>
      (mem_contentAt_inh.mp hx).elim (fun h' => allowed_mono i (h.all x h')) gains_sub_allowed
  · exact fun x hx => (required_child (mem_contentAt_lca.mp hx)).imp_left (h.req x)
  · exact fun x hx => mem_contentAt_inh.mp hx

/-- Why an edge LCA → INHERIT with `lcaSet parent ⊆ lcaSet child` (the one edge `unAlg` charges `∞`,
    "the forbidden edge") never occurs in a canonical labelling: the INHERIT child would hold
    exactly its required content. -/
theorem contentAt_inh_eq_lca {whole : OTree} {p : Path} {i : Nat} {anc anc' : List Nat}
    (h : ∀ x ∈ Spec.requiredContent whole p, x ∈ Spec.requiredContent whole (p ++ [i])) :
    contentAt whole (p ++ [i]) (contentAt whole p anc .lca) .inh =
      contentAt whole (p ++ [i]) anc' .lca := by
  refine eq_of_sorted (contentAt_sorted ..) (contentAt_sorted ..) fun w => ?_
  rw [mem_contentAt_inh, mem_contentAt_lca, mem_contentAt_lca]
  exact ⟨fun hw => hw.elim (h w) gains_sub_required, required_child⟩

end SR
