/-
  `_decode_uspfs_table` and `_uspfs` against the label-DP model: the code's node data is the
  label DP's (`annUn`) with the same allowed species as sets; reading the tags top-down yields
  the materialisations `unSol` of the solutions in the label DP's cells; hence `uspfsCode` and
  `uspfs` have the same members.
-/
import SRVerif.Proofs.UspfsCodeTable

namespace SR.UspfsCode

open SR Cost

theorem annCode_sim (S : RTree) (base : Bool) (whole : OTree) :
    ∀ (o : OTree) (p : Path), AnnSim (annCode S base whole p o) (annUn S base whole p o) := by
  intro o
  induction o with
  | leaf sp f => intro p; simp [annCode, annUn, AnnSim]
  | node l r ihl ihr =>
    intro p
    have hl := ihl (p ++ [0])
    have hr := ihr (p ++ [1])
    show _ ∧ _ ∧ _ ∧ _ ∧ _
    refine ⟨?_, rfl, ?_, hl, hr⟩
    · show sortNat _ = sortNat _
      rw [hl.data.1, hl.data.2, hr.data.1, hr.data.2]
    · intro s
      show (s ∈ if base = true then _ else _) ↔ (s ∈ if base = true then _ else _)
      cases base with
      | true => simp
      | false =>
        simp only [Bool.false_eq_true, if_false, List.mem_reverse, allSpecies, RTree.mem_postorder_iff,
          RTree.mem_preorder_iff]

theorem annCode_nodup (S : RTree) (base : Bool) (whole : OTree) :
    ∀ (o : OTree) (p : Path), AllowedNodup (annCode S base whole p o) := by
  intro o
  induction o with
  | leaf sp f => intro p; trivial
  | node l r ihl ihr =>
    intro p
    simp only [annCode, AllowedNodup]
    refine ⟨?_, ihl _, ihr _⟩
    cases base with
    | true => simp
    | false => simpa using SR.RTree.nodup_postorder S

theorem content_congr {a b : UnAnn} (h1 : a.lcaSet = b.lcaSet) (h2 : a.gain = b.gain) (k : Kind)
    (anc : List Nat) : content a k anc = content b k anc := by
  cases k <;> simp [content, h1, h2]

theorem unSol_leaf (b : UnAnn) (sp : Path) (anc : List Nat) (s : Path) (k : Kind) :
    unSol (.leaf b sp) anc (.leaf s k) = .leaf s (content b k anc) := by
  cases k <;> rfl

theorem unSol_node (b : UnAnn) (l r : ATree UnAnn) (anc : List Nat) (s : Path) (k : Kind)
    (x y : LSol Kind) :
    unSol (.node b l r) anc (.node s k x y) =
      .node s (content b k anc) (unSol l (content b k anc) x) (unSol r (content b k anc) y) := by
  cases k <;> rfl

theorem decode_iff (c : Costs) (S : RTree) (T : Table) :
    ∀ (t' t : ATree UnAnn), AnnSim t' t → SpOk (unAlg c) S t → ∀ (v : Path),
      Holds .all c S T t' v →
      ∀ (s : Path) (k : Kind) (anc : List Nat) (sol : Sol),
        sol ∈ decode T t' v s k anc ↔
          ∃ d, findCell (dpTable (unAlg c) c S true t) (s, k) = some d ∧
            ∃ ls ∈ d.sols, sol = unSol t anc ls := by
  intro t'
  induction t' with
  | leaf a sp =>
    intro t hsim hok v hT s k anc sol
    cases t with
    | node _ _ _ => simp [AnnSim] at hsim
    | leaf b sq =>
      obtain ⟨rfl, h1, h2⟩ := hsim
      have hcell := hT.root s k
      simp only [decode, hcell, rowOf, findCell_dpTable_leaf, unAlg]
      by_cases h : s = sp ∧ k = .lca
      · obtain ⟨rfl, rfl⟩ := h
        simp [Cell.update_leaf, Cell.value, ExtInt.isInfinite, unSol_leaf, content_congr h1 h2]
      · rw [if_neg h, if_neg h]
        constructor
        · intro h'; cases h'
        · rintro ⟨_, h', _⟩; cases h'
  | node a l' r' ihl ihr =>
    intro t hsim hok v hT s k anc sol
    cases t with
    | leaf _ _ => simp [AnnSim] at hsim
    | node b l r =>
      -- `id`: destructure a copy, `hsim` itself is passed on to `node_cell`
      obtain ⟨h1, h2, hal, hsl, hsr⟩ := id hsim
      simp only [decode, hT.root s k, List.mem_flatMap, List.mem_map]
      rw [content_congr h1 h2, findCell_dpTable_node]
      by_cases hs : s ∈ a.allowed
      · rw [if_pos ⟨(hal s).mp hs, mem_labs c b k⟩]
        have hcell := node_cell c S true a b l' r' l r hsim
          (rowOf_rowOk c S true l' l hsl hok.2.1) (rowOf_rowOk c S true r' r hsr hok.2.2) s k hs
        -- `DL` … `mat` are given: found by unification against the unfolded decoder they are slow
        exact hcell.decode (fun u => ⟨u, rfl⟩) (mk := Sol.node s (content b k anc))
          (DL := fun t ml => ml ∈ decode T l' (v ++ [0]) t.1 t.2 (content b k anc))
          (DR := fun t mr => mr ∈ decode T r' (v ++ [1]) t.1 t.2 (content b k anc))
          (fL := unSol l (content b k anc)) (fR := unSol r (content b k anc))
          (mat := unSol (.node b l r) anc)
          (fun t ml => ihl l hsl hok.2.1 (v ++ [0]) hT.left t.1 t.2 (content b k anc) ml)
          (fun t mr => ihr r hsr hok.2.2 (v ++ [1]) hT.right t.1 t.2 (content b k anc) mr)
          (fun x y => unSol_node b l r anc s k x y) sol
      · rw [if_neg (fun h => hs ((hal s).mpr h.1))]
        simp only [rowOf, if_neg hs, Cell.infos, List.not_mem_nil, false_and, exists_false,
          reduceCtorEq]

theorem resultEntry_eq (pol : Retain) (c : Costs) (S : RTree) (base : Bool) (o : OTree) :
    resultEntry pol c S base o =
      Entry.update (Entry.init .min pol)
        ((levelOrder S).flatMap fun s => (decodeRoot pol c S base o s).map fun out =>
          ({ value := Cost.toExt (totalCost c .unordered o out), info := some out } : Cand Sol)) :=
  Entry.foldl_update_flatMap _ _ _

theorem codeTable_holds (pol : Retain) (c : Costs) (S : RTree) (base : Bool) (o : OTree) :
    Holds pol c S (codeTable pol c S base o) (annCode S base o [] o) [] :=
  (computeTable_ok pol c S (annCode S base o [] o) [] [] (annCode_nodup S base o o [])
    (fun _ _ _ _ => rfl)).2

theorem decoded_iff (c : Costs) (S : RTree) (base : Bool) (o : OTree)
    (hok : SpOk (unAlg c) S (annUn S base o [] o)) (sol : Sol) :
    sol ∈ (levelOrder S).flatMap (decodeRoot .all c S base o) ↔
      sol ∈ (uspfsCells c S base true o).flatMap
        (fun d => d.sols.map (unSol (annUn S base o [] o) (annUn S base o [] o).data.lcaSet)) := by
  have hsim := annCode_sim S base o o []
  rw [← hsim.data.1]
  exact mem_flatMap_decode (unAlg c) c S (annUn S base o [] o) .lca (mem_levelOrder S)
    (fun d hd => dp_isNode c S true _ hok hd)
    (fun s sol => decode_iff c S _ _ _ hsim hok [] (codeTable_holds .all c S base o) s .lca
      (annCode S base o [] o).data.lcaSet sol) sol

theorem sim_subAt : ∀ (t' t : ATree UnAnn), AnnSim t' t → ∀ q tq, subAt t q = some tq →
    ∃ tq', subAt t' q = some tq' ∧ AnnSim tq' tq := by
  intro t'
  induction t' with
  | leaf a sp =>
    intro t hsim q tq hq
    cases t with
    | node _ _ _ => simp [AnnSim] at hsim
    | leaf b sq =>
      cases q with
      | nil => simp only [subAt_nil, Option.some.injEq] at hq; subst hq; exact ⟨_, subAt_nil _, hsim⟩
      | cons _ _ => simp [subAt] at hq
  | node a l' r' ihl ihr =>
    intro t hsim q tq hq
    cases t with
    | leaf _ _ => simp [AnnSim] at hsim
    | node b l r =>
      cases q with
      | nil => simp only [subAt_nil, Option.some.injEq] at hq; subst hq; exact ⟨_, subAt_nil _, hsim⟩
      | cons i q =>
        rcases subAt_node_cons.mp hq with ⟨rfl, hq⟩ | ⟨rfl, hq⟩
        · obtain ⟨tq', h, hs⟩ := ihl l hsim.2.2.2.1 q tq hq
          exact ⟨tq', subAt_node_cons.mpr (.inl ⟨rfl, h⟩), hs⟩
        · obtain ⟨tq', h, hs⟩ := ihr r hsim.2.2.2.2 q tq hq
          exact ⟨tq', subAt_node_cons.mpr (.inr ⟨rfl, h⟩), hs⟩

theorem spOk_subAt (c : Costs) (S : RTree) : ∀ (t : ATree UnAnn), SpOk (unAlg c) S t →
    ∀ q tq, subAt t q = some tq → SpOk (unAlg c) S tq := by
  intro t
  induction t with
  | leaf a sp =>
    intro hok q tq hq
    cases q with
    | nil => simp only [subAt_nil, Option.some.injEq] at hq; subst hq; exact hok
    | cons _ _ => simp [subAt] at hq
  | node a l r ihl ihr =>
    intro hok q tq hq
    cases q with
    | nil => simp only [subAt_nil, Option.some.injEq] at hq; subst hq; exact hok
    | cons i q =>
      rcases subAt_node_cons.mp hq with ⟨_, hq⟩ | ⟨_, hq⟩
      · exact ihl hok.2.1 q tq hq
      · exact ihr hok.2.2 q tq hq

theorem codeTable_row (c : Costs) (S : RTree) (base : Bool) (o : OTree) (q : Path)
    (tq : ATree UnAnn) (hq : subAt (annUn S base o [] o) q = some tq) :
    ∃ tq', AnnSim tq' tq ∧ cellAt (codeTable .all c S base o) q = rowOf .all c S tq' := by
  obtain ⟨tq', hq', hsim⟩ := sim_subAt _ _ (annCode_sim S base o o []) q tq hq
  refine ⟨tq', hsim, ?_⟩
  funext s k
  have := codeTable_holds .all c S base o q tq' hq' s k
  rwa [List.nil_append] at this

theorem mem_uspfsCode_iff (c : Costs) (S : RTree) (base : Bool) (o : OTree)
    (hok : SpOk (unAlg c) S (annUn S base o [] o)) (sol : Sol) :
    sol ∈ uspfsCode c S base o ↔ sol ∈ uspfs c S base o := by
  unfold uspfsCode uspfsCodePol uspfs
  rw [resultEntry_eq, ← List.map_flatMap]
  exact result_iff c .unordered o _ _ (decoded_iff c S base o hok) sol

end SR.UspfsCode
