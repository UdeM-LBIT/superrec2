/-
  `_compute_branches` on a valid reconciliation: the loops never fail (`KeyError` in
  `anchor_nodes.remove`, missing species in `_add_losses`), i.e. the plan of every pass can be
  run.  The induction is the one of the run itself (post-order over species, structural over the
  object tree: children before parents), but no invariant of the state is carried: that a key to
  be removed is still an anchor is `Ran.keep` of the run so far, and who could have consumed it
  is a fact of the plan.  What the final state looks like (`PInv`, `Typed`) needs no validity.
-/
import SRVerif.Proofs.BranchesPlan

namespace SR.Layout

open SR

/-- Valid reconciliation inside the species tree `S`: every species used is a
    node of `S` and no internal node carries an invalid event. -/
def Good (S : RTree) (sol : Sol) : Prop :=
  ∀ p sub, subAt sol p = some sub →
    S.isNode sub.sp = true ∧
    ∀ sp f l r, sub = .node sp f l r → internalEvent sp l.sp r.sp ≠ .invalid

/-- Every branch of the state was inserted by the step of some object node. -/
def Typed (sol : Sol) (st : LState) : Prop :=
  ∀ t b, b ∈ brs st t → ∃ p sub, subAt sol p = some sub ∧ StepTyped sub.sp p sub t b

/-- The anchors of a state against its branches: unconsumed keys are anchors (`anch`), and a branch
    consumes only keys of the child lineages of its owner (`cons`). -/
structure PInv (st : LState) : Prop where
  anch : ∀ t k, k ∈ keysOf (brs st t) → (∀ b ∈ brs st t, k ∉ consumes b) → k ∈ ancs st t
  cons : ∀ t b, b ∈ brs st t → ∀ k ∈ consumes b, ∃ j, k.lin = b.key.owner ++ [j]

theorem nodePlan_consumes (s p : Path) (sub : Sol) :
    ∀ e ∈ nodePlan s p sub, ∀ k ∈ consumes e.2, ∃ j, k.lin = p ++ [j] := by
  by_cases hv : Planned s sub
  case neg => rw [planOf_invalid (planOf s p sub) hv]; simp
  obtain ⟨pl', nb, hpl, hloss, _, _, hlin, _⟩ := planOf_own (planOf s p sub) hv
  rw [hpl]
  intro e he k hk
  rcases List.mem_append.1 he with he | he
  · rw [loss_consumes (hloss e he)] at hk; cases hk
  · simp only [List.mem_singleton] at he
    subst he
    obtain ⟨j, _, _, hj, _⟩ := hlin k hk
    exact ⟨j, hj⟩

theorem computeBranches_pinv {S : RTree} {sol : Sol} {st : LState}
    (h : computeBranches S sol = .ok st) : PInv st := by
  refine ⟨fun t k hk hun => ?_, fun t b hbt k hkc => ?_⟩
  · rw [(computeBranches_plan h).2.2] at hk hun
    exact (computeBranches_ran h).keep t k (.inr hk) hun
  · obtain ⟨p, sub, _, _, he⟩ := (mem_brs_iff h).1 hbt
    rw [(nodePlan_typed _ p sub _ he).owner]
    exact nodePlan_consumes _ p sub _ he k hkc

theorem computeBranches_typed {S : RTree} {sol : Sol} {st : LState}
    (h : computeBranches S sol = .ok st) : Typed sol st := by
  intro t b hbt
  obtain ⟨p, sub, hq, _, he⟩ := (mem_brs_iff h).1 hbt
  exact ⟨p, sub, hq, nodePlan_typed _ _ sub _ he⟩

theorem good_planned {S : RTree} {sol : Sol} (hgood : Good S sol) {p : Path} {sub : Sol}
    (hsub : subAt sol p = some sub) : Planned sub.sp sub := by
  cases sub with
  | leaf sp f => trivial
  | node sp f l r => exact (hgood p _ hsub).2 _ f l r rfl

theorem computeBranches_done {S : RTree} {sol : Sol} {st : LState} (hgood : Good S sol)
    (h : computeBranches S sol = .ok st) {q : Path} {subq : Sol} (hq : subAt sol q = some subq) :
    .gene q ∈ keysOf (brs st subq.sp) := by
  obtain ⟨pl', nb, hpl, _, hkey, _⟩ := planOf_own (planOf subq.sp q subq) (good_planned hgood hq)
  exact List.mem_map.2 ⟨nb, (mem_brs_iff h).2 ⟨q, subq, hq,
    RTree.mem_postorder_of_isNode _ S (hgood q subq hq).1, by simp [hpl]⟩, hkey⟩

/-- The plan of node `p` (mapped to `s`) can be run after any run `pl0` from a state with the
    species below `s`, if in `pl0` the children of `p` sitting in `s` got their branches and nothing
    consumed a key of the lineages `p ++ [c]`. -/
theorem node_runs {S : RTree} {sol : Sol} (hgood : Good S sol) {s p : Path} {sub : Sol}
    {st st2 : LState} {pl0 : List (Path × Branch)} (hsub : subAt sol p = some sub) (hsp : sub.sp = s)
    (h0 : Ran st pl0 st2) (hs : s ∈ skeys st)
    (hkeys : ∀ t, S.isNode t = true → Path.isAnc s t = true → t ∈ skeys st)
    (hno : ∀ b ∈ planAt s pl0, ∀ k ∈ consumes b, ∀ c, k.lin ≠ p ++ [c])
    (hdone : ∀ j, childSp sub j = some s → .gene (p ++ [j]) ∈ keysOf (planAt s pl0)) :
    ∃ st3, Ran st2 (nodePlan s p sub) st3 := by
  have typed := nodePlan_typed s p sub
  obtain ⟨pl', nb, hpl, hloss, _, hnd, hcons, _⟩ :=
    planOf_own (planOf s p sub) (hsp ▸ good_planned hgood hsub)
  rw [hpl] at typed ⊢
  -- the loss branches sit in species between `s` and a child's species
  obtain ⟨st3, r1⟩ := ran_of_losses (st := st2) hloss fun e he => by
    rw [h0.did.keys]
    rcases typed e (List.mem_append_left _ he) with ⟨_, i, a, hc, _, hpre, _, hanc, _⟩ | ⟨hk, _⟩
    · obtain ⟨ch, hch, rfl⟩ := childSp_subAt hsub hc
      exact hkeys _ (RTree.isNode_of_prefix _ _ S hpre (hgood _ _ hch).1) hanc
    · exact absurd (hloss e he) hk
  have r01 := ran_append.2 ⟨_, h0, r1⟩
  obtain ⟨st4, r2⟩ := own_runs (nb := nb) r01 hs hnd fun k hk => by
    obtain ⟨j, a, hc, hlin, _, htop⟩ := hcons k hk
    rw [planAt_append, keysOf_append]
    refine ⟨?_, fun b hb hkb => ?_⟩
    · rcases htop with ⟨rfl, rfl⟩ | ⟨b', hb', rfl⟩
      · exact List.mem_append_left _ (hdone j hc)
      · exact List.mem_append_right _ (List.mem_map.2 ⟨b', mem_planAt.2 hb', rfl⟩)
    · rcases List.mem_append.1 hb with hb | hb
      · exact hno b hb k hkb j hlin
      · rw [loss_consumes (hloss _ (mem_planAt.1 hb))] at hkb; cases hkb
  exact ⟨st4, ran_append.2 ⟨_, r1, r2⟩⟩

theorem sub_no_consumer {s : Path} {sub : Sol} {p0 : Path} {i : Nat} :
    ∀ b ∈ planAt s (passPlan s (genesPost sub (p0 ++ [i]))), ∀ k ∈ consumes b, ∀ c,
      k.lin ≠ p0 ++ [c] := by
  intro b hb k hk c hc
  obtain ⟨g, hg, _, he⟩ := mem_passPlan.1 (mem_planAt.1 hb)
  obtain ⟨q, hq, _⟩ := (mem_genesPost sub _ g.1 g.2).1 hg
  obtain ⟨j, hj⟩ := nodePlan_consumes s g.1 g.2 _ he k hk
  rw [hj, hq] at hc
  have := congrArg List.length hc
  simp at this

theorem root_placed {S : RTree} {sol : Sol} (hgood : Good S sol) {s p : Path} {sub : Sol}
    (hsub : subAt sol p = some sub) (hsp : sub.sp = s) :
    .gene p ∈ keysOf (planAt s (passPlan s (genesPost sub p))) := by
  obtain ⟨pl', nb, hpl, _, hkey, _⟩ :=
    planOf_own (planOf s p sub) (hsp ▸ good_planned hgood hsub)
  refine List.mem_map.2 ⟨nb, mem_planAt.2 (mem_passPlan.2 ⟨(p, sub), ?_, hsp, ?_⟩), hkey⟩
  · cases sub <;> simp [genesPost]
  · simp [hpl]

/-- The pass of species `s` over the object subtree at `p0` can be run from any state that has
    `s` and the species below it.  Structural induction, children before the node (`node_runs`);
    nothing but the existence of these species is carried. -/
theorem pass_runs {S : RTree} {sol : Sol} (hgood : Good S sol) (s : Path) :
    ∀ (sub : Sol) (p0 : Path) (st : LState), subAt sol p0 = some sub → s ∈ skeys st →
      (∀ t, S.isNode t = true → Path.isAnc s t = true → t ∈ skeys st) →
      ∃ st', Ran st (passPlan s (genesPost sub p0)) st' := by
  intro sub
  induction sub with
  | leaf sp f =>
    intro p0 st hsub hs hkeys
    simp only [genesPost, passPlan_cons, show passPlan s [] = [] from rfl, List.append_nil]
    by_cases hsp : sp = s
    · subst hsp
      simp only [Sol.sp, if_true]
      exact node_runs hgood hsub rfl (pl0 := []) rfl hs hkeys (by simp)
        (by intro _ h; cases h)
    · simp only [Sol.sp, hsp, if_false]; exact ⟨st, rfl⟩
  | node sp f l r ihl ihr =>
    intro p0 st hsub hs hkeys
    obtain ⟨hl, hr⟩ := subAt_child hsub
    obtain ⟨st1, r1⟩ := ihl (p0 ++ [0]) st hl hs hkeys
    have k1 := r1.did.keys
    obtain ⟨st2, r2⟩ := ihr (p0 ++ [1]) st1 hr (by rw [k1]; exact hs)
      (fun t a b => by rw [k1]; exact hkeys t a b)
    have r12 := ran_append.2 ⟨_, r1, r2⟩
    simp only [genesPost, passPlan_append, passPlan_cons, show passPlan s [] = [] from rfl,
      List.append_nil]
    by_cases hsp : sp = s
    · subst hsp
      simp only [Sol.sp, if_true]
      obtain ⟨st3, r3⟩ := node_runs hgood hsub rfl r12 hs hkeys
        (by
          intro b hb
          rw [planAt_append, List.mem_append] at hb
          rcases hb with hb | hb <;> exact sub_no_consumer b hb)
        (by
          intro j hc
          rw [planAt_append, keysOf_append]
          match j, hc with
          | 0, hc =>
            exact List.mem_append_left _ (root_placed hgood hl (by simpa [childSp] using hc))
          | 1, hc =>
            exact List.mem_append_right _ (root_placed hgood hr (by simpa [childSp] using hc)))
      exact ⟨st3, ran_append.2 ⟨_, r12, r3⟩⟩
    · simp only [Sol.sp, hsp, if_false, List.append_nil]; exact ⟨st2, r12⟩

/-- `_compute_branches` never fails on a valid reconciliation. -/
theorem computeBranches_succeeds {S : RTree} {sol : Sol} (hgood : Good S sol) :
    ∃ st, computeBranches S sol = .ok st := by
  suffices H : ∀ (rest done : List Path) (st : LState), S.postorder = done ++ rest → skeys st = done →
      ∃ st', processSpecies sol rest st = .ok st' from H S.postorder [] [] rfl rfl
  intro rest
  induction rest with
  | nil => intro done st _ _; exact ⟨st, rfl⟩
  | cons s rest ih =>
    intro done st hsplit hk
    have hk0 : skeys (st ++ [(s, (⟨[], []⟩ : SpState))]) = done ++ [s] := by simp [skeys, ← hk]
    have hs0 : s ∈ skeys (st ++ [(s, (⟨[], []⟩ : SpState))]) := by rw [hk0]; simp
    obtain ⟨st1, r1⟩ := pass_runs hgood s sol [] _ (by cases sol <;> rfl) hs0
      (fun t h1 h2 => by rw [hk0]; exact desc_before hsplit h1 h2)
    have ok1 := (processGenes_iff s (genesPost sol []) _ st1 hs0).2 ⟨by
      rintro ⟨q, subq⟩ hg hsp
      obtain ⟨q', rfl, hq⟩ := (mem_genesPost sol [] _ _).1 hg
      simp only at hsp
      exact hsp ▸ good_planned hgood hq, r1⟩
    obtain ⟨st', ok'⟩ := ih (done ++ [s]) st1 (by rw [hsplit]; simp) (by rw [r1.did.keys, hk0])
    exact ⟨st', by simp only [processSpecies, ok1]; exact ok'⟩

/-- A key of lineage `p ++ [i]` sitting in a species other than the species of
    node `p` is never removed from `anchor_nodes`. -/
theorem not_consumed {sol : Sol} {st : LState} (typ : Typed sol st) (inv : PInv st)
    {t' : Path} {kk : Key} {p : Path} {i : Nat} {sub : Sol} (hsub : subAt sol p = some sub)
    (hlin : kk.lin = p ++ [i]) (hne : t' ≠ sub.sp) (hk : kk ∈ keysOf (brs st t')) :
    kk ∈ ancs st t' := by
  apply inv.anch t' kk hk
  intro b' hb' hcons
  obtain ⟨j, hj⟩ := inv.cons t' b' hb' kk hcons
  obtain ⟨p', sub', hsub', h | ⟨_, ht, hkey, _⟩⟩ := typ t' b' hb'
  · simp [consumes, h.1] at hcons
  · rw [hkey, hlin] at hj
    simp only [Key.owner] at hj
    have := (List.append_inj' hj rfl).1
    subst this
    rw [hsub] at hsub'
    cases hsub'
    exact hne ht

end SR.Layout
