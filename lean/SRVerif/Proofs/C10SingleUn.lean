/-
  C10 "single family", unordered solvers: when every leaf carries the same single family `f`,
  every `lcaSet` of `_compute_lca_sets` is `[f]`, the family is gained at the root only, a
  labelling of finite cost whose root is LCA carries LCA everywhere and the evaluator charges no
  segmental loss on what it decodes to (`allLca_of_finite`); on all-LCA labellings the edge
  charges vanish, so the unordered and the plain algebra simulate each other (`sim_annUn_annP`).
-/
import SRVerif.Proofs.C10Single

namespace SR.C10

open Cost Path

theorem leafPaths_ne_nil (o : OTree) : leafPaths o ≠ [] := by
  induction o with
  | leaf sp g => simp [leafPaths]
  | node l r ihl _ => simp [leafPaths, ihl]

theorem lcpAll_leafPaths (o : OTree) : lcpAll ((leafPaths o).map (·.1)) = [] := by
  cases o with
  | leaf sp g => rfl
  | node l r =>
    obtain ⟨ql, hql⟩ := List.exists_mem_of_ne_nil _ (leafPaths_ne_nil l)
    obtain ⟨qr, hqr⟩ := List.exists_mem_of_ne_nil _ (leafPaths_ne_nil r)
    have hne : (leafPaths (.node l r)).map (·.1) ≠ [] := by
      simp [leafPaths_ne_nil]
    have h := (isAnc_lcpAll (lcpAll ((leafPaths (.node l r)).map (·.1))) hne).mp (isAnc_refl _)
    have h0 := h (0 :: ql.1) (by
      simp only [leafPaths, List.map_append, List.map_map, List.mem_append, List.mem_map]
      exact Or.inl ⟨ql, hql, rfl⟩)
    have h1 := h (1 :: qr.1) (by
      simp only [leafPaths, List.map_append, List.map_map, List.mem_append, List.mem_map]
      exact Or.inr ⟨qr, hqr, rfl⟩)
    generalize lcpAll ((leafPaths (.node l r)).map (·.1)) = z at h0 h1
    cases z with
    | nil => rfl
    | cons x xs =>
      rw [isAnc_cons_cons] at h0 h1
      simp only [Bool.and_eq_true, beq_iff_eq] at h0 h1
      omega

theorem gainsAt_single {f : Nat} {whole : OTree} (h : SingleFam f whole) {q : Path} (hq : q ≠ []) :
    gainsAt whole q = [] := by
  simp only [gainsAt, families_single h]
  have hfil : (leafPaths whole).filter (fun p => p.2.contains f) = leafPaths whole := by
    rw [List.filter_eq_self]
    intro p hp
    rw [(singleFam_iff f whole).mp h p.2 (leafSyn_of_leafPaths hp)]; simp
  simp only [List.filter_cons, List.filter_nil, hfil, lcpAll_leafPaths]
  have : ([] == q) = false := by
    cases q with
    | nil => exact absurd rfl hq
    | cons x xs => rfl
  simp [this]

theorem sortNat_single (f : Nat) : sortNat [f] = [f] := by simp [sortNat]

theorem lcaSet_single (S : RTree) (base : Bool) {f : Nat} {whole : OTree} (hw : SingleFam f whole)
    (o : OTree) (hsf : SingleFam f o) :
    ∀ p, (annUn S base whole p o).data.lcaSet = [f] := by
  induction o with
  | leaf sp g =>
    intro p
    simp only [SingleFam] at hsf
    subst hsf
    rw [annUn_leaf_lcaSet, dedup_const f [f] (by simp) (by simp), sortNat_single]
  | node l r ihl ihr =>
    intro p
    rw [annUn_node_lcaSet, ihl hsf.1, ihr hsf.2, annUn_gain, annUn_gain, gainsAt_single hw (by simp),
      gainsAt_single hw (by simp), dedup_const f ([f] ++ [f]) (by simp) (by simp)]
    simp [sortNat_single]

theorem subsetB_single (f : Nat) : subsetB [f] [f] = true := by simp [subsetB]

theorem un_conserv_lca (c : Costs) {f : Nat} {a ca : UnAnn} (ha : a.lcaSet = [f]) (hca : ca.lcaSet = [f]) :
    (unAlg c).conserv a .lca ca .lca = .fin 0 := by
  rw [un_conserv_ll, ha, hca, subsetB_single, if_pos rfl]

theorem un_conserv_inh (c : Costs) {f : Nat} {a ca : UnAnn} {k : Kind} (ha : a.lcaSet = [f])
    (hca : ca.lcaSet = [f]) (h : (unAlg c).conserv a .lca ca k ≠ .inf) : k = .lca := by
  cases k with
  | lca => rfl
  | inh => rw [un_conserv_li, ha, hca, subsetB_single, if_pos rfl] at h; exact absurd rfl h

theorem sim_annUn_annP (c : Costs) (S : RTree) (base : Bool) {al : OTree → List Path}
    (hal : ∀ o' s, s ∈ alB S base o' ↔ s ∈ al o') {f : Nat} {whole : OTree}
    (hw : SingleFam f whole) (o : OTree) (hsf : SingleFam f o) : ∀ p,
    Sim (unAlg c) thlAlg (fun _ => ()) (· = .lca) (annUn S base whole p o) (annP al o) ∧
    Sim thlAlg (unAlg c) (fun _ => .lca) (fun _ => True) (annP al o)
      (annUn S base whole p o) := by
  induction o with
  | leaf sp g => intro p; exact ⟨.leaf _ _ sp rfl, .leaf _ _ sp rfl⟩
  | node l r ihl ihr =>
    intro p
    have hA : (annUn S base whole p (.node l r)).data.lcaSet = [f] :=
      lcaSet_single S base hw (.node l r) hsf p
    have hL := lcaSet_single S base hw l hsf.1 (p ++ [0])
    have hR := lcaSet_single S base hw r hsf.2 (p ++ [1])
    rw [annUn_node]
    constructor
    · refine .node (fun s => (hal _ s).mp) (fun _ _ _ => List.mem_singleton.mpr rfl)
        ?_ ?_ (ihl hsf.1 _).1 (ihr hsf.2 _).1
      · rintro x y rfl rfl
        exact ⟨(un_conserv_lca c hA hL).symm, rfl⟩
      · rintro x y rfl rfl
        exact ⟨(un_conserv_lca c hA hR).symm, rfl⟩
    · refine .node (fun s => (hal _ s).mpr) (fun _ _ _ => List.mem_cons_self)
        ?_ ?_ (ihl hsf.1 _).2 (ihr hsf.2 _).2
      · intro x y _ _
        exact ⟨un_conserv_lca c hA hL, rfl⟩
      · intro x y _ _
        exact ⟨un_conserv_lca c hA hR, rfl⟩

theorem unSol_fam_lca (t : ATree UnAnn) (anc : List Nat) (ls : LSol Kind) (h : ls.lab = .lca) :
    (unSol t anc ls).fam = t.data.lcaSet := by
  cases t <;> cases ls <;> simp only [LSol.lab] at h <;> simp [unSol, Sol.fam, ATree.data, h]

/-- An edge LCA→INHERIT between equal `lcaSet`s is infinite (`un_conserv_inh`): that forces LCA
    everywhere below an LCA root. -/
theorem allLca_of_finite (c : Costs) (S : RTree) (base : Bool) {f : Nat} {whole : OTree}
    (hw : SingleFam f whole) (o : OTree) (hsf : SingleFam f o) :
    ∀ (p : Path) (anc : List Nat) (ls : LSol Kind), Adm (unAlg c) (annUn S base whole p o) ls →
      ls.lab = .lca → labCost (unAlg c) c (annUn S base whole p o) ls ≠ .inf →
      ls.All (· = .lca) ∧ unordLosses (unSol (annUn S base whole p o) anc ls) = some 0 := by
  induction o with
  | leaf sp g =>
    intro p anc ls h hl _
    obtain rfl := h.leaf_inv
    exact ⟨hl, rfl⟩
  | node l r ihl ihr =>
    intro p anc ls h hl hfin
    rw [annUn_node] at h hfin ⊢
    obtain ⟨s, k, x, y, rfl, -, -, ax, ay⟩ := h.node_inv
    obtain rfl : k = .lca := hl
    obtain ⟨hg, hxf, hyf⟩ := labCost_node_ne_inf hfin
    have hA : (annUn S base whole p (.node l r)).data.lcaSet = [f] := lcaSet_single S base hw (.node l r) hsf p
    have hL := lcaSet_single S base hw l hsf.1 (p ++ [0])
    have hR := lcaSet_single S base hw r hsf.2 (p ++ [1])
    have hx := un_conserv_inh c hA hL (genLocal_un_fin c hg).1
    have hy := un_conserv_inh c hA hR (genLocal_un_fin c hg).2
    have ihx := fun anc => ihl hsf.1 (p ++ [0]) anc x ax hx hxf
    have ihy := fun anc => ihr hsf.2 (p ++ [1]) anc y ay hy hyf
    refine ⟨⟨rfl, (ihx []).1, (ihy []).1⟩, ?_⟩
    simp only [unSol, unordLosses, unSol_sp, (ihx _).2, (ihy _).2, unSol_fam_lca _ _ x hx,
      unSol_fam_lca _ _ y hy, hA, hL, hR]
    rcases internalEvent_cases s x.sp y.sp (event_valid_of_gl hg) with e | e | e <;>
      simp [e, localUnordLosses, subsetB_single]

end SR.C10
