/-
  The outgroup (C09): a new species root with the old species tree as child 0 and an empty
  outgroup leaf as child 1.  Every old species `p` becomes `0 :: p` (`Path.og`, a `PathEmb`: the
  embedding keeps cost and validity); the new root is `[]`, the outgroup leaf `[1]`.

  Conversely a valid solution over the new tree only uses `[]` and species `0 :: q` (every node
  sits above a leaf species); `unog = List.tail` (`[] ↦ []`, `0 :: q ↦ q`) projects it to a valid
  solution over the old tree.  Nodes at the new root are all duplications (cost
  `dup + floss·(|a| + |b|)`); projected to the old root they become a duplication (cheaper by the
  two skipped levels) or a speciation (`spe + floss·(|a| + |b| − 4)` plus at most `slack` more
  segmental losses; `slack` = 0 / 2 / 1 for plain / ordered / unordered), so the projection does
  not raise the cost provided `spe + slack·sloss ≤ dup + 4·floss`; without it the clause is false
  (`Properties/C09Outgroup.lean`).  In numbers: `cost (unog sol) + e · rootGain sol ≤ cost sol`
  for every margin `e ≤ floss` the hypothesis leaves; `e = 0` is the inequality, `e = 1` the
  strict one for solutions that use the new root.
-/
import SRVerif.Proofs.SwapSp
import SRVerif.Proofs.LabelDPOrd

namespace SR

open Path Cost

/-- Old species `p` inside the tree with an outgroup. -/
def Path.og (p : Path) : Path := 0 :: p

/-- Projection back: the new root and the old root both go to the old root. -/
def Path.unog (p : Path) : Path := p.tail

@[simp] theorem Path.unog_og (p : Path) : Path.unog (Path.og p) = p := rfl

theorem Path.og_emb : PathEmb Path.og :=
  PathEmb.of_len_lcp ⟨1, fun p => by simp [Path.og]⟩ fun p q => by simp [Path.og, Path.lcp]

/-- New root above `S`, with an empty outgroup leaf as second child. -/
def RTree.withOutgroup (S : RTree) : RTree := .node [S, .node []]

theorem RTree.isNode_withOutgroup_og (S : RTree) (p : Path) :
    S.withOutgroup.isNode (Path.og p) = S.isNode p := by
  simp [RTree.withOutgroup, Path.og, RTree.isNode, RTree.sub]

theorem RTree.isBinary_withOutgroup (S : RTree) : S.withOutgroup.isBinary = S.isBinary := by
  simp [RTree.withOutgroup, RTree.isBinary]

theorem RTree.isNode_withOutgroup_iff (S : RTree) (q : Path) :
    S.withOutgroup.isNode q = true ↔ q = [] ∨ q = [1] ∨ ∃ p, q = Path.og p ∧ S.isNode p = true := by
  cases q with
  | nil => simp [RTree.isNode_nil]
  | cons k q =>
    rw [RTree.withOutgroup, RTree.isNode_cons]
    match k with
    | 0 => simp [Path.og]
    | 1 =>
      cases q with
      | nil => simp [RTree.isNode_nil, Path.og]
      | cons j q => simp [RTree.isNode_cons, Path.og]
    | k + 2 => simp [Path.og]

theorem RTree.isNode_unog (S : RTree) {q : Path} (hq : S.withOutgroup.isNode q = true) :
    S.isNode (Path.unog q) = true := by
  rcases (RTree.isNode_withOutgroup_iff S q).mp hq with rfl | rfl | ⟨r, rfl, hr⟩
  · exact RTree.isNode_nil S
  · exact RTree.isNode_nil S
  · exact hr

/-- A path of the enlarged tree that is the new root or an old species. -/
def Path.ogOk : Path → Bool
  | [] => true
  | k :: _ => k == 0

theorem Path.ogOk_og (p : Path) : Path.ogOk (Path.og p) = true := rfl

theorem Path.ogOk_cases {p : Path} (h : Path.ogOk p = true) : p = [] ∨ ∃ q, p = Path.og q := by
  cases p with
  | nil => exact Or.inl rfl
  | cons k q =>
    simp only [Path.ogOk, beq_iff_eq] at h
    subst h
    exact Or.inr ⟨q, rfl⟩

theorem Path.ogOk_of_isAnc {s p : Path} (h : isAnc s p = true) (hp : Path.ogOk p = true) :
    Path.ogOk s = true := by
  cases s with
  | nil => rfl
  | cons a s =>
    cases p with
    | nil => simp [isAnc] at h
    | cons b p =>
      simp only [isAnc, Bool.and_eq_true, beq_iff_eq] at h
      simp only [Path.ogOk, beq_iff_eq] at hp ⊢
      omega

theorem Path.og_unog_of_ne_nil {p : Path} (h : Path.ogOk p = true) (hne : p ≠ []) :
    Path.og (Path.unog p) = p := by
  rcases Path.ogOk_cases h with rfl | ⟨q, rfl⟩
  · exact absurd rfl hne
  · rfl

theorem plainLosses_eq_gen : ∀ (sol : Sol),
    some 0 = genLosses (fun _ _ (_ : Unit) _ _ _ => some 0) (fun _ _ => ()) () sol := by
  intro sol
  induction sol with
  | leaf s g => rfl
  | node s g l r ihl ihr =>
    simp only [genLosses, ← ihl, ← ihr]
    rfl

theorem lossCost_sum3 (a b d : Option Nat) (sl : Nat) :
    lossCost sl (sum3 a b d) = lossCost sl a + (lossCost sl b + lossCost sl d) := by
  cases a <;> cases b <;> cases d <;> simp [sum3, lossCost, Nat.add_mul, Nat.add_assoc]

/-- The order in which `recCost` and `genLosses` unfold at a node (node, left, right — twice)
    against the order in which the node and its two subtrees are compared. -/
theorem cost_rearrange (L X Y A B D : Cost) :
    (L + (X + Y)) + (A + (B + D)) = (L + A) + ((X + B) + (Y + D)) := by
  ac_rfl

/-- Slack of the label cost when a duplication becomes a speciation. -/
def ogSlack : LabelMode → Nat
  | .plain => 0
  | .ordered => 2
  | .unordered => 1

theorem isStrictAnc_nil_og (q : Path) : isStrictAnc [] (Path.og q) = true := by
  simp [isStrictAnc, isAnc, Path.og]

theorem isStrictAnc_to_nil (a : Path) : isStrictAnc a [] = false := by
  cases a <;> simp [isStrictAnc, isAnc]

theorem internalEvent_nil_ne_invalid (a b : Path) : internalEvent [] a b ≠ .invalid := by
  rw [internalEvent_ne_invalid_iff]
  exact ⟨isStrictAnc_to_nil a, isStrictAnc_to_nil b, Or.inl (isAnc_nil a)⟩

theorem dist_nil (a : Path) : dist [] a = a.length := by
  cases a <;> simp [dist, lcp]

theorem unog_length_le (a : Path) : (Path.unog a).length ≤ a.length := by
  simp [Path.unog]

theorem internalEvent_nil_cases (a b : Path) :
    internalEvent [] a b = .spec ∨ internalEvent [] a b = .dup := by
  simp only [internalEvent, isStrictAnc_to_nil, isAnc_nil]
  simp only [Bool.or_self, Bool.false_eq_true, if_false, Bool.and_self, if_true]
  split <;> simp

/-- At the new root every event is a duplication: a speciation would need children below
    two different children of the new root, and only child 0 is used. -/
theorem internalEvent_newroot {a b : Path} (ha : Path.ogOk a = true) (hb : Path.ogOk b = true) :
    internalEvent [] a b = .dup := by
  rcases internalEvent_nil_cases a b with h | h
  · have e := eventAt [] a b
    rw [h] at e
    cases e with
    | spec hx hy hij =>
      subst hx hy
      simp only [List.nil_append, Path.ogOk, beq_iff_eq] at ha hb
      omega
  · exact h

/-- Below the new root a valid event has both children at old species. -/
theorem valid_below {s' a b : Path} (hv : internalEvent (Path.og s') a b ≠ .invalid)
    (ha : Path.ogOk a = true) (hb : Path.ogOk b = true) :
    (∃ a', a = Path.og a') ∧ ∃ b', b = Path.og b' := by
  obtain ⟨h1, h2, _⟩ := (internalEvent_ne_invalid_iff _ _ _).mp hv
  constructor
  · rcases Path.ogOk_cases ha with rfl | h
    · rw [isStrictAnc_nil_og] at h1; cases h1
    · exact h
  · rcases Path.ogOk_cases hb with rfl | h
    · rw [isStrictAnc_nil_og] at h2; cases h2
    · exact h

theorem unog_event_valid {s a b : Path} (hs : Path.ogOk s = true) (ha : Path.ogOk a = true)
    (hb : Path.ogOk b = true) (hv : internalEvent s a b ≠ .invalid) :
    internalEvent (Path.unog s) (Path.unog a) (Path.unog b) ≠ .invalid := by
  rcases Path.ogOk_cases hs with rfl | ⟨s', rfl⟩
  · exact internalEvent_nil_ne_invalid _ _
  · obtain ⟨⟨a', rfl⟩, ⟨b', rfl⟩⟩ := valid_below hv ha hb
    simpa [Path.og_emb.internalEvent] using hv

theorem internalEvent_nil_spec {a b : Path} (h : internalEvent [] a b = .spec) : a ≠ [] ∧ b ≠ [] := by
  simp only [internalEvent, isAnc_nil, isStrictAnc_to_nil] at h
  constructor <;> intro e <;> simp [e, comparable, isAnc] at h

/-- At the new root the projection gains `e`, for every `e` within the margin of the cost
    hypothesis and within the full losses saved on the two child branches.  The local
    label count `loc` is generic: it
    * does not look at `keepLeft` for speciations and duplications, and
    * as a speciation counts at most `slack` more than as a duplication, and is
      defined whenever the duplication count is. -/
theorem unog_newroot_gain (c : Costs) (slack : Nat)
    (loc : Event → Bool → Option Nat)
    (hloc : ∀ kl kl', loc .dup kl = loc .dup kl' ∧
      ∀ n, loc .dup kl = some n → ∃ n', loc .spec kl' = some n' ∧ n' ≤ n + slack)
    (e : Nat) (hc : c.spe + slack * c.sloss + e ≤ c.dup + 4 * c.floss)
    {a b : Path} (ha : Path.ogOk a = true) (hb : Path.ogOk b = true)
    (he : e + c.floss * (a.tail.length + b.tail.length) ≤ c.floss * (a.length + b.length)) :
    Cost.le
      (localRecCost c [] a.tail b.tail +
        lossCost c.sloss (loc (internalEvent [] a.tail b.tail) (comparable [] a.tail)) + .fin e)
      (localRecCost c [] a b + lossCost c.sloss (loc (internalEvent [] a b) (comparable [] a)))
      = true := by
  have hev := internalEvent_newroot ha hb
  rw [hev]
  cases hl : loc .dup (comparable [] a) with
  | none => simp [lossCost]
  | some n =>
    obtain ⟨hdup, hspec⟩ := hloc (comparable [] a) (comparable [] a.tail)
    rcases internalEvent_nil_cases a.tail b.tail with hev' | hev'
    · -- both projected children are proper, incomparable descendants of the old root:
      -- two levels are skipped on each side
      obtain ⟨n', hn', hle⟩ := hspec n hl
      obtain ⟨hna, hnb⟩ := internalEvent_nil_spec hev'
      have h1 := List.length_tail (l := a)
      have h2 := List.length_tail (l := b)
      have h3 := List.length_pos_iff.mpr hna
      have h4 := List.length_pos_iff.mpr hnb
      simp only [localRecCost, hev, hev', dist_nil, hn', lossCost, Cost.fin_add_fin_eq,
        Cost.fin_le_fin]
      have e1 : c.floss * (a.length + b.length) =
          c.floss * (a.tail.length + b.tail.length - 2) + 4 * c.floss := by
        have : a.length + b.length = (a.tail.length + b.tail.length - 2) + 4 := by omega
        rw [this, Nat.mul_add, Nat.mul_comm c.floss 4]
      have e2 : n' * c.sloss ≤ n * c.sloss + slack * c.sloss := by
        rw [← Nat.add_mul]; exact Nat.mul_le_mul_right _ hle
      omega
    · simp only [localRecCost, hev, hev', dist_nil, ← hdup, hl, lossCost, Cost.fin_add_fin_eq,
        Cost.fin_le_fin]
      omega

def Sol.allSp (P : Path → Bool) : Sol → Bool
  | .leaf s _ => P s
  | .node s _ l r => P s && allSp P l && allSp P r

theorem Sol.allSp_sp {P : Path → Bool} {s : Sol} (h : s.allSp P = true) : P s.sp = true := by
  cases s with
  | leaf sp f => exact h
  | node sp f l r =>
    simp only [Sol.allSp, Bool.and_eq_true] at h
    exact h.1.1

/-- In a valid solution over leaves at old species, EVERY node sits at the new root
    or at an old species: the outgroup leaf `[1]` is never used. -/
theorem validRec_allSp_ogOk : ∀ (o : OTree) (sol : Sol), Spec.validRec o sol = true →
    (∀ p ∈ leafSpecies o, Path.ogOk p = true) → sol.allSp Path.ogOk = true := by
  refine Spec.validRec_induction (fun sp f g hl => hl sp (by simp [leafSpecies])) ?_
  intro ol or s g l r hev _ _ ihl ihr hl
  have hl' := ihl fun p hp => hl p (by simp [leafSpecies, hp])
  have hr' := ihr fun p hp => hl p (by simp [leafSpecies, hp])
  obtain ⟨_, _, hanc⟩ := (internalEvent_ne_invalid_iff _ _ _).mp hev
  have hs : Path.ogOk s = true :=
    hanc.elim (fun h => Path.ogOk_of_isAnc h (Sol.allSp_sp hl'))
      (fun h => Path.ogOk_of_isAnc h (Sol.allSp_sp hr'))
  simp only [Sol.allSp, hs, hl', hr', Bool.and_self]

theorem validRec_unog : ∀ (o : OTree) (sol : Sol), Spec.validRec o sol = true →
    sol.allSp Path.ogOk = true →
    Spec.validRec (o.mapSp Path.unog) (sol.mapSp Path.unog) = true := by
  refine Spec.validRec_induction
    (fun sp f g _ => by simp [OTree.mapSp, Sol.mapSp, Spec.validRec]) ?_
  intro ol or s g l r hev _ _ ihl ihr hok
  simp only [Sol.allSp, Bool.and_eq_true] at hok
  simp only [OTree.mapSp, Sol.mapSp, Spec.validRec, Sol.mapSp_sp, Bool.and_eq_true, bne_iff_ne]
  exact ⟨⟨unog_event_valid hok.1.1 (Sol.allSp_sp hok.1.2) (Sol.allSp_sp hok.2) hev,
    ihl hok.1.2⟩, ihr hok.2⟩

/-- The count that `labelingCost` multiplies by `sloss`, per mode. -/
def modeLosses (mode : LabelMode) (sol : Sol) : Option Nat :=
  match mode with
  | .plain => some 0
  | .ordered => ordLosses sol.fam (subseqComplete sol.fam) sol
  | .unordered => unordLosses sol

theorem totalCost_eq_lossCost (c : Costs) (mode : LabelMode) (o : OTree) (sol : Sol) :
    totalCost c mode o sol = recCost c o sol + lossCost c.sloss (modeLosses mode sol) := by
  cases mode
  · simp [totalCost, labelingCost, modeLosses, lossCost]
  · simp only [totalCost, labelingCost, modeLosses]
    cases ordLosses sol.fam (subseqComplete sol.fam) sol <;> simp [lossCost]
  · simp only [totalCost, labelingCost, modeLosses]
    cases unordLosses sol <;> simp [lossCost]

theorem addDist_eq_some_iff {x y : Int} {n : Nat} :
    addDist x y = some n ↔ 0 ≤ x ∧ 0 ≤ y ∧ x.toNat + y.toNat = n := by
  unfold addDist
  split <;> simp_all
  omega

/-- The hypothesis `hloc` of `unog_newroot_gain` for the ordered local count, slack 2. -/
theorem ord_loc_ok (m ml mr : Nat) (kl kl' : Bool) :
    localOrdLosses .dup kl m ml mr = localOrdLosses .dup kl' m ml mr ∧
    ∀ n, localOrdLosses .dup kl m ml mr = some n →
      ∃ n', localOrdLosses .spec kl' m ml mr = some n' ∧ n' ≤ n + 2 := by
  refine ⟨rfl, ?_⟩
  intro n hn
  simp only [localOrdLosses] at hn ⊢
  cases hx : addDist (subseqSegmentDist ml m true) (subseqSegmentDist mr m false) with
  | none => simp [hx] at hn
  | some x =>
    cases hy : addDist (subseqSegmentDist ml m false) (subseqSegmentDist mr m true) with
    | none => simp [hx, hy] at hn
    | some y =>
      obtain ⟨h1, h4, ex⟩ := addDist_eq_some_iff.mp hx
      obtain ⟨h3, h2, ey⟩ := addDist_eq_some_iff.mp hy
      -- A duplication pays `min x y`: one child with its end runs counted, the other
      -- without.  A speciation counts them for both children.  Counting the end runs of
      -- one child adds at most 2 (`segDist_slack`), so the speciation pays at most
      -- `x + 2` (through `mr`) and at most `y + 2` (through `ml`).
      have sl := segDist_slack ml m h3
      have sr := segDist_slack mr m h4
      refine ⟨_, addDist_eq_some_iff.mpr ⟨h1, h2, rfl⟩, ?_⟩
      simp only [hx, hy, Option.some.injEq, Nat.min_def] at hn
      split at hn <;> omega

/-- The hypothesis `hloc` of `unog_newroot_gain` for the unordered local count, slack 1. -/
theorem un_loc_ok (f fl fr : List Nat) (kl kl' : Bool) :
    localUnordLosses .dup kl f fl fr = localUnordLosses .dup kl' f fl fr ∧
    ∀ n, localUnordLosses .dup kl f fl fr = some n →
      ∃ n', localUnordLosses .spec kl' f fl fr = some n' ∧ n' ≤ n + 1 := by
  refine ⟨rfl, ?_⟩
  intro n hn
  simp only [localUnordLosses, Option.some.injEq] at hn ⊢
  refine ⟨_, rfl, ?_⟩
  rw [← hn]
  -- four cases of which children hold all of `f`: a speciation charges one loss more
  -- than a duplication at most
  cases subsetB f fl <;> cases subsetB f fr <;> decide

/-- Every mode's label losses are a `genLosses`, whose local count meets the hypotheses of
    the generic inductions with `slack = ogSlack mode` (the ordered one refers to the root
    synteny, so this is for solutions with the root synteny of `sol`). -/
theorem modeLosses_eq_gen (mode : LabelMode) (sol : Sol) :
    ∃ (σ : Type) (loc : Event → Bool → σ → List Nat → List Nat → List Nat → Option Nat)
      (nxt : σ → List Nat → σ) (st : σ),
      (∀ st f lf rf kl kl', loc .dup kl st f lf rf = loc .dup kl' st f lf rf ∧
        ∀ n, loc .dup kl st f lf rf = some n →
          ∃ n', loc .spec kl' st f lf rf = some n' ∧ n' ≤ n + ogSlack mode) ∧
      ∀ sol' : Sol, sol'.fam = sol.fam → modeLosses mode sol' = genLosses loc nxt st sol' := by
  cases mode with
  | plain =>
    exact ⟨Unit, fun _ _ _ _ _ _ => some 0, fun _ _ => (), (),
      fun _ _ _ _ _ _ => ⟨rfl, fun n hn => ⟨n, hn, Nat.le_add_right _ _⟩⟩,
      fun sol' _ => plainLosses_eq_gen sol'⟩
  | ordered =>
    exact ⟨Nat, fun ev kl m _ lf rf =>
        localOrdLosses ev kl m (maskFromSubseq lf sol.fam) (maskFromSubseq rf sol.fam),
      fun _ f => maskFromSubseq f sol.fam, subseqComplete sol.fam,
      fun m _ lf rf kl kl' => ord_loc_ok m _ _ kl kl',
      fun sol' e => by simp only [modeLosses, e]; exact ordLosses_eq_gen sol.fam sol' _⟩
  | unordered =>
    exact ⟨Unit, fun ev kl _ f lf rf => localUnordLosses ev kl f lf rf, fun _ _ => (), (),
      fun _ f lf rf kl kl' => un_loc_ok f lf rf kl kl', fun sol' _ => unordLosses_eq_gen sol'⟩

theorem validSol_unog (mode : LabelMode) (o : OTree) (sol : Sol)
    (hv : Spec.validSol mode o sol = true) (hl : ∀ p ∈ leafSpecies o, Path.ogOk p = true) :
    Spec.validSol mode (o.mapSp Path.unog) (sol.mapSp Path.unog) = true := by
  cases mode <;>
    simp only [Spec.validSol, Bool.and_eq_true, validOrdLabels_mapSp, validUnLabels_mapSp,
      families_mapSp, Sol.mapSp_fam] at hv ⊢
  · exact ⟨validRec_unog o sol hv.1 (validRec_allSp_ogOk o sol hv.1 hl), trivial⟩
  · exact ⟨validRec_unog o sol hv.1 (validRec_allSp_ogOk o sol hv.1 hl), hv.2⟩
  · exact ⟨validRec_unog o sol hv.1 (validRec_allSp_ogOk o sol hv.1 hl), hv.2⟩

theorem leafSpecies_og_ok (o : OTree) : ∀ p ∈ leafSpecies (o.mapSp Path.og), Path.ogOk p = true :=
  forall_leafSpecies_mapSp (P := fun _ => True) (fun _ _ => trivial) fun _ _ => rfl

theorem OTree.unog_og (o : OTree) : (o.mapSp Path.og).mapSp Path.unog = o :=
  OTree.mapSp_leftInv (fun _ => rfl) o

/-- The species avoids the new root (and the outgroup).  (`Sol.allSp_og` and `C09_outgroup`
    spell the body out.) -/
def Path.avoid (p : Path) : Bool := Path.ogOk p && (p != [])

theorem Sol.og_unog_of_avoid : ∀ (s : Sol),
    s.allSp Path.avoid = true → (s.mapSp Path.unog).mapSp Path.og = s := by
  intro s
  induction s with
  | leaf sp f =>
    intro h
    simp only [Sol.allSp, Path.avoid, Bool.and_eq_true, bne_iff_ne] at h
    simp [Sol.mapSp, Path.og_unog_of_ne_nil h.1 h.2]
  | node sp f l r ihl ihr =>
    intro h
    simp only [Sol.allSp, Path.avoid, Bool.and_eq_true, bne_iff_ne] at h
    simp [Sol.mapSp, Path.og_unog_of_ne_nil h.1.1.1 h.1.1.2, ihl h.1.2, ihr h.2]

theorem Sol.allSp_og (s : Sol) :
    (s.mapSp Path.og).allSp (fun p => Path.ogOk p && (p != [])) = true := by
  induction s with
  | leaf sp f => simp [Sol.mapSp, Sol.allSp, Path.og, Path.ogOk]
  | node sp f l r ihl ihr =>
    simp only [Sol.mapSp, Sol.allSp, ihl, ihr]
    simp [Path.og, Path.ogOk]

theorem Path.ogOk_ne_outgroup {p : Path} (h : Path.ogOk p = true) : p ≠ [1] := by
  intro e; subst e; simp [Path.ogOk] at h

/-- Nodes at the new root with a child that is not there: each saves a full loss when projected. -/
def Sol.rootGain : Sol → Nat
  | .leaf _ _ => 0
  | .node s _ l r =>
    (if s = [] ∧ (l.sp ≠ [] ∨ r.sp ≠ []) then 1 else 0) + (rootGain l + rootGain r)

theorem tail_length_lt {a b : Path} (hne : a ≠ [] ∨ b ≠ []) :
    a.tail.length + b.tail.length + 1 ≤ a.length + b.length := by
  have h1 := List.length_tail (l := a)
  have h2 := List.length_tail (l := b)
  have := hne.imp List.length_pos_iff.mpr List.length_pos_iff.mpr
  omega

/-- Three inequalities `new + gain ≤ old` — for the node, its left and its right subtree — add
    up to the one for the whole, with the terms where `unog_cost_gain` finds them. -/
theorem le_rearrange_gain {L X Y A B D L' X' Y' A' B' D' K Ka Kb : Cost}
    (h1 : Cost.le (L' + (A' + K)) (L + A) = true) (h2 : Cost.le (X' + (B' + Ka)) (X + B) = true)
    (h3 : Cost.le (Y' + (D' + Kb)) (Y + D) = true) :
    Cost.le ((L' + (X' + Y')) + ((A' + (B' + D')) + (K + (Ka + Kb))))
      ((L + (X + Y)) + (A + (B + D))) = true := by
  rw [cost_rearrange A' B' D', cost_rearrange L' X' Y', cost_rearrange L X Y]
  exact Cost.add_le_add h1 (Cost.add_le_add h2 h3)

/-- The generic induction: every node at the new root with a child elsewhere gains `e` when
    projected (`unog_newroot_gain`), every other node nothing; below the new root nothing
    changes. -/
theorem unog_cost_gain {σ : Type} (c : Costs) (slack e : Nat)
    (loc : Event → Bool → σ → List Nat → List Nat → List Nat → Option Nat)
    (nxt : σ → List Nat → σ)
    (hloc : ∀ st f lf rf kl kl', loc .dup kl st f lf rf = loc .dup kl' st f lf rf ∧
      ∀ n, loc .dup kl st f lf rf = some n →
        ∃ n', loc .spec kl' st f lf rf = some n' ∧ n' ≤ n + slack)
    (hc : c.spe + slack * c.sloss + e ≤ c.dup + 4 * c.floss) (he : e ≤ c.floss) :
    ∀ (o : OTree) (sol : Sol), Spec.validRec o sol = true → ∀ (st : σ),
      sol.allSp Path.ogOk = true →
      Cost.le
        (recCost c (o.mapSp Path.unog) (sol.mapSp Path.unog) +
          (lossCost c.sloss (genLosses loc nxt st (sol.mapSp Path.unog)) + .fin (e * sol.rootGain)))
        (recCost c o sol + lossCost c.sloss (genLosses loc nxt st sol)) = true := by
  refine Spec.validRec_induction (fun sp f g st _ => ?_) ?_
  · simp only [OTree.mapSp, Sol.mapSp, recCost, genLosses, Sol.rootGain, lossCost, beq_self_eq_true,
      if_true, Nat.mul_zero, Nat.zero_mul, Cost.fin_add_fin_eq, Cost.le_refl]
  intro ol or s g l r hev _ _ ihl ihr st hok
  simp only [Sol.allSp, Bool.and_eq_true] at hok
  have hsl := Sol.allSp_sp hok.1.2
  have hsr := Sol.allSp_sp hok.2
  have leX := ihl (nxt st l.fam) hok.1.2
  have leY := ihr (nxt st r.fam) hok.2
  have hloc' := hloc st g l.fam r.fam
  have leL : Cost.le
      (localRecCost c (Path.unog s) (Path.unog l.sp) (Path.unog r.sp) +
        (lossCost c.sloss (loc (internalEvent (Path.unog s) (Path.unog l.sp) (Path.unog r.sp))
          (comparable (Path.unog s) (Path.unog l.sp)) st g l.fam r.fam) +
        .fin (e * (if s = [] ∧ (l.sp ≠ [] ∨ r.sp ≠ []) then 1 else 0))))
      (localRecCost c s l.sp r.sp +
        lossCost c.sloss (loc (internalEvent s l.sp r.sp) (comparable s l.sp) st g l.fam r.fam))
      = true := by
    rw [← Cost.add_assoc]
    rcases Path.ogOk_cases hok.1.1 with rfl | ⟨s', rfl⟩
    · -- at the new root: margin `e` when a child is not there, else `0`
      by_cases hne : l.sp ≠ [] ∨ r.sp ≠ []
      · have hm := Nat.mul_le_mul_left c.floss (tail_length_lt hne)
        rw [Nat.mul_add, Nat.mul_one, Nat.add_comm] at hm
        simp only [hne, and_true, if_true, Nat.mul_one]
        exact unog_newroot_gain c slack (fun ev kl => loc ev kl st g l.fam r.fam) hloc' e hc
          hsl hsr (Nat.le_trans (Nat.add_le_add_right he _) hm)
      · simp only [hne, and_false, if_false, Nat.mul_zero]
        exact unog_newroot_gain c slack (fun ev kl => loc ev kl st g l.fam r.fam) hloc' 0
          (Nat.le_trans (Nat.le_add_right _ e) hc) hsl hsr (by
            rw [Nat.zero_add]
            exact Nat.mul_le_mul_left _ (Nat.add_le_add (unog_length_le _) (unog_length_le _)))
    · obtain ⟨⟨a', ha⟩, ⟨b', hb⟩⟩ := valid_below hev hsl hsr
      have : ¬ Path.og s' = [] := by simp [Path.og]
      rw [ha, hb]
      simp only [this, false_and, if_false, Nat.mul_zero, Path.unog_og,
        Path.og_emb.localRecCost, Path.og_emb.internalEvent, Path.og_emb.comparable,
        Cost.add_zero]
      exact Cost.le_refl _
  have hfin : ∀ k a b : Nat,
      Cost.fin (e * (k + (a + b))) = .fin (e * k) + (.fin (e * a) + .fin (e * b)) :=
    fun k a b => by simp only [Cost.fin_add_fin_eq, Nat.mul_add]
  simp only [OTree.mapSp, Sol.mapSp, recCost_node, genLosses, Sol.mapSp_sp, Sol.mapSp_fam,
    lossCost_sum3, Sol.rootGain, hfin]
  exact le_rearrange_gain leL leX leY

theorem rootGain_pos : ∀ (o : OTree) (sol : Sol), Spec.validRec o sol = true →
    sol.allSp Path.ogOk = true → (∀ p ∈ leafSpecies o, Path.avoid p = true) →
    sol.allSp Path.avoid = false → 0 < sol.rootGain := by
  refine Spec.validRec_induction (fun sp f g _ hl hbad => ?_) ?_
  · rw [Sol.allSp, hl sp (by simp [leafSpecies])] at hbad
    cases hbad
  intro ol or s g l r _ _ _ ihl ihr hok hl hbad
  simp only [Sol.allSp, Bool.and_eq_true] at hok
  simp only [Sol.rootGain]
  by_cases bl : l.allSp Path.avoid = false
  · exact Nat.lt_of_lt_of_le (ihl hok.1.2 (fun p hp => hl p (by simp [leafSpecies, hp])) bl)
      (Nat.le_trans (Nat.le_add_right _ _) (Nat.le_add_left _ _))
  · by_cases br : r.allSp Path.avoid = false
    · exact Nat.lt_of_lt_of_le (ihr hok.2 (fun p hp => hl p (by simp [leafSpecies, hp])) br)
        (Nat.le_trans (Nat.le_add_left _ _) (Nat.le_add_left _ _))
    · -- both subtrees avoid the new root, so this node sits at it and its children do not
      simp only [Bool.not_eq_false] at bl br
      simp only [Sol.allSp, bl, br, Bool.and_true] at hbad
      have hsnil : s = [] := by
        rw [Path.avoid, hok.1.1] at hbad
        simpa using hbad
      have hla : l.sp ≠ [] := by
        have := Sol.allSp_sp bl
        simp only [Path.avoid, Bool.and_eq_true, bne_iff_ne] at this
        exact this.2
      simp only [hsnil, hla, ne_eq, not_false_eq_true, true_or, and_self, if_true]
      exact Nat.lt_of_lt_of_le Nat.one_pos (Nat.le_add_right _ _)

theorem totalCost_unog_gain (c : Costs) (mode : LabelMode) (e : Nat)
    (hc : c.spe + ogSlack mode * c.sloss + e ≤ c.dup + 4 * c.floss) (he : e ≤ c.floss)
    (o : OTree) (sol : Sol)
    (hv : Spec.validRec o sol = true) (hl : ∀ p ∈ leafSpecies o, Path.ogOk p = true) :
    Cost.le (totalCost c mode (o.mapSp Path.unog) (sol.mapSp Path.unog) + .fin (e * sol.rootGain))
      (totalCost c mode o sol) = true := by
  obtain ⟨σ, loc, nxt, st, hloc, h⟩ := modeLosses_eq_gen mode sol
  rw [totalCost_eq_lossCost, totalCost_eq_lossCost, h sol rfl, h _ (Sol.mapSp_fam _ _), Cost.add_assoc]
  exact unog_cost_gain c _ e loc nxt hloc hc he o sol hv st (validRec_allSp_ogOk o sol hv hl)

theorem Cost.le_lt_of_add_le {x y : Cost} {e : Nat} (h : Cost.le (x + .fin e) y = true) :
    Cost.le x y = true ∧ (0 < e → y ≠ .inf → Cost.lt x y = true) := by
  cases x <;> cases y <;> simp_all [Cost.add_def, Cost.add, Cost.lt, Cost.le]
  omega

theorem totalCost_unog_le (c : Costs) (mode : LabelMode)
    (hc : c.spe + ogSlack mode * c.sloss ≤ c.dup + 4 * c.floss) (o : OTree) (sol : Sol)
    (hv : Spec.validRec o sol = true) (hl : ∀ p ∈ leafSpecies o, Path.ogOk p = true) :
    Cost.le (totalCost c mode (o.mapSp Path.unog) (sol.mapSp Path.unog)) (totalCost c mode o sol)
      = true :=
  (Cost.le_lt_of_add_le (totalCost_unog_gain c mode 0 hc (Nat.zero_le _) o sol hv hl)).1

theorem totalCost_unog_lt (c : Costs) (mode : LabelMode)
    (hc : c.spe + ogSlack mode * c.sloss < c.dup + 4 * c.floss) (hfl : 0 < c.floss)
    (o : OTree) (sol : Sol)
    (hv : Spec.validRec o sol = true) (hl : ∀ p ∈ leafSpecies o, Path.avoid p = true)
    (hbad : sol.allSp Path.avoid = false) (hfin : totalCost c mode o sol ≠ .inf) :
    Cost.lt (totalCost c mode (o.mapSp Path.unog) (sol.mapSp Path.unog)) (totalCost c mode o sol)
      = true := by
  have hl' : ∀ p ∈ leafSpecies o, Path.ogOk p = true :=
    fun p hp => (Bool.and_eq_true_iff.mp (hl p hp)).1
  refine (Cost.le_lt_of_add_le (totalCost_unog_gain c mode 1 hc hfl o sol hv hl')).2 ?_ hfin
  rw [Nat.one_mul]
  exact rootGain_pos o sol hv (validRec_allSp_ogOk o sol hv hl') hl hbad

theorem leafSpecies_og_avoid (o : OTree) :
    ∀ p ∈ leafSpecies (o.mapSp Path.og), Path.avoid p = true :=
  forall_leafSpecies_mapSp (P := fun _ => True) (fun _ _ => trivial) fun _ _ => rfl

end SR
