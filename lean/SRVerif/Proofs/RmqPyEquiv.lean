/-
  The functions generated from `superrec2/utils/range_min_query.py` (`Generated/RmqPy.lean`) equal
  the model `Model/Lca.lean`, exceptions included (`RmqBridge.toPy`; the comparison is any
  `Lca.Lt α`, it may raise).  How these proofs depend on the printed text: head of `Proofs/PyRt.lean`.

  The generated code updates ONE table in place and indexes with Python ints; the model produces
  the rows one after the other and indexes with natural numbers.  So the invariant is
  two-dimensional: the inner loop, on a table `pre ++ prev :: (done ++ todo) :: post`, appends to
  `done` the model's `rowCell` values for the next `k` cells and touches nothing else; the outer
  loop, on `pre ++ prev :: replicate n blank`, turns the blank rows into the model's `buildFrom` rows.
-/
import SRVerif.Generated.RmqPy
import SRVerif.Model.RmqPyBridge
import SRVerif.Proofs.LcaRmq
import SRVerif.Proofs.PyRt

namespace SR.RmqPyProofs
open SR SR.Py SR.Lca SR.Gen.Rmq SR.RmqBridge

theorem ilog2_eq_log2 {n : Nat} (h : 0 < n) : Lca.ilog2 n = Nat.log2 n := by
  have hs := ilog2_spec h
  exact ((Nat.log2_eq_iff (by omega)).2 hs).symm

variable {α : Type}

theorem ilog2_eq (n : Nat) (h : 0 < n) : _ilog2 (n : Int) = .ok ((Lca.ilog2 n : Nat) : Int) := by
  unfold _ilog2
  rw [Py.bitLengthInt_natCast, ilog2_eq_log2 h]
  unfold Py.bitLength
  rw [if_neg (by omega)]
  congr 1
  omega

theorem pyMin_lift (lt : Lt α) (a b : α) :
    Py.pyMin (liftLt lt) a b = conv (Lca.pyMin lt a b) := by
  unfold Py.pyMin Lca.pyMin liftLt
  cases h : lt b a with
  | error e => rfl
  | ok v => cases v <;> rfl

theorem pyMinOpt_lift (lt : Lt α) (a b : Option α) :
    Py.pyMinOpt (liftLt lt) a b = conv (Lca.pyMinCell lt a b) := by
  cases a <;> cases b <;> simp [Py.pyMinOpt, Lca.pyMinCell, pyMin_lift] <;> rfl

theorem call_eq (lt : Lt α) (self : RangeMinQuery α) (start stop : Nat) :
    RangeMinQuery.__call__ (liftLt lt) self (start : Int) (stop : Int)
      = conv (Lca.query lt self.sparse_table start stop) := by
  unfold RangeMinQuery.__call__ Lca.query
  by_cases h : start ≥ stop
  · have h' : (start : Int) ≥ (stop : Int) := by omega
    simp only [h, h', if_true]
    rfl
  · have h' : ¬ (start : Int) ≥ (stop : Int) := by omega
    have hpos : 0 < stop - start := by omega
    have hsub : (stop : Int) - (start : Int) = ((stop - start : Nat) : Int) := by omega
    have hpow := (ilog2_spec hpos).1
    have hsub2 : (stop : Int) - ((2 ^ Lca.ilog2 (stop - start) : Nat) : Int)
        = ((stop - 2 ^ Lca.ilog2 (stop - start) : Nat) : Int) := by omega
    simp only [h, h', if_false, hsub, ilog2_eq _ hpos, Py.getInt?_natCast, Py.powInt?_two_natCast, hsub2]
    cases self.sparse_table[Lca.ilog2 (stop - start)]? with
    | none => rfl
    | some row =>
      simp only []
      cases row[start]? with
      | none => rfl
      | some a =>
        simp only []
        cases row[stop - 2 ^ Lca.ilog2 (stop - start)]? with
        | none => rfl
        | some b =>
          simp only [pyMinOpt_lift]
          cases Lca.pyMinCell lt a b <;> rfl

theorem tbl_get_prev (pre post : List (List (Option α))) (prev cur : List (Option α)) :
    (pre ++ prev :: cur :: post)[pre.length]? = some prev := by
  simp

theorem tbl_get_cur (pre post : List (List (Option α))) (prev cur : List (Option α)) :
    (pre ++ prev :: cur :: post)[pre.length + 1]? = some cur := by
  rw [List.getElem?_append_right (by omega)]
  simp

theorem tbl_set_cur (pre post : List (List (Option α))) (prev cur row : List (Option α)) :
    Py.setNat? (pre ++ prev :: cur :: post) (pre.length + 1) row
      = some (pre ++ prev :: row :: post) := by
  rw [Py.setNat?_of_lt (by simp)]
  congr 1
  rw [List.set_append_right _ _ (by omega)]
  simp

theorem inner_step (lt : Lt α) (pre post : List (List (Option α))) (prev cur : List (Option α))
    (i : Nat) (it : List Nat) (hi : i < cur.length) :
    RangeMinQuery.__init__.loop2 (liftLt lt) (pre.length + 1) (i :: it) (pre ++ prev :: cur :: post)
      = match rowCell lt prev (pre.length + 1) i with
        | .error e => .err (toPy e)
        | .ok v => RangeMinQuery.__init__.loop2 (liftLt lt) (pre.length + 1) it
            (pre ++ prev :: cur.set i (some v) :: post) := by
  rw [RangeMinQuery.__init__.loop2]
  have hd : (((pre.length + 1 : Nat) : Int) - (1 : Int)) = (pre.length : Int) := by omega
  simp only [hd, Py.getInt?_natCast, tbl_get_prev, Py.powInt?_two_natCast]
  have hidx : ((i : Nat) : Int) + ((2 ^ pre.length : Nat) : Int) = ((i + 2 ^ pre.length : Nat) : Int) := by
    omega
  simp only [hidx, Py.getInt?_natCast, tbl_get_cur, tbl_set_cur]
  unfold rowCell cell
  simp only [Nat.add_sub_cancel]
  cases prev[i]? with
  | none => rfl
  | some l =>
    cases l with
    | none => rfl
    | some l =>
      simp only []
      cases prev[i + 2 ^ pre.length]? with
      | none => rfl
      | some r =>
        cases r with
        | none => rfl
        | some r =>
          simp only [pyMin_lift]
          cases Lca.pyMin lt l r with
          | error e => rfl
          | ok v =>
            simp only [conv, Py.setNat?_of_lt hi]

theorem inner_loop (lt : Lt α) (pre post : List (List (Option α))) (prev : List (Option α)) :
    ∀ (k : Nat) (done todo : List (Option α)), k ≤ todo.length →
      RangeMinQuery.__init__.loop2 (liftLt lt) (pre.length + 1) (List.range' done.length k)
          (pre ++ prev :: (done ++ todo) :: post)
        = match mapE (rowCell lt prev (pre.length + 1)) (List.range' done.length k) with
          | .error e => .err (toPy e)
          | .ok vals => .next (pre ++ prev :: (done ++ vals.map some ++ todo.drop k) :: post) := by
  intro k
  induction k with
  | zero => intro done todo _; simp [RangeMinQuery.__init__.loop2, mapE]
  | succ k ih =>
    intro done todo h
    obtain ⟨x, todo, rfl⟩ : ∃ x t, todo = x :: t := by
      cases todo with
      | nil => simp at h
      | cons x t => exact ⟨x, t, rfl⟩
    rw [List.range'_succ, inner_step lt pre post prev _ _ _ (by simp), mapE]
    cases rowCell lt prev (pre.length + 1) done.length with
    | error e => rfl
    | ok v =>
      have := ih (done ++ [some v]) todo (by simpa using h)
      simp only [List.length_append, List.length_singleton, List.append_assoc, List.singleton_append] at this
      simp only [List.set_append_right _ _ (Nat.le_refl _), Nat.sub_self, List.set_cons_zero, this]
      cases mapE (rowCell lt prev (pre.length + 1)) (List.range' (done.length + 1) k) <;> simp

theorem outer_step (lt : Lt α) (length : Nat) (pre post : List (List (Option α)))
    (prev : List (Option α)) (it : List Nat) :
    RangeMinQuery.__init__.loop1 (liftLt lt) length ((pre.length + 1) :: it)
        (pre ++ prev :: List.replicate length none :: post)
      = match nextRow lt length prev (pre.length + 1) with
        | .error e => .err (toPy e)
        | .ok row => RangeMinQuery.__init__.loop1 (liftLt lt) length it (pre ++ prev :: row :: post) := by
  rw [RangeMinQuery.__init__.loop1]
  have hk : Int.toNat ((((length : Nat) : Int) - (((2 ^ (pre.length + 1)) : Nat) : Int)) + (1 : Int))
      = length + 1 - 2 ^ (pre.length + 1) := by omega
  have hpos : 0 < 2 ^ (pre.length + 1) := Nat.two_pow_pos _
  have := inner_loop lt pre post prev (length + 1 - 2 ^ (pre.length + 1)) [] (List.replicate length none)
    (by simp; omega)
  rw [List.nil_append, List.length_nil] at this
  rw [hk, List.range_eq_range', this, nextRow, List.range_eq_range']
  cases hm : mapE (rowCell lt prev (pre.length + 1)) (List.range' 0 (length + 1 - 2 ^ (pre.length + 1))) with
  | error e => rfl
  | ok vals =>
    have hl := mapE_length _ _ _ hm
    simp only [List.length_range'] at hl
    simp [hl]

theorem outer_loop (lt : Lt α) (length : Nat) :
    ∀ (n : Nat) (pre : List (List (Option α))) (prev : List (Option α)),
      RangeMinQuery.__init__.loop1 (liftLt lt) length (List.range' (pre.length + 1) n)
          (pre ++ prev :: List.replicate n (List.replicate length none))
        = match buildFrom lt length n pre.length prev with
          | .error e => .err (toPy e)
          | .ok rows => .next (pre ++ rows) := by
  intro n
  induction n with
  | zero =>
    intro pre prev
    simp [RangeMinQuery.__init__.loop1, buildFrom]
  | succ n ih =>
    intro pre prev
    rw [List.range'_succ, List.replicate_succ, outer_step, buildFrom]
    cases nextRow lt length prev (pre.length + 1) with
    | error e => rfl
    | ok row =>
      simp only []
      have := ih (pre ++ [prev]) row
      simp only [List.length_append, List.length_singleton, List.append_assoc, List.singleton_append] at this
      rw [this]
      cases buildFrom lt length n (pre.length + 1) row <;> rfl

/-- The model's table as the generated object. -/
def modelInit (lt : Lt α) (data : List α) : Except Py.Err (RangeMinQuery α) :=
  match Lca.build lt data with
  | .error e => .error (toPy e)
  | .ok tbl => .ok { sparse_table := tbl }

theorem init_eq (lt : Lt α) (data : List α) :
    RangeMinQuery.__init__ (liftLt lt) data = modelInit lt data := by
  unfold RangeMinQuery.__init__ modelInit Lca.build
  by_cases h0 : data.length = 0
  · simp only [h0, if_true]
    rfl
  · have hpos : 0 < data.length := by omega
    simp only [ilog2_eq _ hpos, h0, if_false]
    have h1 : Int.toNat (((Lca.ilog2 data.length : Nat) : Int) + (1 : Int)) = Lca.ilog2 data.length + 1 := by
      omega
    have h2 : Int.toNat ((((Lca.ilog2 data.length : Nat) : Int) + (1 : Int)) - (1 : Int))
        = Lca.ilog2 data.length := by omega
    have h3 : (List.map (fun _ => List.replicate data.length (none : Option α))
        (List.range (Lca.ilog2 data.length + 1)))
        = List.replicate data.length none :: List.replicate (Lca.ilog2 data.length)
            (List.replicate data.length none) := by
      rw [← List.replicate_succ]
      apply List.ext_getElem <;> simp
    have h4 := outer_loop lt data.length (Lca.ilog2 data.length) [] (data.map some)
    simp only [List.length_nil, List.nil_append, Nat.zero_add] at h4
    simp only [h1, h2, h3, Py.setNat?, List.length_cons, Nat.zero_lt_succ, if_true, List.set_cons_zero, h4]
    cases buildFrom lt data.length (Lca.ilog2 data.length) 0 (List.map some data) <;> rfl

theorem rmq_eq (lt : Lt α) (data : List α) (start stop : Nat) :
    (match RangeMinQuery.__init__ (liftLt lt) data with
     | .error e => .error e
     | .ok self => RangeMinQuery.__call__ (liftLt lt) self (start : Int) (stop : Int))
      = modelRmq lt data start stop := by
  rw [init_eq]
  unfold modelInit modelRmq Lca.rmq
  cases Lca.build lt data with
  | error e => rfl
  | ok tbl => exact call_eq lt ⟨tbl⟩ start stop

end SR.RmqPyProofs
