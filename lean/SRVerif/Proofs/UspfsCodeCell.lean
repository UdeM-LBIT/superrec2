/-
  One table cell of `Model/UspfsCode.lean` against one `entry` of the label DP: `rowOf` is
  the row of an object node as a function of the object subtree alone (no threaded table); one
  cell of it is the label DP's entry (`node_cell`: value and tags), and by induction on the tree
  its values are those of `dpTable (unAlg c)` (`rowOf_rowOk`).
-/
import SRVerif.Proofs.UspfsCodeRoles
import SRVerif.Proofs.LabelDPUn

namespace SR.UspfsCode

open SR Cost Path

theorem corr_entryBatch (c : Costs) {a b : Choices} {r0 r1 : Roles OAsg} (ha : ∀ ρ, RelOn id (a.get ρ) (r0.get ρ))
    (hb : ∀ ρ, RelOn id (b.get ρ) (r1.get ρ)) : CorrOn id (entryBatch c a b) (SR.entryCands c r0 r1) := by
  rw [entryBatch_eq, entryCands_eq]
  exact CorrOn.flatMap _ fun ev _ => corrOn_combine (ha ev.2.1) (hb ev.2.2) ev.1 (mk := Prod.mk)
    (fun _ _ _ _ => rfl) (fun _ _ => rfl) (fun _ _ h => h) (fun u => ⟨u, rfl⟩)

/-- The batch offered to `table[root_object][s][k]` when the children's rows are `rowL`, `rowR`. -/
def nodeBatch (pol : Retain) (c : Costs) (S : RTree) (a la ra : UnAnn) (rowL rowR : Row)
    (s : Path) (k : Kind) : List (Cand CAsg) :=
  entryBatch c ((childSub pol c S rowL s a.lcaSet la.lcaSet).get k)
    ((childSub pol c S rowR s a.lcaSet ra.lcaSet).get k)

/-- `table[object]` after `_compute_uspfs_table`, as a function of the object subtree alone
    (`Proofs/UspfsCodeTable.lean` shows that the threaded table holds it). -/
def rowOf (pol : Retain) (c : Costs) (S : RTree) : ATree UnAnn → Row
  | .leaf _ sp => fun s k =>
    if s = sp ∧ k = .lca then Cell.update .min pol none [{ value := .fin 0, info := none }] else none
  | .node a l r => fun s k =>
    if s ∈ a.allowed then
      Cell.update .min pol none
        (nodeBatch pol c S a l.data r.data (rowOf pol c S l) (rowOf pol c S r) s k)
    else none

/-- The shape-and-data relation between the code's annotated tree and the label DP's:
    same `lca_sets`, `gain_sets`, leaf species; the same allowed species as SETS. -/
def AnnSim : ATree UnAnn → ATree UnAnn → Prop
  | .leaf a sp, .leaf b sq => sp = sq ∧ a.lcaSet = b.lcaSet ∧ a.gain = b.gain
  | .node a l r, .node b l' r' =>
    a.lcaSet = b.lcaSet ∧ a.gain = b.gain ∧ (∀ s, s ∈ a.allowed ↔ s ∈ b.allowed) ∧
      AnnSim l l' ∧ AnnSim r r'
  | _, _ => False

theorem AnnSim.data {t' t : ATree UnAnn} (h : AnnSim t' t) :
    t'.data.lcaSet = t.data.lcaSet ∧ t'.data.gain = t.data.gain := by
  cases t' <;> cases t <;> simp only [AnnSim] at h
  · exact ⟨h.2.1, h.2.2⟩
  · exact ⟨h.1, h.2.1⟩

theorem roles_congr_ann (c : Costs) (S : RTree) {a a' b b' : UnAnn} (h1 : a.lcaSet = a'.lcaSet)
    (h2 : b.lcaSet = b'.lcaSet) (s : Path) (k : Kind) (L : List (DCell Kind)) :
    roles (unAlg c) c S a s k b L = roles (unAlg c) c S a' s k b' L := by
  unfold roles
  congr 1
  funext r cell
  simp only [offer, (unAlg_congr c h1 h2 k cell.lab).1, (unAlg_congr c h1 h2 k cell.lab).2]

theorem mem_labs (c : Costs) (a : UnAnn) (k : Kind) : k ∈ (unAlg c).labs a := by
  cases k <;> simp [unAlg]

theorem node_cell (c : Costs) (S : RTree) (keep : Bool) (a b : UnAnn) (l' r' l r : ATree UnAnn)
    (hsim : AnnSim (.node a l' r') (.node b l r))
    (hL : RowOk S (fun x k => Cell.value .min (rowOf .all c S l' x k)) (dpTable (unAlg c) c S keep l))
    (hR : RowOk S (fun x k => Cell.value .min (rowOf .all c S r' x k)) (dpTable (unAlg c) c S keep r))
    (s : Path) (k : Kind) (hs : s ∈ a.allowed) :
    CellOK (unAlg c) c S keep b s k l.data r.data (dpTable (unAlg c) c S keep l)
      (dpTable (unAlg c) c S keep r) id (rowOf .all c S (.node a l' r') s k) := by
  obtain ⟨h0, _, _, hsl, hsr⟩ := hsim
  have hC : CorrOn id
      (nodeBatch .all c S a l'.data r'.data (rowOf .all c S l') (rowOf .all c S r') s k)
      (cands (unAlg c) c S b s k l.data r.data (dpTable (unAlg c) c S keep l)
        (dpTable (unAlg c) c S keep r)) := by
    unfold nodeBatch cands
    rw [← roles_congr_ann c S h0 hsl.data.1, ← roles_congr_ann c S h0 hsr.data.1]
    exact corr_entryBatch c (fun ρ => roles_rel c S _ _ hL a l'.data s k ρ)
      (fun ρ => roles_rel c S _ _ hR a r'.data s k ρ)
  simp only [rowOf, if_pos hs]
  exact .of_batch _ _ _ _ _ _ _ _ _ _ _ hC

theorem rowOf_rowOk (c : Costs) (S : RTree) (keep : Bool) :
    ∀ (t' t : ATree UnAnn), AnnSim t' t → SpOk (unAlg c) S t →
      RowOk S (fun x k => Cell.value .min (rowOf .all c S t' x k)) (dpTable (unAlg c) c S keep t) := by
  intro t'
  induction t' with
  | leaf a sp =>
    intro t hsim hok
    cases t with
    | node _ _ _ => simp [AnnSim] at hsim
    | leaf b sq =>
      obtain ⟨rfl, _, _⟩ := hsim
      refine ⟨?_, fun d hd => dp_isNode c S keep _ hok hd,
        fun d1 h1 d2 h2 h => cellTag_inj _ c S keep _ h1 h2 h⟩
      intro x kc
      simp only [rowOf, costAt, findCell_dpTable_leaf, unAlg]
      by_cases h : x = sp ∧ kc = .lca
      · simp [h, Cell.update_leaf, Cell.value]
      · simp [h, Cell.value]
  | node a l' r' ihl ihr =>
    intro t hsim hok
    cases t with
    | leaf _ _ => simp [AnnSim] at hsim
    | node b l r =>
      refine ⟨?_, fun d hd => dp_isNode c S keep _ hok hd,
        fun d1 h1 d2 h2 h => cellTag_inj _ c S keep _ h1 h2 h⟩
      intro x kc
      rw [costAt, findCell_dpTable_node]
      by_cases hx : x ∈ a.allowed
      · have hn := node_cell c S keep a b l' r' l r hsim (ihl l hsim.2.2.2.1 hok.2.1)
          (ihr r hsim.2.2.2.2 hok.2.2) x kc hx
        rw [if_pos ⟨(hsim.2.2.1 x).mp hx, mem_labs c b kc⟩]
        cases he : entry (unAlg c) c S keep b x kc l.data r.data (dpTable (unAlg c) c S keep l)
            (dpTable (unAlg c) c S keep r) with
        | none => rw [hn.absent he]; rfl
        | some d =>
          obtain ⟨e, hce, hv, _⟩ := hn.present d he
          rw [hce]; exact hv
      · rw [if_neg (fun h => hx ((hsim.2.2.1 x).mpr h.1))]
        simp only [rowOf, if_neg hx]
        rfl

end SR.UspfsCode
