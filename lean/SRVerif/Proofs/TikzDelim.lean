/-
  C15: the delimiter texts `\begin{tikzpicture}` / `\end{tikzpicture}` occur exactly once in the
  text `render` assembles.

  Why no hole filling can produce (or complete) a delimiter:
  `\begin{tikzpicture}` contains `n{t`, `\end{tikzpicture}` contains `d{t`.
  * A FILLING is required to contain no `{` right after `n` or `d` and not to start with `{`
    (`noD`, a two-character scan).  Numbers, coordinates, lengths, colour names, keywords meet this
    because they contain no brace at all (`noD_of_fillOK`); for labels it is a hypothesis of the
    theorems (`CallSafe`, `NamesSafe`), proved for the labels the layout computes in `C15_labels_safe`.
  * A LITERAL piece of a template may contain `n{` / `d{` as long as no `t` follows, and the piece
    in front of a hole must not end in `n{` / `d{` (`Template.delimFree`, decided on the
    generated templates: a three-state scan `drun` over the literal pieces, a hole leaving the
    scan in its worst admissible state).
  So the scan `drun` of an instantiated template never sees `(n|d){t` — also not across the
  boundaries between literal pieces and fillings — hence the text contains neither delimiter.
  Blocks are joined by a newline, which the delimiters do not contain, so occurrences in the
  joined text are occurrences inside blocks (`countOcc_intercalate`).
-/
import SRVerif.Generated.TikzTemplates
import SRVerif.Proofs.TikzBraces
import SRVerif.Proofs.TikzRender

namespace SR.Tikz

theorem exists_of_countOcc_ne_zero {pat s : Str} (h : countOcc pat s ≠ 0) :
    ∃ a b, s = a ++ pat ++ b := by
  induction s with
  | nil => simp [countOcc] at h
  | cons c r ih =>
    simp only [countOcc] at h
    by_cases hp : isPrefixOf pat (c :: r) = true
    · obtain ⟨b, hb⟩ := isPrefixOf_eq_true hp
      exact ⟨[], b, by simpa using hb⟩
    · have : countOcc pat r ≠ 0 := by
        intro e; apply h; simp [hp, e]
      obtain ⟨a, b, rfl⟩ := ih this
      exact ⟨c :: a, b, by simp⟩

theorem isPrefixOf_append_sep {pat : Str} {c : Char} (hc : c ∉ pat) (x b : Str) :
    isPrefixOf pat (x ++ c :: b) = isPrefixOf pat x := by
  induction pat generalizing x with
  | nil => simp [isPrefixOf]
  | cons p ps ih =>
    have hpc : p ≠ c := fun e => hc (by simp [e])
    have hps : c ∉ ps := fun e => hc (List.mem_cons_of_mem _ e)
    cases x with
    | nil => simp [isPrefixOf, hpc]
    | cons y ys => simp [isPrefixOf, ih hps]

theorem countOcc_append_sep {pat : Str} {c : Char} (hc : c ∉ pat) (hne : pat ≠ []) (a b : Str) :
    countOcc pat (a ++ c :: b) = countOcc pat a + countOcc pat b := by
  induction a with
  | nil =>
    cases pat with
    | nil => exact absurd rfl hne
    | cons p ps =>
      have hpc : p ≠ c := fun e => hc (by simp [e])
      simp [countOcc, isPrefixOf, hpc]
  | cons y ys ih =>
    have h1 : isPrefixOf pat (y :: ys ++ c :: b) = isPrefixOf pat (y :: ys) :=
      isPrefixOf_append_sep hc (y :: ys) b
    simp only [List.cons_append] at h1
    simp only [List.cons_append, countOcc, ih, h1]
    omega

theorem countOcc_intercalate {pat : Str} {c : Char} (hc : c ∉ pat) (hne : pat ≠ []) :
    ∀ blocks : List Str,
      countOcc pat (List.intercalate [c] blocks) = (blocks.map (countOcc pat)).sum
  | [] => by simp [List.intercalate, countOcc]
  | [x] => by
    simp [List.intercalate_singleton]
  | x :: y :: ys => by
    have e : List.intercalate [c] (x :: y :: ys) = x ++ c :: List.intercalate [c] (y :: ys) := by
      simp [List.intercalate, List.intersperse]
    rw [e, countOcc_append_sep hc hne, countOcc_intercalate hc hne (y :: ys)]
    simp

theorem sum_map_eq_zero {α : Type} (f : α → Nat) (l : List α) (h : ∀ x ∈ l, f x = 0) :
    (l.map f).sum = 0 :=
  List.sum_eq_zero_iff_forall_eq_nat.2 (List.forall_mem_map.2 h)

def isND (c : Char) : Bool := c == 'n' || c == 'd'

/-- State of the scan: nothing pending / the previous character is `n` or `d` / the previous two
    characters are `n{` or `d{`. -/
inductive DSt where
  | z | nd | br
  deriving DecidableEq, Repr

/-- One character; `none` when `(n|d){t` has just been completed. -/
def dstep : DSt → Char → Option DSt
  | .br, c => if c = 't' then none else if isND c then some .nd else some .z
  | .nd, c => if c = '{' then some .br else if isND c then some .nd else some .z
  | .z, c => if isND c then some .nd else some .z

def drun : DSt → Str → Option DSt
  | st, [] => some st
  | st, c :: r => match dstep st c with
    | none => none
    | some st' => drun st' r

theorem drun_append (st : DSt) (a b : Str) :
    drun st (a ++ b) = (drun st a).bind (fun st' => drun st' b) := by
  induction a generalizing st with
  | nil => simp [drun]
  | cons c r ih =>
    simp only [List.cons_append, drun]
    cases dstep st c with
    | none => simp
    | some st' => exact ih st'

theorem drun_beginPicture (st : DSt) : drun st beginPicture = none := by
  cases st <;> decide

theorem drun_endPicture (st : DSt) : drun st endPicture = none := by
  cases st <;> decide

theorem drun_occ_none {pat : Str} (hp : ∀ st, drun st pat = none) (st : DSt) (a b : Str) :
    drun st (a ++ pat ++ b) = none := by
  rw [List.append_assoc, drun_append]
  cases drun st a with
  | none => rfl
  | some st' =>
    simp only [Option.bind_some]
    rw [drun_append, hp st']; rfl

theorem countOcc_eq_zero_of_drun {s : Str} {st st' : DSt} (h : drun st s = some st') :
    countOcc beginPicture s = 0 ∧ countOcc endPicture s = 0 := by
  constructor
  · apply Classical.byContradiction
    intro hne
    obtain ⟨a, b, rfl⟩ := exists_of_countOcc_ne_zero hne
    rw [drun_occ_none drun_beginPicture] at h; cases h
  · apply Classical.byContradiction
    intro hne
    obtain ⟨a, b, rfl⟩ := exists_of_countOcc_ne_zero hne
    rw [drun_occ_none drun_endPicture] at h; cases h

/-- `a` is at least as safe a state to continue from as `b`. -/
def DSt.le : DSt → DSt → Bool
  | .z, _ => true
  | .nd, .nd => true
  | .br, .br => true
  | _, _ => false

theorem DSt.le_refl (a : DSt) : a.le a = true := by cases a <;> rfl

theorem dstep_z (c : Char) : dstep .z c = some (if isND c then .nd else .z) := by
  simp only [dstep]; split <;> rfl

theorem dstep_mono {a b b' : DSt} {c : Char} (hab : a.le b = true) (h : dstep b c = some b') :
    ∃ a', dstep a c = some a' ∧ a'.le b' = true := by
  cases a with
  | nd => cases b <;> first | exact absurd hab (by decide) | exact ⟨b', h, DSt.le_refl _⟩
  | br => cases b <;> first | exact absurd hab (by decide) | exact ⟨b', h, DSt.le_refl _⟩
  | z =>
    cases b with
    | z => exact ⟨b', h, DSt.le_refl _⟩
    | nd =>
      by_cases hc : c = '{'
      · subst hc
        exact ⟨.z, by decide, rfl⟩
      · refine ⟨b', ?_, DSt.le_refl _⟩
        rw [← h]; simp only [dstep, hc, if_false]
    | br =>
      by_cases hc : c = 't'
      · subst hc; simp [dstep] at h
      · refine ⟨b', ?_, DSt.le_refl _⟩
        rw [← h]; simp only [dstep, hc, if_false]

theorem drun_mono {a b b' : DSt} {s : Str} (hab : a.le b = true) (h : drun b s = some b') :
    ∃ a', drun a s = some a' ∧ a'.le b' = true := by
  induction s generalizing a b with
  | nil =>
    simp only [drun, Option.some.injEq] at h
    subst h
    exact ⟨a, rfl, hab⟩
  | cons c r ih =>
    simp only [drun] at h ⊢
    cases hb : dstep b c with
    | none => simp [hb] at h
    | some b1 =>
      simp only [hb] at h
      obtain ⟨a1, ha1, hle⟩ := dstep_mono hab hb
      simp only [ha1]
      exact ih hle h

/-- No `{` right after `n` or `d`; `prev`: the character in front is `n` or `d`. -/
def no2 : Bool → Str → Bool
  | _, [] => true
  | prev, c :: r => !(prev && c == '{') && no2 (isND c) r

/-- The condition on a hole filling: no `n{`, no `d{`, and no `{` in front. -/
def noD (s : Str) : Bool := no2 true s

theorem no2_iff (p : Bool) (s : Str) : no2 p s = true ↔
    (p = true → s.head? ≠ some '{') ∧ ∀ a b x, s = a ++ x :: '{' :: b → isND x = false := by
  induction s generalizing p with
  | nil => simp [no2]
  | cons c r ih =>
    simp only [no2, Bool.and_eq_true, Bool.not_eq_true', Bool.and_eq_false_imp, beq_eq_false_iff_ne,
      ih, List.head?_cons, ne_eq, Option.some.injEq]
    constructor
    · rintro ⟨h1, h2, h3⟩
      refine ⟨h1, fun a b x e => ?_⟩
      cases a with
      | nil =>
        obtain ⟨rfl, rfl⟩ := List.cons.inj e
        cases hx : isND c with
        | false => rfl
        | true => exact absurd rfl (h2 hx)
      | cons y ys => exact h3 ys b x (List.cons.inj e).2
    · rintro ⟨h1, h2⟩
      refine ⟨h1, fun hc e => ?_, fun a b x e => h2 (c :: a) b x (by rw [e]; rfl)⟩
      cases r with
      | nil => cases e
      | cons d r' =>
        obtain rfl : d = '{' := Option.some.inj e
        rw [h2 [] r' c rfl] at hc
        cases hc

theorem no2_mono {p : Bool} {s : Str} (h : no2 true s = true) : no2 p s = true := by
  cases s with
  | nil => rfl
  | cons c r =>
    simp only [no2, Bool.true_and, Bool.and_eq_true, Bool.not_eq_true'] at h ⊢
    refine ⟨?_, h.2⟩
    cases p <;> simp [h.1]

theorem no2_append {p : Bool} {a b : Str} (ha : no2 p a = true) (hb : no2 true b = true) :
    no2 p (a ++ b) = true := by
  induction a generalizing p with
  | nil => exact no2_mono hb
  | cons c r ih =>
    simp only [List.cons_append, no2, Bool.and_eq_true] at ha ⊢
    exact ⟨ha.1, ih ha.2⟩

theorem noD_append {a b : Str} (ha : noD a = true) (hb : noD b = true) : noD (a ++ b) = true :=
  no2_append ha hb

theorem no2_of_braceFree {p : Bool} {s : Str} (h : braceFree s = true) : no2 p s = true := by
  induction s generalizing p with
  | nil => rfl
  | cons c r ih =>
    simp only [braceFree, List.all_cons, Bool.and_eq_true, Bool.not_eq_true'] at h
    have hc : (c == '{') = false := by
      have := (isBrace_false_iff c).1 h.1
      simp [this.1]
    simp only [no2, hc, Bool.and_false, Bool.not_false, Bool.true_and]
    exact ih (by simpa [braceFree] using h.2)

theorem noD_of_braceFree {s : Str} (h : braceFree s = true) : noD s = true := no2_of_braceFree h

theorem noD_intercalate {sep : Str} (hs : noD sep = true) :
    ∀ ls : List Str, (∀ l ∈ ls, noD l = true) → noD (List.intercalate sep ls) = true :=
  intercalate_closed (P := fun s => noD s = true) rfl (fun _ _ => noD_append) hs

/-- A safe filling is accepted from the two states a hole can be entered in, and leaves the scan
    in one of them. -/
theorem drun_of_no2 {st : DSt} {p : Bool} {s : Str} (hst : st ≠ .br) (hp : st = .nd → p = true)
    (h : no2 p s = true) : ∃ st', drun st s = some st' ∧ st' ≠ .br := by
  induction s generalizing st p with
  | nil => exact ⟨st, rfl, hst⟩
  | cons c r ih =>
    simp only [no2, Bool.and_eq_true, Bool.not_eq_true'] at h
    simp only [drun]
    have hstep : dstep st c = some (if isND c then .nd else .z) := by
      cases st with
      | br => exact absurd rfl hst
      | z => exact dstep_z c
      | nd =>
        have hb : c ≠ '{' := by
          intro e; subst e; simp [hp rfl] at h
        simp only [dstep, hb, if_false]; split <;> rfl
    rw [hstep]
    by_cases hc : isND c = true
    · simp only [hc, if_true]
      exact ih (by decide) (fun _ => rfl) (by simpa [hc] using h.2)
    · simp only [hc]
      exact ih (by decide) (fun e => by cases e) h.2

theorem drun_of_noD {st : DSt} {s : Str} (hst : st ≠ .br) (h : noD s = true) :
    ∃ st', drun st s = some st' ∧ st' ≠ .br :=
  drun_of_no2 hst (fun _ => rfl) h

theorem le_nd_of_ne_br {st : DSt} (h : st ≠ .br) : st.le .nd = true := by
  cases st <;> simp_all [DSt.le]

theorem noD_of_fillOK {k : HoleKind} {f : Str} (hk : Template.holeOK k = true) (hl : k ≠ .label)
    (hf : fillOK k f = true) : noD f = true :=
  noD_of_braceFree (braceFree_of_fillOK hk hl hf)

theorem noD_of_fillsOK {ks : List HoleKind} {fills : List Str}
    (hk : ∀ k ∈ ks, Template.holeOK k = true ∧ k ≠ .label) (hf : fillsOK ks fills = true) :
    ∀ f ∈ fills, noD f = true := by
  induction ks generalizing fills with
  | nil =>
    cases fills with
    | nil => intro f hf'; cases hf'
    | cons _ _ => simp [fillsOK] at hf
  | cons k ks ih =>
    cases fills with
    | nil => simp [fillsOK] at hf
    | cons f fs =>
      simp only [fillsOK, Bool.and_eq_true] at hf
      intro g hg
      rcases List.mem_cons.1 hg with rfl | hg
      · exact noD_of_fillOK (hk k (by simp)).1 (hk k (by simp)).2 hf.1
      · exact ih (fun k' hk' => hk k' (List.mem_cons_of_mem _ hk')) hf.2 g hg

namespace Template

/-- The scan over the literal pieces; a hole must not be entered right after `n{` / `d{` and
    leaves the scan in the worst state a safe filling can leave it in. -/
def scanFrom : DSt → Template → Bool
  | _, [] => true
  | st, .lit s :: r => match drun st s with
    | none => false
    | some st' => scanFrom st' r
  | st, .hole _ :: r => st != .br && scanFrom .nd r

/-- No instance of the template with safe fillings contains a delimiter. -/
def delimFree (t : Template) : Bool := scanFrom .z t

end Template

theorem scanFrom_mono {a b : DSt} {t : Template} (hab : a.le b = true)
    (h : Template.scanFrom b t = true) : Template.scanFrom a t = true := by
  induction t generalizing a b with
  | nil => rfl
  | cons p r ih =>
    cases p with
    | lit s =>
      simp only [Template.scanFrom] at h ⊢
      cases hb : drun b s with
      | none => simp [hb] at h
      | some b' =>
        simp only [hb] at h
        obtain ⟨a', ha', hle⟩ := drun_mono hab hb
        simp only [ha']
        exact ih hle h
    | hole k =>
      simp only [Template.scanFrom, Bool.and_eq_true, bne_iff_ne, ne_eq] at h ⊢
      refine ⟨?_, h.2⟩
      rintro rfl
      -- only `br` is above `br`
      cases b <;> first | exact h.1 rfl | cases hab

theorem drun_instantiate {st : DSt} {t : Template} {fills : List Str}
    (ht : Template.scanFrom st t = true) (hf : ∀ f ∈ fills, noD f = true) :
    ∃ st', drun st (t.instantiate fills) = some st' := by
  induction t generalizing st fills with
  | nil => exact ⟨st, by cases fills <;> rfl⟩
  | cons p r ih =>
    cases p with
    | lit s =>
      simp only [Template.scanFrom] at ht
      cases hs : drun st s with
      | none => simp [hs] at ht
      | some st1 =>
        simp only [hs] at ht
        obtain ⟨st2, h2⟩ := ih ht hf
        refine ⟨st2, ?_⟩
        simp only [Template.instantiate]
        rw [drun_append, hs]; exact h2
    | hole k =>
      simp only [Template.scanFrom, Bool.and_eq_true, bne_iff_ne, ne_eq] at ht
      cases fills with
      | nil =>
        simp only [Template.instantiate]
        exact ih (scanFrom_mono (le_nd_of_ne_br ht.1) ht.2) hf
      | cons f fs =>
        obtain ⟨st1, h1, hne⟩ := drun_of_noD ht.1 (hf f (by simp))
        obtain ⟨st2, h2⟩ := ih (scanFrom_mono (le_nd_of_ne_br hne) ht.2)
          (fun g hg => hf g (List.mem_cons_of_mem _ hg))
        refine ⟨st2, ?_⟩
        simp only [Template.instantiate]
        rw [drun_append, h1]; exact h2

theorem countOcc_instantiate {t : Template} {fills : List Str} (ht : t.delimFree = true)
    (hf : ∀ f ∈ fills, noD f = true) :
    countOcc beginPicture (t.instantiate fills) = 0 ∧
    countOcc endPicture (t.instantiate fills) = 0 := by
  obtain ⟨st', h⟩ := drun_instantiate ht hf
  exact countOcc_eq_zero_of_drun h

theorem statements_delimFree :
    Generated.statements.all (fun s => s.2.delimFree) = true := by decide +kernel

theorem defs_delimFree :
    Generated.tmpl_defs_vertical.delimFree = true ∧
    Generated.tmpl_defs_horizontal.delimFree = true := by
  decide +kernel

theorem defs_no_label :
    Generated.tmpl_defs_vertical.holes.all
      (fun k => Template.holeOK k && decide (k ≠ .label)) = true ∧
    Generated.tmpl_defs_horizontal.holes.all
      (fun k => Template.holeOK k && decide (k ≠ .label)) = true := by
  decide +kernel

theorem definecolor_delimFree :
    (stdDefinecolor Generated.colorPrefix).delimFree = true := by decide +kernel

end SR.Tikz
