/-
  C12 ∘ C08, name-tree side.  The nodes of a name tree in pre-order as (clade = leaf names
  below, name) `cn`, (clade, colour) `cc`; `Relab R t t'`: `t'` is `t` with every name
  replaced by an `R`-related one.  A relabelling that keeps given names keeps every clade
  when the leaves are named, and `label_internal` (`labelTree`) is such a relabelling.
-/
import SRVerif.Proofs.CliTree

namespace SR.Cli

open SR.Ser

mutual
  /-- The leaf names below a node, left to right (a leaf: its own name). -/
  def lvs : NT → List String
    | .node n _ [] => [n]
    | .node _ _ (k :: ks) => lvsL (k :: ks)
  def lvsL : List NT → List String
    | [] => []
    | k :: ks => lvs k ++ lvsL ks
end

mutual
  /-- The nodes in pre-order as (leaf names below, name). -/
  def cn : NT → List (List String × String)
    | .node n c ks => (lvs (.node n c ks), n) :: cnL ks
  def cnL : List NT → List (List String × String)
    | [] => []
    | k :: ks => cn k ++ cnL ks
end

mutual
  /-- The nodes in pre-order as (leaf names below, colour). -/
  def cc : NT → List (List String × Option String)
    | .node n c ks => (lvs (.node n c ks), c) :: ccL ks
  def ccL : List NT → List (List String × Option String)
    | [] => []
    | k :: ks => cc k ++ ccL ks
end

mutual
  /-- The nodes in pre-order as (leaf names below, `f (name, colour)`): `cn` is the instance
      `f = Prod.fst`, `cc` the instance `f = Prod.snd`, and what holds of both is proved here. -/
  def cg {γ : Type} (f : String × Option String → γ) : NT → List (List String × γ)
    | .node n c ks => (lvs (.node n c ks), f (n, c)) :: cgL f ks
  def cgL {γ : Type} (f : String × Option String → γ) : List NT → List (List String × γ)
    | [] => []
    | k :: ks => cg f k ++ cgL f ks
end

mutual
  theorem cn_eq_cg : ∀ t : NT, cn t = cg Prod.fst t
    | .node n c ks => by rw [cn, cg, cnL_eq_cgL ks]
  theorem cnL_eq_cgL : ∀ ks : List NT, cnL ks = cgL Prod.fst ks
    | [] => rfl
    | k :: ks => by rw [cnL, cgL, cn_eq_cg k, cnL_eq_cgL ks]
end

mutual
  theorem cc_eq_cg : ∀ t : NT, cc t = cg Prod.snd t
    | .node n c ks => by rw [cc, cg, ccL_eq_cgL ks]
  theorem ccL_eq_cgL : ∀ ks : List NT, ccL ks = cgL Prod.snd ks
    | [] => rfl
    | k :: ks => by rw [ccL, cgL, cc_eq_cg k, ccL_eq_cgL ks]
end

mutual
  /-- Every node has no child or exactly two. -/
  def isBin : NT → Bool
    | .node _ _ ks => (ks.length == 0 || ks.length == 2) && isBinL ks
  def isBinL : List NT → Bool
    | [] => true
    | k :: ks => isBin k && isBinL ks
end

mutual
  /-- Every node has no child or at least two. -/
  def wf2 : NT → Bool
    | .node _ _ ks => (ks.length == 0 || decide (2 ≤ ks.length)) && wf2L ks
  def wf2L : List NT → Bool
    | [] => true
    | k :: ks => wf2 k && wf2L ks
end

mutual
  theorem names_eq_cn : ∀ t : NT, t.names = (cn t).map (·.2)
    | .node n c ks => by
      have := preL_names ks 0
      simp only [NT.names, NT.pre, cn, List.map_cons] at this ⊢
      rw [this]; rfl
  theorem preL_names : ∀ (ks : List NT) (i : Nat),
      (NT.preL ks i).map (·.2.name) = (cnL ks).map (·.2)
    | [], _ => by simp [NT.preL, cnL]
    | k :: ks, i => by
      have h1 := names_eq_cn k
      have h2 := preL_names ks (i + 1)
      simp only [NT.names] at h1
      simp only [NT.preL, cnL, List.map_append, List.map_map, h2, ← h1]
      rfl
end

theorem names_node (n : String) (c : Option String) (ks : List NT) :
    (NT.node n c ks).names = n :: (cnL ks).map (·.2) := by
  rw [names_eq_cn]; rfl

theorem length_cn (t : NT) : (cn t).length = t.size := by
  rw [← length_names, names_eq_cn, List.length_map]

theorem length_cnL : ∀ ks : List NT, (cnL ks).length = NT.sizeL ks
  | [] => rfl
  | k :: ks => by simp [cnL, NT.sizeL, length_cn, length_cnL ks]

mutual
  /-- `t'` is `t` with every name replaced by an `R`-related name. -/
  def Relab (R : String → String → Prop) : NT → NT → Prop
    | .node n c ks, .node n' c' ks' => R n n' ∧ c = c' ∧ RelabL R ks ks'
  def RelabL (R : String → String → Prop) : List NT → List NT → Prop
    | [], [] => True
    | k :: ks, k' :: ks' => Relab R k k' ∧ RelabL R ks ks'
    | [], _ :: _ => False
    | _ :: _, [] => False
end

mutual
  theorem Relab.refl {R : String → String → Prop} (hR : ∀ n, R n n) : ∀ t : NT, Relab R t t
    | .node n c ks => by simp only [Relab]; exact ⟨hR n, trivial, RelabL.refl hR ks⟩
  theorem RelabL.refl {R : String → String → Prop} (hR : ∀ n, R n n) : ∀ ks : List NT, RelabL R ks ks
    | [] => by simp [RelabL]
    | k :: ks => by simp only [RelabL]; exact ⟨Relab.refl hR k, RelabL.refl hR ks⟩
end

mutual
  theorem setNames_relab {R : String → String → Prop} : ∀ (t : NT) (l : List String),
      t.size ≤ l.length → Aligned R t.names (l.take t.size) → Relab R t (setNames t l).1
    | .node n c ks, [], h, _ => by simp [NT.size] at h
    | .node n c ks, x :: r, h, hA => by
      have hs : NT.sizeL ks ≤ r.length := by simp [NT.size] at h; omega
      rw [names_node, NT.size, Nat.add_comm, List.take_succ_cons] at hA
      cases hA with
      | cons hr hrest =>
        simp only [setNames, Relab]
        exact ⟨hr, trivial, setNamesL_relab ks r hs hrest⟩
  theorem setNamesL_relab {R : String → String → Prop} : ∀ (ks : List NT) (l : List String),
      NT.sizeL ks ≤ l.length → Aligned R ((cnL ks).map (·.2)) (l.take (NT.sizeL ks)) →
      RelabL R ks (setNamesL ks l).1
    | [], l, _, _ => by simp [setNamesL, RelabL]
    | k :: ks, l, h, hA => by
      have hk : k.size ≤ l.length := by simp [NT.sizeL] at h; omega
      have h1 := setNames_spec k l hk
      have hl : NT.sizeL ks ≤ (setNames k l).2.length := by
        rw [h1.2]; simp only [NT.sizeL] at h; simp; omega
      rw [cnL, List.map_append, NT.sizeL, List.take_add] at hA
      have hsplit := Aligned.of_append (by
        rw [List.length_map, length_cn, List.length_take]; omega) hA
      simp only [setNamesL, RelabL]
      refine ⟨setNames_relab k l hk (by rw [names_eq_cn]; exact hsplit.1), ?_⟩
      exact setNamesL_relab ks _ hl (by rw [h1.2]; exact hsplit.2)
end

/-- What a relabelling that keeps given names does to a node: same clade, related name. -/
def NodeRel (R : String → String → Prop) (x y : List String × String) : Prop :=
  y.1 = x.1 ∧ R x.2 y.2

mutual
  theorem RelabL.ind_cons {R : String → String → Prop} {P : List NT → List NT → Prop} (nil : P [] [])
      (cons : ∀ n n' c cs cs' ks ks', R n n' → RelabL R cs cs' → RelabL R ks ks' →
        P cs cs' → P ks ks' → P (.node n c cs :: ks) (.node n' c cs' :: ks')) :
      ∀ (k k' : NT) ks ks', Relab R k k' → RelabL R ks ks' → P ks ks' → P (k :: ks) (k' :: ks')
    | .node n c cs, .node n' c' cs', ks, ks', h, h', hP => by
      simp only [Relab] at h
      obtain ⟨h1, rfl, h3⟩ := h
      exact cons n n' c cs cs' ks ks' h1 h3 h' (RelabL.ind nil cons cs cs' h3) hP
  /-- What a relabelling keeps is proved on forests by this induction, and read for a tree `t`
      at the forest `[t]`. -/
  theorem RelabL.ind {R : String → String → Prop} {P : List NT → List NT → Prop} (nil : P [] [])
      (cons : ∀ n n' c cs cs' ks ks', R n n' → RelabL R cs cs' → RelabL R ks ks' →
        P cs cs' → P ks ks' → P (.node n c cs :: ks) (.node n' c cs' :: ks')) :
      ∀ ks ks', RelabL R ks ks' → P ks ks'
    | [], [], _ => nil
    | [], _ :: _, h => by simp [RelabL] at h
    | _ :: _, [], h => by simp [RelabL] at h
    | k :: ks, k' :: ks', h => by
      simp only [RelabL] at h
      exact RelabL.ind_cons nil cons k k' ks ks' h.1 h.2 (RelabL.ind nil cons ks ks' h.2)
end

theorem RelabL.lvs_eq {R : String → String → Prop}
    (hR : ∀ n n', R n n' → isUnnamed n = false → n' = n) : ∀ (ks ks' : List NT), RelabL R ks ks' →
    (∀ x ∈ lvsL ks, isUnnamed x = false) → lvsL ks' = lvsL ks := by
  refine RelabL.ind (fun _ => rfl) fun n n' c cs cs' ks ks' hn hcs _ h1 h2 hl => ?_
  simp only [lvsL, List.mem_append] at hl ⊢
  rw [h2 fun x hx => hl x (.inr hx)]
  congr 1
  match cs, cs', hcs, h1, hl with
  | [], [], _, _, hl => rw [lvs, lvs, hR n n' hn (hl n (.inl (by simp [lvs])))]
  | _ :: _, _ :: _, _, h1, hl => exact h1 fun x hx => hl x (.inl hx)

theorem Relab.lvs_eq {R : String → String → Prop}
    (hR : ∀ n n', R n n' → isUnnamed n = false → n' = n) (t t' : NT) (h : Relab R t t')
    (hl : ∀ x ∈ lvs t, isUnnamed x = false) : lvs t' = lvs t := by
  have := RelabL.lvs_eq hR [t] [t'] ⟨h, trivial⟩
  simp only [lvsL, List.append_nil] at this
  exact this hl

theorem lvsL_sub_lvs (n : String) (c : Option String) (ks : List NT) (x : String)
    (h : x ∈ lvsL ks) : x ∈ lvs (.node n c ks) := by
  cases ks with
  | nil => simp [lvsL] at h
  | cons k ks => simpa [lvs] using h

theorem RelabL.cg_aligned {γ : Type} {f : String × Option String → γ}
    {R : String → String → Prop} {S : γ → γ → Prop}
    (hR : ∀ n n', R n n' → isUnnamed n = false → n' = n)
    (hS : ∀ n n' c, R n n' → S (f (n, c)) (f (n', c))) : ∀ (ks ks' : List NT), RelabL R ks ks' →
    (∀ x ∈ lvsL ks, isUnnamed x = false) →
    Aligned (fun x y => y.1 = x.1 ∧ S x.2 y.2) (cgL f ks) (cgL f ks') := by
  refine RelabL.ind (fun _ => .nil) fun n n' c cs cs' ks ks' hn hcs _ h1 h2 hl => ?_
  simp only [lvsL, List.mem_append] at hl
  simp only [cgL, cg, List.cons_append]
  exact .cons ⟨Relab.lvs_eq hR _ _ ⟨hn, rfl, hcs⟩ fun x hx => hl x (.inl hx), hS n n' c hn⟩
    ((h1 fun x hx => hl x (.inl (lvsL_sub_lvs n c cs x hx))).append (h2 fun x hx => hl x (.inr hx)))

theorem Relab.cg_aligned {γ : Type} {f : String × Option String → γ}
    {R : String → String → Prop} {S : γ → γ → Prop}
    (hR : ∀ n n', R n n' → isUnnamed n = false → n' = n)
    (hS : ∀ n n' c, R n n' → S (f (n, c)) (f (n', c))) (t t' : NT) (h : Relab R t t')
    (hl : ∀ x ∈ lvs t, isUnnamed x = false) :
    Aligned (fun x y => y.1 = x.1 ∧ S x.2 y.2) (cg f t) (cg f t') := by
  have := RelabL.cg_aligned hR hS [t] [t'] ⟨h, trivial⟩
  simp only [lvsL, cgL, List.append_nil] at this
  exact this hl

theorem Relab.cn_aligned {R : String → String → Prop}
    (hR : ∀ n n', R n n' → isUnnamed n = false → n' = n) (t t' : NT) (h : Relab R t t')
    (hl : ∀ x ∈ lvs t, isUnnamed x = false) : Aligned (NodeRel R) (cn t) (cn t') := by
  rw [cn_eq_cg, cn_eq_cg]
  exact Relab.cg_aligned hR (fun _ _ _ h => h) t t' h hl

theorem RelabL.cn_aligned {R : String → String → Prop}
      (hR : ∀ n n', R n n' → isUnnamed n = false → n' = n) : ∀ (ks ks' : List NT), RelabL R ks ks' →
      (∀ x ∈ lvsL ks, isUnnamed x = false) → Aligned (NodeRel R) (cnL ks) (cnL ks') := by
  intro ks ks' h hl
  rw [cnL_eq_cgL, cnL_eq_cgL]
  exact RelabL.cg_aligned hR (fun _ _ _ h => h) ks ks' h hl

theorem Relab.cc_eq {R : String → String → Prop}
    (hR : ∀ n n', R n n' → isUnnamed n = false → n' = n) (t t' : NT) (h : Relab R t t')
    (hl : ∀ x ∈ lvs t, isUnnamed x = false) : cc t' = cc t := by
  have := Aligned.map_eq (f := id) (g := id)
    ((Relab.cg_aligned (f := Prod.snd) (S := fun c c' => c' = c) hR (fun _ _ _ _ => rfl) t t' h hl).imp
      fun _ _ h => Prod.ext h.1 h.2)
  simpa [cc_eq_cg] using this

/-- A relabelling keeps the number of children of every node, which is all that `isBin`
    and `wf2` look at. -/
theorem RelabL.arity {R : String → String → Prop} : ∀ (ks ks' : List NT), RelabL R ks ks' →
    ks'.length = ks.length ∧ isBinL ks' = isBinL ks ∧ wf2L ks' = wf2L ks := by
  refine RelabL.ind ⟨rfl, rfl, rfl⟩ fun n n' c cs cs' ks ks' _ _ _ h1 h2 => ?_
  simp only [List.length_cons, isBinL, isBin, wf2L, wf2, h1, h2, and_self]

theorem Relab.arity {R : String → String → Prop} (t t' : NT) (h : Relab R t t') :
    isBin t' = isBin t ∧ wf2 t' = wf2 t := by
  have := (RelabL.arity [t] [t'] ⟨h, trivial⟩).2
  simp only [isBinL, wf2L, Bool.and_true] at this
  exact this

theorem RelabL.isBin_eq {R : String → String → Prop} : ∀ (ks ks' : List NT), RelabL R ks ks' →
      isBinL ks' = isBinL ks :=
  fun ks ks' h => (RelabL.arity ks ks' h).2.1

theorem RelabL.wf2_eq {R : String → String → Prop} : ∀ (ks ks' : List NT), RelabL R ks ks' →
      wf2L ks' = wf2L ks :=
  fun ks ks' h => (RelabL.arity ks ks' h).2.2

theorem Relab.names_aligned {R : String → String → Prop}
    (hR : ∀ n n', R n n' → isUnnamed n = false → n' = n) {t t' : NT} (h : Relab R t t')
    (hl : ∀ x ∈ lvs t, isUnnamed x = false) : Aligned R t.names t'.names := by
  rw [names_eq_cn, names_eq_cn]
  exact Aligned.map _ _ (fun _ _ h => h.2) (Relab.cn_aligned hR t t' h hl)

/-- What `label_internal` (prefix `pfx`) does to a name of a tree whose pre-order name list
    is `l`: the relation of `aligned_of_trace` at `P k := mkName pfx k ∉ l`, under a name so
    that `Relab` can be stated with it. -/
def LabRel (pfx : String) (l : List String) (nm nm' : String) : Prop :=
  (isUnnamed nm = false → nm' = nm) ∧
  (isUnnamed nm = true → ∃ k, nm' = mkName pfx k ∧ mkName pfx k ∉ l)

theorem labelNames_labRel (pfx : String) (l : List String) :
    Aligned (LabRel pfx l) l (labelNames pfx l) := by
  rw [labelNames_eq]
  exact aligned_of_trace (P := fun k => mkName pfx k ∉ l) (labelGoI_rel pfx l [] 0)
    fun k hk => (labelGoI_idx pfx l [] 0 k hk).2.1

theorem labRel_keeps (pfx : String) (l : List String) :
    ∀ n n', LabRel pfx l n n' → isUnnamed n = false → n' = n := fun _ _ h => h.1

theorem labelTree_relab (pfx : String) (t : NT) :
    Relab (LabRel pfx t.names) t (labelTree pfx t) := by
  unfold labelTree
  have hlen : (labelNames pfx t.names).length = t.size := by
    rw [labelNames_length, length_names]
  refine setNames_relab t _ (by omega) ?_
  rw [List.take_of_length_le (by omega)]
  exact labelNames_labRel pfx t.names

end SR.Cli
