/-
  C14, VERTICAL code path — the rects of the branches of a species lie across inside the trunk
  with `species_branch_padding` on both sides, along the sequence axis between `trunk_overhead`
  after the start of the trunk and the end of the species' box, and the anchors of a species lie
  on the first edge of its trunk (`computeV_inside : ∀ sl ∈ all, InsideV P sl`).
-/
import SRVerif.Proofs.LayoutGeom

namespace SR.Layout

open SR

/-- `p` is a point of the closed rectangle `r` (`SR.C14.hasPoint r p.x p.y`). -/
def Rect.has (r : Rect) (p : Pos) : Prop :=
  r.x ≤ p.x ∧ p.x ≤ r.x + r.w ∧ r.y ≤ p.y ∧ p.y ≤ r.y + r.h

theorem Rect.has_tr (r : Rect) (p : Pos) : r.tr.has p.tr ↔ r.has p := by
  simp only [Rect.has, Rect.tr, Pos.tr]
  constructor
  · rintro ⟨a, b, c, d⟩; exact ⟨c, d, a, b⟩
  · rintro ⟨a, b, c, d⟩; exact ⟨c, d, a, b⟩

theorem Rect.has_mids {r : Rect} (hw : 0 ≤ r.w) (hh : 0 ≤ r.h) :
    r.has r.center ∧ r.has r.top ∧ r.has r.left ∧ r.has r.right ∧ r.has r.bottom := by
  have x1 : r.x ≤ r.x + r.w / 2 := le_add_of_nonneg_right (div_nonneg hw (by norm_num))
  have x2 : r.x + r.w / 2 ≤ r.x + r.w := by linarith
  have x3 : r.x ≤ r.x + r.w := le_add_of_nonneg_right hw
  have y1 : r.y ≤ r.y + r.h / 2 := le_add_of_nonneg_right (div_nonneg hh (by norm_num))
  have y2 : r.y + r.h / 2 ≤ r.y + r.h := by linarith
  have y3 : r.y ≤ r.y + r.h := le_add_of_nonneg_right hh
  exact ⟨⟨x1, x2, y1, y2⟩, ⟨x1, x2, le_refl _, y3⟩, ⟨le_refl _, x3, y1, y2⟩,
    ⟨x3, le_refl _, y1, y2⟩, ⟨x1, x2, y3, le_refl _⟩⟩

theorem finishBranchV_pts (off : Pos) (b : Branch) (r : Rect) (hw : 0 ≤ r.w) (hh : 0 ≤ r.h) :
    (finishBranchV off b r).rect = r.shift off ∧
    (finishBranchV off b r).rect.has (finishBranchV off b r).aParent ∧
    (finishBranchV off b r).rect.has (finishBranchV off b r).aLeft ∧
    (finishBranchV off b r).rect.has (finishBranchV off b r).aRight ∧
    (finishBranchV off b r).rect.has (finishBranchV off b r).aChild := by
  obtain ⟨c, t, l, r', bt⟩ := Rect.has_mids (r := r.shift off) hw hh
  obtain ⟨key, kind, left, right⟩ := b
  cases kind
  case loss => exact ⟨rfl, c, c, c, c⟩
  all_goals exact ⟨rfl, t, l, r', bt⟩

/-- One finished species layout (VERTICAL: across is x, the sequence axis y): its branch rects lie
    across inside the trunk and along the sequence inside the box, its anchors on the first edge of
    the trunk. -/
structure InsideV (P : Params) (sl : SubLayout) : Prop where
  left : ∀ fb ∈ sl.branches, sl.trunk.x + P.pad ≤ fb.rect.x
  right : ∀ fb ∈ sl.branches, fb.rect.x + fb.rect.w + P.pad ≤ sl.trunk.x + sl.trunk.w
  top : ∀ fb ∈ sl.branches, sl.trunk.y + P.overhead ≤ fb.rect.y
  bottom : ∀ fb ∈ sl.branches, fb.rect.y + fb.rect.h ≤ sl.rect.y + sl.rect.h
  anchors : ∀ e ∈ sl.anchors, e.2.y = sl.trunk.y ∧ sl.trunk.x + P.pad ≤ e.2.x ∧
    e.2.x + P.pad ≤ sl.trunk.x + sl.trunk.w
  pts : ∀ fb ∈ sl.branches, 0 < fb.rect.w ∧ 0 < fb.rect.h ∧ fb.rect.has fb.aParent ∧
    fb.rect.has fb.aLeft ∧ fb.rect.has fb.aRight ∧ fb.rect.has fb.aChild

/-- The branches of a species end before the end of its box for one of two reasons: the species has
    neither speciation nor loss branches, so that every branch ends before the trunk does; or it is
    internal, and its fork is thick enough for its branches (`ChildOK.dfork`, `ChildOK.fit`). -/
theorem finishV_inside {P : Params} {sizes : Key → Size} {lays : Path → Option SpLayout}
    {i : Info} {p : Path} {r : Rect} {x : SpState}
    (hpos : ∀ k, 0 < (sizes k).w ∧ 0 < (sizes k).h) (hpad : 0 ≤ P.pad)
    (io : InfoOK P lays i p) (hh : r.h = i.size.h)
    (hgood : GoodLay P sizes i.lay) (hrel : RelV x i.lay)
    (hcase : (∀ b ∈ x.branches, b.kind ≠ .spec ∧ b.kind ≠ .loss) ∨
      (i.fork = (trunkDimsV P i.lay.rects).2.2 ∧ i.trunk.h + i.fork ≤ i.size.h)) :
    InsideV P (finishV i r) := by
  have htw := io.dw
  have hth := io.dh
  have hty := io.ty
  have hthle := io.thle
  have rectOf : ∀ fb ∈ (finishV i r).branches, ∃ e ∈ i.lay.rects,
      fb.rect = e.2.shift ((i.trunk.shift r.topLeft).bottomRight) := by
    intro fb hfb
    simp only [finishV, List.mem_map] at hfb
    obtain ⟨z, hz, rfl⟩ := hfb
    refine ⟨z.2, (List.of_mem_zip hz).2, ?_⟩
    obtain ⟨⟨key, kind, left, right⟩, e⟩ := z
    cases kind <;> rfl
  refine ⟨?_, ?_, ?_, ?_, ?_, ?_⟩
  rotate_right
  · intro fb hfb
    simp only [finishV, List.mem_map] at hfb
    obtain ⟨z, hz, rfl⟩ := hfb
    obtain ⟨gw, gh, _⟩ := hgood z.2 (List.of_mem_zip hz).2
    have pw := (hpos z.2.1).1
    have ph := (hpos z.2.1).2
    obtain ⟨e1, e2, e3, e4, e5⟩ := finishBranchV_pts ((i.trunk.shift r.topLeft).bottomRight) z.1
      z.2.2 (by linarith only [gw, pw]) (by linarith only [gh, ph])
    refine ⟨?_, ?_, e2, e3, e4, e5⟩
    · rw [e1]; simp only [Rect.shift]; linarith only [gw, pw]
    · rw [e1]; simp only [Rect.shift]; linarith only [gh, ph]
  · intro fb hfb
    obtain ⟨e, he, hr⟩ := rectOf fb hfb
    have := ((trunkDimsV_spec P _).2.2 _ he).1
    rw [hr]
    simp only [finishV, Rect.shift, Rect.bottomRight, Rect.topLeft]
    linarith only [this, htw]
  · intro fb hfb
    obtain ⟨e, he, hr⟩ := rectOf fb hfb
    have := (hgood e he).2.2
    rw [hr]
    simp only [finishV, Rect.shift, Rect.bottomRight, Rect.topLeft]
    linarith only [this]
  · intro fb hfb
    obtain ⟨e, he, hr⟩ := rectOf fb hfb
    have := ((trunkDimsV_spec P _).2.2 _ he).2.1
    rw [hr]
    simp only [finishV, Rect.shift, Rect.bottomRight, Rect.topLeft]
    linarith only [this, hth]
  · intro fb hfb
    obtain ⟨e, he, hr⟩ := rectOf fb hfb
    rw [hr]
    simp only [finishV, Rect.shift, Rect.bottomRight, Rect.topLeft]
    rcases hcase with hk | ⟨hf, hsum⟩
    · have := hrel.bottom hk e he
      linarith only [this, hty, hthle, hh]
    · have := ((trunkDimsV_spec P _).2.2 _ he).2.2
      linarith only [this, hf, hsum, hty, hh, hpad]
  · intro e he
    simp only [finishV, shiftAnchors, List.mem_map] at he
    obtain ⟨e0, he0, rfl⟩ := he
    obtain ⟨rr, hr1, hr2⟩ := hrel.anch e0 he0
    have b1 := ((trunkDimsV_spec P _).2.2 _ hr1).1
    obtain ⟨gw, _, gx⟩ := hgood _ hr1
    have hwpos := (hpos e0.1).1
    simp only at gw gx b1
    rw [hr2]
    simp only [finishV, Pos.add, Rect.center, Rect.shift, Rect.topRight, Rect.topLeft]
    refine ⟨by ring, by linarith only [b1, htw, gw, hwpos], by linarith only [gx, gw, hwpos]⟩

/-- `hfork`: a species whose state holds a speciation or a loss branch has a child in `S` (for a
    valid reconciliation this is `computeBranches_wiring`).  It makes such a species internal, and
    only an internal species has a fork to make room for those branches (`finishV_inside`). -/
theorem computeV_inside {P : Params} {sizes : Key → Size} {S : RTree} {sol : Sol}
    {all : List SubLayout} (hy : Hyps P sizes) (h : computeV P sizes S sol = .ok all)
    (hfork : ∀ st, computeBranches S sol = .ok st → ∀ t b, b ∈ brs st t →
      (b.kind = .spec ∨ b.kind = .loss) → S.isNode (t ++ [0]) = true) :
    ∀ sl ∈ all, InsideV P sl := by
  have hsp := computeV_species h
  obtain ⟨st, lays, B, t, h1, h2, h3, h4, rfl⟩ := computeV_inv h
  have g := sizesV_good hy.pos hy.pad hy.overhead hy.level hy.minsp
    (fun p lay hl => layoutAllV_good st h2 hl) B [] t h4
  have hs : Sized t (Rect.makeFrom ⟨0, 0⟩ t.info.size) := ⟨rfl, rfl⟩
  intro sl hsl
  have hq1 := nodeAtV_sp g hsl
  obtain ⟨t', r', g', s', rfl, hsub⟩ := nodeAtV_split _ t [] _ sl g hs hq1
  have io := g'.info
  obtain ⟨x, hx, hlb⟩ := layoutAllV_lookup st h2 io.lay
  obtain ⟨hgood, hrel⟩ := layoutBranchesV_spec hlb
  refine finishV_inside hy.pos hy.pad io s'.h hgood hrel ?_
  cases t' with
  | node i lt rt => exact .inr ⟨g'.2.1.dfork, g'.2.1.fit g'.2.2.1.info.h hy.level⟩
  | leaf i =>
    -- a speciation or loss branch would give the species a child, which a leaf of `t` has not
    refine .inl fun b hb => ?_
    by_contra hk
    have hnode := hfork st h1 _ b (by rw [brs_of_getSp hx]; exact hb)
      (by by_contra hn; exact hk ⟨fun h => hn (.inl h), fun h => hn (.inr h)⟩)
    have hmem : (finishV i r').sp ++ [0] ∈
        (placeV t (Rect.makeFrom ⟨0, 0⟩ t.info.size)).map (·.sp) := by
      rw [hsp, RTree.mem_preorder_iff]; exact hnode
    obtain ⟨c, hc, hcsp⟩ := List.mem_map.1 hmem
    have hc1 := nodeAtV_sp g hc
    rw [hcsp] at hc1
    have : nodeAtV (.leaf i) r' [0] = some c := (hsub [0]).symm.trans hc1
    simp [nodeAtV] at this

end SR.Layout
