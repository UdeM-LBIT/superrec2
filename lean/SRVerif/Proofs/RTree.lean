/-
  Basic lemmas on rooted trees (`RTree`) seen through paths:
  `preorder` lists exactly the node paths, each once; the node paths are
  closed under taking prefixes (ancestors); the children of a node (`isNode_snoc`), in a
  binary tree two or none; `postorder` lists no node before one of its descendants, hence each once.
-/
import SRVerif.Model.Paths
import SRVerif.Proofs.Paths

namespace SR.RTree

open SR

theorem isNode_nil (t : RTree) : t.isNode [] = true := by
  simp [isNode, sub]

theorem isNode_cons (cs : List RTree) (k : Nat) (q : Path) :
    (RTree.node cs).isNode (k :: q) = true ↔ ∃ c, cs[k]? = some c ∧ c.isNode q = true := by
  simp only [isNode, sub]
  cases h : cs[k]? with
  | none => simp
  | some c => simp

theorem isNode_of_prefix : ∀ (r p : Path) (t : RTree), r <+: p → t.isNode p = true →
    t.isNode r = true := by
  intro r
  induction r with
  | nil => intro p t _ _; exact isNode_nil t
  | cons a r ih =>
    intro p t hpre hp
    cases p with
    | nil => simp at hpre
    | cons b p =>
      obtain ⟨rfl, hpre'⟩ := List.cons_prefix_cons.mp hpre
      cases t with
      | node cs =>
        rw [isNode_cons] at hp ⊢
        obtain ⟨c, hc, hq⟩ := hp
        exact ⟨c, hc, ih p c hpre' hq⟩

theorem isNode_of_isAnc {t : RTree} {r p : Path} (h : Path.isAnc r p = true)
    (hp : t.isNode p = true) : t.isNode r = true :=
  isNode_of_prefix r p t ((Path.isAnc_iff_prefix r p).mp h) hp

theorem mem_preorderList (cs : List RTree) (i : Nat) (p : Path) :
    p ∈ preorderList cs i ↔ ∃ j c q, cs[j]? = some c ∧ q ∈ preorder c ∧ p = (i + j) :: q := by
  induction cs generalizing i with
  | nil => simp [preorderList]
  | cons c cs ih =>
    simp only [preorderList, List.mem_append, List.mem_map, ih]
    constructor
    · rintro (⟨q, hq, rfl⟩ | ⟨j, c', q, hj, hq, rfl⟩)
      · exact ⟨0, c, q, rfl, hq, rfl⟩
      · exact ⟨j + 1, c', q, hj, hq, by rw [Nat.add_right_comm]; rfl⟩
    · rintro ⟨_ | j, c', q, hj, hq, rfl⟩
      · cases hj
        exact Or.inl ⟨q, hq, rfl⟩
      · exact Or.inr ⟨j, c', q, hj, hq, by rw [Nat.add_right_comm]; rfl⟩

theorem mem_preorder_iff : ∀ (p : Path) (t : RTree), p ∈ t.preorder ↔ t.isNode p = true := by
  intro p
  induction p with
  | nil =>
    intro t
    cases t with
    | node cs => simp [preorder, isNode_nil]
  | cons k q ih =>
    intro t
    cases t with
    | node cs =>
      rw [isNode_cons]
      simp only [preorder, List.mem_cons, reduceCtorEq, false_or, mem_preorderList, Nat.zero_add,
        List.cons.injEq]
      constructor
      · rintro ⟨j, c, q', hj, hq, rfl, rfl⟩
        exact ⟨c, hj, (ih c).mp hq⟩
      · rintro ⟨c, hc, hq⟩
        exact ⟨k, c, q, hc, (ih c).mpr hq, rfl, rfl⟩

mutual
  theorem nodup_preorder : ∀ t : RTree, t.preorder.Nodup
    | .node cs => by
      simp only [preorder]
      rw [List.nodup_cons]
      refine ⟨?_, nodup_preorderList cs 0⟩
      intro h
      obtain ⟨j, c, q, _, _, heq⟩ := (mem_preorderList _ _ _).mp h
      cases heq
  theorem nodup_preorderList : ∀ (cs : List RTree) (i : Nat), (preorderList cs i).Nodup
    | [], _ => by simp [preorderList]
    | c :: cs, i => by
      simp only [preorderList]
      rw [List.nodup_append]
      refine ⟨?_, nodup_preorderList cs (i + 1), ?_⟩
      · have := nodup_preorder c
        rw [List.Nodup, List.pairwise_map]
        exact this.imp (fun hne heq => hne (List.cons.inj heq).2)
      · intro a ha b hb hab
        subst hab
        obtain ⟨q, _, rfl⟩ := List.mem_map.mp ha
        obtain ⟨j, c', q', _, _, heq⟩ := (mem_preorderList cs (i + 1) _).mp hb
        have := (List.cons.inj heq).1
        omega
end

mutual
  theorem isNode_of_mem_postorder : ∀ (t : RTree) (p : Path), p ∈ t.postorder → t.isNode p = true
    | .node cs, p, h => by
      simp only [postorder, List.mem_append, List.mem_singleton] at h
      rcases h with h | rfl
      · obtain ⟨i, q, c, rfl, hc, hq⟩ := isNode_of_mem_postorderList cs 0 p h
        simp only [Nat.zero_add] at *
        simp only [isNode, sub, hc]
        exact hq
      · rfl
  theorem isNode_of_mem_postorderList : ∀ (cs : List RTree) (k : Nat) (p : Path),
      p ∈ postorderList cs k → ∃ i q c, p = (k + i) :: q ∧ cs[i]? = some c ∧ c.isNode q = true
    | [], _, p, h => by simp [postorderList] at h
    | c :: cs, k, p, h => by
      simp only [postorderList, List.mem_append, List.mem_map] at h
      rcases h with ⟨q, hq, rfl⟩ | h
      · exact ⟨0, q, c, rfl, rfl, isNode_of_mem_postorder c q hq⟩
      · obtain ⟨i, q, c', rfl, hc, hq⟩ := isNode_of_mem_postorderList cs (k + 1) p h
        exact ⟨i + 1, q, c', by simp; omega, by simpa using hc, hq⟩
end

theorem mem_postorderList (cs : List RTree) (i : Nat) (k : Nat) (c : RTree) (q : Path)
    (hc : cs[k]? = some c) (hq : q ∈ c.postorder) : (i + k) :: q ∈ postorderList cs i := by
  induction cs generalizing i k with
  | nil => simp at hc
  | cons d cs ih =>
    cases k with
    | zero =>
      simp only [List.getElem?_cons_zero, Option.some.injEq] at hc
      subst hc
      simp only [postorderList, List.mem_append, List.mem_map]
      left; exact ⟨q, hq, by simp⟩
    | succ k =>
      simp only [List.getElem?_cons_succ] at hc
      simp only [postorderList, List.mem_append]
      right
      have := ih (i + 1) k hc
      have e : i + 1 + k = i + (k + 1) := by omega
      rw [e] at this
      exact this

theorem mem_postorder_of_isNode : ∀ (p : Path) (t : RTree), t.isNode p = true → p ∈ t.postorder := by
  intro p
  induction p with
  | nil =>
    intro t _
    cases t with
    | node cs => simp [postorder]
  | cons i p ih =>
    intro t h
    cases t with
    | node cs =>
      simp only [isNode, sub] at h
      cases hc : cs[i]? with
      | none => simp [hc] at h
      | some c =>
        simp only [hc] at h
        have hq := ih c (by simpa [isNode] using h)
        simp only [postorder, List.mem_append, List.mem_singleton]
        left
        have := mem_postorderList cs 0 i c p hc hq
        simpa using this

theorem mem_postorder_iff (p : Path) (t : RTree) : p ∈ t.postorder ↔ t.isNode p = true :=
  ⟨isNode_of_mem_postorder t p, mem_postorder_of_isNode p t⟩

theorem sub_append (t : RTree) (p q : Path) : t.sub (p ++ q) = (t.sub p).bind (fun u => u.sub q) := by
  induction p generalizing t with
  | nil => simp [sub]
  | cons i p ih =>
    cases t with
    | node cs =>
      simp only [List.cons_append, sub]
      cases cs[i]? with
      | none => simp
      | some c => simpa using ih c

theorem isBinary_children {cs : List RTree} (h : (node cs).isBinary = true) :
    cs = [] ∨ ∃ a b, cs = [a, b] ∧ a.isBinary = true ∧ b.isBinary = true := by
  match cs, h with
  | [], _ => exact Or.inl rfl
  | [a, b], h =>
    simp only [isBinary, Bool.and_eq_true] at h
    exact Or.inr ⟨a, b, rfl, h.1, h.2⟩
  | [_], h => simp [isBinary] at h
  | _ :: _ :: _ :: _, h => simp [isBinary] at h

theorem isBinary_sub {t u : RTree} {p : Path} (h : t.isBinary = true) (hs : t.sub p = some u) :
    u.isBinary = true := by
  induction p generalizing t with
  | nil => simp [sub] at hs; subst hs; exact h
  | cons i p ih =>
    cases t with
    | node cs =>
      simp only [sub] at hs
      rcases isBinary_children h with rfl | ⟨a, b, rfl, ha, hb⟩
      · simp at hs
      · match i, hs with
        | 0, hs => exact ih ha (by simpa using hs)
        | 1, hs => exact ih hb (by simpa using hs)
        | (n + 2), hs => simp at hs

theorem isNode_snoc {S : RTree} {t : Path} {j : Nat} :
    S.isNode (t ++ [j]) = true ↔ ∃ cs, S.sub t = some (.node cs) ∧ j < cs.length := by
  rw [isNode, sub_append]
  cases h : S.sub t with
  | none => simp
  | some u =>
    cases u with
    | node cs =>
      simp only [Option.bind_some, sub, Option.some.injEq, RTree.node.injEq, exists_eq_left']
      cases hj : cs[j]? with
      | none => simpa using List.getElem?_eq_none_iff.1 hj
      | some c => simpa [sub] using (List.getElem?_eq_some_iff.1 hj).1

theorem not_isLeaf_of_child {S : RTree} {t : Path} {j : Nat} (h : S.isNode (t ++ [j]) = true) :
    (S.sub t).any RTree.isLeaf = false := by
  obtain ⟨cs, hs, hj⟩ := isNode_snoc.1 h
  cases cs with
  | nil => simp at hj
  | cons c cs => simp [hs, isLeaf, children]

theorem isNode_child_zero {S : RTree} {t : Path} {j : Nat} (h : S.isNode (t ++ [j]) = true) :
    S.isNode (t ++ [0]) = true := by
  obtain ⟨cs, hs, hj⟩ := isNode_snoc.1 h
  exact isNode_snoc.2 ⟨cs, hs, by omega⟩

theorem isBinary_child (t : Path) (S : RTree) (j : Nat) (hb : S.isBinary = true)
    (hn : S.isNode (t ++ [j]) = true) : j = 0 ∨ j = 1 := by
  obtain ⟨cs, hs, hj⟩ := isNode_snoc.1 hn
  rcases isBinary_children (isBinary_sub hb hs) with rfl | ⟨a, b, rfl, _, _⟩
  · simp at hj
  · simp at hj; omega

mutual
  theorem postorder_noLaterDesc : ∀ t : RTree,
      t.postorder.Pairwise fun a b => Path.isAnc a b = false
    | .node cs => by
      simp only [RTree.postorder, List.pairwise_append, List.pairwise_cons,
        List.Pairwise.nil, List.mem_singleton, and_true]
      refine ⟨postorderList_noLaterDesc cs 0, by simp, ?_⟩
      intro a ha b hb
      subst hb
      obtain ⟨j, q, _, rfl, _, _⟩ := isNode_of_mem_postorderList cs 0 a ha
      simp [Path.isAnc]
  theorem postorderList_noLaterDesc : ∀ (cs : List RTree) (i : Nat),
      (RTree.postorderList cs i).Pairwise fun a b => Path.isAnc a b = false
    | [], i => by simp [RTree.postorderList]
    | c :: cs, i => by
      simp only [RTree.postorderList, List.pairwise_append, List.pairwise_map]
      refine ⟨?_, postorderList_noLaterDesc cs (i + 1), ?_⟩
      · have := postorder_noLaterDesc c
        refine List.Pairwise.imp ?_ this
        intro a b h
        simp [Path.isAnc, h]
      · intro a ha b hb
        simp only [List.mem_map] at ha
        obtain ⟨q, _, rfl⟩ := ha
        obtain ⟨j, q', _, rfl, _, _⟩ := isNode_of_mem_postorderList cs (i + 1) b hb
        have : ¬ i = i + 1 + j := by omega
        simp [Path.isAnc, this]
end

theorem nodup_postorder (S : RTree) : S.postorder.Nodup := by
  have hp := postorder_noLaterDesc S
  refine List.Pairwise.imp ?_ hp
  intro a b h hab
  subst hab
  rw [Path.isAnc_refl] at h
  cases h

theorem child_of_isNode {S : RTree} {s : Path} {i : Nat} {rest : Path} (hb : S.isBinary = true)
    (hn : S.isNode (s ++ i :: rest) = true) :
    (i = 0 ∨ i = 1) ∧ ∃ t, S.sub s = some t ∧ t.isLeaf = false := by
  have h1 := isNode_of_prefix (s ++ [i]) _ S ⟨rest, by simp⟩ hn
  obtain ⟨cs, hs, hj⟩ := isNode_snoc.1 h1
  refine ⟨isBinary_child s S i hb h1, _, hs, ?_⟩
  cases cs with
  | nil => simp at hj
  | cons c cs => simp [isLeaf, children]

theorem isNode_of_mem_preorder : ∀ (t : RTree) (p : Path), p ∈ t.preorder → t.isNode p = true :=
  fun t p h => (mem_preorder_iff p t).mp h

theorem isNode_of_mem_preorderList : ∀ (cs : List RTree) (k : Nat) (p : Path),
      p ∈ preorderList cs k → ∃ i q c, p = (k + i) :: q ∧ cs[i]? = some c ∧ c.isNode q = true := by
  intro cs k p h
  obtain ⟨j, c, q, hj, hq, rfl⟩ := (mem_preorderList cs k p).mp h
  exact ⟨j, q, c, rfl, hj, (mem_preorder_iff q c).mp hq⟩

end SR.RTree
