/-
  The result entry fed by all pairs of refinements, under ANY (`rankOutsAny`), against the
  same entry under ALL (`rankOuts`).  `candsAll S o` are the per-input candidates of the ALL
  run (`spfsCands`, `uspfsCands`), `candsAny S o` what the same input offers under ANY.
  `Covers` is all that is needed of one refined input: under ANY it offers only ALL
  candidates, and every ALL candidate is matched by an offered one that is not more expensive
  (tables under ANY: `covers_of_rep`; every input solved to the end first: `covers_of_ranked`).
-/
import SRVerif.Model.AnyMulti
import SRVerif.Proofs.LabelDPAnyRank
import SRVerif.Proofs.BinarizeOpt

namespace SR.Bin

open SR Cost

def Covers (c : Costs) (mode : LabelMode) (o : OTree) (ca cl : List Sol) : Prop :=
  (∀ s ∈ ca, s ∈ cl) ∧ (∀ t ∈ cl, ∃ t' ∈ ca, totalCost c mode o t' ≼ totalCost c mode o t)

theorem covers_of_rep {c : Costs} {mode : LabelMode} {o : OTree} {ca cl : List Sol}
    {groups : List (List Sol)} (hcl : ∀ s, s ∈ cl ↔ ∃ g ∈ groups, s ∈ g) (hrep : RepG ca groups)
    (hu : Uniform (totalCost c mode o) groups) : Covers c mode o ca cl := by
  constructor
  · intro s hs
    exact (hcl s).mpr (hrep.1 s hs)
  · intro t ht
    obtain ⟨g, hg, htg⟩ := (hcl t).mp ht
    obtain ⟨t', ht', ht'g⟩ := hrep.2 g hg
    exact ⟨t', ht', Cost.le_of_eq (hu g hg t' ht'g t htg)⟩

theorem covers_of_ranked {c : Costs} {mode : LabelMode} {o : OTree} {ca cl : List Sol}
    (hsub : ∀ s ∈ ca, s ∈ rankByCost c mode o cl) (hne : cl ≠ [] → ca ≠ []) :
    Covers c mode o ca cl := by
  constructor
  · intro s hs
    exact ((mem_rankByCost c mode o cl s).mp (hsub s hs)).1
  · intro t ht
    obtain ⟨t', ht'⟩ := List.exists_mem_of_ne_nil _ (hne (List.ne_nil_of_mem ht))
    exact ⟨t', ht', ((mem_rankByCost c mode o cl t').mp (hsub t' ht')).2 t ht⟩

theorem Covers.nil_iff {c : Costs} {mode : LabelMode} {o : OTree} {ca cl : List Sol}
    (h : Covers c mode o ca cl) : ca = [] ↔ cl = [] := by
  simp only [List.eq_nil_iff_forall_not_mem]
  constructor
  · intro hca t ht
    obtain ⟨t', ht', _⟩ := h.2 t ht
    exact hca t' ht'
  · intro hcl s hs
    exact hcl s (h.1 s hs)

theorem multiCands_nil_congr {tO tS : NTree} {data : LeafData}
    {ca cl : RTree → OTree → List Sol}
    (h : ∀ bO ∈ binarize tO, ∀ bS ∈ binarize tS,
      (ca (shape bS.toN) (toOTree data bS bO) = [] ↔ cl (shape bS.toN) (toOTree data bS bO) = [])) :
    multiCands tO tS data ca = [] ↔ multiCands tO tS data cl = [] := by
  rw [multiCands_eq_nil, multiCands_eq_nil]
  exact ⟨fun h' bO hbO bS hbS => (h bO hbO bS hbS).mp (h' bO hbO bS hbS),
    fun h' bO hbO bS hbS => (h bO hbO bS hbS).mpr (h' bO hbO bS hbS)⟩

section

variable (c : Costs) (mode : LabelMode) (tO tS : NTree) (data : LeafData)
  (candsAny candsAll : RTree → OTree → List Sol)
  (hcov : ∀ bO ∈ binarize tO, ∀ bS ∈ binarize tS,
    Covers c mode (toOTree data bS bO) (candsAny (shape bS.toN) (toOTree data bS bO))
      (candsAll (shape bS.toN) (toOTree data bS bO)))
include hcov

theorem rank_multi_any_sub {x : Out}
    (hx : x ∈ rankOuts c mode data (multiCands tO tS data candsAny)) :
    x ∈ rankOuts c mode data (multiCands tO tS data candsAll) := by
  obtain ⟨⟨hO, hS, hs⟩, hmin⟩ := (mem_rank_multi c mode tO tS data candsAny x).mp hx
  refine (mem_rank_multi c mode tO tS data candsAll x).mpr
    ⟨⟨hO, hS, (hcov _ hO _ hS).1 _ hs⟩, ?_⟩
  intro bO hbO bS hbS t ht
  obtain ⟨t', ht', hle⟩ := (hcov bO hbO bS hbS).2 t ht
  exact Cost.le_trans (hmin bO hbO bS hbS t' ht') hle

theorem multiCands_nil_iff :
    multiCands tO tS data candsAny = [] ↔ multiCands tO tS data candsAll = [] :=
  multiCands_nil_congr fun bO hbO bS hbS => (hcov bO hbO bS hbS).nil_iff

end

theorem rankOuts_nil_iff (c : Costs) (mode : LabelMode) (data : LeafData) (outs : List Out) :
    rankOuts c mode data outs = [] ↔ outs = [] :=
  ⟨fun h => by
    cases outs with
    | nil => rfl
    | cons x xs => exact absurd h (rankOuts_ne_nil c mode data _ (List.cons_ne_nil x xs)),
   fun h => by subst h; rfl⟩

section

variable (pick : List Out → Option Out) (c : Costs) (mode : LabelMode) (data : LeafData)

theorem rankOutsAny_length_le (outs : List Out) : (rankOutsAny pick c mode data outs).length ≤ 1 :=
  Option.length_toList_le

variable (hp : PickOk pick)
include hp

theorem rankOutsAny_eq_nil_iff (outs : List Out) :
    rankOutsAny pick c mode data outs = [] ↔ outs = [] :=
  hp.toList_eq_nil_iff.trans (rankOuts_nil_iff c mode data outs)

theorem rankOutsAny_length_eq {outs : List Out} (hne : outs ≠ []) :
    (rankOutsAny pick c mode data outs).length = 1 :=
  hp.length_toList (rankOuts_ne_nil c mode data outs hne)

end

theorem rankOuts_same_cost (c : Costs) (mode : LabelMode) (data : LeafData) (outs : List Out)
    {x y : Out} (hx : x ∈ rankOuts c mode data outs) (hy : y ∈ rankOuts c mode data outs) :
    x.cost c mode data = y.cost c mode data := by
  rw [mem_rankOuts] at hx hy
  exact Cost.le_antisymm (hx.2 y hy.1) (hy.2 x hx.1)

/-! ### Which output a rule keeps

The candidates are offered pair by pair, in the order of `refinementPairs`, and `rankOuts` is
a sublist of them.  So for a rank `r` under which the pairs are sorted, `head?` (the code's
rule) keeps an output of the first pair that holds an output of the ALL run, `getLast?` one of
the last. -/

theorem rankOuts_sublist (c : Costs) (mode : LabelMode) (data : LeafData) (outs : List Out) :
    (rankOuts c mode data outs).Sublist outs := by
  obtain ⟨l', h, hs⟩ := List.foldl_addNew_eq_append_sublist
    (l := outs.filter (fun x => Out.cost c mode data x = Cost.minList (outs.map (Out.cost c mode data))))
    (acc := [])
  rw [List.nil_append] at h
  exact (show rankOuts c mode data outs = l' from h) ▸ hs.trans List.filter_sublist

section

variable (c : Costs) (mode : LabelMode) (tO tS : NTree) (data : LeafData)
  (candsAny candsAll : RTree → OTree → List Sol)
  (hcov : ∀ bO ∈ binarize tO, ∀ bS ∈ binarize tS,
    Covers c mode (toOTree data bS bO) (candsAny (shape bS.toN) (toOTree data bS bO))
      (candsAll (shape bS.toN) (toOTree data bS bO)))
  (r : BinT × BinT → Nat) (hr : (refinementPairs tO tS).Pairwise (fun p q => r p ≤ r q))

include hr in
theorem pairwise_multiCands (cands : RTree → OTree → List Sol) :
    (multiCands tO tS data cands).Pairwise
      (fun x y => r (x.oTree, x.sTree) ≤ r (y.oTree, y.sTree)) := by
  rw [multiCands, List.pairwise_flatMap]
  refine ⟨fun p _ => ?_, hr.imp fun h x hx y hy => ?_⟩
  · rw [List.pairwise_map]
    exact List.pairwise_of_forall fun _ _ => Nat.le_refl _
  · obtain ⟨_, _, rfl⟩ := List.mem_map.mp hx
    obtain ⟨_, _, rfl⟩ := List.mem_map.mp hy
    exact h

include hcov in
theorem rank_multi_any_pair {z : Out}
    (hz : z ∈ rankOuts c mode data (multiCands tO tS data candsAll)) :
    ∃ y ∈ rankOuts c mode data (multiCands tO tS data candsAny),
      (y.oTree, y.sTree) = (z.oTree, z.sTree) := by
  obtain ⟨⟨hO, hS, hs⟩, hmin⟩ := (mem_rank_multi c mode tO tS data candsAll z).mp hz
  obtain ⟨t', ht', hle⟩ := (hcov _ hO _ hS).2 _ hs
  refine ⟨{ sTree := z.sTree, oTree := z.oTree, sol := t' },
    (mem_rank_multi c mode tO tS data candsAny _).mpr ⟨⟨hO, hS, ht'⟩, ?_⟩, rfl⟩
  intro bO hbO bS hbS s hs'
  exact Cost.le_trans hle (hmin bO hbO bS hbS s ((hcov bO hbO bS hbS).1 s hs'))

include hcov hr

theorem rank_multi_any_head {x z : Out}
    (hx : x ∈ rankOutsAny List.head? c mode data (multiCands tO tS data candsAny))
    (hz : z ∈ rankOuts c mode data (multiCands tO tS data candsAll)) :
    r (x.oTree, x.sTree) ≤ r (z.oTree, z.sTree) := by
  obtain ⟨y, hy, e⟩ := rank_multi_any_pair c mode tO tS data candsAny candsAll hcov hz
  rw [← e]
  exact ((pairwise_multiCands tO tS data r hr candsAny).sublist
    (rankOuts_sublist c mode data _)).head?_le (Option.mem_toList.mp hx) hy

theorem rank_multi_any_last {x z : Out}
    (hx : x ∈ rankOutsAny List.getLast? c mode data (multiCands tO tS data candsAny))
    (hz : z ∈ rankOuts c mode data (multiCands tO tS data candsAll)) :
    r (z.oTree, z.sTree) ≤ r (x.oTree, x.sTree) := by
  obtain ⟨y, hy, e⟩ := rank_multi_any_pair c mode tO tS data candsAny candsAll hcov hz
  rw [← e]
  exact ((pairwise_multiCands tO tS data r hr candsAny).sublist
    (rankOuts_sublist c mode data _)).le_getLast? (Option.mem_toList.mp hx) hy

end

theorem rank_multi_any_head_ne_last (c : Costs) (mode : LabelMode) (tO tS : NTree) (data : LeafData)
    (caF caL candsAll : RTree → OTree → List Sol)
    (hF : ∀ bO ∈ binarize tO, ∀ bS ∈ binarize tS,
      Covers c mode (toOTree data bS bO) (caF (shape bS.toN) (toOTree data bS bO))
        (candsAll (shape bS.toN) (toOTree data bS bO)))
    (hL : ∀ bO ∈ binarize tO, ∀ bS ∈ binarize tS,
      Covers c mode (toOTree data bS bO) (caL (shape bS.toN) (toOTree data bS bO))
        (candsAll (shape bS.toN) (toOTree data bS bO)))
    (r : BinT × BinT → Nat) (hr : (refinementPairs tO tS).Pairwise (fun p q => r p ≤ r q))
    {i j : Nat}
    (hi : i ∈ (rankOuts c mode data (multiCands tO tS data candsAll)).map
      (fun x => r (x.oTree, x.sTree)))
    (hj : j ∈ (rankOuts c mode data (multiCands tO tS data candsAll)).map
      (fun x => r (x.oTree, x.sTree))) (hlt : i < j) :
    rankOutsAny List.head? c mode data (multiCands tO tS data caF) ≠
      rankOutsAny List.getLast? c mode data (multiCands tO tS data caL) := by
  intro e
  obtain ⟨z, hz, rfl⟩ := List.mem_map.mp hi
  obtain ⟨z', hz', rfl⟩ := List.mem_map.mp hj
  have hne : multiCands tO tS data caF ≠ [] := fun h0 =>
    List.ne_nil_of_mem hz ((rankOuts_nil_iff _ _ _ _).mpr
      ((multiCands_nil_iff c mode tO tS data caF candsAll hF).mp h0))
  obtain ⟨x, hx⟩ := List.exists_mem_of_length_pos (l := rankOutsAny List.head? c mode data
    (multiCands tO tS data caF)) (by rw [rankOutsAny_length_eq _ c mode data pickOk_head? hne]; decide)
  have h1 := rank_multi_any_head c mode tO tS data caF candsAll hF r hr hx hz
  have h2 := rank_multi_any_last c mode tO tS data caL candsAll hL r hr (e ▸ hx) hz'
  omega

end SR.Bin
