/-
  Validity in the ordered mode with or without a PRESCRIBED root order (`Spec.validSolPre`,
  `Spec/ValidRoot.lean`) against the oracle's solution space.

  Without a prescribed order the root synteny of a valid solution is a permutation of
  `families o`.  With a prescribed order `r` it is `r` itself, which only has to be
  duplicate-free and a common supersequence of the leaf syntenies: it may hold families that no
  leaf carries (`r ⊇ families o` replaces "permutation"; nothing below asks `r ⊆ families o`).
  On a single-leaf input a solution valid under `r` exists only when `r` is the leaf synteny,
  while the oracle's leaf cell ignores the root order: hence `hleaf` in `validPre_of_feasible`
  and the guard `C02.RootsOk` of the link `adequate_ord`.
-/
import SRVerif.Proofs.OptAdequacyMask
import SRVerif.Proofs.RootOrders
import SRVerif.Spec.ValidRoot

namespace SR.Spec

open SR Cost Path

theorem validSolPre_iff (o : OTree) (r : List Nat) (sol : Sol) :
    validSolPre .ordered o (some r) sol = true ↔
      validRec o sol = true ∧ validOrdLabels o sol = true ∧ sol.fam = r ∧ r.Nodup := by
  simp only [validSolPre, Bool.and_eq_true, beq_iff_eq, length_dedup_iff_nodup, and_assoc]

theorem validSolPre_none (mode : LabelMode) (o : OTree) (sol : Sol) :
    validSolPre mode o none sol = validSol mode o sol := by
  cases mode <;> rfl

theorem validSolPre_iff_rootOrder (o : OTree) (pre : Option (List Nat)) (sol : Sol) :
    validSolPre .ordered o pre sol = true ↔
      validRec o sol = true ∧ validOrdLabels o sol = true ∧ sol.fam ∈ rootOrders o pre ∧
        sol.fam.Nodup := by
  cases pre with
  | none =>
    rw [validSolPre_none, validSol_iff_rootOrder]
    refine ⟨fun ⟨hv, hl, ho⟩ => ⟨hv, hl, ho, ?_⟩, fun ⟨hv, hl, ho, _⟩ => ⟨hv, hl, ho⟩⟩
    exact (length_dedup_iff_nodup _).mp (by simpa using (rootOrders_perm o _ ho).2)
  | some r =>
    rw [validSolPre_iff]
    simp only [rootOrders, List.mem_singleton]
    exact ⟨fun ⟨hv, hl, hf, hnd⟩ => ⟨hv, hl, hf, hf ▸ hnd⟩,
      fun ⟨hv, hl, hf, hnd⟩ => ⟨hv, hl, hf, hf ▸ hnd⟩⟩

theorem validPre_root_sup (o : OTree) (r : List Nat) (sol : Sol)
    (hv : validSolPre .ordered o (some r) sol = true) :
    r.Nodup ∧ (∀ f ∈ leafSyntenies o, f.Sublist r) ∧ ∀ x ∈ families o, x ∈ r := by
  obtain ⟨_, hl, hfam, hnd⟩ := (validSolPre_iff o r sol).mp hv
  have hsup : ∀ f ∈ leafSyntenies o, f.Sublist r := fun f hf => hfam ▸ leaf_sublist_root o sol hl f hf
  exact ⟨hnd, hsup, families_subset_of_sup o r hsup⟩

theorem root_eq_of_validPre (o : OTree) (r : List Nat) (sol : Sol)
    (hv : validSolPre .ordered o (some r) sol = true) : ∀ sp f, o = .leaf sp f → r = f := by
  intro sp f ho
  subst ho
  obtain ⟨_, hl, hfam, _⟩ := (validSolPre_iff _ r sol).mp hv
  cases sol with
  | node s g sl sr => simp [validOrdLabels] at hl
  | leaf s g =>
    simp only [validOrdLabels, beq_iff_eq] at hl
    rw [← hfam, hl]; rfl

theorem specCost_ordered_eq_totalCost (c : Costs) (o : OTree) (sol : Sol)
    (hv : validRec o sol = true) (hl : validOrdLabels o sol = true) :
    specCost c (.ordered sol.fam) o [] sol = totalCost c .ordered o sol := by
  rw [specCost_ordered c sol.fam o o [] sol hv hl, totalCost_eq_ordEval]

theorem feasible_of_valid_root (S : RTree) (base : Bool) (o : OTree) (pre : Option (List Nat))
    (sol : Sol) (hv : validRec o sol = true) (hl : validOrdLabels o sol = true)
    (ho : sol.fam ∈ rootOrders o pre) (hs : SpeciesOk S base o sol) :
    .ordered sol.fam ∈ modeDatas .ordered o pre ∧ Feasible S (.ordered sol.fam) base o [] o sol :=
  ⟨List.mem_map.mpr ⟨_, ho, rfl⟩, feasible_of_valid S base sol.fam o o [] sol hv hl hs (by simp [labelSpace])⟩

theorem validPre_of_feasible (c : Costs) (S : RTree) (base : Bool) (o : OTree)
    (pre : Option (List Nat)) {order : List Nat} (ho : order ∈ rootOrders o pre)
    (hnd : order.Nodup) (hleaf : ∀ sp f, o = .leaf sp f → order = f) (sol : Sol)
    (hf : Feasible S (.ordered order) base o [] o sol)
    (hfin : specCost c (.ordered order) o [] sol ≠ .inf) :
    validSolPre .ordered o pre sol = true ∧ SpeciesOk S base o sol ∧ sol.fam = order := by
  obtain ⟨hv, hl, hs⟩ := valid_of_feasible c S base order o o [] sol hf hfin
  have hfam : sol.fam = order := by
    cases o with
    | node l r' =>
      cases sol with
      | leaf s g => simp [Feasible] at hf
      | node s g sl sr =>
        simp only [Feasible, labelSpace, List.isEmpty_nil, if_true, List.mem_singleton] at hf
        exact hf.2.1
    | leaf sp f =>
      cases sol with
      | node s g sl sr => simp [Feasible] at hf
      | leaf s g =>
        simp only [Feasible, leafLabel] at hf
        rw [hleaf sp f rfl]; exact hf.2
  exact ⟨(validSolPre_iff_rootOrder o pre sol).mpr ⟨hv, hl, hfam ▸ ho, hfam ▸ hnd⟩, hs, hfam⟩

/-- What the oracle needs of the root orders to be attained by VALID solutions: each is
    duplicate-free, and for a single-leaf input it is the leaf's synteny (the oracle's leaf cell
    ignores the root order). -/
def _root_.SR.C02.RootsOk (o : OTree) (pre : Option (List Nat)) : Prop :=
  ∀ order ∈ rootOrders o pre, order.Nodup ∧ ∀ sp f, o = .leaf sp f → order = f

theorem _root_.SR.C02.rootsOk_none (o : OTree) : C02.RootsOk o none := fun order ho =>
  ⟨(length_dedup_iff_nodup _).mp (by simpa using (rootOrders_perm o _ ho).2),
    fun _ _ h => rootOrders_leaf (h ▸ ho)⟩

theorem _root_.SR.C02.rootsOk_some {o : OTree} {r : List Nat} (hnd : r.Nodup)
    (hleaf : ∀ sp f, o = .leaf sp f → r = f) : C02.RootsOk o (some r) := by
  intro order ho
  cases List.mem_singleton.mp ho
  exact ⟨hnd, hleaf⟩

/-- A valid solution witnesses `RootsOk`: the guard costs nothing wherever one is at hand. -/
theorem _root_.SR.C02.rootsOk_of_valid {o : OTree} {pre : Option (List Nat)} {sol : Sol}
    (hv : validSolPre .ordered o pre sol = true) : C02.RootsOk o pre := by
  cases pre with
  | none => exact C02.rootsOk_none o
  | some r =>
    exact C02.rootsOk_some ((validSolPre_iff o r sol).mp hv).2.2.2 (root_eq_of_validPre o r sol hv)

/-- The ordered mode, with or without a prescribed root order; the oracle's labels need no
    normal form. -/
theorem adequate_ord (c : Costs) (S : RTree) (base : Bool) (o : OTree) (pre : Option (List Nat))
    (hok : C02.RootsOk o pre) : Adequate c S .ordered base o pre
    (fun sol => validSolPre .ordered o pre sol = true ∧ SpeciesOk S base o sol) (fun _ => True) id where
  into sol hv := by
    obtain ⟨hvr, hl, ho, _⟩ := (validSolPre_iff_rootOrder o pre sol).mp hv.1
    obtain ⟨hmd, hf⟩ := feasible_of_valid_root S base o pre sol hvr hl ho hv.2
    exact ⟨_, hmd, hf, specCost_ordered_eq_totalCost c o sol hvr hl⟩
  fix _ _ := rfl
  out md hmd sol hf hfin := by
    obtain ⟨order, ho, rfl⟩ := List.mem_map.mp hmd
    obtain ⟨hv, hs, hfam⟩ :=
      validPre_of_feasible c S base o pre ho (hok order ho).1 (hok order ho).2 sol hf hfin
    obtain ⟨hvr, hl, _⟩ := (validSolPre_iff_rootOrder o pre sol).mp hv
    exact ⟨⟨hv, hs⟩, trivial, by rw [← specCost_ordered_eq_totalCost c o sol hvr hl, hfam]⟩

end SR.Spec
