/-
  The drawing-call model (`Model/TikzDraw.lean`).  What a successful iteration of the branch loop
  emits (`drawBranch_ok`, `Drawn`), what a successful `drawSpecies` emits (`drawSpecies_ok`) and
  where a call of `drawCalls` comes from (`origin_of_mem`); both loops are `loopE`.  Against the
  statement-kind model of `Model/Layout.lean` (`Layout.drawBranch`, `Layout.drawAll`): projecting
  every drawing call to its `Layout.Stmt` gives exactly what that model emits, errors included,
  on species that are leaves with a printable label or have two children with a layout
  (`SpeciesOK`, from binarity: `speciesOK_of_binary`).  `leafPos`, `lossPos`: `leaf_pos` and `loss_pos`
  of the code.
-/
import SRVerif.Model.TikzDraw
import SRVerif.Proofs.RTree
import SRVerif.Proofs.LayoutState

namespace SR.TikzDraw

open SR SR.Layout SR.Tikz

/-- `Except.map` at the error type `LErr`, as a `match`: `mapE_ok`, `mapE_error` hold by `rfl`. -/
def mapE {α β : Type} (f : α → β) : Except LErr α → Except LErr β
  | .ok a => .ok (f a)
  | .error e => .error e

@[simp] theorem mapE_ok {α β : Type} (f : α → β) (a : α) : mapE f (.ok a) = .ok (f a) := rfl
@[simp] theorem mapE_error {α β : Type} (f : α → β) (e : LErr) :
    mapE f (.error e : Except LErr α) = .error e := rfl

theorem stmtOf_anchorCall (deco : Deco) (lay : SubLayout) (b : FBranch) :
    (anchorCall deco lay b).filterMap stmtOf =
      if hasKey lay.anchors b.key then [Stmt.path] else [] := by
  unfold anchorCall hasKey
  cases lookupKey lay.anchors b.key <;> simp [stmtOf]

theorem anchorIn_eq (l : Option SubLayout) (k : Option Key) :
    anchorIn l k = mapE (fun _ => ()) (anchorPos l k) := by
  unfold anchorIn anchorPos hasKey
  cases l <;> cases k <;> simp
  rename_i l k
  cases lookupKey l.anchors k <;> simp

theorem branchIn_eq (l : SubLayout) (k : Option Key) :
    branchIn l k = mapE (fun _ => ()) (branchParentAnchor l k) := by
  unfold branchIn branchParentAnchor
  cases k <;> simp
  rename_i k
  cases fbLookup l.branches k <;> simp


theorem drawBranch_stmts (o : Orientation) (dp : DParams) (deco : Deco) (all : List SubLayout)
    (spOf : Path → Option Path) (lay : SubLayout) (ll rl : Option SubLayout) (b : FBranch) :
    mapE (List.filterMap stmtOf) (drawBranch o dp deco all spOf lay ll rl b) =
      Layout.drawBranch all spOf lay ll rl b := by
  have hpre := stmtOf_anchorCall deco lay b
  -- `anchorIn_eq`, `branchIn_eq`: the look-ups of the kind model are those of the call model with the
  -- position forgotten, so both sides split on the same look-ups
  unfold drawBranch Layout.drawBranch
  cases hk : b.kind with
  | leaf =>
    simp only [mapE_ok, List.filterMap_append, hpre]
    simp [stmtOf]
  | loss =>
    simp only [anchorIn_eq]
    cases hr : b.right.isNone with
    | true =>
      simp only [if_true]
      cases anchorPos ll b.left with
      | error e => simp
      | ok k => simp [List.filterMap_append, hpre, stmtOf]
    | false =>
      simp only [Bool.false_eq_true, if_false]
      cases anchorPos rl b.right with
      | error e => simp
      | ok k => simp [List.filterMap_append, hpre, stmtOf]
  | spec =>
    simp only [anchorIn_eq]
    cases anchorPos ll b.left with
    | error e => simp
    | ok la =>
      cases anchorPos rl b.right with
      | error e => simp
      | ok ra => simp [List.filterMap_append, hpre, stmtOf]
  | dup =>
    simp only [branchIn_eq]
    cases branchParentAnchor lay b.left with
    | error e => simp
    | ok la =>
      cases branchParentAnchor lay b.right with
      | error e => simp
      | ok ra => simp [List.filterMap_append, hpre, stmtOf]
  | hgt =>
    simp only [branchIn_eq]
    cases hr : b.right with
    | none => simp
    | some k =>
      cases k with
      | loss g s => simp
      | gene g =>
        simp only
        cases spOf g with
        | none => simp
        | some s =>
          simp only
          cases slLookup all s with
          | none => simp
          | some fl =>
            simp only [hasKey]
            obtain hf | ⟨foreign, hf⟩ : lookupKey fl.anchors (Key.gene g) = none ∨
                ∃ p, lookupKey fl.anchors (Key.gene g) = some p := by
              cases lookupKey fl.anchors (Key.gene g) <;> simp
            · simp [hf]
            · simp only [hf, Option.isSome_some, if_true]
              cases branchParentAnchor lay b.left with
              | error e => simp
              | ok la => simp [List.filterMap_append, hpre, stmtOf, hasKey]


/-- Statement `k` made for branch `b` of `lay` (`call` in `drawBranch`): every one of them starts
    with the branch's colour. -/
@[simp] def branchStmt (deco : Deco) (lay : SubLayout) (b : FBranch) (k : Nat) (fills : List DFill)
    (target : Option Key := none) : DrawCall :=
  { stmt := k, sp := lay.sp, owner := some b.key,
    fills := .color (deco.color lay.sp b.key) :: fills, target := target }

/-- `leaf_pos` -/
def leafPos (o : Orientation) (dp : DParams) (b : FBranch) : Pos :=
  match o with
  | .vertical => b.rect.top.add ⟨0, dp.geneDiameter / 2⟩
  | .horizontal => b.rect.left.add ⟨dp.geneDiameter / 2, 0⟩

/-- `loss_pos`: level with the branch, on the edge of the trunk away from the surviving child. -/
def lossPos (o : Orientation) (lay : SubLayout) (b : FBranch) : Pos :=
  if b.right.isNone then
    match o with
    | .vertical => ⟨lay.trunk.right.x, b.rect.center.y⟩
    | .horizontal => ⟨b.rect.center.x, lay.trunk.bottom.y⟩
  else
    match o with
    | .vertical => ⟨lay.trunk.left.x, b.rect.center.y⟩
    | .horizontal => ⟨b.rect.center.x, lay.trunk.top.y⟩

theorem mem_anchorCall {deco : Deco} {lay : SubLayout} {b : FBranch} {c : DrawCall}
    (h : c ∈ anchorCall deco lay b) :
    ∃ a, c = branchStmt deco lay b 2 [.coord b.aParent, .coord a] := by
  unfold anchorCall at h
  split at h
  · exact ⟨_, List.mem_singleton.1 h⟩
  · cases h

/-- The statements of a successful iteration after the optional anchor statement, by kind of
    branch.  The positions `keep`, `la`, `ra`, `out` are arbitrary (what the look-ups returned is not
    recorded); for a transfer the foreign layout and anchor are tied to their look-ups (`hfl`, `hf`). -/
inductive Drawn (o : Orientation) (dp : DParams) (deco : Deco) (all : List SubLayout)
    (spOf : Path → Option Path) (lay : SubLayout) (b : FBranch) : List DrawCall → Prop
  | leaf (hk : b.kind = .leaf) : Drawn o dp deco all spOf lay b
      [branchStmt deco lay b 3 [.text (deco.name lay.sp b.key), .coord (leafPos o dp b)]]
  | loss (hk : b.kind = .loss) (keep : Pos) : Drawn o dp deco all spOf lay b
      [branchStmt deco lay b 4 [.coord b.rect.center, .coord (lossPos o lay b)],
       branchStmt deco lay b 5 [.coord (lossPos o lay b)],
       branchStmt deco lay b 6 [.coord b.rect.center, .text (forkLinks o).2, .coord keep]]
  | spec (hk : b.kind = .spec) (la ra : Pos) : Drawn o dp deco all spOf lay b
      [branchStmt deco lay b 7 [.coord la, .text (forkLinks o).1, .coord b.aLeft, .coord b.aRight,
         .text (forkLinks o).2, .coord ra],
       branchStmt deco lay b 8 [.coord b.rect.center, .text (deco.name lay.sp b.key)]]
  | dup (hk : b.kind = .dup) (la ra : Pos) : Drawn o dp deco all spOf lay b
      [branchStmt deco lay b 9 [.coord la, .text (forkLinks o).1, .coord b.aLeft, .coord b.aRight,
         .text (forkLinks o).2, .coord ra],
       branchStmt deco lay b 10 [.coord b.rect.center, .text (deco.name lay.sp b.key)]]
  | hgt (hk : b.kind = .hgt) (g s : Path) (fl : SubLayout) (foreign la out : Pos) (bend : Str)
      (hr : b.right = some (.gene g)) (hs : spOf g = some s) (hfl : slLookup all s = some fl)
      (hf : lookupKey fl.anchors (.gene g) = some foreign)
      (hbend : bend ∈ [bendRight, bendLeft, bendUp, bendDown]) : Drawn o dp deco all spOf lay b
      [branchStmt deco lay b 11 [.coord la, .coord b.aChild],
       branchStmt deco lay b 12 [.coord out, .text bend, .coord foreign] (some (.gene g)),
       branchStmt deco lay b 13 [.coord b.rect.center,
         .text (if (deco.name lay.sp b.key).isEmpty then phantomDash else deco.name lay.sp b.key)]]

theorem drawBranch_ok {o : Orientation} {dp : DParams} {deco : Deco}
    {all : List SubLayout} {spOf : Path → Option Path} {lay : SubLayout}
    {ll rl : Option SubLayout} {b : FBranch} {cs : List DrawCall}
    (h : drawBranch o dp deco all spOf lay ll rl b = .ok cs) :
    ∃ body, cs = anchorCall deco lay b ++ body ∧ Drawn o dp deco all spOf lay b body := by
  unfold drawBranch at h
  cases hk : b.kind with
  | leaf =>
    simp only [hk, Except.ok.injEq] at h
    exact ⟨_, h.symm, .leaf hk⟩
  | loss =>
    simp only [hk] at h
    split at h
    · cases h
    · rename_i keep lossP hkeep
      simp only [Except.ok.injEq] at h
      have hl : lossP = lossPos o lay b := by
        unfold lossPos
        split at hkeep
        · rename_i hn
          rw [if_pos hn]
          split at hkeep <;> cases hkeep
          rfl
        · rename_i hn
          rw [if_neg hn]
          split at hkeep <;> cases hkeep
          rfl
      subst hl
      exact ⟨_, h.symm, .loss hk keep⟩
  | spec =>
    simp only [hk] at h
    split at h
    · simp only [Except.ok.injEq] at h
      exact ⟨_, h.symm, .spec hk _ _⟩
    · cases h
    · cases h
  | dup =>
    simp only [hk] at h
    split at h
    · simp only [Except.ok.injEq] at h
      exact ⟨_, h.symm, .dup hk _ _⟩
    · cases h
    · cases h
  | hgt =>
    simp only [hk] at h
    split at h
    · rename_i g hr
      split at h
      · cases h
      · rename_i s hs
        split at h
        · cases h
        · rename_i fl hfl
          split at h
          · cases h
          · rename_i foreign hf
            split at h
            · cases h
            · simp only [Except.ok.injEq] at h
              refine ⟨_, h.symm, .hgt hk g s fl foreign _ _ _ hr hs hfl hf ?_⟩
              cases o <;> simp only [] <;> split <;> simp
    · cases h

theorem forall_mem_pair {α : Type} {P : α → Prop} {a b : α} (ha : P a) (hb : P b) :
    ∀ c ∈ [a, b], P c := by
  simp [ha, hb]

theorem forall_mem_triple {α : Type} {P : α → Prop} {a b c : α} (ha : P a) (hb : P b) (hc : P c) :
    ∀ x ∈ [a, b, c], P x := by
  simp [ha, hb, hc]

/-- A property of every call of a successful iteration: check it on the anchor statement and on each
    form of `Drawn`.  `drawBranch_callOK`, `drawBranch_safe`, `drawBranch_branchCall`, `drawBranch_placed`
    go through it. -/
theorem forall_mem_drawBranch {P : DrawCall → Prop} {o : Orientation} {dp : DParams} {deco : Deco}
    {all : List SubLayout} {spOf : Path → Option Path} {lay : SubLayout}
    {ll rl : Option SubLayout} {b : FBranch} {cs : List DrawCall}
    (h : drawBranch o dp deco all spOf lay ll rl b = .ok cs)
    (hanchor : ∀ a, P (branchStmt deco lay b 2 [.coord b.aParent, .coord a]))
    (hbody : ∀ body, Drawn o dp deco all spOf lay b body → ∀ c ∈ body, P c) : ∀ c ∈ cs, P c := by
  obtain ⟨body, rfl, hd⟩ := drawBranch_ok h
  intro c hc
  rcases List.mem_append.1 hc with hc | hc
  · obtain ⟨a, rfl⟩ := mem_anchorCall hc
    exact hanchor a
  · exact hbody body hd c hc

theorem drawBranches_stmts (o : Orientation) (dp : DParams) (deco : Deco) (all : List SubLayout)
    (spOf : Path → Option Path) (lay : SubLayout) (ll rl : Option SubLayout) (bs : List FBranch) :
    mapE (List.filterMap stmtOf) (drawBranches o dp deco all spOf lay ll rl bs) =
      Layout.drawBranches all spOf lay ll rl bs := by
  induction bs with
  | nil => rfl
  | cons b rest ih =>
    unfold drawBranches Layout.drawBranches
    rw [← ih, ← drawBranch_stmts o dp deco all spOf lay ll rl b]
    cases drawBranch o dp deco all spOf lay ll rl b with
    | error e => simp
    | ok a =>
      cases drawBranches o dp deco all spOf lay ll rl rest with
      | error e => simp
      | ok r => simp [List.filterMap_append]

theorem slLookup_sp {all : List SubLayout} {s : Path} {lay : SubLayout}
    (h : slLookup all s = some lay) : lay.sp = s := by
  rw [slLookup_eq_find?] at h
  exact List.key_eq_of_find?_eq_some h

theorem slLookup_mem {all : List SubLayout} {s : Path} {lay : SubLayout}
    (h : slLookup all s = some lay) : lay ∈ all := by
  rw [slLookup_eq_find?] at h
  exact List.mem_of_find?_eq_some h

theorem slLookup_of_nodup {all : List SubLayout} (hn : (all.map (·.sp)).Nodup) {lay : SubLayout}
    (h : lay ∈ all) : slLookup all lay.sp = some lay := by
  rw [slLookup_eq_find?]
  exact List.find?_key_eq_some_of_nodup hn h

theorem stmtOf_of_owner_none (c : DrawCall) (h : c.owner = none) : stmtOf c = none := by
  simp [stmtOf, h]

theorem forkInner_stmt (o : Orientation) (dp : DParams) (lay l r : SubLayout) :
    (forkInner o dp lay l r).stmt = 0 := rfl

theorem forkLeaf_ok (o : Orientation) (dp : DParams) (deco : Deco) (lay : SubLayout)
    (h : (speciesLabel dp.labelWidth (deco.spName lay.sp)).isSome = true) :
    ∃ f, forkLeaf o dp deco lay = .ok f ∧ f.owner = none := by
  obtain ⟨label, hlabel⟩ := Option.isSome_iff_exists.1 h
  unfold forkLeaf
  simp only [hlabel]
  exact ⟨_, rfl, rfl⟩

theorem forkLeaf_inv {o : Orientation} {dp : DParams} {deco : Deco} {lay : SubLayout} {f : DrawCall}
    (h : forkLeaf o dp deco lay = .ok f) :
    ∃ label p1 p2 p3 p4, speciesLabel dp.labelWidth (deco.spName lay.sp) = some label ∧
      f = { stmt := 1, sp := lay.sp, owner := none, fills := [.text dp.rounding, .coord p1,
        .coord p2, .text label, .coord p3, .coord p4] } := by
  unfold forkLeaf at h
  cases hlab : speciesLabel dp.labelWidth (deco.spName lay.sp) with
  | none => simp [hlab] at h
  | some label =>
    simp only [hlab, Except.ok.injEq] at h
    exact ⟨label, _, _, _, _, rfl, h.symm⟩

theorem forkLeaf_owner {o : Orientation} {dp : DParams} {deco : Deco} {lay : SubLayout}
    {f : DrawCall} (h : forkLeaf o dp deco lay = .ok f) :
    f.owner = none ∧ f.stmt = 1 ∧ f.sp = lay.sp := by
  obtain ⟨_, _, _, _, _, _, rfl⟩ := forkLeaf_inv h
  exact ⟨rfl, rfl, rfl⟩

/-- What `render` needs of the species at path `s` besides its layout: a leaf species has a printable
    label (`balanced_wrap` does not raise), an internal one has exactly two children, both with a
    layout. -/
def SpeciesOK (dp : DParams) (deco : Deco) (S : RTree) (all : List SubLayout) (s : Path) : Prop :=
  ((S.sub s).map RTree.children = some [] ∧
      (speciesLabel dp.labelWidth (deco.spName s)).isSome = true) ∨
  (∃ a b, (S.sub s).map RTree.children = some [a, b] ∧
      (slLookup all (s ++ [0])).isSome = true ∧ (slLookup all (s ++ [1])).isSome = true)

theorem any_isLeaf_of_children {S : RTree} {s : Path} {cs : List RTree}
    (h : (S.sub s).map RTree.children = some cs) : (S.sub s).any RTree.isLeaf = cs.isEmpty := by
  cases hsub : S.sub s with
  | none => simp [hsub] at h
  | some t =>
    simp only [hsub, Option.map_some, Option.some.injEq] at h
    simp [RTree.isLeaf, h]

/-- One species: the statement kinds of the drawing calls are those `Layout.drawAll` emits for
    the species (the fork statement has no kind). -/
theorem drawSpecies_stmts (o : Orientation) (dp : DParams) (deco : Deco) (S : RTree)
    (spOf : Path → Option Path) (all : List SubLayout) (s : Path) (lay : SubLayout)
    (hl : slLookup all s = some lay) (hs : SpeciesOK dp deco S all s) :
    mapE (List.filterMap stmtOf) (drawSpecies o dp deco S spOf all s) =
      Layout.drawBranches all spOf lay
        (if (S.sub lay.sp).any RTree.isLeaf then none else slLookup all (lay.sp ++ [0]))
        (if (S.sub lay.sp).any RTree.isLeaf then none else slLookup all (lay.sp ++ [1]))
        lay.branches := by
  have hsp := slLookup_sp hl
  subst hsp
  unfold drawSpecies
  simp only [hl]
  rcases hs with ⟨hc, hlab⟩ | ⟨a, b, hc, h0, h1⟩
  · have hleaf := any_isLeaf_of_children hc
    simp only [hc, hleaf, List.isEmpty_nil, if_true]
    rw [← drawBranches_stmts o dp deco all spOf lay none none lay.branches]
    obtain ⟨f, hf, hfo⟩ := forkLeaf_ok o dp deco lay hlab
    simp only [hf]
    cases drawBranches o dp deco all spOf lay none none lay.branches with
    | error e => simp
    | ok bs => simp [stmtOf_of_owner_none f hfo]
  · have hleaf := any_isLeaf_of_children hc
    obtain ⟨l, hl0⟩ := Option.isSome_iff_exists.1 h0
    obtain ⟨r, hr1⟩ := Option.isSome_iff_exists.1 h1
    simp only [hc, hleaf, hl0, hr1, List.isEmpty_cons, Bool.false_eq_true, if_false]
    rw [← drawBranches_stmts o dp deco all spOf lay (some l) (some r) lay.branches]
    cases drawBranches o dp deco all spOf lay (some l) (some r) lay.branches with
    | error e => simp
    | ok bs => simp [stmtOf_of_owner_none (forkInner o dp lay l r) rfl]

theorem drawSpeciesList_stmts (o : Orientation) (dp : DParams) (deco : Deco) (S : RTree)
    (sol : Sol) (all : List SubLayout) :
    ∀ (ls : List SubLayout), (∀ lay ∈ ls, slLookup all lay.sp = some lay) →
      (∀ lay ∈ ls, SpeciesOK dp deco S all lay.sp) →
      mapE (List.filterMap stmtOf)
          (drawSpeciesList o dp deco S (spOfSol sol) all (ls.map (·.sp))) =
        Layout.drawAll S sol all ls := by
  intro ls
  induction ls with
  | nil => intro _ _; rfl
  | cons lay rest ih =>
    intro h1 h2
    simp only [List.map_cons]
    unfold drawSpeciesList Layout.drawAll
    simp only
    rw [← ih (fun l hl => h1 l (List.mem_cons_of_mem _ hl))
        (fun l hl => h2 l (List.mem_cons_of_mem _ hl)),
      ← drawSpecies_stmts o dp deco S (spOfSol sol) all lay.sp lay (h1 lay (by simp))
        (h2 lay (by simp))]
    cases drawSpecies o dp deco S (spOfSol sol) all lay.sp with
    | error e => simp
    | ok a =>
      cases drawSpeciesList o dp deco S (spOfSol sol) all (rest.map (·.sp)) with
      | error e => simp
      | ok r => simp [List.filterMap_append]


theorem speciesOK_of_binary (dp : DParams) (deco : Deco) (S : RTree) (all : List SubLayout)
    (hb : S.isBinary = true) (hsp : all.map (·.sp) = S.preorder)
    (hlab : ∀ s, (speciesLabel dp.labelWidth (deco.spName s)).isSome = true)
    (s : Path) (hs : s ∈ S.preorder) : SpeciesOK dp deco S all s := by
  have hnode := (RTree.mem_preorder_iff s S).1 hs
  simp only [RTree.isNode] at hnode
  obtain ⟨t, ht⟩ := Option.isSome_iff_exists.1 hnode
  have htb := RTree.isBinary_sub hb ht
  cases t with
  | node cs =>
    rcases RTree.isBinary_children htb with rfl | ⟨a, b, rfl, _, _⟩
    · exact Or.inl ⟨by simp [ht, RTree.children], hlab s⟩
    · refine Or.inr ⟨a, b, by simp [ht, RTree.children], ?_, ?_⟩
      · have : (s ++ [0]) ∈ all.map (·.sp) := by
          rw [hsp, RTree.mem_preorder_iff]
          exact RTree.isNode_snoc.2 ⟨_, ht, by simp⟩
        obtain ⟨l, hl, _⟩ := slLookup_of_mem this
        simp [hl]
      · have : (s ++ [1]) ∈ all.map (·.sp) := by
          rw [hsp, RTree.mem_preorder_iff]
          exact RTree.isNode_snoc.2 ⟨_, ht, by simp⟩
        obtain ⟨l, hl, _⟩ := slLookup_of_mem this
        simp [hl]

/-- On a layout that has exactly one entry per species of a binary species tree, in
    pre-order (what `layout.compute` returns: `C14_species`), the statement kinds of the drawing
    calls are exactly the statements of `Layout.drawAll` — same statements, same order, and the
    same exception when a dictionary look-up fails. -/
theorem drawCalls_stmts (o : Orientation) (dp : DParams) (deco : Deco) (S : RTree) (sol : Sol)
    (all : List SubLayout) (hb : S.isBinary = true) (hsp : all.map (·.sp) = S.preorder)
    (hlab : ∀ s, (speciesLabel dp.labelWidth (deco.spName s)).isSome = true) :
    mapE (List.filterMap stmtOf) (drawCalls o dp deco S (spOfSol sol) all) =
      Layout.drawAll S sol all all := by
  unfold drawCalls
  rw [← hsp]
  apply drawSpeciesList_stmts
  · intro lay hl
    exact slLookup_of_nodup (by rw [hsp]; exact RTree.nodup_preorder S) hl
  · intro lay hl
    exact speciesOK_of_binary dp deco S all hb hsp hlab lay.sp
      (by rw [← hsp]; exact List.mem_map_of_mem hl)


/-- A call made by `_tikz_draw_fork`, or by one iteration of the branch loop. -/
inductive Origin (o : Orientation) (dp : DParams) (deco : Deco) (S : RTree)
    (spOf : Path → Option Path) (all : List SubLayout) (c : DrawCall) : Prop where
  | leafFork (lay : SubLayout) (hs : lay.sp ∈ S.preorder) (hl : slLookup all lay.sp = some lay)
      (hf : forkLeaf o dp deco lay = .ok c)
  | innerFork (lay l r : SubLayout) (hs : lay.sp ∈ S.preorder)
      (hl : slLookup all lay.sp = some lay) (h0 : slLookup all (lay.sp ++ [0]) = some l)
      (h1 : slLookup all (lay.sp ++ [1]) = some r) (hc : c = forkInner o dp lay l r)
  | branch (lay : SubLayout) (ll rl : Option SubLayout) (b : FBranch) (cs : List DrawCall)
      (hs : lay.sp ∈ S.preorder) (hl : slLookup all lay.sp = some lay) (hb : b ∈ lay.branches)
      (hd : drawBranch o dp deco all spOf lay ll rl b = .ok cs) (hc : c ∈ cs)

/-- `for x in xs: out += f(x)`, up to the first exception: the shape of the branch loop and of the
    species loop. -/
def loopE {α β : Type} (f : α → Except LErr (List β)) : List α → Except LErr (List β)
  | [] => .ok []
  | x :: rest =>
    match f x with
    | .error e => .error e
    | .ok a =>
      match loopE f rest with
      | .error e => .error e
      | .ok r => .ok (a ++ r)

theorem drawBranches_eq_loopE (o : Orientation) (dp : DParams) (deco : Deco) (all : List SubLayout)
    (spOf : Path → Option Path) (lay : SubLayout) (ll rl : Option SubLayout) (bs : List FBranch) :
    drawBranches o dp deco all spOf lay ll rl bs =
      loopE (drawBranch o dp deco all spOf lay ll rl) bs := by
  induction bs with
  | nil => rfl
  | cons b rest ih =>
    simp only [drawBranches, loopE, ih]
    cases drawBranch o dp deco all spOf lay ll rl b with
    | error e => rfl
    | ok a => cases loopE (drawBranch o dp deco all spOf lay ll rl) rest <;> rfl

theorem drawSpeciesList_eq_loopE (o : Orientation) (dp : DParams) (deco : Deco) (S : RTree)
    (spOf : Path → Option Path) (all : List SubLayout) (ps : List Path) :
    drawSpeciesList o dp deco S spOf all ps = loopE (drawSpecies o dp deco S spOf all) ps := by
  induction ps with
  | nil => rfl
  | cons s rest ih =>
    simp only [drawSpeciesList, loopE, ih]
    cases drawSpecies o dp deco S spOf all s with
    | error e => rfl
    | ok a => cases loopE (drawSpecies o dp deco S spOf all) rest <;> rfl

theorem loopE_cons_ok {α β : Type} {f : α → Except LErr (List β)} {x : α} {rest : List α}
    {out : List β} (h : loopE f (x :: rest) = .ok out) :
    ∃ a r, f x = .ok a ∧ loopE f rest = .ok r ∧ out = a ++ r := by
  simp only [loopE] at h
  cases hx : f x with
  | error e => simp [hx] at h
  | ok a =>
    cases hr : loopE f rest with
    | error e => simp [hx, hr] at h
    | ok r =>
      simp only [hx, hr, Except.ok.injEq] at h
      exact ⟨a, r, rfl, rfl, h.symm⟩

theorem mem_loopE {α β : Type} {f : α → Except LErr (List β)} {l : List α} {out : List β}
    (h : loopE f l = .ok out) {c : β} (hc : c ∈ out) : ∃ x a, x ∈ l ∧ f x = .ok a ∧ c ∈ a := by
  induction l generalizing out with
  | nil => cases h; cases hc
  | cons x rest ih =>
    obtain ⟨a, r, hx, hr, rfl⟩ := loopE_cons_ok h
    rcases List.mem_append.1 hc with hc | hc
    · exact ⟨x, a, by simp, hx, hc⟩
    · obtain ⟨x', a', hx', ha', hc'⟩ := ih hr hc
      exact ⟨x', a', List.mem_cons_of_mem _ hx', ha', hc'⟩

theorem drawSpecies_ok {o : Orientation} {dp : DParams} {deco : Deco} {S : RTree}
    {spOf : Path → Option Path} {all : List SubLayout} {s : Path} {cs : List DrawCall}
    (h : drawSpecies o dp deco S spOf all s = .ok cs) :
    ∃ lay ll rl f bs, slLookup all s = some lay ∧ cs = f :: bs ∧
      drawBranches o dp deco all spOf lay ll rl lay.branches = .ok bs ∧
      (forkLeaf o dp deco lay = .ok f ∨ ∃ l r, slLookup all (s ++ [0]) = some l ∧
        slLookup all (s ++ [1]) = some r ∧ f = forkInner o dp lay l r) := by
  unfold drawSpecies at h
  cases hl : slLookup all s with
  | none => simp [hl] at h
  | some lay =>
    simp only [hl] at h
    split at h
    · cases hf : forkLeaf o dp deco lay with
      | error e => simp [hf] at h
      | ok f =>
        cases hbs : drawBranches o dp deco all spOf lay none none lay.branches with
        | error e => simp [hf, hbs] at h
        | ok bs =>
          simp only [hf, hbs, Except.ok.injEq] at h
          exact ⟨lay, none, none, f, bs, rfl, h.symm, hbs, .inl hf⟩
    · cases h0 : slLookup all (s ++ [0]) with
      | none => simp [h0] at h
      | some l =>
        cases h1 : slLookup all (s ++ [1]) with
        | none => simp [h0, h1] at h
        | some r =>
          cases hbs : drawBranches o dp deco all spOf lay (some l) (some r) lay.branches with
          | error e => simp [h0, h1, hbs] at h
          | ok bs =>
            simp only [h0, h1, hbs, Except.ok.injEq] at h
            exact ⟨lay, some l, some r, _, bs, rfl, h.symm, hbs, .inr ⟨l, r, rfl, rfl, rfl⟩⟩
    · cases h

theorem origin_of_mem {o : Orientation} {dp : DParams} {deco : Deco} {S : RTree}
    {spOf : Path → Option Path} {all : List SubLayout} {calls : List DrawCall}
    (h : drawCalls o dp deco S spOf all = .ok calls) (c : DrawCall) (hc : c ∈ calls) :
    Origin o dp deco S spOf all c := by
  rw [drawCalls, drawSpeciesList_eq_loopE] at h
  obtain ⟨s, cs, hs, hd, hc'⟩ := mem_loopE h hc
  obtain ⟨lay, ll, rl, f, bs, hl, rfl, hbs, hf⟩ := drawSpecies_ok hd
  have hsp := slLookup_sp hl
  subst hsp
  rcases List.mem_cons.1 hc' with rfl | hc'
  · rcases hf with hf | ⟨l, r, h0, h1, rfl⟩
    · exact .leafFork lay hs hl hf
    · exact .innerFork lay l r hs hl h0 h1 rfl
  · rw [drawBranches_eq_loopE] at hbs
    obtain ⟨b, cs', hb, hdb, hcb⟩ := mem_loopE hbs hc'
    exact .branch lay ll rl b cs' hs hl hb hdb hcb

end SR.TikzDraw
