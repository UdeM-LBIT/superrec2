/-
  `rootOrders o none` lists exactly the root orders of the valid ordered solutions: duplicate-free arrangements of all
  families (`rootOrders_perm`) containing every leaf synteny as a subsequence (`validSol_iff_rootOrder`).
-/
import SRVerif.Spec.Opt
import SRVerif.Proofs.Cost
import SRVerif.Proofs.SolverLists

namespace SR

theorem rootOrders_perm (o : OTree) : ∀ order ∈ rootOrders o none,
    Spec.isPermOf order (families o) = true ∧ (order.length == (dedup order).length) = true := by
  intro order h
  have hp := perm_of_mem_permutations _ _ (List.mem_filter.mp h).1
  have hnd := hp.nodup_iff.mpr (nodup_dedup _)
  refine ⟨?_, by rw [dedup_of_nodup order hnd]; simp⟩
  simp only [Spec.isPermOf, hp.length_eq, beq_self_eq_true, Bool.true_and,
    Bool.and_eq_true, List.all_eq_true, List.contains_iff_mem]
  exact ⟨fun _ => hp.mem_iff.mp, fun _ => hp.mem_iff.mpr⟩

theorem mem_families (o : OTree) (v : Nat) :
    v ∈ families o ↔ ∃ s ∈ leafSyntenies o, v ∈ s := by
  simp only [families, mem_dedup, List.mem_flatten]

end SR

namespace SR.Spec

open SR Cost Path

theorem leaf_sublist_root : ∀ (t : OTree) (sol : Sol), validOrdLabels t sol = true →
    ∀ f ∈ leafSyntenies t, f.Sublist sol.fam := by
  intro t
  induction t with
  | leaf sp f =>
    intro sol hl
    cases sol with
    | node s g sl sr => simp [validOrdLabels] at hl
    | leaf s g =>
      simp only [validOrdLabels, beq_iff_eq] at hl
      subst hl
      simp [leafSyntenies, Sol.fam]
  | node l r ihl ihr =>
    intro sol hl
    cases sol with
    | leaf s g => simp [validOrdLabels] at hl
    | node s g sl sr =>
      simp only [validOrdLabels, Bool.and_eq_true] at hl
      obtain ⟨⟨⟨hsl, hsr⟩, hll⟩, hlr⟩ := hl
      intro f hf
      simp only [leafSyntenies, List.mem_append] at hf
      rcases hf with hf | hf
      · exact (ihl sl hll f hf).trans (isSublist_iff_sublist.mp hsl)
      · exact (ihr sr hlr f hf).trans (isSublist_iff_sublist.mp hsr)

theorem validSol_iff_rootOrder (o : OTree) (sol : Sol) :
    validSol .ordered o sol = true ↔
      validRec o sol = true ∧ validOrdLabels o sol = true ∧ sol.fam ∈ rootOrders o none := by
  simp only [validSol, Bool.and_eq_true]
  constructor
  · rintro ⟨hv, ⟨hl, hperm⟩, hlen⟩
    refine ⟨hv, hl, ?_⟩
    -- a duplicate-free list with the members of `families o` is one of its permutations; the leaf
    -- syntenies are subsequences of the root's because `validOrdLabels` chains them down the tree
    have hnd : sol.fam.Nodup := (length_dedup_iff_nodup _).mp (by simpa using hlen)
    simp only [isPermOf, Bool.and_eq_true, List.all_eq_true, List.contains_iff_mem] at hperm
    have hp : sol.fam.Perm (families o) :=
      (List.perm_ext_iff_of_nodup hnd (nodup_dedup _)).mpr
        (fun x => ⟨fun hx => hperm.1.2 x hx, fun hx => hperm.2 x hx⟩)
    simp only [rootOrders, List.mem_filter, List.all_eq_true]
    exact ⟨mem_permutations_of_perm _ _ hp,
      fun f hf => isSublist_iff_sublist.mpr (leaf_sublist_root o sol hl f hf)⟩
  · rintro ⟨hv, hl, ho⟩
    obtain ⟨hp, hlen⟩ := rootOrders_perm o _ ho
    exact ⟨hv, ⟨hl, hp⟩, hlen⟩

theorem rootOrders_leaf {sp : Path} {f order : List Nat}
    (h : order ∈ rootOrders (.leaf sp f) none) : order = f := by
  have hnd := (perm_of_mem_permutations _ _ (List.mem_filter.mp h).1).nodup_iff.mpr (nodup_dedup _)
  simp only [rootOrders, List.mem_filter, List.all_eq_true, leafSyntenies, List.mem_singleton,
    forall_eq] at h
  obtain ⟨hp, hs⟩ := h
  have hsub := isSublist_iff_sublist.mp hs
  have hfn : f.Nodup := hsub.nodup hnd
  have hlen : order.length = f.length := by
    rw [(perm_of_mem_permutations _ _ hp).length_eq]
    simp [families, leafSyntenies, dedup_of_nodup f hfn]
  exact (hsub.eq_of_length hlen.symm).symm

theorem families_subset_of_sup (o : OTree) (r : List Nat)
    (hsup : ∀ f ∈ leafSyntenies o, f.Sublist r) : ∀ x ∈ families o, x ∈ r := by
  intro x hx
  simp only [families, mem_dedup, List.mem_flatten] at hx
  obtain ⟨f, hf, hxf⟩ := hx
  exact (hsup f hf).subset hxf

end SR.Spec
