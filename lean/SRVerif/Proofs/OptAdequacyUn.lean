/-
  The generic oracle adequacy (`Proofs/OptAdequacy.lean`) specialised to the UNORDERED
  mode (C03): `Spec.optimum … .unordered` against ALL solutions that are valid in the
  sense of `Spec.validSol .unordered` (valid events + `Spec.validUnLabels`).

  Two gaps between `Spec.validUnLabels` and the oracle's solution space `Spec.Feasible`:

  1. `validUnLabels` does not force the family list of an internal node to be sorted or
     duplicate-free, whereas `Spec.labelSpace .unordered` lists `sortNat (req ++ extra)`.
     `normSol` replaces every internal label `f` by `sortNat (dedup f)`: validity and the
     evaluated cost are invariant (the evaluator only tests memberships, `subsetB`), and a
     normalised valid solution is feasible.
  2. `validUnLabels` does not state `requiredContent ⊆ label`; it follows
     (`valid_required`): a family carried by a leaf below `p` and gained at or above `p`
     climbs from that leaf to `p` through `edgeOk .unordered` (child's families ⊆ parent's
     ∪ gains AT the child), since it is gained at none of the nodes strictly below `p`.

  The link is `adequate_un` (normal form `Normal`, reached by `normSol`).
-/
import SRVerif.Proofs.OptAdequacyOrd
import SRVerif.Proofs.UnContentCanon

namespace SR.Spec

open SR Cost Path

/-- Sort and deduplicate the family list of every internal node (leaves are untouched:
    in a valid solution they already are `sortNat (dedup f)`). -/
def normSol : Sol → Sol
  | .leaf s g => .leaf s g
  | .node s f l r => .node s (sortNat (dedup f)) (normSol l) (normSol r)

/-- Every internal label is strictly increasing. -/
def Normal : Sol → Prop
  | .leaf _ _ => True
  | .node _ f l r => f.Pairwise (· < ·) ∧ Normal l ∧ Normal r

theorem normSol_sp (σ : Sol) : (normSol σ).sp = σ.sp := by cases σ <;> rfl

theorem mem_normSol_fam (σ : Sol) (x : Nat) : x ∈ (normSol σ).fam ↔ x ∈ σ.fam := by
  cases σ with
  | leaf s g => rfl
  | node s f l r => simp [normSol, Sol.fam, mem_sortNat_iff, mem_dedup]

theorem sortNat_dedup_of_sorted {f : List Nat} (h : f.Pairwise (· < ·)) : sortNat (dedup f) = f :=
  eq_of_sorted (sortNat_sorted_lt (nodup_dedup f)) h (fun x => by rw [mem_sortNat_iff, mem_dedup])

theorem normal_normSol : ∀ σ : Sol, Normal (normSol σ)
  | .leaf _ _ => trivial
  | .node _ f l r => ⟨sortNat_sorted_lt (nodup_dedup f), normal_normSol l, normal_normSol r⟩

theorem normSol_eq_of_normal : ∀ σ : Sol, Normal σ → normSol σ = σ
  | .leaf _ _, _ => rfl
  | .node s f l r, h => by
    simp only [normSol, sortNat_dedup_of_sorted h.1, normSol_eq_of_normal l h.2.1,
      normSol_eq_of_normal r h.2.2]

theorem normSol_eq_iff (σ : Sol) : normSol σ = σ ↔ Normal σ :=
  ⟨fun h => by rw [← h]; exact normal_normSol σ, normSol_eq_of_normal σ⟩

theorem normSol_idem (σ : Sol) : normSol (normSol σ) = normSol σ :=
  normSol_eq_of_normal _ (normal_normSol σ)

theorem validRec_normSol : ∀ (t : OTree) (σ : Sol), validRec t (normSol σ) = validRec t σ := by
  intro t
  induction t with
  | leaf sp f => intro σ; cases σ <;> rfl
  | node l r ihl ihr =>
    intro σ
    cases σ with
    | leaf s g => rfl
    | node s g sl sr => simp only [normSol, validRec, normSol_sp, ihl, ihr]

theorem recCost_normSol (c : Costs) : ∀ (t : OTree) (σ : Sol),
    recCost c t (normSol σ) = recCost c t σ := by
  intro t
  induction t with
  | leaf sp f => intro σ; cases σ <;> rfl
  | node l r ihl ihr =>
    intro σ
    cases σ with
    | leaf s g => rfl
    | node s g sl sr => simp only [normSol, SR.recCost_node, normSol_sp, ihl, ihr]

theorem localUnordLosses_congr (ev : Event) (k : Bool) {f f' fl fl' fr fr' : List Nat}
    (hf : ∀ x, x ∈ f ↔ x ∈ f') (hl : ∀ x, x ∈ fl ↔ x ∈ fl') (hr : ∀ x, x ∈ fr ↔ x ∈ fr') :
    localUnordLosses ev k f fl fr = localUnordLosses ev k f' fl' fr' := by
  simp only [localUnordLosses, subsetB_eq_of_mem_iff hf hl, subsetB_eq_of_mem_iff hf hr]

theorem unordLosses_normSol : ∀ σ : Sol, unordLosses (normSol σ) = unordLosses σ
  | .leaf _ _ => rfl
  | .node s f l r => by
    simp only [normSol, unordLosses, normSol_sp, unordLosses_normSol l, unordLosses_normSol r]
    rw [localUnordLosses_congr _ _ (f := sortNat (dedup f)) (f' := f)
      (fun x => by rw [mem_sortNat_iff, mem_dedup]) (mem_normSol_fam l) (mem_normSol_fam r)]

theorem totalCost_normSol (c : Costs) (o : OTree) (σ : Sol) :
    totalCost c .unordered o (normSol σ) = totalCost c .unordered o σ := by
  simp only [totalCost, labelingCost, unordLosses_normSol, recCost_normSol]

theorem edgeOk_un_iff {whole : OTree} {pc : Path} {f fc : List Nat} :
    edgeOk .unordered whole pc f fc = true ↔ ∀ x ∈ fc, x ∈ f ∨ x ∈ gainsAt whole pc := by
  simp [edgeOk, List.all_eq_true]

theorem validUnLabels_node_iff {whole : OTree} {p : Path} {ol or : OTree} {s : Path} {f : List Nat}
    {l r : Sol} :
    validUnLabels whole p (.node ol or) (.node s f l r) = true ↔
      (∀ x ∈ f, x ∈ allowedContent whole p) ∧
      (∀ x ∈ l.fam, x ∈ f ∨ x ∈ gainsAt whole (p ++ [0])) ∧
      (∀ x ∈ r.fam, x ∈ f ∨ x ∈ gainsAt whole (p ++ [1])) ∧
      validUnLabels whole (p ++ [0]) ol l = true ∧ validUnLabels whole (p ++ [1]) or r = true := by
  simp only [validUnLabels, Bool.and_eq_true, edgeOk_un_iff, List.all_eq_true, List.contains_iff_mem,
    and_assoc]

theorem validUnLabels_normSol (whole : OTree) : ∀ (t : OTree) (p : Path) (σ : Sol),
    validUnLabels whole p t σ = true → validUnLabels whole p t (normSol σ) = true := by
  intro t
  induction t with
  | leaf sp f => intro p σ h; cases σ <;> exact h
  | node ol or ihl ihr =>
    intro p σ h
    cases σ with
    | leaf s g => simp [validUnLabels] at h
    | node s f l r =>
      rw [validUnLabels_node_iff] at h
      obtain ⟨h1, h2, h3, h4, h5⟩ := h
      simp only [normSol]
      rw [validUnLabels_node_iff]
      simp only [mem_sortNat_iff, mem_dedup, mem_normSol_fam]
      exact ⟨h1, h2, h3, ihl _ l h4, ihr _ r h5⟩

theorem validSol_un_normSol (o : OTree) (σ : Sol) (h : validSol .unordered o σ = true) :
    validSol .unordered o (normSol σ) = true := by
  simp only [validSol, Bool.and_eq_true] at h ⊢
  exact ⟨by rw [validRec_normSol]; exact h.1, validUnLabels_normSol o o [] σ h.2⟩

theorem valid_required (whole : OTree) : ∀ (sub : OTree) (p : Path) (σ : Sol), IsSub whole p sub →
    validUnLabels whole p sub σ = true → ∀ x ∈ requiredContent whole p, x ∈ σ.fam := by
  intro sub
  induction sub with
  | leaf sp f0 =>
    intro p σ hsub hv x hx
    cases σ with
    | node => simp [validUnLabels] at hv
    | leaf s g =>
      simp only [validUnLabels, beq_iff_eq] at hv
      exact hv ▸ required_leaf hsub x hx
  | node l r ihl ihr =>
    intro p σ hsub hv x hx
    cases σ with
    | leaf => simp [validUnLabels] at hv
    | node s f y z =>
      rw [validUnLabels_node_iff] at hv
      obtain ⟨_, h2, h3, h4, h5⟩ := hv
      obtain ⟨hl, hr⟩ := isSub_child hsub
      simp only [Sol.fam]
      rcases required_node_cases hsub hx with h0 | h1
      · exact (h2 x (ihl _ y hl h4 x h0)).resolve_right (not_gained_child hx)
      · exact (h3 x (ihr _ z hr h5 x h1)).resolve_right (not_gained_child hx)

/-- Every node of `σ`, seen at path `p` of `whole`, holds its required content (what
    `C03.C03_valid_required` states of every valid solution). -/
def HoldsRequired (whole : OTree) : Path → Sol → Prop
  | p, .leaf _ f => ∀ x ∈ requiredContent whole p, x ∈ f
  | p, .node _ f l r =>
    (∀ x ∈ requiredContent whole p, x ∈ f) ∧
      HoldsRequired whole (p ++ [0]) l ∧ HoldsRequired whole (p ++ [1]) r

theorem holdsRequired_of_valid (whole : OTree) : ∀ (sub : OTree) (p : Path) (σ : Sol),
    IsSub whole p sub → validUnLabels whole p sub σ = true → HoldsRequired whole p σ := by
  intro sub
  induction sub with
  | leaf sp f0 =>
    intro p σ hsub hv
    cases σ with
    | node => simp [validUnLabels] at hv
    | leaf s g => exact valid_required whole _ p _ hsub hv
  | node l r ihl ihr =>
    intro p σ hsub hv
    cases σ with
    | leaf => simp [validUnLabels] at hv
    | node s f y z =>
      have h0 := valid_required whole _ p _ hsub hv
      rw [validUnLabels_node_iff] at hv
      obtain ⟨hl, hr⟩ := isSub_child hsub
      exact ⟨h0, ihl _ y hl hv.2.2.2.1, ihr _ z hr hv.2.2.2.2⟩

theorem feasible_un_of_valid (S : RTree) (base : Bool) (whole : OTree) :
    ∀ (sub : OTree) (p : Path) (σ : Sol), IsSub whole p sub → validRec sub σ = true →
      validUnLabels whole p sub σ = true → SpeciesOk S base sub σ →
      Feasible S .unordered base whole p sub (normSol σ) := by
  intro sub p σ hsub hv
  revert p
  refine validRec_induction (P := fun sub σ => ∀ p, IsSub whole p sub →
    validUnLabels whole p sub σ = true → SpeciesOk S base sub σ →
    Feasible S .unordered base whole p sub (normSol σ)) ?_ ?_ sub σ hv
  · intro sp f0 g p _ hl _
    simp only [validUnLabels, beq_iff_eq] at hl
    simp [normSol, Feasible, leafLabel, hl]
  · intro l r s f y z _ _ _ ihl ihr p hsub hl hs
    have hreq := valid_required whole _ p _ hsub hl
    rw [validUnLabels_node_iff] at hl
    obtain ⟨h1, _, _, h4, h5⟩ := hl
    obtain ⟨hs0, hsl, hsr⟩ := hs
    obtain ⟨hsubl, hsubr⟩ := isSub_child hsub
    simp only [normSol, Feasible]
    refine ⟨hs0, ?_, ihl _ hsubl h4 hsl, ihr _ hsubr h5 hsr⟩
    refine mem_labelSpace_unordered.mpr ⟨sortNat_sorted_lt (nodup_dedup f), ?_, ?_⟩
    · intro x hx; rw [mem_sortNat_iff, mem_dedup]; exact hreq x hx
    · intro x hx; rw [mem_sortNat_iff, mem_dedup] at hx; exact h1 x hx

theorem valid_of_feasible_un (c : Costs) (S : RTree) (base : Bool) (whole : OTree) :
    ∀ (t : OTree) (p : Path) (σ : Sol), Feasible S .unordered base whole p t σ →
      specCost c .unordered whole p σ ≠ .inf →
      validRec t σ = true ∧ validUnLabels whole p t σ = true ∧ SpeciesOk S base t σ ∧ Normal σ :=
  Feasible.induction_finite
    (P := fun p t σ =>
      validRec t σ = true ∧ validUnLabels whole p t σ = true ∧ SpeciesOk S base t σ ∧ Normal σ)
    (fun _ sp f => by simp [validRec, validUnLabels, SpeciesOk, Normal, leafLabel])
    (fun p l r s f sl sr hs hg hel her hev _ ⟨vl, ll, sl', nl⟩ ⟨vr, lr, sr', nr⟩ => by
      obtain ⟨hsorted, _, hall⟩ := mem_labelSpace_unordered.mp hg
      refine ⟨?_, ?_, ⟨hs, sl', sr'⟩, ⟨hsorted, nl, nr⟩⟩
      · simp only [validRec, Bool.and_eq_true, bne_iff_ne, ne_eq]
        exact ⟨⟨hev, vl⟩, vr⟩
      · rw [validUnLabels_node_iff]
        exact ⟨hall, edgeOk_un_iff.mp hel, edgeOk_un_iff.mp her, ll, lr⟩)

variable (c : Costs) (S : RTree) (o : OTree)

/-- The oracle enumerates the NORMAL solutions (`Normal`); `normSol` brings any valid solution
    into that form, keeping validity, species and evaluated cost. -/
theorem adequate_un (base : Bool) (pre : Option (List Nat)) : Adequate c S .unordered base o pre
    (fun σ => validSol .unordered o σ = true ∧ SpeciesOk S base o σ) Normal normSol where
  into σ hv := by
    simp only [validSol, Bool.and_eq_true] at hv
    obtain ⟨⟨hv, hl⟩, hs⟩ := hv
    refine ⟨.unordered, List.mem_singleton.mpr rfl,
      feasible_un_of_valid S base o o [] σ (isSub_root o) hv hl hs, ?_⟩
    rw [specCost_unordered_eq_totalCost c o o [] _ (validUnLabels_normSol o o [] σ hl)
      (by rw [validRec_normSol]; exact hv), totalCost_normSol]
  fix := normSol_eq_of_normal
  out md hmd σ hf hfin := by
    cases List.mem_singleton.mp hmd
    obtain ⟨hv, hl, hs, hn⟩ := valid_of_feasible_un c S base o o [] σ hf hfin
    exact ⟨⟨by simp only [validSol, Bool.and_eq_true]; exact ⟨hv, hl⟩, hs⟩, hn,
      (specCost_unordered_eq_totalCost c o o [] σ hl hv).symm⟩

/-- `SpeciesOk` (oracle side) and `spAllowed` (solver side) are the same predicate. -/
theorem speciesOk_iff_spAllowed (S : RTree) (base : Bool) : ∀ (t : OTree) (σ : Sol),
    SpeciesOk S base t σ ↔ spAllowed S base t σ := by
  intro t
  induction t with
  | leaf sp f => intro σ; cases σ <;> simp [SpeciesOk, spAllowed]
  | node l r ihl ihr =>
    intro σ
    cases σ with
    | leaf s g => simp [SpeciesOk, spAllowed]
    | node s g sl sr =>
      simp only [SpeciesOk, spAllowed, ihl, ihr]
      cases base with
      | true => simp [speciesSpace]
      | false =>
        simp only [speciesSpace, Bool.false_eq_true, if_false, allSpecies]
        rw [RTree.mem_preorder_iff]

end SR.Spec
