/-
  From sequence labellings to mask labellings (the converse of `ordSol`): `maskSol order`
  replaces every synteny by its mask relative to `order`.  For a validly sequence-labelled
  solution over non-empty leaf syntenies whose root synteny is a subsequence of `order`, the
  masks are non-empty and `ordSol order (maskSol order sol) = sol` (C18 round trip); when the
  root synteny IS `order`, `maskSol` is an admissible labelling of the ordered label DP with
  complete root mask (`maskSol_of_valid`): every valid solution is the output
  of a candidate of the ordered solver (`spfsD_cand_iff`, `Properties/C02Dp.lean`).
-/
import SRVerif.Proofs.OptAdequacyOrd
import SRVerif.Proofs.LabelDPOrd

namespace SR.Spec

open SR Cost Path SubseqProofs

def maskSol (order : List Nat) : Sol → LSol Nat
  | .leaf s f => .leaf s (maskFromSubseq f order)
  | .node s f l r => .node s (maskFromSubseq f order) (maskSol order l) (maskSol order r)

theorem maskSol_lab (order : List Nat) (sol : Sol) :
    (maskSol order sol).lab = maskFromSubseq sol.fam order := by
  cases sol <;> rfl

/-- Valid labels over non-empty leaf syntenies, below a root synteny that is a subsequence of
    `order`: every synteny is a non-empty subsequence of `order` (each contains its left child's,
    down to a leaf), so no mask is zero and `ordSol` reads the syntenies back from the masks. -/
theorem maskSol_valid (order : List Nat) : ∀ (t : OTree) (sol : Sol),
    validOrdLabels t sol = true → (∀ f ∈ leafSyntenies t, f ≠ []) → sol.fam.Sublist order →
    sol.fam ≠ [] ∧ NZ (maskSol order sol) ∧ ordSol order (maskSol order sol) = sol := by
  intro t
  induction t with
  | leaf sp f =>
    intro sol hl hne hs
    cases sol with
    | node s g sl sr => simp [validOrdLabels] at hl
    | leaf s g =>
      simp only [validOrdLabels, beq_iff_eq] at hl
      subst hl
      have hf : f ≠ [] := hne f (by simp [leafSyntenies])
      exact ⟨hf, mask_ne_zero order f hf hs, by simp [maskSol, ordSol, roundtrip_seq order f hs]⟩
  | node l r ihl ihr =>
    intro sol hl hne hs
    cases sol with
    | leaf s g => simp [validOrdLabels] at hl
    | node s g sl sr =>
      simp only [validOrdLabels, Bool.and_eq_true] at hl
      obtain ⟨⟨⟨hsl, hsr⟩, hll⟩, hlr⟩ := hl
      have hsl' := isSublist_iff_sublist.mp hsl
      obtain ⟨nl, zl, el⟩ := ihl sl hll (fun f hf => hne f (by simp [leafSyntenies, hf])) (hsl'.trans hs)
      obtain ⟨-, zr, er⟩ := ihr sr hlr (fun f hf => hne f (by simp [leafSyntenies, hf]))
        ((isSublist_iff_sublist.mp hsr).trans hs)
      have hg : g ≠ [] := by
        intro e
        rw [e] at hsl'
        exact nl (List.sublist_nil.mp hsl')
      exact ⟨hg, ⟨mask_ne_zero order g hg hs, zl, zr⟩,
        by simp [maskSol, ordSol, roundtrip_seq order g hs, el, er]⟩

theorem adm_maskSol (c : Costs) (S : RTree) (base : Bool) (order : List Nat) :
    ∀ (t : OTree) (isRoot : Bool) (sol : Sol), validRec t sol = true →
      validOrdLabels t sol = true → SpeciesOk S base t sol → (isRoot = true → sol.fam = order) →
      Adm (ordAlg c) (annOrd S base order isRoot t) (maskSol order sol) := by
  intro t isRoot sol hv
  revert isRoot
  refine validRec_induction (P := fun t sol => ∀ isRoot, validOrdLabels t sol = true →
    SpeciesOk S base t sol → (isRoot = true → sol.fam = order) →
    Adm (ordAlg c) (annOrd S base order isRoot t) (maskSol order sol)) ?_ ?_ t sol hv
  · intro sp f g isRoot hl _ _
    simp only [validOrdLabels, beq_iff_eq] at hl
    exact adm_annOrd_leaf.mpr ⟨rfl, by rw [hl]⟩
  · intro l r s g sl sr _ _ _ ihl ihr isRoot hl hs hroot
    simp only [validOrdLabels, Bool.and_eq_true] at hl
    obtain ⟨hs0, hsl, hsr⟩ := hs
    refine adm_annOrd_node.mpr ⟨?_, ?_, ihl false hl.1.2 hsl (by simp), ihr false hl.2 hsr (by simp)⟩
    · cases base <;> simpa [speciesSpace] using hs0
    · cases isRoot with
      | true =>
        rw [show g = order from hroot rfl, mask_self]
        exact List.mem_singleton.mpr rfl
      | false => exact List.mem_range.mpr (mask_lt order g)

theorem maskSol_of_valid (c : Costs) (S : RTree) (base : Bool) (o : OTree)
    (hne : ∀ f ∈ leafSyntenies o, f ≠ []) (sol : Sol)
    (hv : validRec o sol = true) (hl : validOrdLabels o sol = true) (hs : SpeciesOk S base o sol) :
    Adm (ordAlg c) (annOrd S base sol.fam true o) (maskSol sol.fam sol) ∧
      (maskSol sol.fam sol).lab = 2 ^ sol.fam.length - 1 ∧ NZ (maskSol sol.fam sol) ∧
      ordSol sol.fam (maskSol sol.fam sol) = sol := by
  refine ⟨adm_maskSol c S base sol.fam o true sol hv hl hs (fun _ => rfl), ?_,
    (maskSol_valid sol.fam o sol hl hne (List.Sublist.refl _)).2⟩
  rw [maskSol_lab, SubseqProofs.mask_self]; rfl

end SR.Spec
