/-
  The one thing `_compute_branches` does to the state, and runs of it.

  Every update of `layout_state` is `finishWith st t b (consumes b)`: the branch `b` is appended
  to the branches of species `t`, its key is `add`ed to the anchors, the keys it consumes are
  `remove`d (for a loss branch of `_add_losses`: none).  `Placed` is one such update together
  with what makes it succeed, `Ran st pl st'` a list of them, one after the other.  What a run
  does to the state is proved here once, by induction over the list; the loops of the model are
  shown to BE runs (`addLossesLoop_ran`, `processGene_iff`, `computeBranches_ran`), and
  everything else is a fact about the list that was run.
-/
import SRVerif.Proofs.LayoutChain

namespace SR.Layout

open SR

/-- Keys a branch removes from the anchors of its own species. -/
def consumes (b : Branch) : List Key :=
  match b.kind with
  | .dup => b.left.toList ++ b.right.toList
  | .hgt => b.left.toList
  | _ => []

theorem loss_consumes {b : Branch} (h : b.kind = .loss) : consumes b = [] := by
  simp [consumes, h]

/-- Effect of a step on a state, from below: branches appended per species, anchors kept
    unless consumed in species `s`.  (`Did` bounds the anchors from above; the two inclusions are
    used apart: this one for "the key is still an anchor", `Did` for "an anchor is a key".) -/
structure Effect (st st' : LState) (pl : List (Path × Branch)) (s : Path) (cons : List Key) :
    Prop where
  keys : skeys st' = skeys st
  brs : ∀ t, brs st' t = brs st t ++ planAt t pl
  ancs : ∀ t k, (k ∈ ancs st t ∨ k ∈ keysOf (planAt t pl)) → (t = s → k ∉ cons) → k ∈ ancs st' t

/-- The update of one step: append `b` to the branches of `s`, `add` its key to the anchors of `s`,
    `remove` the keys `cons`. -/
def finishWith (st : LState) (s : Path) (b : Branch) (cons : List Key) : LState :=
  modifySp (fun x => ⟨x.branches ++ [b], cons.foldl List.erase (setAdd x.anchors b.key)⟩) st s

theorem modifySp_modifySp (f g : SpState → SpState) (st : LState) (s : Path) :
    modifySp f (modifySp g st s) s = modifySp (f ∘ g) st s := by
  induction st with
  | nil => rfl
  | cons e rest ih =>
    obtain ⟨k, v⟩ := e
    by_cases hk : k = s
    · simp [modifySp, hk]
    · simp [modifySp, hk, ih]

theorem mem_foldl_erase {k : Key} : ∀ (cons : List Key) (l : List Key), k ∈ l → k ∉ cons →
    k ∈ cons.foldl List.erase l := by
  intro cons
  induction cons with
  | nil => intro l h _; exact h
  | cons c cons ih =>
    intro l h hc
    simp only [List.mem_cons, not_or] at hc
    simp only [List.foldl_cons]
    exact ih _ ((List.mem_erase_of_ne hc.1).2 h) hc.2

theorem Effect.finish (st : LState) (s : Path) (b : Branch) (cons : List Key)
    (hs : s ∈ skeys st) : Effect st (finishWith st s b cons) [(s, b)] s cons := by
  obtain ⟨x, hx⟩ := getSp_some_of_mem hs
  refine ⟨skeys_modifySp _ _ _, ?_, ?_⟩
  · intro t
    unfold finishWith
    rw [brs_modifySp, planAt_cons]
    by_cases h : t = s
    · subst h; simp [hx, brs_of_getSp hx]
    · have : ¬ s = t := fun e => h e.symm
      simp [h, this]
  · intro t k hk hc
    unfold finishWith
    rw [ancs_modifySp]
    rw [planAt_cons] at hk
    by_cases h : t = s
    · subst h
      simp only [if_true, hx]
      apply mem_foldl_erase _ _ _ (hc rfl)
      rw [mem_setAdd]
      rw [ancs_of_getSp hx] at hk
      simpa [keysOf] using hk
    · have h' : ¬ s = t := fun e => h e.symm
      simp only [h, if_false]
      simpa [h', keysOf] using hk

/-- What a run did, from above: species unchanged, the planned branches appended, no anchor
    that is neither old nor the key of a planned branch. -/
structure Did (st st' : LState) (pl : List (Path × Branch)) : Prop where
  keys : skeys st' = skeys st
  ex : ∀ e ∈ pl, e.1 ∈ skeys st
  brs : ∀ t, brs st' t = brs st t ++ planAt t pl
  ancs : ∀ t k, k ∈ ancs st' t → k ∈ ancs st t ∨ k ∈ keysOf (planAt t pl)

theorem Did.trans {a b c : LState} {p1 p2 : List (Path × Branch)} (h1 : Did a b p1) (h2 : Did b c p2) :
    Did a c (p1 ++ p2) := by
  refine ⟨h2.keys.trans h1.keys, ?_, ?_, ?_⟩
  · intro e he
    rcases List.mem_append.1 he with h | h
    · exact h1.ex e h
    · have := h2.ex e h; rwa [h1.keys] at this
  · intro t; rw [h2.brs, h1.brs, planAt_append, List.append_assoc]
  · intro t k hk
    rw [planAt_append, keysOf_append, List.mem_append]
    rcases h2.ancs t k hk with h | h
    · rcases h1.ancs t k h with h | h
      · exact Or.inl h
      · exact Or.inr (Or.inl h)
    · exact Or.inr (Or.inr h)

theorem Did.refl (st : LState) : Did st st [] := ⟨rfl, by simp, by simp, fun _ _ h => Or.inl h⟩

theorem mem_of_mem_foldl_erase {k : Key} : ∀ (cons l : List Key), k ∈ cons.foldl List.erase l → k ∈ l
  | [], _, h => h
  | _ :: cons, _, h => List.mem_of_mem_erase (mem_of_mem_foldl_erase cons _ h)

theorem Did.finish (st : LState) (s : Path) (b : Branch) (cons : List Key) (hs : s ∈ skeys st) :
    Did st (finishWith st s b cons) [(s, b)] := by
  obtain ⟨x, hx⟩ := getSp_some_of_mem hs
  refine ⟨skeys_modifySp _ _ _, by simpa using hs, (Effect.finish st s b cons hs).brs, ?_⟩
  intro t k hk
  unfold finishWith at hk
  rw [ancs_modifySp] at hk
  by_cases h : t = s
  · subst h
    simp only [if_true, hx] at hk
    have := mem_setAdd.1 (mem_of_mem_foldl_erase _ _ hk)
    rw [ancs_of_getSp hx]
    rcases this with h | h
    · exact .inl h
    · right; simp [planAt_cons, keysOf, h]
  · simp only [h, if_false] at hk
    exact .inl hk

/-- The `remove`s of a step, one after the other: each key is there when its turn comes. -/
def Removable : List Key → List Key → Prop
  | [], _ => True
  | k :: ks, l => k ∈ l ∧ Removable ks (l.erase k)

theorem Removable.mem {cons l : List Key} (h : Removable cons l) : ∀ k ∈ cons, k ∈ l := by
  induction cons generalizing l with
  | nil => intro k hk; cases hk
  | cons c cons ih =>
    intro k hk
    rcases List.mem_cons.1 hk with rfl | hk
    · exact h.1
    · exact List.mem_of_mem_erase (ih h.2 k hk)

theorem removable_of_nodup {cons l : List Key} (hnd : cons.Nodup) (h : ∀ k ∈ cons, k ∈ l) :
    Removable cons l := by
  induction cons generalizing l with
  | nil => trivial
  | cons c cons ih =>
    rw [List.nodup_cons] at hnd
    refine ⟨h c (List.mem_cons_self ..), ih hnd.2 fun k hk => ?_⟩
    exact (List.mem_erase_of_ne (fun e : k = c => hnd.1 (e ▸ hk))).2 (h k (List.mem_cons_of_mem _ hk))

/-- The planned branch `e.2` is placed in species `e.1`: the species has a state and the keys the
    branch consumes can be removed. -/
def Placed (st : LState) (e : Path × Branch) (st' : LState) : Prop :=
  e.1 ∈ skeys st ∧ Removable (consumes e.2) (setAdd (ancs st e.1) e.2.key) ∧
    st' = finishWith st e.1 e.2 (consumes e.2)

/-- The branches of `pl` are placed one after the other, leading from `st` to `st'`. -/
def Ran : LState → List (Path × Branch) → LState → Prop
  | st, [], st' => st' = st
  | st, e :: pl, st' => ∃ st1, Placed st e st1 ∧ Ran st1 pl st'

theorem ran_append {st st'' : LState} {p1 p2 : List (Path × Branch)} :
    Ran st (p1 ++ p2) st'' ↔ ∃ st', Ran st p1 st' ∧ Ran st' p2 st'' := by
  induction p1 generalizing st with
  | nil => simp [Ran]
  | cons e p1 ih =>
    simp only [List.cons_append, Ran, ih]
    constructor
    · rintro ⟨st1, h1, st', h2, h3⟩; exact ⟨st', ⟨st1, h1, h2⟩, h3⟩
    · rintro ⟨st', ⟨st1, h1, h2⟩, h3⟩; exact ⟨st1, h1, st', h2, h3⟩

theorem ran_single {st st' : LState} {e : Path × Branch} : Ran st [e] st' ↔ Placed st e st' := by
  simp only [Ran]
  constructor
  · rintro ⟨_, h, rfl⟩; exact h
  · intro h; exact ⟨_, h, rfl⟩

theorem Ran.did {st st' : LState} {pl : List (Path × Branch)} (h : Ran st pl st') : Did st st' pl := by
  induction pl generalizing st with
  | nil => cases h; exact Did.refl _
  | cons e pl ih =>
    obtain ⟨st1, ⟨hs, _, rfl⟩, h2⟩ := h
    exact (Did.finish st e.1 e.2 _ hs).trans (ih h2)

theorem Ran.keep {st st' : LState} {pl : List (Path × Branch)} (h : Ran st pl st') (t : Path) (k : Key)
    (hk : k ∈ ancs st t ∨ k ∈ keysOf (planAt t pl)) (hun : ∀ b ∈ planAt t pl, k ∉ consumes b) :
    k ∈ ancs st' t := by
  induction pl generalizing st with
  | nil => cases h; simpa [keysOf] using hk
  | cons e pl ih =>
    obtain ⟨st1, ⟨hs, _, rfl⟩, h2⟩ := h
    have eff := Effect.finish st e.1 e.2 (consumes e.2) hs
    rw [planAt_cons] at hk hun
    by_cases he : e.1 = t
    · simp only [he, if_true, keysOf, List.map_cons, List.mem_cons] at hk hun
      have hun1 : k ∉ consumes e.2 := hun _ (.inl rfl)
      apply ih h2 _ fun b hb => hun b (.inr hb)
      rcases hk with hk | rfl | hk
      · exact .inl (eff.ancs t k (.inl hk) fun _ => hun1)
      · exact .inl (eff.ancs t _ (.inr (by simp [planAt_cons, he, keysOf])) fun _ => hun1)
      · exact .inr hk
    · simp only [he, if_false] at hk hun
      apply ih h2 _ hun
      rcases hk with hk | hk
      · exact .inl (eff.ancs t k (.inl hk) fun h => absurd h.symm he)
      · exact .inr hk

theorem Ran.frame {st st' : LState} {pl : List (Path × Branch)} (h : Ran st pl st') (ext : LState) :
    Ran (st ++ ext) pl (st' ++ ext) := by
  induction pl generalizing st with
  | nil => cases h; rfl
  | cons e pl ih =>
    obtain ⟨st1, ⟨hs, hr, rfl⟩, h2⟩ := h
    refine ⟨_, ⟨?_, ?_, rfl⟩, ?_⟩
    · simp only [skeys, List.map_append, List.mem_append] at hs ⊢; exact .inl hs
    · simpa only [ancs, getSp_append_of_mem ext hs] using hr
    · simp only [finishWith, modifySp_append_of_mem _ ext hs]; exact ih h2

/-- Loss branches consume nothing: they can be placed as soon as their species have a state. -/
theorem ran_of_losses {st : LState} {pl : List (Path × Branch)} (hl : ∀ e ∈ pl, e.2.kind = .loss)
    (hex : ∀ e ∈ pl, e.1 ∈ skeys st) : ∃ st', Ran st pl st' := by
  induction pl generalizing st with
  | nil => exact ⟨st, rfl⟩
  | cons e pl ih =>
    have hc := loss_consumes (hl e (List.mem_cons_self ..))
    obtain ⟨st', h2⟩ := ih (st := finishWith st e.1 e.2 (consumes e.2))
      (fun x hx => hl x (List.mem_cons_of_mem _ hx))
      (fun x hx => by
        rw [show skeys (finishWith st e.1 e.2 (consumes e.2)) = skeys st from skeys_modifySp _ _ _]
        exact hex x (List.mem_cons_of_mem _ hx))
    exact ⟨st', _, ⟨hex e (List.mem_cons_self ..), by rw [hc]; trivial, rfl⟩, h2⟩

theorem own_runs {st st2 : LState} {pl0 : List (Path × Branch)} {s : Path} {nb : Branch}
    (h0 : Ran st pl0 st2) (hs : s ∈ skeys st) (hnd : (consumes nb).Nodup)
    (hav : ∀ k ∈ consumes nb, k ∈ keysOf (planAt s pl0) ∧ ∀ b ∈ planAt s pl0, k ∉ consumes b) :
    ∃ st3, Ran st2 [(s, nb)] st3 := by
  refine ⟨_, ran_single.2 ⟨by rw [h0.did.keys]; exact hs, removable_of_nodup hnd fun k hk => ?_, rfl⟩⟩
  exact mem_setAdd.2 (.inl (h0.keep s k (.inr (hav k hk).1) (hav k hk).2))

theorem placed_lossBranch {st st1 : LState} {g t : Path} {prev : Key} {i : Nat} :
    Placed st (t, lossBranch g t prev i) st1 ↔
      t ∈ skeys st ∧ st1 = modifySp (addLossAt g t prev i) st t :=
  ⟨fun ⟨a, _, c⟩ => ⟨a, c⟩, fun ⟨a, c⟩ => ⟨a, trivial, c⟩⟩

theorem addLossesLoop_ran (g : Path) (end_ : Option Path) :
    ∀ (rp : List Nat) (st : LState) (prev : Key) (st' : LState) (k : Key),
      addLossesLoop g end_ rp st prev = .ok (st', k) ↔
        ∃ b w, rp.reverse = b ++ w ∧ StopsAt end_ b ∧ k = chainTop g prev b w ∧
          Ran st (chainList g prev b w) st' := by
  intro rp
  induction rp with
  | nil =>
    intro st prev st' k
    simp only [addLossesLoop, List.reverse_nil]
    constructor
    · intro h
      split at h
      · rename_i hn; cases h; exact ⟨[], [], rfl, stopsAt_nil.2 hn, rfl, rfl⟩
      · cases h
    · rintro ⟨b, w, hbw, hstop, rfl, hr⟩
      obtain ⟨rfl, rfl⟩ := List.append_eq_nil_iff.1 hbw.symm
      cases hr
      simp [stopsAt_nil.1 hstop, chainTop]
  | cons i rest ih =>
    intro st prev st' k
    simp only [addLossesLoop, List.reverse_cons]
    by_cases he : some rest.reverse = end_
    · -- the loop stops: `b` is the start species itself
      simp only [he, if_true]
      constructor
      · intro h; cases h; exact ⟨rest.reverse ++ [i], [], by simp, stopsAt_snoc.2 he.symm, rfl, rfl⟩
      · rintro ⟨b, w, hbw, hstop, rfl, hr⟩
        obtain ⟨rfl, rfl⟩ := hstop.unique (stopsAt_snoc.2 he.symm)
          (w' := []) (by rw [← hbw, List.append_nil])
        cases hr
        rfl
    · -- one more loss branch, in `rest.reverse`: the chains of `rest.reverse ++ [i]` that do not stop
      -- at once are the chains of `rest.reverse`, with `i` appended to `w`
      simp only [he, if_false]
      have split : ∀ {b w : List Nat}, rest.reverse ++ [i] = b ++ w → StopsAt end_ b →
          ∃ w', w = w' ++ [i] ∧ rest.reverse = b ++ w' := by
        intro b w hbw hstop
        rcases List.eq_nil_or_concat w with rfl | ⟨w', x, rfl⟩
        · rw [List.append_nil] at hbw
          rw [← hbw, stopsAt_snoc] at hstop
          exact absurd hstop.symm he
        · rw [List.concat_eq_append, ← List.append_assoc] at hbw
          obtain ⟨h1, h2⟩ := List.append_inj' hbw rfl
          cases h2
          exact ⟨w', List.concat_eq_append .., h1⟩
      cases hx : getSp st rest.reverse with
      | none =>
        have hm : rest.reverse ∉ skeys st := fun h => by
          obtain ⟨y, hy⟩ := getSp_some_of_mem h
          rw [hx] at hy; cases hy
        constructor
        · intro h; cases h
        · rintro ⟨b, w, hbw, hstop, _, hr⟩
          obtain ⟨w', rfl, hb⟩ := split hbw hstop
          rw [chainList_snoc, ← hb] at hr
          obtain ⟨_, h, _⟩ := hr
          exact absurd (placed_lossBranch.1 h).1 hm
      | some y =>
        have hm : rest.reverse ∈ skeys st := (getSp_isSome_iff st _).1 (by simp [hx])
        simp only [ih]
        constructor
        · rintro ⟨b, w', hb, hstop, rfl, hr⟩
          refine ⟨b, w' ++ [i], by rw [hb, List.append_assoc], hstop, ?_, ?_⟩
          · rw [chainTop_snoc, hb]
          · rw [chainList_snoc, ← hb]
            exact ⟨_, placed_lossBranch.2 ⟨hm, rfl⟩, hr⟩
        · rintro ⟨b, w, hbw, hstop, rfl, hr⟩
          obtain ⟨w', rfl, hb⟩ := split hbw hstop
          rw [chainList_snoc, ← hb] at hr
          obtain ⟨_, h, hr⟩ := hr
          obtain ⟨_, rfl⟩ := placed_lossBranch.1 h
          exact ⟨b, w', hb, hstop, by rw [chainTop_snoc, hb], hr⟩

theorem addLosses_iff {st st1 : LState} {g start : Path} {end_ : Option Path} {k : Key} :
    addLosses st g start end_ = .ok (st1, k) ↔
      ∃ b w, start = b ++ w ∧ StopsAt end_ b ∧ k = chainTop g (.gene g) b w ∧
        Ran st (chainList g (.gene g) b w) st1 := by
  unfold addLosses
  rw [addLossesLoop_ran, List.reverse_reverse]

/-- A chain that is to stop below `s`, from a species strictly below `s`. -/
theorem addLosses_child {st st1 : LState} {g s : Path} {x : Nat} {w : List Nat} {k : Key} :
    addLosses st g (s ++ x :: w) (some s) = .ok (st1, k) ↔
      k = chainTop g (.gene g) (s ++ [x]) w ∧ Ran st (chainList g (.gene g) (s ++ [x]) w) st1 := by
  rw [addLosses_iff]
  constructor
  · rintro ⟨b, w', hbw, hstop, hk, hr⟩
    obtain ⟨rfl, rfl⟩ := hstop.unique (stopsAt_child s x) (w' := w) (by rw [← hbw]; simp)
    exact ⟨hk, hr⟩
  · rintro ⟨hk, hr⟩
    exact ⟨s ++ [x], w, by simp, stopsAt_child s x, hk, hr⟩

/-- A chain that is to stop in `s`, from a species below `s`. -/
theorem addLosses_up {st st1 : LState} {g s : Path} {w : List Nat} {k : Key} :
    addLosses st g (s ++ w) (Path.up s) = .ok (st1, k) ↔
      k = chainTop g (.gene g) s w ∧ Ran st (chainList g (.gene g) s w) st1 := by
  rw [addLosses_iff]
  constructor
  · rintro ⟨b, w', hbw, hstop, hk, hr⟩
    obtain ⟨rfl, rfl⟩ := hstop.unique (stopsAt_up s) hbw.symm
    exact ⟨hk, hr⟩
  · rintro ⟨hk, hr⟩
    exact ⟨s, w, rfl, stopsAt_up s, hk, hr⟩

end SR.Layout
