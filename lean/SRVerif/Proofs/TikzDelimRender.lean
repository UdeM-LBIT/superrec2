/-
  C15: exactly one `\begin{tikzpicture}` and one `\end{tikzpicture}` in the ASSEMBLED text of
  `render` (not only in the list of blocks it joins), for call sequences whose text fillings are
  safe (`CallSafe`: `noD` of `Proofs/TikzDelim.lean`).
-/
import SRVerif.Proofs.TikzDelim
import SRVerif.Proofs.TikzDoc

namespace SR.Tikz

/-- Every text filling of the call is safe: no `n{`, no `d{`, no `{` in front. -/
def CallSafe (c : Call) : Prop := ∀ s, Fill.text s ∈ c.fills → noD s = true

theorem noD_of_alnum {s : Str} (h : s.all isAlnum = true) : noD s = true :=
  noD_of_braceFree (braceFree_of_all _ (by decide) (by decide) s h)

theorem rfills_noD {tbl : List Str} {pre : Str} (hpre : pre.all isAlnum = true) {fs : List Fill}
    {os : List RFill} (h : All₂ (FillRes tbl) fs os) (hs : ∀ s, Fill.text s ∈ fs → noD s = true) :
    ∀ f ∈ os.map (RFill.str pre), noD f = true := by
  intro f hf
  obtain ⟨b, hb, rfl⟩ := List.mem_map.1 hf
  obtain ⟨a, ha, hab⟩ := h.mem_right hb
  cases a with
  | text s =>
    cases b with
    | text s' =>
      simp only [FillRes] at hab
      subst hab
      exact hs s ha
    | color i => exact hab.elim
  | color hh =>
    cases b with
    | text s' => exact hab.elim
    | color i =>
      apply noD_of_alnum
      simp only [RFill.str, colorName, List.all_append, Bool.and_eq_true]
      exact ⟨hpre, natStr_alnum i⟩

theorem rcall_noD (calls : List Call) (hs : ∀ c ∈ calls, CallSafe c) :
    ∀ o ∈ (resolveCalls [] calls).2,
      ∀ f ∈ o.fills.map (RFill.str Generated.colorPrefix), noD f = true := by
  intro o ho
  obtain ⟨c, hc, _, _, hf⟩ := resolveCalls_mem ho
  exact rfills_noD colorPrefix_alnum hf (hs c hc)

theorem defs_no_delims (defs : Str) (hd : DefsOK defs) :
    countOcc beginPicture defs = 0 ∧ countOcc endPicture defs = 0 := by
  obtain ⟨t, fills, ht, hf, rfl⟩ := hd
  rcases ht with rfl | rfl
  · refine countOcc_instantiate defs_delimFree.1 (noD_of_fillsOK ?_ hf)
    intro k hk
    have := List.all_eq_true.1 defs_no_label.1 k hk
    simpa using this
  · refine countOcc_instantiate defs_delimFree.2 (noD_of_fillsOK ?_ hf)
    intro k hk
    have := List.all_eq_true.1 defs_no_label.2 k hk
    simpa using this

theorem block_free (defs : Str) (calls : List Call) (hd : DefsOK defs)
    (hc : ∀ c ∈ calls, CallOK c) (hs : ∀ c ∈ calls, CallSafe c) :
    let colors := (resolveCalls [] calls).1
    let out := (resolveCalls [] calls).2
    let body := bodyBlocks Generated.layerNames Generated.colorPrefix out
    let head := [defs] ++ (enumFrom 0 colors).map (colorDefLine Generated.colorPrefix)
    ∀ b ∈ head ++ body, countOcc beginPicture b = 0 ∧ countOcc endPicture b = 0 := by
  intro colors out body head b hb
  rcases List.mem_append.1 hb with hb | hb
  · rcases List.mem_append.1 hb with hb | hb
    · rw [List.mem_singleton.1 hb]
      exact defs_no_delims defs hd
    · obtain ⟨p, hp, rfl⟩ := List.mem_map.1 hb
      rw [colorDefLine_eq]
      apply countOcc_instantiate definecolor_delimFree
      intro f hf
      simp only [List.mem_cons, List.not_mem_nil, or_false] at hf
      rcases hf with rfl | rfl
      · exact noD_of_alnum (natStr_alnum _)
      · exact noD_of_alnum (colors_alnum calls hc p hp)
  · rcases mem_bodyBlocks _ _ _ b hb with ⟨name, hn, rfl⟩ | ⟨o, ho, rfl⟩
    · have hbf : braceFree (commentLine name) = true := by
        have := List.all_eq_true.1 layerNames_braceFree name hn
        simpa [commentLine, braceFree, isBrace] using this
      obtain ⟨st', h, _⟩ := drun_of_noD (st := .z) (by decide) (noD_of_braceFree hbf)
      exact countOcc_eq_zero_of_drun h
    · obtain ⟨hst, _⟩ := rcall_fillsOK calls hc o ho
      have ht := List.all_eq_true.1 statements_delimFree _ hst
      exact countOcc_instantiate ht (rcall_noD calls hs o ho)

theorem delims_disjoint :
    countOcc beginPicture beginPicture = 1 ∧ countOcc beginPicture endPicture = 0 ∧
    countOcc endPicture beginPicture = 0 ∧ countOcc endPicture endPicture = 1 ∧
    '\n' ∉ beginPicture ∧ '\n' ∉ endPicture ∧ beginPicture ≠ [] ∧ endPicture ≠ [] := by
  decide

theorem render_shape (defs : Str) (calls : List Call) :
    render Generated.renderSkeleton Generated.layerNames Generated.colorPrefix Generated.joiner
        defs calls =
      List.intercalate ['\n'] ([defs] ++ (enumFrom 0 (resolveCalls [] calls).1).map
        (colorDefLine Generated.colorPrefix)) ++ '\n' :: (beginPicture ++ '\n' ::
      (List.intercalate ['\n'] (bodyBlocks Generated.layerNames Generated.colorPrefix
        (resolveCalls [] calls).2) ++ '\n' :: (endPicture ++ ['\n']))) := by
  have hbody : bodyBlocks Generated.layerNames Generated.colorPrefix (resolveCalls [] calls).2 ≠ [] := by
    have hl : Generated.layerNames ≠ [] := by decide
    cases hnames : Generated.layerNames with
    | nil => exact absurd hnames hl
    | cons n ns => simp [bodyBlocks, enumFrom]
  rw [render, Generated.joiner_newline, skeleton_std, renderBlocks_std, List.append_assoc,
    List.append_assoc, intercalate_append _ (by simp) (by simp),
    intercalate_append _ (xs := [beginPicture]) (by simp) (by simp),
    intercalate_append _ hbody (by simp), List.intercalate_singleton]
  simp [List.intercalate, List.intersperse]

theorem head_body_free (defs : Str) (calls : List Call) (hd : DefsOK defs)
    (hc : ∀ c ∈ calls, CallOK c) (hs : ∀ c ∈ calls, CallSafe c) {pat : Str}
    (hp : pat = beginPicture ∨ pat = endPicture) :
    countOcc pat (List.intercalate ['\n'] ([defs] ++ (enumFrom 0 (resolveCalls [] calls).1).map
      (colorDefLine Generated.colorPrefix))) = 0 ∧
    countOcc pat (List.intercalate ['\n'] (bodyBlocks Generated.layerNames Generated.colorPrefix
      (resolveCalls [] calls).2)) = 0 := by
  obtain ⟨_, _, _, _, n1, n2, e1, e2⟩ := delims_disjoint
  have hfree := block_free defs calls hd hc hs
  simp only at hfree
  have hn : '\n' ∉ pat ∧ pat ≠ [] := by
    rcases hp with rfl | rfl
    · exact ⟨n1, e1⟩
    · exact ⟨n2, e2⟩
  have h0 : ∀ b ∈ _ ++ _, countOcc pat b = 0 := fun b hb => by
    rcases hp with rfl | rfl
    · exact (hfree b hb).1
    · exact (hfree b hb).2
  rw [countOcc_intercalate hn.1 hn.2, countOcc_intercalate hn.1 hn.2]
  exact ⟨sum_map_eq_zero _ _ fun b hb => h0 b (List.mem_append_left _ hb),
    sum_map_eq_zero _ _ fun b hb => h0 b (List.mem_append_right _ hb)⟩

theorem render_delims_once (defs : Str) (calls : List Call) (hd : DefsOK defs)
    (hc : ∀ c ∈ calls, CallOK c) (hs : ∀ c ∈ calls, CallSafe c) :
    countOcc beginPicture (render Generated.renderSkeleton Generated.layerNames
      Generated.colorPrefix Generated.joiner defs calls) = 1 ∧
    countOcc endPicture (render Generated.renderSkeleton Generated.layerNames
      Generated.colorPrefix Generated.joiner defs calls) = 1 := by
  obtain ⟨d1, d2, d3, d4, n1, n2, e1, e2⟩ := delims_disjoint
  obtain ⟨a1, b1⟩ := head_body_free defs calls hd hc hs (.inl rfl)
  obtain ⟨a2, b2⟩ := head_body_free defs calls hd hc hs (.inr rfl)
  rw [render_shape]
  constructor
  · rw [countOcc_append_sep n1 e1, countOcc_append_sep n1 e1, countOcc_append_sep n1 e1,
      countOcc_append_sep n1 e1, a1, b1, d1, d2]
    rfl
  · rw [countOcc_append_sep n2 e2, countOcc_append_sep n2 e2, countOcc_append_sep n2 e2,
      countOcc_append_sep n2 e2, a2, b2, d3, d4]
    rfl

end SR.Tikz
