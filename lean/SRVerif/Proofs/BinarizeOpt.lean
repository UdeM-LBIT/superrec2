/-
  C08: the result entry fed by all pairs of refinements (`rankOuts`, `multiCands`): its result
  is the set of arg-minima over the candidates of all pairs (`mem_rank_multi`).  `spfs_eq_rank`,
  `uspfs_eq_rank` (`rfl`) tie the per-pair candidates `spfsCands`, `uspfsCands` to the binary
  solvers.
-/
import SRVerif.Proofs.Cost
import SRVerif.Model.Binarize

namespace SR.Bin

open SR

theorem mem_refinementPairs {tO tS : NTree} {p : BinT × BinT} :
    p ∈ refinementPairs tO tS ↔ p.1 ∈ binarize tO ∧ p.2 ∈ binarize tS := by
  simp only [refinementPairs, List.mem_flatMap, List.mem_map]
  constructor
  · rintro ⟨bO, hO, bS, hS, rfl⟩; exact ⟨hO, hS⟩
  · rintro ⟨hO, hS⟩; exact ⟨p.1, hO, p.2, hS, rfl⟩

theorem mem_rankOuts (c : Costs) (mode : LabelMode) (data : LeafData) (outs : List Out) (x : Out) :
    x ∈ rankOuts c mode data outs ↔
      x ∈ outs ∧ ∀ y ∈ outs, Cost.le (x.cost c mode data) (y.cost c mode data) = true :=
  mem_dedup_filter_minList (Out.cost c mode data) outs x

theorem nodup_rankOuts (c : Costs) (mode : LabelMode) (data : LeafData) (outs : List Out) :
    (rankOuts c mode data outs).Nodup := nodup_dedup _

theorem rankOuts_ne_nil (c : Costs) (mode : LabelMode) (data : LeafData) (outs : List Out)
    (h : outs ≠ []) : rankOuts c mode data outs ≠ [] :=
  dedup_filter_minList_ne_nil (Out.cost c mode data) outs h

theorem mem_multiCands {tO tS : NTree} {data : LeafData} {cands : RTree → OTree → List Sol} {x : Out} :
    x ∈ multiCands tO tS data cands ↔
      x.oTree ∈ binarize tO ∧ x.sTree ∈ binarize tS ∧
        x.sol ∈ cands (shape x.sTree.toN) (toOTree data x.sTree x.oTree) := by
  simp only [multiCands, List.mem_flatMap, List.mem_map]
  constructor
  · rintro ⟨p, hp, s, hs, rfl⟩
    exact ⟨(mem_refinementPairs.mp hp).1, (mem_refinementPairs.mp hp).2, hs⟩
  · rintro ⟨hO, hS, hs⟩
    exact ⟨(x.oTree, x.sTree), mem_refinementPairs.mpr ⟨hO, hS⟩, x.sol, hs, rfl⟩

theorem multiCands_eq_nil {tO tS : NTree} {data : LeafData} {cands : RTree → OTree → List Sol} :
    multiCands tO tS data cands = [] ↔
      ∀ bO ∈ binarize tO, ∀ bS ∈ binarize tS, cands (shape bS.toN) (toOTree data bS bO) = [] := by
  simp only [List.eq_nil_iff_forall_not_mem]
  constructor
  · intro h bO hbO bS hbS s hs
    exact h { sTree := bS, oTree := bO, sol := s } (mem_multiCands.mpr ⟨hbO, hbS, hs⟩)
  · intro h y hy
    obtain ⟨hO, hS, hs⟩ := mem_multiCands.mp hy
    exact h _ hO _ hS _ hs

/-- The statement behind `C08_opt_spfs`, `C08_opt_uspfs`, for any per-input candidates. -/
theorem mem_rank_multi (c : Costs) (mode : LabelMode) (tO tS : NTree) (data : LeafData)
    (cands : RTree → OTree → List Sol) (x : Out) :
    x ∈ rankOuts c mode data (multiCands tO tS data cands) ↔
      (x.oTree ∈ binarize tO ∧ x.sTree ∈ binarize tS ∧
        x.sol ∈ cands (shape x.sTree.toN) (toOTree data x.sTree x.oTree)) ∧
      ∀ bO ∈ binarize tO, ∀ bS ∈ binarize tS,
        ∀ s ∈ cands (shape bS.toN) (toOTree data bS bO),
          Cost.le (x.cost c mode data) (totalCost c mode (toOTree data bS bO) s) = true := by
  rw [mem_rankOuts, mem_multiCands]
  constructor
  · rintro ⟨hx, hmin⟩
    refine ⟨hx, fun bO hO bS hS s hs => ?_⟩
    exact hmin { sTree := bS, oTree := bO, sol := s } (mem_multiCands.mpr ⟨hO, hS, hs⟩)
  · rintro ⟨hx, hmin⟩
    refine ⟨hx, fun y hy => ?_⟩
    obtain ⟨hO, hS, hs⟩ := mem_multiCands.mp hy
    exact hmin y.oTree hO y.sTree hS y.sol hs

theorem sol_mem_rankByCost_of_mem_rank_multi {c : Costs} {mode : LabelMode} {tO tS : NTree}
    {data : LeafData} {cands : RTree → OTree → List Sol} {x : Out}
    (h : x ∈ rankOuts c mode data (multiCands tO tS data cands)) :
    x.sol ∈ rankByCost c mode (toOTree data x.sTree x.oTree)
      (cands (shape x.sTree.toN) (toOTree data x.sTree x.oTree)) := by
  obtain ⟨⟨hO, hS, hs⟩, hmin⟩ := (mem_rank_multi c mode tO tS data cands x).mp h
  exact (mem_rankByCost _ _ _ _ _).mpr ⟨hs, fun s' hs' => hmin _ hO _ hS s' hs'⟩

theorem spfs_eq_rank (c : Costs) (S : RTree) (base : Bool) (o : OTree) (pre : Option (List Nat)) :
    spfs c S base o pre = rankByCost c .ordered o (spfsCands c S base o pre) := rfl

theorem uspfs_eq_rank (c : Costs) (S : RTree) (base : Bool) (o : OTree) :
    uspfs c S base o = rankByCost c .unordered o (uspfsCands c S base o) := rfl

end SR.Bin
