/-
  C12 (bridge): what the embedding of `Model/SolOutput.lean` is made of.  A named tree is known by
  the list of its nodes in pre-order, each as path, name and colour (`tagNT`); the mappings of the
  embedding are keyed by the pre-order of the shape, and a valid reconciliation (`Spec.validRec`,
  what C04 proves of every returned solution) maps every node into the species tree.  That the
  embedded objects are in the domain of the C11 round trip is proved with the colours, in
  `SolOutputColour.lean`.
-/
import SRVerif.Model.SolOutput
import SRVerif.Proofs.SerializeClasses
import SRVerif.Proofs.RTree
import SRVerif.Proofs.Enum

namespace SR.SolOut

open SR SR.Ser

theorem char_toNat_lt (c : Char) : c.toNat < 4294967296 := c.val.toNat_lt

theorem charsCode_inj : ∀ a b : List Char, charsCode a = charsCode b → a = b
  | [], [], _ => rfl
  | [], d :: ds, h => by simp only [charsCode] at h; omega
  | c :: cs, [], h => by simp only [charsCode] at h; omega
  | c :: cs, d :: ds, h => by
    simp only [charsCode] at h
    have h1 := char_toNat_lt c
    have h2 := char_toNat_lt d
    have : c.toNat = d.toNat ∧ charsCode cs = charsCode ds := by omega
    rw [Char.toNat_inj.mp this.1, charsCode_inj cs ds this.2]

theorem strCode_inj (a b : String) (h : strCode a = strCode b) : a = b :=
  String.toList_inj.mp (charsCode_inj _ _ h)

/-- One row of the pre-order table of a named tree: path, name, colour. -/
def tagNT (x : Path × NT) : Path × String × Option String := (x.1, x.2.name, x.2.color)

/-- The row at path `q` of the uncoloured embedded tree named by `nm`. -/
def tagP (nm : Path → String) (q : Path) : Path × String × Option String := (q, nm q, none)

theorem map_tagNT_below (i : Nat) (l : List (Path × NT)) :
    (l.map fun x => (i :: x.1, x.2)).map tagNT = (l.map tagNT).map fun y => (i :: y.1, y.2) := by
  simp only [List.map_map]
  rfl

mutual
  theorem pre_ntOf : ∀ (nm : Path → String) (t : RTree),
      (ntOf nm t).pre.map tagNT = t.preorder.map (tagP nm)
    | nm, .node cs => by
      simp only [ntOf, NT.pre, RTree.preorder, List.map_cons]
      rw [preL_ntOfL nm cs 0]
      rfl
  theorem preL_ntOfL : ∀ (nm : Path → String) (cs : List RTree) (i : Nat),
      (NT.preL (ntOfL nm cs i) i).map tagNT = (RTree.preorderList cs i).map (tagP nm)
    | nm, [], i => by simp [ntOfL, NT.preL, RTree.preorderList]
    | nm, c :: cs, i => by
      simp only [ntOfL, NT.preL, RTree.preorderList, List.map_append]
      rw [map_tagNT_below, pre_ntOf, preL_ntOfL nm cs (i + 1), List.map_map, List.map_map]
      rfl
end

theorem sub_isSome_iff_mem_paths (t : NT) (q : Path) :
    (t.sub q).isSome = true ↔ q ∈ t.pre.map (·.1) := by
  simp only [Option.isSome_iff_exists, ← NT.mem_pre, List.mem_map, Prod.exists, exists_and_right,
    exists_eq_right]

theorem map_fst_cons2 {β : Type} (i : Nat) (l : List (Path × β)) :
    (l.map (cons2 i)).map (·.1) = (l.map (·.1)).map (i :: ·) := by
  simp [List.map_map, Function.comp_def, cons2]

theorem nodeMap_keys {β : Type} (f : Path → List Nat → β) :
    ∀ s : Sol, (nodeMap f s).map (·.1) = s.shape.preorder
  | .leaf _ _ => by simp [nodeMap, Sol.shape, RTree.preorder, RTree.preorderList]
  | .node _ _ l r => by
    simp only [nodeMap, Sol.shape, RTree.preorder, RTree.preorderList, List.map_cons,
      List.map_append, map_fst_cons2, nodeMap_keys f l, nodeMap_keys f r, List.append_nil]

theorem leafMap_keys_sublist {β : Type} (f : Path → List Nat → β) :
    ∀ o : OTree, ((leafMap f o).map (·.1)).Sublist o.shape.preorder
  | .leaf _ _ => by simp [leafMap, OTree.shape, RTree.preorder, RTree.preorderList]
  | .node l r => by
    simp only [leafMap, OTree.shape, RTree.preorder, RTree.preorderList, List.map_append,
      map_fst_cons2, List.append_nil]
    exact List.Sublist.cons _ (List.Sublist.append ((leafMap_keys_sublist f l).map _)
      ((leafMap_keys_sublist f r).map _))

theorem nodeMap_map {β γ : Type} (f : Path → List Nat → β) (g : β → γ) :
    ∀ s : Sol, (nodeMap f s).map (fun x => (x.1, g x.2)) = nodeMap (fun a b => g (f a b)) s
  | .leaf _ _ => rfl
  | .node _ _ l r => by
    simp only [nodeMap, List.map_cons, List.map_append, List.map_map, ← nodeMap_map f g l,
      ← nodeMap_map f g r]
    rfl

theorem shape_of_validRec : ∀ (o : OTree) (s : Sol), Spec.validRec o s = true → s.shape = o.shape :=
  Spec.validRec_induction (fun _ _ _ => rfl)
    (fun _ _ _ _ _ _ _ _ _ ihl ihr => by simp only [Sol.shape, OTree.shape, ihl, ihr])

theorem nodeMap_sp_isNode (S : RTree) : ∀ (o : OTree) (s : Sol),
    (∀ q ∈ leafSpecies o, S.isNode q = true) → Spec.validRec o s = true →
    ∀ x ∈ nodeMap (fun sp _ => sp) s, S.isNode x.2 = true := by
  intro o
  induction o with
  | leaf sp f =>
    intro s hS hv x hx
    obtain ⟨g, rfl⟩ := validRec_leaf_inv hv
    simp only [nodeMap, List.mem_singleton] at hx
    subst hx
    exact hS _ (by simp [leafSpecies])
  | node ol or ihl ihr =>
    intro s hS hv x hx
    obtain ⟨q, hq, hqa⟩ := validRec_sp_anc_leaf _ s hv
    obtain ⟨v, g, l, r, rfl, -, hvl, hvr⟩ := validRec_node_inv hv
    simp only [nodeMap, List.mem_cons, List.mem_append, List.mem_map] at hx
    rcases hx with rfl | ⟨y, hy, rfl⟩ | ⟨y, hy, rfl⟩
    · exact RTree.isNode_of_isAnc hqa (hS q hq)
    · exact ihl l (fun q hq => hS q (by simp [leafSpecies, hq])) hvl y hy
    · exact ihr r (fun q hq => hS q (by simp [leafSpecies, hq])) hvr y hy

theorem leafMap_sp : ∀ o : OTree, (leafMap (fun sp _ => sp) o).map (·.2) = leafSpecies o
  | .leaf _ _ => rfl
  | .node l r => by
    simp only [leafMap, leafSpecies, List.map_append, List.map_map, ← leafMap_sp l, ← leafMap_sp r]
    rfl

/-- Names: pairwise distinct and safe (non-empty words over `[A-Za-z0-9_.-]`, `NT.safeStr`)
    on the nodes of the species tree and on the nodes of the object tree; distinct
    families have distinct names. -/
structure Naming.Ok (nm : Naming) (S : RTree) (o : OTree) : Prop where
  sInj : ∀ p ∈ S.preorder, ∀ q ∈ S.preorder, nm.sname p = nm.sname q → p = q
  sSafe : ∀ p ∈ S.preorder, NT.safeStr (nm.sname p) = true
  oInj : ∀ p ∈ o.shape.preorder, ∀ q ∈ o.shape.preorder, nm.oname p = nm.oname q → p = q
  oSafe : ∀ p ∈ o.shape.preorder, NT.safeStr (nm.oname p) = true
  fInj : ∀ a b, nm.fname a = nm.fname b → a = b

theorem costTable_wf (c : Costs) : CostsWF (costTable c) := by
  have h : ((costTable c).map (·.1)).Nodup ∧ ∀ e ∈ (costTable c).map (·.1), e.valid = true := by
    -- the keys are five literals, whatever `c`
    simp only [costTable, List.map_cons, List.map_nil]
    decide +kernel
  exact ⟨h.1, fun x hx => h.2 _ (List.mem_map_of_mem hx)⟩

theorem embAnyInput_base {nm : Naming} {S : RTree} {o : OTree} (c : Costs) (withSyn : Bool) :
    (embAnyInput nm c S o withSyn).base = embInput nm c S o := by
  cases withSyn <;> rfl

end SR.SolOut
