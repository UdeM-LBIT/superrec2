/-
  The role entries of `_compute_uspfs_entry` (`stepSpecies` / `childSub`) against the role
  aggregates of the label DP: each of the ten entries (two kinds × five roles) of a child is a
  fresh MIN entry that received `offered` over `species_lca.tree.traverse()`, and `offered` is
  what `rv` offers, in `ExtInt` arithmetic.
-/
import SRVerif.Proofs.CodeCellOK
import SRVerif.Proofs.LabelDPRoles

namespace SR.UspfsCode

open SR Cost Path

/-- The role entry of a `MappingChoices` by role (`RoleId` of the label DP). -/
def Choices.get (ch : Choices) : RoleId → Entry OAsg
  | .left => ch.left
  | .right => ch.right
  | .cons => ch.conserved
  | .seg => ch.segment
  | .sep => ch.separate

/-- The per-kind edge cost of the code (`sloss_cost`, `lca_lca_dist`, `lca_inh_dist`, nothing). -/
def edgeE (c : Costs) (ll li : ExtInt) (cons : Bool) (k kc : Kind) : ExtInt :=
  match k, kc with
  | .inh, .lca => if cons then .fin c.sloss else .fin 0
  | .inh, .inh => .fin 0
  | .lca, .lca => if cons then ll else .fin 0
  | .lca, .inh => li

/-- The candidates offered to the role entry `(k, ρ)` at the species `x`. -/
def offered (c : Costs) (S : RTree) (row : Row) (s : Path) (ll li : ExtInt) (k : Kind)
    (ρ : RoleId) (x : Path) : List (Cand OAsg) :=
  match baseE c S s ρ x with
  | none => []
  | some b =>
    [cand (b + Cell.value .min (row x .lca) + edgeE c ll li (ρ.isCons) k .lca) (x, .lca),
     cand (b + Cell.value .min (row x .inh) + edgeE c ll li (ρ.isCons) k .inh) (x, .inh)]

theorem update_nil (e : Entry OAsg) : e.update [] = e := rfl

theorem stepSpecies_eq (c : Costs) (S : RTree) (row : Row) (s : Path) (ll li : ExtInt) (sub : Sub)
    (x : Path) :
    stepSpecies c S row s ll li sub x =
      { lca := { left := sub.lca.left.update (offered c S row s ll li .lca .left x),
                 right := sub.lca.right.update (offered c S row s ll li .lca .right x),
                 conserved := sub.lca.conserved.update (offered c S row s ll li .lca .cons x),
                 segment := sub.lca.segment.update (offered c S row s ll li .lca .seg x),
                 separate := sub.lca.separate.update (offered c S row s ll li .lca .sep x) },
        inh := { left := sub.inh.left.update (offered c S row s ll li .inh .left x),
                 right := sub.inh.right.update (offered c S row s ll li .inh .right x),
                 conserved := sub.inh.conserved.update (offered c S row s ll li .inh .cons x),
                 segment := sub.inh.segment.update (offered c S row s ll li .inh .seg x),
                 separate := sub.inh.separate.update (offered c S row s ll li .inh .sep x) } } := by
  unfold stepSpecies offered baseE
  -- along the decision tree of the code
  by_cases h1 : isAnc s x = true
  · by_cases h2 : speciesIsLeaf S s = true
    · simp [edgeE, RoleId.isCons, update_nil, h1, h2]
    · by_cases h3 : isAnc (s ++ [0]) x = true
      · simp [edgeE, RoleId.isCons, update_nil, h1, h2, h3]
      · by_cases h4 : isAnc (s ++ [1]) x = true <;>
          simp [edgeE, RoleId.isCons, update_nil, h1, h2, h3, h4]
  · by_cases h5 : isAnc x s = true <;> simp [edgeE, RoleId.isCons, update_nil, h1, h5]

theorem stepSpecies_get (c : Costs) (S : RTree) (row : Row) (s : Path) (ll li : ExtInt) (sub : Sub)
    (x : Path) (k : Kind) (ρ : RoleId) :
    ((stepSpecies c S row s ll li sub x).get k).get ρ =
      ((sub.get k).get ρ).update (offered c S row s ll li k ρ x) := by
  rw [stepSpecies_eq]
  cases k <;> cases ρ <;> rfl

theorem foldl_stepSpecies_get (c : Costs) (S : RTree) (row : Row) (s : Path) (ll li : ExtInt)
    (k : Kind) (ρ : RoleId) (xs : List Path) (sub : Sub) :
    ((xs.foldl (stepSpecies c S row s ll li) sub).get k).get ρ =
      ((sub.get k).get ρ).update (xs.flatMap (offered c S row s ll li k ρ)) := by
  induction xs generalizing sub with
  | nil => rfl
  | cons x xs ih =>
    rw [List.foldl_cons, ih, stepSpecies_get, Entry.update_append, List.flatMap_cons]

theorem childSub_get (pol : Retain) (c : Costs) (S : RTree) (row : Row) (s : Path)
    (rootSet childSet : List Nat) (k : Kind) (ρ : RoleId) :
    ((childSub pol c S row s rootSet childSet).get k).get ρ =
      Entry.update (Entry.init .min pol)
        ((levelOrder S).flatMap (offered c S row s (edgeDists c rootSet childSet).1
          (edgeDists c rootSet childSet).2 k ρ)) := by
  unfold childSub
  rw [foldl_stepSpecies_get]
  cases k <;> cases ρ <;> rfl

theorem entryBatch_eq (c : Costs) (a b : Choices) :
    entryBatch c a b = (events c).flatMap fun ev =>
      entryCands ((a.get ev.2.1).combine (b.get ev.2.2) (evComb ev.1.toExt)) := by
  simp [entryBatch, events, Choices.get, Cost.toExt]

theorem edgeE_eq (c : Costs) (a ca : UnAnn) (b : Bool) (k kc : Kind) :
    edgeE c (edgeDists c a.lcaSet ca.lcaSet).1 (edgeDists c a.lcaSet ca.lcaSet).2 b k kc =
      Cost.toExt (if b then (unAlg c).conserv a k ca kc else (unAlg c).segment a k ca kc) := by
  simp only [edgeE, edgeDists, unAlg]
  cases b <;> cases k <;> cases kc <;> cases subsetB a.lcaSet ca.lcaSet <;> rfl

theorem mem_offeredAll {c : Costs} {S : RTree} {row : Row} {s : Path} {ll li : ExtInt} {k : Kind}
    {ρ : RoleId} {cd : Cand OAsg} :
    cd ∈ (levelOrder S).flatMap (offered c S row s ll li k ρ) ↔
      ∃ x kc b, S.isNode x = true ∧ baseE c S s ρ x = some b ∧
        cd = cand (b + Cell.value .min (row x kc) + edgeE c ll li (ρ.isCons) k kc) (x, kc) := by
  simp only [List.mem_flatMap, mem_levelOrder]
  constructor
  · rintro ⟨x, hx, h⟩
    unfold offered at h
    cases hb : baseE c S s ρ x with
    | none => simp [hb] at h
    | some b =>
      simp only [hb, List.mem_cons, List.not_mem_nil, or_false] at h
      rcases h with h | h
      · exact ⟨x, .lca, b, hx, hb, h⟩
      · exact ⟨x, .inh, b, hx, hb, h⟩
  · rintro ⟨x, kc, b, hx, hb, rfl⟩
    refine ⟨x, hx, ?_⟩
    unfold offered
    simp only [hb]
    cases kc <;> simp

theorem roles_rel (c : Costs) (S : RTree) (row : Row) (L : List (DCell Kind))
    (h : RowOk S (fun x k => Cell.value .min (row x k)) L)
    (a ca : UnAnn) (s : Path) (k : Kind) (ρ : RoleId) :
    RelOn id (((childSub .all c S row s a.lcaSet ca.lcaSet).get k).get ρ)
      ((roles (unAlg c) c S a s k ca L).get ρ) := by
  rw [childSub_get, roles_get]
  refine relOn_of_corrOn (role_corr (unAlg c) c S a s k ca ρ h (φ := id) (fun u => ⟨u, rfl⟩) ?_ ?_)
  · intro cd hcd
    obtain ⟨x, kc, b, _, hb, rfl⟩ := mem_offeredAll.mp hcd
    exact ⟨(x, kc), b, hb, by rw [edgeE_eq]; rfl⟩
  · intro t b n hx hb hv
    exact mem_offeredAll.mpr ⟨t.1, t.2, b, hx, hb, by rw [edgeE_eq, cand]; exact congrArg (Cand.mk · _) hv.symm⟩

end SR.UspfsCode
