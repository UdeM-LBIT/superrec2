/-
  What each drawing call made on behalf of a branch looks like: its species and owner, its
  colour (the branch's), its label (the branch's name), and for a transfer arrow its target — the
  anchor of the transferred child in the layout of the species that child is mapped to.
-/
import SRVerif.Proofs.TikzDraw

namespace SR.TikzDraw

open SR SR.Layout SR.Tikz

/-- A call made by the loop iteration of branch `b` of the species layout `lay`. -/
structure BranchCall (deco : Deco) (all : List SubLayout) (spOf : Path → Option Path)
    (lay : SubLayout) (b : FBranch) (c : DrawCall) : Prop where
  sp : c.sp = lay.sp
  owner : c.owner = some b.key
  /-- every statement of a branch is drawn in the branch's colour -/
  colour : c.fills.head? = some (.color (deco.color lay.sp b.key))
  /-- which statements a branch of each kind makes -/
  stmt : c.stmt = 2 ∨ (b.kind = .leaf ∧ c.stmt = 3) ∨
    (b.kind = .loss ∧ (c.stmt = 4 ∨ c.stmt = 5 ∨ c.stmt = 6)) ∨
    (b.kind = .spec ∧ (c.stmt = 7 ∨ c.stmt = 8)) ∨
    (b.kind = .dup ∧ (c.stmt = 9 ∨ c.stmt = 10)) ∨
    (b.kind = .hgt ∧ (c.stmt = 11 ∨ c.stmt = 12 ∨ c.stmt = 13))
  /-- extant genes, speciations and duplications show the branch's label -/
  label : c.stmt = 3 ∨ c.stmt = 8 ∨ c.stmt = 10 → DFill.text (deco.name lay.sp b.key) ∈ c.fills
  /-- a transfer node shows the label, or `\phantom{-}` when it is empty -/
  hgtLabel : c.stmt = 13 →
    DFill.text (if (deco.name lay.sp b.key).isEmpty then phantomDash else deco.name lay.sp b.key)
      ∈ c.fills
  /-- a transfer arrow ends at the anchor of the transferred child `right_gene`, looked up in the
      layout of the species `mapping[right_gene]` -/
  arrow : c.stmt = 12 → ∃ g s fl p, b.right = some (.gene g) ∧ c.target = some (.gene g) ∧
    spOf g = some s ∧ slLookup all s = some fl ∧ lookupKey fl.anchors (.gene g) = some p ∧
    c.fills.getLast? = some (.coord p)
  noTarget : c.stmt ≠ 12 → c.target = none

/-- The plain paths and the loss marker: no label, no target. -/
theorem branchCall_plain (deco : Deco) (all : List SubLayout) (spOf : Path → Option Path)
    (lay : SubLayout) (b : FBranch) (k : Nat) (fills : List DFill)
    (hk : k = 2 ∨ (b.kind = .loss ∧ (k = 4 ∨ k = 5 ∨ k = 6)) ∨ (b.kind = .spec ∧ k = 7) ∨
      (b.kind = .dup ∧ k = 9) ∨ (b.kind = .hgt ∧ k = 11)) :
    BranchCall deco all spOf lay b (branchStmt deco lay b k fills) := by
  refine ⟨rfl, rfl, rfl, ?_, fun (h : k = 3 ∨ k = 8 ∨ k = 10) => by omega,
    fun (h : k = 13) => by omega, fun (h : k = 12) => by omega, fun _ => rfl⟩
  rcases hk with h | ⟨hb, h⟩ | ⟨hb, h⟩ | ⟨hb, h⟩ | ⟨hb, h⟩
  · exact .inl h
  · exact .inr (.inr (.inl ⟨hb, h⟩))
  · exact .inr (.inr (.inr (.inl ⟨hb, .inl h⟩)))
  · exact .inr (.inr (.inr (.inr (.inl ⟨hb, .inl h⟩))))
  · exact .inr (.inr (.inr (.inr (.inr ⟨hb, .inl h⟩))))

theorem drawBranch_branchCall {o : Orientation} {dp : DParams} {deco : Deco}
    {all : List SubLayout} {spOf : Path → Option Path} {lay : SubLayout}
    {ll rl : Option SubLayout} {b : FBranch} {cs : List DrawCall}
    (h : drawBranch o dp deco all spOf lay ll rl b = .ok cs) :
    ∀ c ∈ cs, BranchCall deco all spOf lay b c := by
  have plain := branchCall_plain deco all spOf lay b
  refine forall_mem_drawBranch (P := BranchCall deco all spOf lay b) h ?_ ?_
  · intro a
    exact plain 2 _ (.inl rfl)
  · intro body hd
    cases hd with
    | leaf hk =>
      exact List.forall_mem_singleton.2 ⟨rfl, rfl, rfl, .inr (.inl ⟨hk, rfl⟩), by simp,
        fun h => by simp at h, fun h => by simp at h, fun _ => rfl⟩
    | loss hk keep =>
      exact forall_mem_triple (plain 4 _ (by simp [hk])) (plain 5 _ (by simp [hk]))
        (plain 6 _ (by simp [hk]))
    | spec hk la ra =>
      exact forall_mem_pair (plain 7 _ (by simp [hk]))
        ⟨rfl, rfl, rfl, by simp [hk], by simp,
          fun h => by simp at h, fun h => by simp at h, fun _ => rfl⟩
    | dup hk la ra =>
      exact forall_mem_pair (plain 9 _ (by simp [hk]))
        ⟨rfl, rfl, rfl, by simp [hk], by simp,
          fun h => by simp at h, fun h => by simp at h, fun _ => rfl⟩
    | hgt hk g s fl foreign la out bend hr hs hfl hf hbend =>
      exact forall_mem_triple (plain 11 _ (by simp [hk]))
        ⟨rfl, rfl, rfl, by simp [hk], fun h => by simp at h,
          fun h => by simp at h, fun _ => ⟨g, s, fl, foreign, hr, rfl, hs, hfl, hf, rfl⟩,
          fun h => absurd rfl h⟩
        ⟨rfl, rfl, rfl, by simp [hk], fun h => by simp at h,
          by simp, fun h => by simp at h, fun _ => rfl⟩

end SR.TikzDraw
