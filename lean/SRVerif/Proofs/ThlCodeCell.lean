/-
  The batches `Model/ThlCode.lean` writes to one table cell.  The fused loops of
  `_compute_thl_try_*` are split into one aggregate entry per role (`aggOf`), so that the two
  batches (`speBatch`, `dtBatch`) are functions of the value rows of the two child nodes.
-/
import SRVerif.Proofs.ThlCodeBase
import SRVerif.Proofs.Entry

namespace SR

open Path Cost

namespace ThlCode

/-- An aggregate entry: default-initialised, then offered `Candidate(w x, x)` for
    every `x` of `xs` in turn. -/
def aggOf (r : Retain) (xs : List Path) (w : Path → ExtInt) : Entry Path :=
  Entry.update (Entry.init .min r) (xs.map fun x => ⟨w x, some x⟩)

theorem foldl_offer (xs : List Path) (w : Path → ExtInt) (e : Entry Path) :
    xs.foldl (fun e x => offer e (w x) x) e = Entry.update e (xs.map fun x => ⟨w x, some x⟩) := by
  unfold Entry.update
  rw [List.foldl_map]
  rfl

theorem foldl_offer_if (xs : List Path) (p : Path → Bool) (w : Path → ExtInt) (e : Entry Path) :
    xs.foldl (fun e x => if p x then offer e (w x) x else e) e =
      Entry.update e ((xs.filter p).map fun x => ⟨w x, some x⟩) := by
  induction xs generalizing e with
  | nil => rfl
  | cons x xs ih =>
    simp only [List.foldl_cons, ih, List.filter_cons]
    cases p x <;> simp [offer, Entry.update]

theorem aggOf_congr (r : Retain) (xs : List Path) {w w' : Path → ExtInt}
    (h : ∀ x ∈ xs, w x = w' x) : aggOf r xs w = aggOf r xs w' := by
  unfold aggOf
  congr 1
  apply List.map_congr_left
  intro x hx; rw [h x hx]

theorem aggOf_inv (r : Retain) (xs : List Path) (w : Path → ExtInt) :
    Entry.Inv .min r (xs.map fun x => ⟨w x, some x⟩) (aggOf r xs w) :=
  Entry.inv_fresh .min r _

/-- The batch written by `_compute_thl_try_speciation`, given the value rows
    `gl`, `gr` of the two child nodes. -/
def speBatch (r : Retain) (c : Costs) (S : RTree) (s : Path) (gl gr : Path → ExtInt) :
    List (Cand MappingInfo) :=
  let skip := fun x => ExtInt.fin ((c.floss : Int) * ((dist s x : Int) - 1))
  let l0 := S.traverseAt (s ++ [0])
  let l1 := S.traverseAt (s ++ [1])
  cands ((aggOf r l0 fun x => gl x + skip x).combine (aggOf r l1 fun x => gr x + skip x)
    (combinator (.fin (c.spe : Int)))) ++
  cands ((aggOf r l1 fun x => gl x + skip x).combine (aggOf r l0 fun x => gr x + skip x)
    (combinator (.fin (c.spe : Int))))

/-- The species at or below `s` (offered to the roles conserved / segment), in level order. -/
def belowOf (S : RTree) (s : Path) : List Path := S.levelorder.filter (fun x => isAnc s x)

/-- The species incomparable with `s` (offered to the role separate), in level order. -/
def sepOf (S : RTree) (s : Path) : List Path :=
  S.levelorder.filter (fun x => !isAnc s x && !isAnc x s)

/-- The batch written by `_compute_thl_try_duplication_transfer`. -/
def dtBatch (r : Retain) (c : Costs) (S : RTree) (s : Path) (gl gr : Path → ExtInt) :
    List (Cand MappingInfo) :=
  let skip := fun x => ExtInt.fin ((c.floss : Int) * (dist s x : Int))
  let ltc := aggOf r (belowOf S s) fun x => gl x + skip x
  let rtc := aggOf r (belowOf S s) fun x => gr x + skip x
  let lts := aggOf r (sepOf S s) gl
  let rts := aggOf r (sepOf S s) gr
  cands (ltc.combine rtc (combinator (.fin (c.dup : Int)))) ++
  cands (lts.combine rtc (combinator c.hgt.toExt)) ++
  cands (ltc.combine rts (combinator c.hgt.toExt))

section folds

variable (wa wb : Path → ExtInt)

theorem fold_spe_left (xs : List Path) (st : SpeAggs) :
    xs.foldl (fun st x => { st with minLtl := offer st.minLtl (wa x) x,
                                    minRtl := offer st.minRtl (wb x) x }) st =
      { st with minLtl := xs.foldl (fun e x => offer e (wa x) x) st.minLtl,
                minRtl := xs.foldl (fun e x => offer e (wb x) x) st.minRtl } := by
  induction xs generalizing st with
  | nil => rfl
  | cons x xs ih => simp only [List.foldl_cons, ih]

theorem fold_spe_right (xs : List Path) (st : SpeAggs) :
    xs.foldl (fun st x => { st with minLtr := offer st.minLtr (wa x) x,
                                    minRtr := offer st.minRtr (wb x) x }) st =
      { st with minLtr := xs.foldl (fun e x => offer e (wa x) x) st.minLtr,
                minRtr := xs.foldl (fun e x => offer e (wb x) x) st.minRtr } := by
  induction xs generalizing st with
  | nil => rfl
  | cons x xs ih => simp only [List.foldl_cons, ih]

theorem fold_dt (p q : Path → Bool) (wc wd : Path → ExtInt) (xs : List Path) (st : DtAggs) :
    xs.foldl (fun st x =>
      if p x then { st with minLtc := offer st.minLtc (wa x) x, minRtc := offer st.minRtc (wb x) x }
      else if q x then { st with minLts := offer st.minLts (wc x) x, minRts := offer st.minRts (wd x) x }
      else st) st =
      { minLtc := xs.foldl (fun e x => if p x then offer e (wa x) x else e) st.minLtc,
        minRtc := xs.foldl (fun e x => if p x then offer e (wb x) x else e) st.minRtc,
        minLts := xs.foldl (fun e x => if (!p x && q x) then offer e (wc x) x else e) st.minLts,
        minRts := xs.foldl (fun e x => if (!p x && q x) then offer e (wd x) x else e) st.minRts } := by
  induction xs generalizing st with
  | nil => rfl
  | cons x xs ih =>
    simp only [List.foldl_cons, ih]
    cases p x <;> cases q x <;> simp

end folds

theorem trySpeciation_eq (r : Retain) (c : Costs) (S : RTree) (s v : Path) (tbl : Table) :
    trySpeciation r c S s v tbl =
      tbl.update r (v, s) (speBatch r c S s (fun x => tbl.value (v ++ [0], x))
        (fun x => tbl.value (v ++ [1], x))) := by
  unfold trySpeciation speBatch
  simp only [fold_spe_left, fold_spe_right, foldl_offer, aggOf]

theorem tryDuplicationTransfer_eq (r : Retain) (c : Costs) (S : RTree) (s v : Path) (tbl : Table) :
    tryDuplicationTransfer r c S s v tbl =
      tbl.update r (v, s) (dtBatch r c S s (fun x => tbl.value (v ++ [0], x))
        (fun x => tbl.value (v ++ [1], x))) := by
  unfold tryDuplicationTransfer dtBatch
  simp only [fold_dt, foldl_offer_if, aggOf, belowOf, sepOf]

/-- The label DP's tag pair of a `MappingInfo`: it tags a child placement by (species, unit
    label), the code by the species. -/
def pairOf (m : MappingInfo) : (Path × Unit) × (Path × Unit) := ((m.left, ()), (m.right, ()))

theorem pairOf_injective : Function.Injective pairOf := fun m m' h => by
  cases m; cases m'; simpa [pairOf] using h

theorem pairOf_surjective : Function.Surjective pairOf := fun u => ⟨⟨u.1.1, u.2.1⟩, rfl⟩

end ThlCode

end SR
