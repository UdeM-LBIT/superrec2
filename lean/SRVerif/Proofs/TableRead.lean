/-
  Entries seen through the table API (membership in `iter`, in `entryOf`), reading a cell after a history,
  which dictionary keys exist after a history: the vocabulary of the table theorems of C16
  (`Properties/C16Table.lean`).
-/
import SRVerif.Proofs.TableRun
import SRVerif.Proofs.Entry

namespace SR.DP

open SR.Entry (sentinel better)

variable {τ : Type} [DecidableEq τ]

omit [DecidableEq τ] in
theorem mem_iter (e : Entry τ) (c : Cand τ) :
    c ∈ iter e ↔ ∃ t ∈ e.infos, c = { value := e.value, info := some t } := by
  simp only [iter, List.mem_map]
  constructor
  · rintro ⟨t, ht, rfl⟩; exact ⟨t, ht, rfl⟩
  · rintro ⟨t, ht, rfl⟩; exact ⟨t, ht, rfl⟩

theorem mem_entryOf (v : ExtInt) (infos : List τ) (m : Merge) (r : Retain) (t : τ) :
    t ∈ (entryOf v infos m r).infos ↔ t ∈ infos := by
  simp [entryOf, List.mem_eraseDups]

/-- The batches a history offers to the cell of normalised address `a` of a table of shape `ds`. -/
def offered (ds : List Dim) (a : List Key) (ops : List (Op τ)) : List (List (Cand τ)) :=
  ops.filterMap (writesTo ds a)

/-- Everything the read-only entry methods return through the chain of keys `ks`:
    `value()`, `infos()`, `info()`, `is_infinite()`, `len()`, `list(iter())`. -/
def readAll [Min τ] (T : Table τ) (ks : List Key) : List (Out τ) :=
  [(T.step (.value ks)).2, (T.step (.infos ks)).2, (T.step (.info ks)).2,
   (T.step (.isInf ks)).2, (T.step (.len ks)).2, (T.step (.iter ks)).2]

/-- What the read-only entry methods (`readAll`) return on an entry. -/
def entryOuts [Min τ] (e : Entry τ) : List (Out τ) :=
  [.value e.value, .infos e.infos, .info (info e), .bool (isInfinite e), .nat e.infos.length, .cands (iter e)]

/-- What the read-only entry methods return on a cell that does not exist: infinitely bad, no tag. -/
def missingOuts (m : Merge) : List (Out τ) :=
  [.value (sentinel m), .infos [], .info none, .bool true, .nat 0, .cands []]

/-- What the read-only methods return on a cell, existing or not. -/
def cellOuts [Min τ] (m : Merge) : Cell τ → List (Out τ)
  | some e => entryOuts e
  | none => missingOuts m

-- keeps the `[DecidableEq τ]` of the section although it does not use it
set_option linter.unusedSectionVars false in
theorem offered_append (ds : List Dim) (a : List Key) (ops ops' : List (Op τ)) :
    offered ds a (ops ++ ops') = offered ds a ops ++ offered ds a ops' := by
  simp [offered]

namespace Table

theorem readAll_valid [Min τ] (T : Table τ) (ks a : List Key) (hne : ks ≠ []) (hlen : ks.length = T.dims.length)
    (ha : addr T.dims ks = .ok a) : readAll T ks = cellOuts T.merge (getCell T.cells a) := by
  unfold readAll
  simp only [step, withCell_valid T ks a hne hlen ha, index_valid T ks a hne hlen ha, getReal_eq,
    walk_dims, walk_cells, walk_merge, ha, Except.map]
  cases getCell T.cells a with
  | none => simp [cellOuts, missingOuts, Cell.value, Cell.infos, sentinel]
  | some e => simp [cellOuts, entryOuts, Cell.value, Cell.infos]

theorem run_readAll [Min τ] (t : Table τ) (ops : List (Op τ)) (ks a : List Key) (hne : ks ≠ [])
    (hlen : ks.length = t.dims.length) (ha : addr t.dims ks = .ok a) :
    readAll (t.run ops).1 ks
      = cellOuts t.merge ((offered t.dims a ops).foldl (Cell.update t.merge t.retain) (getCell t.cells a)) := by
  have h := run_ext t ops
  rw [readAll_valid _ ks a hne (h.dims ▸ hlen) (h.dims ▸ ha), h.merge, h.cells]
  rfl

theorem step_write_ok [Min τ] (T : Table τ) (op : Op τ) (a : List Key) (b : List (Cand τ))
    (hw : writesTo T.dims a op = some b) : (T.step op).2 = .unit := by
  obtain ⟨ks, -, t1, ha, -, h1, hs⟩ := step_write T op a b hw
  rw [hs, updateAt_ok t1 ks a b (h1.dims ▸ ha)]

theorem step_write_touched [Min τ] (T : Table τ) (op : Op τ) (a : List Key) (b : List (Cand τ))
    (hw : writesTo T.dims a op = some b) (hfin : b.any (fun x => !x.value.isInfinite) = true) :
    ∃ ks ∈ opPaths op, addr T.dims ks = .ok a ∧ ks.length = T.dims.length ∧
      ∀ p ∈ visited T.dims ks, p ∈ (T.step op).1.touched := by
  obtain ⟨ks, hks, t1, ha, hl, h1, hs⟩ := step_write T op a b hw
  refine ⟨ks, hks, ha, hl, fun p hp => ?_⟩
  rw [hs]
  exact updateAt_touched t1 ks p b hfin (h1.dims ▸ hp)

/-- A mere READ through a valid complete chain creates every dictionary key on the way (`defaultdict`
    creates what it is asked for). -/
theorem step_value_touched [Min τ] (T : Table τ) (ks a : List Key) (hne : ks ≠ [])
    (hlen : ks.length = T.dims.length) (ha : addr T.dims ks = .ok a) :
    ∀ p ∈ visited T.dims ks, p ∈ (T.step (.value ks)).1.touched := by
  intro p hp
  simp only [step, withCell, index_valid T ks a hne hlen ha, getReal_eq, walk_dims, ha, Except.map]
  exact (walk_touched _ ks p).mpr (Or.inr hp)

theorem keys_dict [Min τ] (T : Table τ) (pre a : List Key) (hs : pre.length < T.dims.length)
    (ha : addr T.dims pre = .ok a) (hd : T.dims[pre.length]? = some .dict) :
    ∃ l, (T.step (.keys pre)).2 = .keys l ∧ (T.step (.iter pre)).2 = .keys l
      ∧ (∀ k, (T.step (.contains pre k)).2 = .bool (decide (k ∈ l)))
      ∧ ∀ k, k ∈ l ↔ a ++ [k] ∈ T.touched :=
  let ⟨h1, h2, h3⟩ := step_keys_at T pre _ hs (keysAt_dict_eq T pre a ha hd)
  ⟨_, h1, h2, h3, mem_keysFilter _ a⟩

/-- Once every dictionary key on the complete valid chain `ks` to the cell `a` exists, `keys()` and
    `in` below a chain of keys denoting `a[:n]` report `a[n]`, on every dictionary axis `n`. -/
theorem keys_dict_reports [Min τ] (T : Table τ) (ks a pre : List Key) (n : Nat)
    (hlen : ks.length = T.dims.length) (ha : addr T.dims ks = .ok a)
    (hvis : ∀ p ∈ visited T.dims ks, p ∈ T.touched) (hd : T.dims[n]? = some .dict)
    (hpl : pre.length = n) (hpre : addr T.dims pre = .ok (a.take n)) :
    ∃ l k, (T.step (.keys pre)).2 = .keys l ∧ a[n]? = some k ∧ k ∈ l
      ∧ (T.step (.contains pre k)).2 = .bool true := by
  have hnk : n < ks.length := hlen ▸ (List.getElem?_eq_some_iff.1 hd).1
  have hn : n < a.length := (addr_length _ ks a ha).1 ▸ hnk
  obtain ⟨l, h1, -, h3, h4⟩ := keys_dict T pre (a.take n) (by rw [hpl, ← hlen]; exact hnk) hpre
    (by rw [hpl]; exact hd)
  have hmem : a[n] ∈ l := by
    rw [h4, ← List.take_succ_eq_append_getElem hn]
    exact hvis _ ((mem_visited _ ks _).2 ⟨n, hnk, hd, addr_take _ ks a (n + 1) ha hnk⟩)
  exact ⟨l, a[n], h1, List.getElem?_eq_getElem hn, hmem, by rw [h3, decide_eq_true hmem]⟩

end Table

end SR.DP
