/-
  Geometry of the VERTICAL layout under positive node sizes and non-negative parameters
  (`computeV_facts : FactsV P all`, behind the C14 clauses; HORIZONTAL through `computeH_tr`:
  `computeH_facts`).  Each phase function is unfolded in one lemma (`stepV_shape`,
  `layoutBranchesV_inv`, `trunkDimsV_spec`, `sizesV_ind`, `computeV_inv`); the size pass is
  summarised by the invariant `GoodV` of the `ITree`, the placement pass is followed node by node
  (`nodeAtV`).  Also: the output lists the species in pre-order (`computeV_species`).
-/
import SRVerif.Proofs.LayoutMirror
import Mathlib.Tactic.Linarith
import Mathlib.Tactic.Ring
import Mathlib.Algebra.Order.Field.Rat

namespace SR.Layout

theorem minOf_map_le {α : Type} {f : α → Rat} {l : List α} {a : α} (h : a ∈ l) :
    minOf (l.map f) ≤ f a := by
  cases l with
  | nil => cases h
  | cons b t => exact (List.foldl_min_spec (t.map f) (f b)).2 _ (List.mem_map_of_mem h)

theorem le_maxOf_map {α : Type} {f : α → Rat} {l : List α} {a : α} (h : a ∈ l) :
    f a ≤ maxOf (l.map f) := by
  cases l with
  | nil => cases h
  | cons b t => exact (List.foldl_max_spec (t.map f) (f b)).2 _ (List.mem_map_of_mem h)

theorem stepV_shape {P : Params} {sizes : Key → Size} {an : List Key} {bs bs' : BState}
    {b : Branch} (h : stepV P sizes an bs b = .ok bs') :
    ∃ pos, bs'.rects = bs.rects ++ [(b.key, Rect.makeFrom pos (sizes b.key))] ∧
      bs'.anchors = (if b.key ∈ an then
        bs.anchors ++ [(b.key, ⟨(Rect.makeFrom pos (sizes b.key)).center.x, 0⟩)] else bs.anchors) ∧
      (b.kind ≠ .spec → b.kind ≠ .loss → pos.y + (sizes b.key).h ≤ 0) := by
  obtain ⟨key, kind, left, right⟩ := b
  cases kind
  case leaf =>
    simp only [stepV] at h; cases h
    exact ⟨_, rfl, rfl, fun _ _ => by simp⟩
  case spec =>
    simp only [stepV] at h; cases h
    exact ⟨_, rfl, rfl, fun h _ => absurd rfl h⟩
  case loss =>
    simp only [stepV] at h; cases h
    exact ⟨_, rfl, rfl, fun _ h => absurd rfl h⟩
  case dup =>
    simp only [stepV] at h
    cases h1 : rectOf bs.rects left with
    | error e => cases h2 : rectOf bs.rects right <;> simp only [h1, h2] at h <;> cases h
    | ok l =>
      cases h2 : rectOf bs.rects right with
      | error e => simp only [h1, h2] at h; cases h
      | ok r =>
        simp only [h1, h2] at h
        cases h
        refine ⟨_, rfl, rfl, fun _ _ => ?_⟩
        have a1 := min_le_left (min P.pad l.y) r.y
        have a2 := min_le_left P.pad l.y
        simp only
        linarith
  case hgt =>
    simp only [stepV] at h
    cases h1 : rectOf bs.rects left with
    | error e => simp only [h1] at h; cases h
    | ok c =>
      simp only [h1] at h
      cases h
      refine ⟨_, rfl, rfl, fun _ _ => ?_⟩
      have a2 := min_le_left P.pad c.y
      simp only
      linarith

theorem foldE_invariant {α β : Type} {f : β → α → Except LErr β} (Inv : β → Prop) :
    ∀ (l : List α) {b b' : β}, (∀ a ∈ l, ∀ x x', f x a = .ok x' → Inv x → Inv x') →
      foldE f l b = .ok b' → Inv b → Inv b' := by
  intro l
  induction l with
  | nil => intro b b' _ h h0; simp only [foldE] at h; cases h; exact h0
  | cons a t ih =>
    intro b b' step h h0
    simp only [foldE] at h
    cases hs : f b a with
    | error e => rw [hs] at h; cases h
    | ok b1 =>
      rw [hs] at h
      exact ih (fun a' ha' => step a' (List.mem_cons_of_mem _ ha')) h
        (step a (List.mem_cons_self ..) b b1 hs h0)

/-- What `_layout_branches` guarantees for the relative rects of a species. -/
def GoodLay (P : Params) (sizes : Key → Size) (lay : SpLayout) : Prop :=
  ∀ e ∈ lay.rects, e.2.w = (sizes e.1).w ∧ e.2.h = (sizes e.1).h ∧ e.2.x + e.2.w ≤ -P.pad

def AnchRel (rects : List (Key × Rect)) (anchors : List (Key × Pos)) : Prop :=
  ∀ e ∈ anchors, ∃ r, (e.1, r) ∈ rects ∧ e.2 = ⟨r.center.x, 0⟩

/-- What `_layout_branches` guarantees for the relative layout of a species
    (in addition to `GoodLay`). -/
structure RelV (x : SpState) (lay : SpLayout) : Prop where
  bottom : (∀ b ∈ x.branches, b.kind ≠ .spec ∧ b.kind ≠ .loss) →
    ∀ e ∈ lay.rects, e.2.y + e.2.h ≤ 0
  anch : AnchRel lay.rects lay.anchors

/-- A successful `layoutBranchesV` is a successful fold of `stepV` followed by a shift across by
    some `m` that puts every rect at least `pad` before 0 (for a species without branches, `m = 0`
    on empty lists). -/
theorem layoutBranchesV_inv {P : Params} {sizes : Key → Size} {x : SpState} {lay : SpLayout}
    (h : layoutBranchesV P sizes x = .ok lay) :
    ∃ bs m, foldE (stepV P sizes x.anchors) x.branches ⟨0, P.pad, [], []⟩ = .ok bs ∧
      lay = ⟨x.branches, shiftRects ⟨m, 0⟩ bs.rects, shiftAnchors ⟨m, 0⟩ bs.anchors⟩ ∧
      ∀ e ∈ bs.rects, e.2.x + m + e.2.w ≤ -P.pad := by
  unfold layoutBranchesV at h
  cases hf : foldE (stepV P sizes x.anchors) x.branches ⟨0, P.pad, [], []⟩ with
  | error e => rw [hf] at h; cases h
  | ok bs =>
    rw [hf] at h
    simp only at h
    split at h
    · rename_i hemp
      cases h
      have : x.branches = [] := by simpa using hemp
      rw [this] at hf ⊢
      cases hf
      exact ⟨_, 0, rfl, rfl, fun e he => by cases he⟩
    · cases h
      refine ⟨bs, _, rfl, rfl, fun e he => ?_⟩
      have hm : minOf (bs.rects.map fun e => -(e.2.right.x)) ≤ -(e.2.right.x) :=
        minOf_map_le he
      generalize minOf (bs.rects.map fun e => -(e.2.right.x)) = m at hm ⊢
      simp only [Rect.right] at hm
      linarith only [hm]

/-- What the fold of `stepV` keeps true of the rects and anchors seen so far; `flat` stands for
    "the species has neither speciation nor loss branches". -/
structure StepInv (sizes : Key → Size) (flat : Prop) (bs : BState) : Prop where
  sized : ∀ e ∈ bs.rects, e.2.w = (sizes e.1).w ∧ e.2.h = (sizes e.1).h
  anch : AnchRel bs.rects bs.anchors
  bottom : flat → ∀ e ∈ bs.rects, e.2.y + e.2.h ≤ 0

theorem stepV_inv {P : Params} {sizes : Key → Size} {an : List Key} {flat : Prop} {bs bs' : BState}
    {b : Branch} (hb : flat → b.kind ≠ .spec ∧ b.kind ≠ .loss)
    (h : stepV P sizes an bs b = .ok bs') (I : StepInv sizes flat bs) : StepInv sizes flat bs' := by
  obtain ⟨pos, hr, ha, hbot⟩ := stepV_shape h
  have new : ∀ e ∈ bs'.rects, e ∈ bs.rects ∨ e = (b.key, Rect.makeFrom pos (sizes b.key)) := by
    intro e he
    rw [hr] at he
    simpa using he
  refine ⟨fun e he => ?_, fun e he => ?_, fun hf e he => ?_⟩
  · rcases new e he with he | rfl
    · exact I.sized e he
    · exact ⟨rfl, rfl⟩
  · rw [hr]
    rw [ha] at he
    have old : ∀ e ∈ bs.anchors, ∃ r, (e.1, r) ∈
        bs.rects ++ [(b.key, Rect.makeFrom pos (sizes b.key))] ∧ e.2 = ⟨r.center.x, 0⟩ := by
      intro e he
      obtain ⟨r, h1, h2⟩ := I.anch e he
      exact ⟨r, List.mem_append_left _ h1, h2⟩
    split at he
    · rcases List.mem_append.1 he with he | he
      · exact old e he
      · simp only [List.mem_singleton] at he
        subst he
        exact ⟨_, List.mem_append_right _ (List.mem_singleton.2 rfl), rfl⟩
    · exact old e he
  · rcases new e he with he | rfl
    · exact I.bottom hf e he
    · exact hbot (hb hf).1 (hb hf).2

theorem layoutBranchesV_spec {P : Params} {sizes : Key → Size} {x : SpState} {lay : SpLayout}
    (h : layoutBranchesV P sizes x = .ok lay) :
    GoodLay P sizes lay ∧ RelV x lay := by
  obtain ⟨bs, m, hf, rfl, hm⟩ := layoutBranchesV_inv h
  have I : StepInv sizes (∀ b ∈ x.branches, b.kind ≠ .spec ∧ b.kind ≠ .loss) bs :=
    foldE_invariant (StepInv sizes _) x.branches
      (fun b hb _ _ hs I => stepV_inv (fun hf => hf b hb) hs I) hf
      ⟨fun e he => (by cases he), fun e he => (by cases he), fun _ e he => (by cases he)⟩
  refine ⟨fun e he => ?_, fun hk e he => ?_, fun e he => ?_⟩
  · simp only [shiftRects, List.mem_map] at he
    obtain ⟨e0, he0, rfl⟩ := he
    exact ⟨(I.sized e0 he0).1, (I.sized e0 he0).2, hm e0 he0⟩
  · simp only [shiftRects, List.mem_map] at he
    obtain ⟨e0, he0, rfl⟩ := he
    simpa [Rect.shift] using I.bottom hk e0 he0
  · simp only [shiftAnchors, List.mem_map] at he
    obtain ⟨e0, he0, rfl⟩ := he
    obtain ⟨r, h1, h2⟩ := I.anch e0 he0
    refine ⟨r.shift ⟨m, 0⟩, List.mem_map.2 ⟨(e0.1, r), h1, rfl⟩, ?_⟩
    rw [h2]
    simp only [Pos.add, Rect.center, Rect.shift, Pos.mk.injEq]
    constructor <;> ring

theorem layoutAllV_lookup {P : Params} {sizes : Key → Size} (st : LState)
    {lays : List (Path × SpLayout)} (h : layoutAllV P sizes st = .ok lays)
    {p : Path} {lay : SpLayout} (hl : lookupSp lays p = some lay) :
    ∃ x, getSp st p = some x ∧ layoutBranchesV P sizes x = .ok lay := by
  fun_induction layoutAllV P sizes st generalizing lays with
  | case1 => cases h; cases hl
  | case2 s sp rest l ls h2 h1 ih =>
    cases h
    simp only [lookupSp] at hl
    simp only [getSp]
    split at hl
    · cases hl; exact ⟨sp, if_pos ‹_›, h1⟩
    · rw [if_neg ‹_›]; exact ih h2 hl
  | case3 => cases h
  | case4 => cases h

theorem layoutAllV_good {P : Params} {sizes : Key → Size} (st : LState)
    {lays : List (Path × SpLayout)} (h : layoutAllV P sizes st = .ok lays)
    {p : Path} {lay : SpLayout} (hl : lookupSp lays p = some lay) : GoodLay P sizes lay := by
  obtain ⟨_, _, hlb⟩ := layoutAllV_lookup st h hl
  exact (layoutBranchesV_spec hlb).1

theorem trunkDimsV_spec (P : Params) (rects : List (Key × Rect)) :
    P.overhead ≤ (trunkDimsV P rects).2.1 ∧
    (rects = [] → (trunkDimsV P rects).1 = 0 ∧ (trunkDimsV P rects).2.2 = 0) ∧
    ∀ e ∈ rects, -e.2.x + P.pad ≤ (trunkDimsV P rects).1 ∧
      -e.2.y + P.overhead ≤ (trunkDimsV P rects).2.1 ∧
      e.2.y + e.2.h + P.pad ≤ (trunkDimsV P rects).2.2 ∧ P.pad ≤ (trunkDimsV P rects).2.2 := by
  unfold trunkDimsV
  cases rects with
  | nil => exact ⟨le_refl _, fun _ => ⟨rfl, rfl⟩, fun e he => by cases he⟩
  | cons e0 t =>
    simp only [List.isEmpty_cons, Bool.false_eq_true, ↓reduceIte]
    have l2 := le_max_left (0 : Rat) (maxOf ((e0 :: t).map fun e => -(e.2.topLeft.y)))
    have l3 := le_max_left (0 : Rat) (maxOf ((e0 :: t).map fun e => e.2.bottomRight.y))
    refine ⟨by linarith only [l2], fun h => (by cases h), fun e he => ?_⟩
    have h1 : -(e.2.topLeft.x) ≤ maxOf ((e0 :: t).map fun e => -(e.2.topLeft.x)) :=
      le_maxOf_map he
    have h2 : -(e.2.topLeft.y) ≤ maxOf ((e0 :: t).map fun e => -(e.2.topLeft.y)) :=
      le_maxOf_map he
    have h3 : e.2.bottomRight.y ≤ maxOf ((e0 :: t).map fun e => e.2.bottomRight.y) :=
      le_maxOf_map he
    have m2 := le_max_right (0 : Rat) (maxOf ((e0 :: t).map fun e => -(e.2.topLeft.y)))
    have m3 := le_max_right (0 : Rat) (maxOf ((e0 :: t).map fun e => e.2.bottomRight.y))
    simp only [Rect.topLeft, Rect.bottomRight] at h1 h2 h3 m2 m3 l3 ⊢
    exact ⟨by linarith only [h1], by linarith only [h2, m2], by linarith only [h3, m3],
      by linarith only [l3]⟩

theorem trunkDimsV_nonneg {P : Params} {sizes : Key → Size} {lay : SpLayout}
    (hpos : ∀ k, 0 < (sizes k).w ∧ 0 < (sizes k).h) (hpad : 0 ≤ P.pad) (hov : 0 ≤ P.overhead)
    (hg : GoodLay P sizes lay) :
    0 ≤ (trunkDimsV P lay.rects).1 ∧ 0 ≤ (trunkDimsV P lay.rects).2.1 ∧
      0 ≤ (trunkDimsV P lay.rects).2.2 := by
  obtain ⟨h2, h0, hm⟩ := trunkDimsV_spec P lay.rects
  by_cases hr : lay.rects = []
  · exact ⟨(h0 hr).1.ge, le_trans hov h2, (h0 hr).2.ge⟩
  · obtain ⟨e, he⟩ := List.exists_mem_of_ne_nil _ hr
    obtain ⟨hw, _, hx⟩ := hg e he
    exact ⟨by linarith only [(hm e he).1, hw, hx, (hpos e.1).1, hpad], le_trans hov h2,
      by linarith only [(hm e he).2.2.2, hpad]⟩

/-- One species after the size pass, in coordinates relative to its own box. -/
structure InfoOK (P : Params) (lays : Path → Option SpLayout) (i : Info) (p : Path) : Prop where
  sp : i.sp = p
  lay : lays p = some i.lay
  dw : i.trunk.w = (trunkDimsV P i.lay.rects).1
  dh : i.trunk.h = (trunkDimsV P i.lay.rects).2.1
  w : 0 ≤ i.size.w
  h : 0 ≤ i.size.h
  tx : 0 ≤ i.trunk.x
  txw : i.trunk.x + i.trunk.w ≤ i.size.w
  ty : i.trunk.y = 0
  tw : 0 ≤ i.trunk.w
  th : 0 ≤ i.trunk.h
  thle : i.trunk.h ≤ i.size.h
  fork : 0 ≤ i.fork

/-- An internal species: thickness of its fork, and placement of the two children's boxes inside
    its own box. -/
structure ChildOK (P : Params) (i l r : Info) : Prop where
  dfork : i.fork = (trunkDimsV P i.lay.rects).2.2
  lx : i.leftPos.x = 0
  ly : i.trunk.h + P.level + i.fork ≤ i.leftPos.y
  lh : i.leftPos.y + l.size.h = i.size.h
  sep : i.leftPos.x + l.size.w + P.minsp ≤ i.rightPos.x
  rw : i.rightPos.x + r.size.w = i.size.w
  ry : i.trunk.h + P.level + i.fork ≤ i.rightPos.y
  rh : i.rightPos.y + r.size.h = i.size.h

theorem ChildOK.fit {P : Params} {i l r : Info} (co : ChildOK P i l r) (hl : 0 ≤ l.size.h)
    (hlev : 0 ≤ P.level) : i.trunk.h + i.fork ≤ i.size.h := by
  linarith only [co.ly, co.lh, hl, hlev]

/-- The invariant of the size pass: what every node of the `ITree` built for the subtree at `p`
    satisfies.  The placement pass consumes nothing else. -/
def GoodV (P : Params) (lays : Path → Option SpLayout) : ITree → Path → Prop
  | .leaf i, p => InfoOK P lays i p
  | .node i l r, p =>
    InfoOK P lays i p ∧ ChildOK P i l.info r.info ∧ GoodV P lays l (p ++ [0]) ∧
      GoodV P lays r (p ++ [1])

theorem GoodV.info {P : Params} {lays : Path → Option SpLayout} {t : ITree} {p : Path}
    (h : GoodV P lays t p) : InfoOK P lays t.info p := by
  cases t with
  | leaf i => exact h
  | node i l r => exact h.1

/-- The `Info` that `sizesV` builds for a leaf species with trunk dimensions `d`. -/
def leafInfoV (p : Path) (lay : SpLayout) (d : Rat × Rat × Rat) : Info :=
  { sp := p, lay := lay, size := ⟨d.1, d.2.1⟩, trunk := Rect.makeFrom ⟨0, 0⟩ ⟨d.1, d.2.1⟩,
    fork := 0, leftPos := ⟨0, 0⟩, rightPos := ⟨0, 0⟩ }

/-- The `Info` that `sizesV` builds for an internal species with trunk dimensions and fork
    thickness `d` from the `Info`s of its two children. -/
def nodeInfoV (P : Params) (p : Path) (lay : SpLayout) (d : Rat × Rat × Rat) (li ri : Info) :
    Info :=
  let span := max li.size.h ri.size.h + d.2.1 + (P.level + d.2.2)
  let ltd := li.size.w - li.trunk.right.x
  let rtd := ri.trunk.left.x
  let spacing := max (d.1 - (ltd + rtd)) P.minsp
  { sp := p, lay := lay,
    size := ⟨li.size.w + spacing + ri.size.w, span⟩,
    trunk := Rect.makeFrom ⟨li.size.w + (spacing + rtd - ltd - d.1) / 2, 0⟩ ⟨d.1, d.2.1⟩,
    fork := d.2.2,
    leftPos := ⟨0, span - li.size.h⟩,
    rightPos := ⟨li.size.w + spacing, span - ri.size.h⟩ }

theorem sizesV_ind {P : Params} {lays : Path → Option SpLayout}
    {motive : BTree → Path → ITree → Prop}
    (leaf : ∀ p lay, lays p = some lay →
      motive .leaf p (.leaf (leafInfoV p lay (trunkDimsV P lay.rects))))
    (node : ∀ a b p lay lt rt, lays p = some lay →
      sizesV P lays a (p ++ [0]) = .ok lt → sizesV P lays b (p ++ [1]) = .ok rt →
      motive a (p ++ [0]) lt → motive b (p ++ [1]) rt →
      motive (.node a b) p
        (.node (nodeInfoV P p lay (trunkDimsV P lay.rects) lt.info rt.info) lt rt))
    (B : BTree) (p : Path) (t : ITree) (h : sizesV P lays B p = .ok t) : motive B p t := by
  revert h
  fun_induction sizesV P lays B p generalizing t <;> intro h
  case case2 p lay hl tw th fk hd =>
    cases h
    have := leaf p lay hl
    rwa [hd] at this
  case case3 a b p lt rt lay hl h2 h1 tw th fk hd _ _ _ _ _ _ ih2 ih1 =>
    cases h
    have := node a b p lay lt rt hl h1 h2 (ih2 _ h1) (ih1 _ h2)
    rwa [hd] at this
  all_goals cases h

theorem nodeInfoV_ok {P : Params} {lays : Path → Option SpLayout} {p pl pr : Path} {lay : SpLayout}
    {d : Rat × Rat × Rat} {li ri : Info} (hlev : 0 ≤ P.level) (hmin : 0 < P.minsp)
    (hl : lays p = some lay) (e : d = trunkDimsV P lay.rects)
    (hd : 0 ≤ d.1 ∧ 0 ≤ d.2.1 ∧ 0 ≤ d.2.2) (il : InfoOK P lays li pl) (ir : InfoOK P lays ri pr) :
    InfoOK P lays (nodeInfoV P p lay d li ri) p ∧ ChildOK P (nodeInfoV P p lay d li ri) li ri := by
  obtain ⟨tw, th, fk⟩ := d
  obtain ⟨d1, d2, d3⟩ := hd
  simp only at d1 d2 d3
  have hM1 := le_max_left li.size.h ri.size.h
  have hM2 := le_max_right li.size.h ri.size.h
  have hs1 := le_max_left (tw - (li.size.w - li.trunk.right.x + ri.trunk.left.x)) P.minsp
  have hs2 := le_max_right (tw - (li.size.w - li.trunk.right.x + ri.trunk.left.x)) P.minsp
  simp only [nodeInfoV]
  generalize max li.size.h ri.size.h = M at hM1 hM2 ⊢
  generalize max (tw - (li.size.w - li.trunk.right.x + ri.trunk.left.x)) P.minsp = s at hs1 hs2 ⊢
  simp only [Rect.right, Rect.left] at hs1 ⊢
  -- the spacing `s` is at least what the trunk needs (`hs1`) and at least `minsp` (`hs2`)
  refine ⟨⟨rfl, hl, by rw [← e]; rfl, by rw [← e]; rfl, ?w, ?h, ?tx, ?txw, rfl, d1, d2, ?thle, d3⟩,
    ⟨by rw [← e], rfl, ?ly, ?lh, ?sep, rfl, ?ry, ?rh⟩⟩ <;> dsimp only [Rect.makeFrom]
  case w => linarith only [il.w, ir.w, hs2, hmin]
  case h => linarith only [hM1, il.h, d2, d3, hlev]
  case tx => linarith only [hs1, il.tx, il.tw]
  case txw => linarith only [hs1, ir.txw, ir.tw]
  case thle => linarith only [hM1, il.h, d3, hlev]
  case ly => linarith only [hM1]
  case lh => linarith only
  case sep => linarith only [hs2]
  case ry => linarith only [hM2]
  case rh => linarith only

theorem sizesV_good {P : Params} {sizes : Key → Size} {lays : Path → Option SpLayout}
    (hpos : ∀ k, 0 < (sizes k).w ∧ 0 < (sizes k).h) (hpad : 0 ≤ P.pad) (hov : 0 ≤ P.overhead)
    (hlev : 0 ≤ P.level) (hmin : 0 < P.minsp)
    (hlays : ∀ p lay, lays p = some lay → GoodLay P sizes lay)
    (B : BTree) (p : Path) (t : ITree) (h : sizesV P lays B p = .ok t) : GoodV P lays t p := by
  refine sizesV_ind (motive := fun _ p t => GoodV P lays t p) ?_ ?_ B p t h
  · intro p lay hl
    obtain ⟨h1, h2, _⟩ := trunkDimsV_nonneg hpos hpad hov (hlays p lay hl)
    exact ⟨rfl, hl, rfl, rfl, h1, h2, le_refl _, (zero_add _).le, rfl, h1, h2, le_refl _, le_refl _⟩
  · intro a b p lay lt rt hl _ _ gl gr
    obtain ⟨io, co⟩ := nodeInfoV_ok hlev hmin hl rfl
      (trunkDimsV_nonneg hpos hpad hov (hlays p lay hl)) gl.info gr.info
    exact ⟨io, co, gl, gr⟩

def rectL (i : Info) (lt : ITree) (r : Rect) : Rect :=
  Rect.makeFrom (r.topLeft.add i.leftPos) lt.info.size

def rectR (i : Info) (rt : ITree) (r : Rect) : Rect :=
  Rect.makeFrom (r.topLeft.add i.rightPos) rt.info.size

/-- The `SubLayout` that `placeV t r` produces for the node reached from the
    root of `t` by the child indices `q`. -/
def nodeAtV : ITree → Rect → Path → Option SubLayout
  | t, r, [] => some (finishV t.info r)
  | .leaf _, _, _ :: _ => none
  | .node i lt rt, r, k :: q =>
    if k = 0 then nodeAtV lt (rectL i lt r) q
    else if k = 1 then nodeAtV rt (rectR i rt r) q
    else none

theorem nodeAtV_nil (t : ITree) (r : Rect) : nodeAtV t r [] = some (finishV t.info r) := by
  cases t <;> rfl

theorem nodeAtV_cons {i : Info} {lt rt : ITree} {r : Rect} {k : Nat} {q : Path} {d : SubLayout}
    (h : nodeAtV (.node i lt rt) r (k :: q) = some d) :
    (k = 0 ∧ nodeAtV lt (rectL i lt r) q = some d) ∨
      (k = 1 ∧ nodeAtV rt (rectR i rt r) q = some d) := by
  simp only [nodeAtV] at h
  split at h
  · exact .inl ⟨‹_›, h⟩
  · split at h
    · exact .inr ⟨‹_›, h⟩
    · cases h

theorem mem_placeV {P : Params} {lays : Path → Option SpLayout} {t : ITree} {p : Path} {r : Rect}
    {sl : SubLayout}
    (g : GoodV P lays t p) (h : sl ∈ placeV t r) :
    ∃ q, nodeAtV t r q = some sl ∧ sl.sp = p ++ q := by
  induction t generalizing p r with
  | leaf i =>
    simp only [placeV, List.mem_singleton] at h
    subst h
    exact ⟨[], rfl, by simpa [finishV] using g.sp⟩
  | node i lt rt ihl ihr =>
    obtain ⟨io, _, gl, gr⟩ := g
    simp only [placeV, List.mem_cons, List.mem_append] at h
    rcases h with h | h | h
    · subst h
      exact ⟨[], rfl, by simpa [finishV] using io.sp⟩
    · obtain ⟨q, h1, h2⟩ := ihl gl h
      exact ⟨0 :: q, by simpa [nodeAtV, rectL] using h1, by simpa using h2⟩
    · obtain ⟨q, h1, h2⟩ := ihr gr h
      exact ⟨1 :: q, by simpa [nodeAtV, rectR] using h1, by simpa using h2⟩

/-- The rect handed to `placeV` has the size computed by the size pass. -/
structure Sized (t : ITree) (r : Rect) : Prop where
  w : r.w = t.info.size.w
  h : r.h = t.info.size.h

theorem sized_rectL (i : Info) (lt : ITree) (r : Rect) : Sized lt (rectL i lt r) := ⟨rfl, rfl⟩
theorem sized_rectR (i : Info) (rt : ITree) (r : Rect) : Sized rt (rectR i rt r) := ⟨rfl, rfl⟩

/-- The boxes `r1`, `r2` of the two children of a species with box `r`. -/
structure ChildBoxes (P : Params) (i : Info) (r r1 r2 : Rect) : Prop where
  x1 : r1.x = r.x
  y1 : r.y + i.trunk.h + P.level + i.fork ≤ r1.y
  b1 : r1.y + r1.h = r.y + r.h
  sep : r1.x + r1.w + P.minsp ≤ r2.x
  e2 : r2.x + r2.w = r.x + r.w
  y2 : r.y + i.trunk.h + P.level + i.fork ≤ r2.y
  b2 : r2.y + r2.h = r.y + r.h
  w1 : 0 ≤ r1.w
  w2 : 0 ≤ r2.w
  th : 0 ≤ i.trunk.h
  fork : 0 ≤ i.fork

theorem childBoxes {P : Params} {lays : Path → Option SpLayout} {i : Info} {lt rt : ITree}
    {p : Path} {r : Rect}
    (g : GoodV P lays (.node i lt rt) p) (hs : Sized (.node i lt rt) r) :
    ChildBoxes P i r (rectL i lt r) (rectR i rt r) := by
  obtain ⟨io, co, gl, gr⟩ := g
  have hw : r.w = i.size.w := hs.w
  have hh : r.h = i.size.h := hs.h
  -- `ChildOK` shifted by the top left corner of `r`
  exact
    { x1 := (by rw [co.lx, add_zero] : r.x + i.leftPos.x = r.x)
      y1 := (by linarith only [co.ly] :
        r.y + i.trunk.h + P.level + i.fork ≤ r.y + i.leftPos.y)
      b1 := (by linarith only [co.lh, hh] : r.y + i.leftPos.y + lt.info.size.h = r.y + r.h)
      sep := (by linarith only [co.sep] :
        r.x + i.leftPos.x + lt.info.size.w + P.minsp ≤ r.x + i.rightPos.x)
      e2 := (by linarith only [co.rw, hw] : r.x + i.rightPos.x + rt.info.size.w = r.x + r.w)
      y2 := (by linarith only [co.ry] :
        r.y + i.trunk.h + P.level + i.fork ≤ r.y + i.rightPos.y)
      b2 := (by linarith only [co.rh, hh] : r.y + i.rightPos.y + rt.info.size.h = r.y + r.h)
      w1 := gl.info.w
      w2 := gr.info.w
      th := io.th
      fork := io.fork }

theorem ChildBoxes.left_in {P : Params} {i : Info} {r r1 r2 : Rect} (cb : ChildBoxes P i r r1 r2)
    (hlev : 0 ≤ P.level) (hmin : 0 < P.minsp) :
    r.x ≤ r1.x ∧ r.y ≤ r1.y ∧ r1.x + r1.w ≤ r.x + r.w ∧ r1.y + r1.h ≤ r.y + r.h :=
  ⟨cb.x1.ge, by linarith only [cb.y1, cb.th, cb.fork, hlev],
    by linarith only [cb.x1, cb.sep, cb.e2, cb.w2, hmin], cb.b1.le⟩

theorem ChildBoxes.right_in {P : Params} {i : Info} {r r1 r2 : Rect} (cb : ChildBoxes P i r r1 r2)
    (hlev : 0 ≤ P.level) (hmin : 0 < P.minsp) :
    r.x ≤ r2.x ∧ r.y ≤ r2.y ∧ r2.x + r2.w ≤ r.x + r.w ∧ r2.y + r2.h ≤ r.y + r.h :=
  ⟨by linarith only [cb.x1, cb.sep, cb.w1, hmin], by linarith only [cb.y2, cb.th, cb.fork, hlev],
    cb.e2.le, cb.b2.le⟩

/-- `d` (a species of the subtree placed in `r`) has its box inside `r` and
    its trunk inside its box, starting at the top edge. -/
structure BoxIn (d : SubLayout) (r : Rect) : Prop where
  x : r.x ≤ d.rect.x
  y : r.y ≤ d.rect.y
  xw : d.rect.x + d.rect.w ≤ r.x + r.w
  yh : d.rect.y + d.rect.h ≤ r.y + r.h
  tx : d.rect.x ≤ d.trunk.x
  txw : d.trunk.x + d.trunk.w ≤ d.rect.x + d.rect.w
  ty : d.trunk.y = d.rect.y
  tw : 0 ≤ d.trunk.w
  th : 0 ≤ d.trunk.h
  tyh : d.trunk.y + d.trunk.h ≤ d.rect.y + d.rect.h
  fork : 0 ≤ d.fork

theorem finishV_boxIn {P : Params} {lays : Path → Option SpLayout} {i : Info} {p : Path} {r : Rect}
    (io : InfoOK P lays i p)
    (hw : r.w = i.size.w) (hh : r.h = i.size.h) : BoxIn (finishV i r) r := by
  exact
    { x := le_refl _, y := le_refl _, xw := le_refl _, yh := le_refl _
      tx := (by linarith only [io.tx] : r.x ≤ i.trunk.x + r.x)
      txw := (by linarith only [io.txw, hw] : i.trunk.x + r.x + i.trunk.w ≤ r.x + r.w)
      ty := (by linarith only [io.ty] : i.trunk.y + r.y = r.y)
      tw := io.tw
      th := io.th
      tyh := (by linarith only [io.ty, io.thle, hh] : i.trunk.y + r.y + i.trunk.h ≤ r.y + r.h)
      fork := io.fork }

theorem BoxIn.mono {d : SubLayout} {r1 r : Rect} (b : BoxIn d r1)
    (h : r.x ≤ r1.x ∧ r.y ≤ r1.y ∧ r1.x + r1.w ≤ r.x + r.w ∧ r1.y + r1.h ≤ r.y + r.h) :
    BoxIn d r :=
  { b with x := le_trans h.1 b.x, y := le_trans h.2.1 b.y, xw := le_trans b.xw h.2.2.1,
           yh := le_trans b.yh h.2.2.2 }

theorem nodeAtV_boxIn {P : Params} {lays : Path → Option SpLayout} (hlev : 0 ≤ P.level)
    (hmin : 0 < P.minsp) (q : Path) :
    ∀ (t : ITree) (p : Path) (r : Rect) (d : SubLayout), GoodV P lays t p → Sized t r →
      nodeAtV t r q = some d → BoxIn d r := by
  induction q with
  | nil =>
    intro t p r d g hs h
    rw [nodeAtV_nil] at h
    cases h
    exact finishV_boxIn g.info hs.w hs.h
  | cons k q ih =>
    intro t p r d g hs h
    cases t with
    | leaf i => simp [nodeAtV] at h
    | node i lt rt =>
      have cb := childBoxes g hs
      obtain ⟨_, _, gl, gr⟩ := g
      rcases nodeAtV_cons h with ⟨_, h⟩ | ⟨_, h⟩
      · exact (ih lt _ _ d gl (sized_rectL i lt r) h).mono (cb.left_in hlev hmin)
      · exact (ih rt _ _ d gr (sized_rectR i rt r) h).mono (cb.right_in hlev hmin)

/-- The subtree that `placeV` reaches along `q`: it is placed like a root, and `nodeAtV`
    below `q` is `nodeAtV` in it. -/
theorem nodeAtV_split {P : Params} {lays : Path → Option SpLayout} (q : Path) :
    ∀ (t : ITree) (p : Path) (r : Rect) (par : SubLayout), GoodV P lays t p → Sized t r →
      nodeAtV t r q = some par →
      ∃ t' r', GoodV P lays t' (p ++ q) ∧ Sized t' r' ∧ par = finishV t'.info r' ∧
        ∀ q', nodeAtV t r (q ++ q') = nodeAtV t' r' q' := by
  induction q with
  | nil =>
    intro t p r par g hs h
    rw [nodeAtV_nil] at h
    cases h
    exact ⟨t, r, by rwa [List.append_nil], hs, rfl, fun _ => rfl⟩
  | cons k q ih =>
    intro t p r par g hs h
    cases t with
    | leaf i => simp [nodeAtV] at h
    | node i lt rt =>
      obtain ⟨_, _, gl, gr⟩ := g
      rcases nodeAtV_cons h with ⟨rfl, h⟩ | ⟨rfl, h⟩
      · obtain ⟨t', r', g', s', e, hq⟩ := ih lt _ _ par gl (sized_rectL i lt r) h
        rw [List.append_assoc] at g'
        exact ⟨t', r', g', s', e, fun q' => by simpa [nodeAtV] using hq q'⟩
      · obtain ⟨t', r', g', s', e, hq⟩ := ih rt _ _ par gr (sized_rectR i rt r) h
        rw [List.append_assoc] at g'
        exact ⟨t', r', g', s', e, fun q' => by simpa [nodeAtV] using hq q'⟩

theorem nodeAtV_siblings {P : Params} {lays : Path → Option SpLayout} (hlev : 0 ≤ P.level)
    (hmin : 0 < P.minsp) (q : Path) (t : ITree) (p : Path) (r : Rect) (par l r' : SubLayout)
    (g : GoodV P lays t p) (hs : Sized t r)
    (hp : nodeAtV t r q = some par) (hl : nodeAtV t r (q ++ [0]) = some l)
    (hr : nodeAtV t r (q ++ [1]) = some r') :
      l.rect.x + l.rect.w + P.minsp ≤ r'.rect.x ∧
      (par.rect.x ≤ l.rect.x ∧ par.rect.y ≤ l.rect.y ∧
        l.rect.x + l.rect.w ≤ par.rect.x + par.rect.w ∧
        l.rect.y + l.rect.h ≤ par.rect.y + par.rect.h) ∧
      (par.rect.x ≤ r'.rect.x ∧ par.rect.y ≤ r'.rect.y ∧
        r'.rect.x + r'.rect.w ≤ par.rect.x + par.rect.w ∧
        r'.rect.y + r'.rect.h ≤ par.rect.y + par.rect.h) := by
  obtain ⟨t', r0, g', s', rfl, hq⟩ := nodeAtV_split q t p r par g hs hp
  rw [hq] at hl hr
  cases t' with
  | leaf i => simp [nodeAtV] at hl
  | node i lt rt =>
    have cb := childBoxes g' s'
    simp only [nodeAtV, ↓reduceIte, nodeAtV_nil, Option.some.injEq, one_ne_zero] at hl hr
    subst hl
    subst hr
    exact ⟨cb.sep, cb.left_in hlev hmin, cb.right_in hlev hmin⟩

theorem nodeAtV_trunk_above {P : Params} {lays : Path → Option SpLayout} (hlev : 0 ≤ P.level)
    (hmin : 0 < P.minsp) (q : Path) (t : ITree) (p : Path) (r : Rect) (par d : SubLayout) (k : Nat)
    (q' : Path) (g : GoodV P lays t p) (hs : Sized t r) (hp : nodeAtV t r q = some par)
    (hd : nodeAtV t r (q ++ k :: q') = some d) :
    par.trunk.y + par.trunk.h + P.level + par.fork ≤ d.rect.y := by
  obtain ⟨t', r0, g', s', rfl, hq⟩ := nodeAtV_split q t p r par g hs hp
  rw [hq] at hd
  cases t' with
  | leaf i => simp [nodeAtV] at hd
  | node i lt rt =>
    have cb := childBoxes g' s'
    obtain ⟨io, _, gl, gr⟩ := g'
    simp only [finishV, Rect.shift, Rect.topLeft, ITree.info]
    rcases nodeAtV_cons hd with ⟨_, hd⟩ | ⟨_, hd⟩
    · have b := nodeAtV_boxIn hlev hmin q' lt _ _ d gl (sized_rectL i lt r0) hd
      linarith only [cb.y1, b.y, io.ty]
    · have b := nodeAtV_boxIn hlev hmin q' rt _ _ d gr (sized_rectR i rt r0) hd
      linarith only [cb.y2, b.y, io.ty]

theorem nodeAtV_trunks_disjoint {P : Params} {lays : Path → Option SpLayout} (hlev : 0 ≤ P.level)
    (hmin : 0 < P.minsp) (qa : Path) :
    ∀ (qb : Path) (t : ITree) (p : Path) (r : Rect) (a b : SubLayout),
      GoodV P lays t p → Sized t r → qa ≠ qb → nodeAtV t r qa = some a → nodeAtV t r qb = some b →
      a.trunk.x + a.trunk.w ≤ b.trunk.x ∨ b.trunk.x + b.trunk.w ≤ a.trunk.x ∨
      a.trunk.y + a.trunk.h ≤ b.trunk.y ∨ b.trunk.y + b.trunk.h ≤ a.trunk.y := by
  induction qa with
  | nil =>
    intro qb t p r a b g hs hne ha hb
    cases qb with
    | nil => exact absurd rfl hne
    | cons k qb =>
      have h1 := nodeAtV_trunk_above hlev hmin [] t p r a b k qb g hs ha hb
      have bb := nodeAtV_boxIn hlev hmin _ t p r b g hs hb
      have ba := nodeAtV_boxIn hlev hmin _ t p r a g hs ha
      right; right; left; linarith only [h1, bb.ty, ba.fork, hlev]
  | cons k qa ih =>
    intro qb t p r a b g hs hne ha hb
    cases qb with
    | nil =>
      have h1 := nodeAtV_trunk_above hlev hmin [] t p r b a k qa g hs hb ha
      have bb := nodeAtV_boxIn hlev hmin _ t p r b g hs hb
      have ba := nodeAtV_boxIn hlev hmin _ t p r a g hs ha
      right; right; right; linarith only [h1, ba.ty, bb.fork, hlev]
    | cons k' qb =>
      cases t with
      | leaf i => simp [nodeAtV] at ha
      | node i lt rt =>
        have cb := childBoxes g hs
        obtain ⟨_, _, gl, gr⟩ := g
        rcases nodeAtV_cons ha with ⟨hk, ha⟩ | ⟨hk, ha⟩ <;>
          rcases nodeAtV_cons hb with ⟨hk', hb⟩ | ⟨hk', hb⟩
        · subst hk; subst hk'
          exact ih qb lt _ _ a b gl (sized_rectL i lt r) (by simpa using hne) ha hb
        · have ba := nodeAtV_boxIn hlev hmin _ lt _ _ a gl (sized_rectL i lt r) ha
          have bb := nodeAtV_boxIn hlev hmin _ rt _ _ b gr (sized_rectR i rt r) hb
          left; linarith only [ba.txw, ba.xw, cb.sep, bb.x, bb.tx, hmin]
        · have ba := nodeAtV_boxIn hlev hmin _ rt _ _ a gr (sized_rectR i rt r) ha
          have bb := nodeAtV_boxIn hlev hmin _ lt _ _ b gl (sized_rectL i lt r) hb
          right; left; linarith only [bb.txw, bb.xw, cb.sep, ba.x, ba.tx, hmin]
        · subst hk; subst hk'
          exact ih qb rt _ _ a b gr (sized_rectR i rt r) (by simpa using hne) ha hb

/-- The numeric hypotheses of C14 that the proofs read (`SR.C14.NumHyps` also asks for
    `0 ≤ P.gsp`). -/
structure Hyps (P : Params) (sizes : Key → Size) : Prop where
  pos : ∀ k, 0 < (sizes k).w ∧ 0 < (sizes k).h
  pad : 0 ≤ P.pad
  overhead : 0 ≤ P.overhead
  level : 0 ≤ P.level
  minsp : 0 < P.minsp

theorem Hyps.swap {P : Params} {sizes : Key → Size} (hy : Hyps P sizes) :
    Hyps P (fun k => (sizes k).swap) :=
  { hy with pos := fun k => ⟨(hy.pos k).2, (hy.pos k).1⟩ }

theorem computeV_inv {P : Params} {sizes : Key → Size} {S : RTree} {sol : Sol}
    {all : List SubLayout} (h : computeV P sizes S sol = .ok all) :
    ∃ st lays B t, computeBranches S sol = .ok st ∧ layoutAllV P sizes st = .ok lays ∧
      toBTree S = some B ∧ sizesV P (lookupSp lays) B [] = .ok t ∧
      all = placeV t (Rect.makeFrom ⟨0, 0⟩ t.info.size) := by
  revert h
  fun_cases computeV P sizes S sol <;> intro h
  case case5 st _ lays _ B _ t _ => cases h; exact ⟨st, lays, B, t, ‹_›, ‹_›, ‹_›, ‹_›, rfl⟩
  all_goals cases h

/-- The clauses of C14 about boxes and trunks for a VERTICAL layout, over the output list. -/
structure FactsV (P : Params) (all : List SubLayout) : Prop where
  unique : ∀ a b, a ∈ all → b ∈ all → a.sp = b.sp → a = b
  siblings : ∀ par l r, par ∈ all → l ∈ all → r ∈ all →
    l.sp = par.sp ++ [0] → r.sp = par.sp ++ [1] →
      l.rect.x + l.rect.w + P.minsp ≤ r.rect.x ∧
      (par.rect.x ≤ l.rect.x ∧ par.rect.y ≤ l.rect.y ∧
        l.rect.x + l.rect.w ≤ par.rect.x + par.rect.w ∧
        l.rect.y + l.rect.h ≤ par.rect.y + par.rect.h) ∧
      (par.rect.x ≤ r.rect.x ∧ par.rect.y ≤ r.rect.y ∧
        r.rect.x + r.rect.w ≤ par.rect.x + par.rect.w ∧
        r.rect.y + r.rect.h ≤ par.rect.y + par.rect.h)
  nonneg : ∀ a, a ∈ all → 0 ≤ a.rect.w ∧ 0 ≤ a.rect.h ∧ 0 ≤ a.trunk.w ∧ 0 ≤ a.trunk.h ∧ 0 ≤ a.fork
  trunkIn : ∀ a, a ∈ all →
    a.rect.x ≤ a.trunk.x ∧ a.trunk.x + a.trunk.w ≤ a.rect.x + a.rect.w ∧
    a.trunk.y = a.rect.y ∧ a.trunk.y + a.trunk.h ≤ a.rect.y + a.rect.h
  trunkAbove : ∀ par d k q, par ∈ all → d ∈ all → d.sp = par.sp ++ k :: q →
    par.trunk.y + par.trunk.h + P.level + par.fork ≤ d.rect.y
  trunks : ∀ a b, a ∈ all → b ∈ all → a.sp ≠ b.sp →
    a.trunk.x + a.trunk.w ≤ b.trunk.x ∨ b.trunk.x + b.trunk.w ≤ a.trunk.x ∨
    a.trunk.y + a.trunk.h ≤ b.trunk.y ∨ b.trunk.y + b.trunk.h ≤ a.trunk.y

theorem nodeAtV_sp {P : Params} {lays : Path → Option SpLayout} {t : ITree} {r : Rect}
    {sl : SubLayout} (g : GoodV P lays t []) (h : sl ∈ placeV t r) :
    nodeAtV t r sl.sp = some sl := by
  obtain ⟨q, h1, h2⟩ := mem_placeV g h
  rwa [h2]

theorem computeV_facts {P : Params} {sizes : Key → Size} {S : RTree} {sol : Sol}
    {all : List SubLayout} (hy : Hyps P sizes) (h : computeV P sizes S sol = .ok all) :
    FactsV P all := by
  obtain ⟨st, lays, B, t, _, h2, _, h4, rfl⟩ := computeV_inv h
  have g := sizesV_good hy.pos hy.pad hy.overhead hy.level hy.minsp
    (fun p lay hl => layoutAllV_good st h2 hl) B [] t h4
  have hs : Sized t (Rect.makeFrom ⟨0, 0⟩ t.info.size) := ⟨rfl, rfl⟩
  have hlev := hy.level
  have hmin := hy.minsp
  have box := fun a ha => nodeAtV_boxIn hlev hmin _ t [] _ a g hs (nodeAtV_sp g ha)
  refine ⟨?_, ?_, ?_, ?_, ?_, ?_⟩
  · intro a b ha hb hab
    have := nodeAtV_sp g ha
    rw [hab, nodeAtV_sp g hb] at this
    exact (Option.some.inj this).symm
  · intro par l r hp hl hr hl' hr'
    exact nodeAtV_siblings hlev hmin _ t [] _ par l r g hs (nodeAtV_sp g hp)
      (hl' ▸ nodeAtV_sp g hl) (hr' ▸ nodeAtV_sp g hr)
  · intro a ha
    have b := box a ha
    exact ⟨by linarith only [b.tx, b.txw, b.tw], by linarith only [b.ty, b.tyh, b.th], b.tw, b.th,
      b.fork⟩
  · intro a ha
    have b := box a ha
    exact ⟨b.tx, b.txw, b.ty, b.tyh⟩
  · intro par d k q' hp hd hsp
    exact nodeAtV_trunk_above hlev hmin _ t [] _ par d k q' g hs (nodeAtV_sp g hp)
      (hsp ▸ nodeAtV_sp g hd)
  · intro a b ha hb hab
    exact nodeAtV_trunks_disjoint hlev hmin _ _ t [] _ a b g hs hab (nodeAtV_sp g ha)
      (nodeAtV_sp g hb)

/-- The transposed HORIZONTAL layout is a VERTICAL layout (for the exchanged
    sizes), hence satisfies `FactsV`. -/
theorem computeH_facts {P : Params} {sizes : Key → Size} {S : RTree} {sol : Sol}
    {all : List SubLayout} (hy : Hyps P sizes) (h : computeH P sizes S sol = .ok all) :
    FactsV P (all.map SubLayout.tr) := by
  obtain ⟨allV, hv, rfl⟩ := computeH_ok.1 h
  rw [map_tr_tr]
  exact computeV_facts hy.swap hv

/-- Paths of the nodes of a binary tree rooted at `p`, in pre-order. -/
def BTree.paths : BTree → Path → List Path
  | .leaf, p => [p]
  | .node a b, p => p :: (a.paths (p ++ [0]) ++ b.paths (p ++ [1]))

theorem BTree.paths_eq_map (B : BTree) (p : Path) : B.paths p = (B.paths []).map (p ++ ·) := by
  induction B generalizing p with
  | leaf => simp [BTree.paths]
  | node a b iha ihb =>
    simp only [BTree.paths, List.nil_append, List.map_cons, List.append_nil, List.map_append]
    rw [iha (p ++ [0]), ihb (p ++ [1]), iha [0], ihb [1]]
    simp [List.map_map, Function.comp_def]

theorem toBTree_preorder (B : BTree) (S : RTree) (h : toBTree S = some B) :
    S.preorder = B.paths [] := by
  fun_induction toBTree S generalizing B with
  | case1 => cases h; simp [RTree.preorder, RTree.preorderList, BTree.paths]
  | case2 a b x y hb ha iha ihb =>
    cases h
    simp only [RTree.preorder, RTree.preorderList, iha x ha, ihb y hb, BTree.paths,
      List.nil_append, List.append_nil]
    rw [BTree.paths_eq_map x [0], BTree.paths_eq_map y [1]]
    simp
  | case3 => cases h
  | case4 => cases h

theorem sizesV_paths {P : Params} {lays : Path → Option SpLayout} (B : BTree) (p : Path) (t : ITree)
    (h : sizesV P lays B p = .ok t) : ∀ r, (placeV t r).map (·.sp) = B.paths p := by
  refine sizesV_ind (motive := fun B p t => ∀ r, (placeV t r).map (·.sp) = B.paths p)
    (fun p lay _ r => rfl) ?_ B p t h
  intro a b p lay lt rt _ _ _ ihl ihr r
  simp only [placeV, List.map_cons, List.map_append, ihl, ihr, BTree.paths]
  rfl

theorem computeV_species {P : Params} {sizes : Key → Size} {S : RTree} {sol : Sol}
    {all : List SubLayout} (h : computeV P sizes S sol = .ok all) :
    all.map (·.sp) = S.preorder := by
  obtain ⟨_, _, B, t, _, _, h3, h4, rfl⟩ := computeV_inv h
  rw [sizesV_paths B [] t h4, toBTree_preorder B S h3]

theorem computeH_species {P : Params} {sizes : Key → Size} {S : RTree} {sol : Sol}
    {all : List SubLayout} (h : computeH P sizes S sol = .ok all) :
    all.map (·.sp) = S.preorder := by
  obtain ⟨allV, hv, rfl⟩ := computeH_ok.1 h
  rw [← computeV_species hv, List.map_map]
  rfl

end SR.Layout
