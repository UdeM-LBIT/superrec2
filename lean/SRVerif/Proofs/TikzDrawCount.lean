/-
  Census of the drawing calls: besides plain `\path[branch=…]` statements, every branch of the
  layout contributes exactly its event node (extant gene / speciation / duplication / transfer),
  or its loss marker, and — for a transfer — its arrow; nothing else does.
-/
import SRVerif.Proofs.TikzDraw

namespace SR.TikzDraw

open SR SR.Layout SR.Tikz

def marks (ss : List Stmt) : List Stmt := ss.filter fun x => x != Stmt.path

/-- The statements other than plain paths that `_tikz_draw_branches` makes for a branch, in its order:
    the event node, or the loss marker; for a transfer the arrow, then the node. -/
def expected (b : FBranch) : List Stmt :=
  match b.kind with
  | .leaf => [.event b.key .leaf]
  | .spec => [.event b.key .spec]
  | .dup => [.event b.key .dup]
  | .loss => [.lossMarker b.key]
  | .hgt =>
    match b.right with
    | some t => [.transfer b.key t, .event b.key .hgt]
    | none => []

theorem marks_append (a b : List Stmt) : marks (a ++ b) = marks a ++ marks b := by
  simp [marks]

theorem marks_pre (c : Bool) : marks (if c = true then [Stmt.path] else []) = [] := by
  cases c <;> simp [marks]

def isEvent : Stmt → Bool
  | .event _ _ => true
  | _ => false

def isLossMarker : Stmt → Bool
  | .lossMarker _ => true
  | _ => false

def isTransfer : Stmt → Bool
  | .transfer _ _ => true
  | _ => false

def nEvents (bs : List FBranch) : Nat := bs.countP fun b => b.kind != .loss
def nLosses (bs : List FBranch) : Nat := bs.countP fun b => b.kind == .loss
def nTransfers (bs : List FBranch) : Nat := bs.countP fun b => b.kind == .hgt

/-- `cs.filterMap stmtOf`, the form in which `drawCalls_stmts` (Proofs/TikzDraw.lean) states the kinds. -/
def kinds (cs : List DrawCall) : List Stmt := cs.filterMap stmtOf

theorem kinds_append (a b : List DrawCall) : kinds (a ++ b) = kinds a ++ kinds b := by
  simp [kinds, List.filterMap_append]

theorem kinds_cons_fork (f : DrawCall) (cs : List DrawCall) (h : f.owner = none) :
    kinds (f :: cs) = kinds cs := by
  simp [kinds, stmtOf_of_owner_none f h]

theorem drawBranch_census {o : Orientation} {dp : DParams} {deco : Deco} {all : List SubLayout}
    {spOf : Path → Option Path} {lay : SubLayout} {ll rl : Option SubLayout} {b : FBranch}
    {cs : List DrawCall} (h : drawBranch o dp deco all spOf lay ll rl b = .ok cs) :
    marks (kinds cs) = expected b ∧ (kinds cs).countP isEvent = nEvents [b] ∧
    (kinds cs).countP isLossMarker = nLosses [b] ∧ (kinds cs).countP isTransfer = nTransfers [b] := by
  obtain ⟨body, rfl, hd⟩ := drawBranch_ok h
  have hbody : marks (kinds body) = expected b ∧ (kinds body).countP isEvent = nEvents [b] ∧
      (kinds body).countP isLossMarker = nLosses [b] ∧
      (kinds body).countP isTransfer = nTransfers [b] := by
    unfold expected
    cases hd with
    | hgt hk g s fl foreign la out bend hr hs hfl hf hbend =>
      simp only [hk, hr, nEvents, nLosses, nTransfers, List.countP_cons, List.countP_nil]
      exact ⟨rfl, rfl, rfl, rfl⟩
    | _ hk =>
      simp only [hk, nEvents, nLosses, nTransfers, List.countP_cons, List.countP_nil]
      exact ⟨rfl, rfl, rfl, rfl⟩
  rw [kinds_append, marks_append, List.countP_append, List.countP_append, List.countP_append]
  rw [show kinds (anchorCall deco lay b) = _ from stmtOf_anchorCall deco lay b]
  split <;> simpa [marks, isEvent, isLossMarker, isTransfer] using hbody

/-- The census of a loop from the census of its iterations: iteration `x` contributes the marks
    `marksOf x` and draws the branches `branchesOf x`. -/
theorem loopE_census {α : Type} {f : α → Except LErr (List DrawCall)} {marksOf : α → List Stmt}
    {branchesOf : α → List FBranch}
    (hf : ∀ x a, f x = .ok a → marks (kinds a) = marksOf x ∧
      (kinds a).countP isEvent = nEvents (branchesOf x) ∧
      (kinds a).countP isLossMarker = nLosses (branchesOf x) ∧
      (kinds a).countP isTransfer = nTransfers (branchesOf x)) :
    ∀ {l : List α} {cs : List DrawCall}, loopE f l = .ok cs →
      marks (kinds cs) = l.flatMap marksOf ∧
      (kinds cs).countP isEvent = nEvents (l.flatMap branchesOf) ∧
      (kinds cs).countP isLossMarker = nLosses (l.flatMap branchesOf) ∧
      (kinds cs).countP isTransfer = nTransfers (l.flatMap branchesOf) := by
  intro l
  induction l with
  | nil =>
    intro cs h
    cases h
    exact ⟨rfl, rfl, rfl, rfl⟩
  | cons x rest ih =>
    intro cs h
    obtain ⟨a, r, hx, hr, rfl⟩ := loopE_cons_ok h
    obtain ⟨i1, i2, i3, i4⟩ := ih hr
    obtain ⟨c1, c2, c3, c4⟩ := hf x a hx
    simp only [kinds_append, marks_append, List.countP_append, List.flatMap_cons, nEvents, nLosses,
      nTransfers] at *
    exact ⟨by rw [c1, i1], by rw [c2, i2], by rw [c3, i3], by rw [c4, i4]⟩

theorem drawBranches_census {o : Orientation} {dp : DParams} {deco : Deco} {all : List SubLayout}
    {spOf : Path → Option Path} {lay : SubLayout} {ll rl : Option SubLayout} {bs : List FBranch}
    {cs : List DrawCall} (h : drawBranches o dp deco all spOf lay ll rl bs = .ok cs) :
    marks (kinds cs) = bs.flatMap expected ∧
    (kinds cs).countP isEvent = nEvents bs ∧
    (kinds cs).countP isLossMarker = nLosses bs ∧
    (kinds cs).countP isTransfer = nTransfers bs := by
  rw [drawBranches_eq_loopE] at h
  simpa using loopE_census (branchesOf := fun b => [b]) (fun _ _ => drawBranch_census) h

/-- The branches of the layout of species `s` (`layout[s].branches`, empty if there is none). -/
def branchesAt (all : List SubLayout) (s : Path) : List FBranch :=
  match slLookup all s with
  | some lay => lay.branches
  | none => []

theorem drawSpecies_census {o : Orientation} {dp : DParams} {deco : Deco} {S : RTree}
    {spOf : Path → Option Path} {all : List SubLayout} {s : Path} {cs : List DrawCall}
    (h : drawSpecies o dp deco S spOf all s = .ok cs) :
    marks (kinds cs) = (branchesAt all s).flatMap expected ∧
    (kinds cs).countP isEvent = nEvents (branchesAt all s) ∧
    (kinds cs).countP isLossMarker = nLosses (branchesAt all s) ∧
    (kinds cs).countP isTransfer = nTransfers (branchesAt all s) := by
  obtain ⟨lay, ll, rl, f, bs, hl, rfl, hbs, hf⟩ := drawSpecies_ok h
  have hown : f.owner = none := by
    rcases hf with hf | ⟨l, r, _, _, rfl⟩
    · exact (forkLeaf_owner hf).1
    · rfl
  rw [kinds_cons_fork f bs hown]
  simp only [branchesAt, hl]
  exact drawBranches_census hbs

theorem drawSpeciesList_census {o : Orientation} {dp : DParams} {deco : Deco} {S : RTree}
    {spOf : Path → Option Path} {all : List SubLayout} {ps : List Path} {cs : List DrawCall}
    (h : drawSpeciesList o dp deco S spOf all ps = .ok cs) :
    marks (kinds cs) = ps.flatMap (fun s => (branchesAt all s).flatMap expected) ∧
    (kinds cs).countP isEvent = nEvents (ps.flatMap (branchesAt all)) ∧
    (kinds cs).countP isLossMarker = nLosses (ps.flatMap (branchesAt all)) ∧
    (kinds cs).countP isTransfer = nTransfers (ps.flatMap (branchesAt all)) := by
  rw [drawSpeciesList_eq_loopE] at h
  exact loopE_census (fun _ _ => drawSpecies_census) h

theorem flatMap_branchesAt {S : RTree} {all : List SubLayout}
    (hsp : all.map (·.sp) = S.preorder) :
    S.preorder.flatMap (branchesAt all) = all.flatMap (·.branches) := by
  have hn : (all.map (·.sp)).Nodup := by rw [hsp]; exact RTree.nodup_preorder S
  rw [← hsp, List.flatMap_map]
  have : ∀ (ls : List SubLayout), (∀ lay ∈ ls, lay ∈ all) →
      ls.flatMap (fun lay => branchesAt all lay.sp) = ls.flatMap (·.branches) := by
    intro ls
    induction ls with
    | nil => intro _; rfl
    | cons l rest ih =>
      intro hmem
      simp only [List.flatMap_cons]
      rw [ih (fun x hx => hmem x (List.mem_cons_of_mem _ hx))]
      simp [branchesAt, slLookup_of_nodup hn (hmem l (by simp))]
  exact this all (fun _ h => h)

end SR.TikzDraw
