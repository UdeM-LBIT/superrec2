/-
  C12 ∘ C08: what `ReconciliationInput.binarize` does to a refined tree when it
  re-serialises it through Newick (`tree.write(format=8, …)` then `from_dict`), on the
  MODEL of the codec (`Model/Newick.lean`).

  The new nodes of a refinement have the empty name.  The writer prints an empty name
  as `NoName`, so the tree that is read back is NOT the tree that was written: it is
  `fixEmpty t`, the same tree with every empty name replaced by `NoName`.  Both are
  "unnamed" for `label_internal`, which is why it tests `node.name == "NoName"`.
-/
import SRVerif.Proofs.CliRefineCompose
import SRVerif.Proofs.NewickCompat

namespace SR.Cli

open SR.Ser SR.Newick

/-- What is read back for a name. -/
def fixName (n : String) : String := if n = "" then "NoName" else n

mutual
  /-- The tree with every empty name replaced by `NoName`. -/
  def fixEmpty : NT → NT
    | .node n c ks => .node (fixName n) c (fixEmptyL ks)
  def fixEmptyL : List NT → List NT
    | [] => []
    | k :: ks => fixEmpty k :: fixEmptyL ks
end

theorem nameOut_fixName (n : String) : nameOut (fixName n) = nameOut n := by
  unfold fixName
  split
  · rename_i h; subst h; decide
  · rfl

mutual
  theorem writeNode_fixEmpty : ∀ t : NT, Newick.writeNode (fixEmpty t) = Newick.writeNode t
    | .node n c [] => by simp only [fixEmpty, fixEmptyL, Newick.writeNode, atom, nameOut_fixName]
    | .node n c (k :: ks) => by
      have := writeKids_fixEmptyL (k :: ks)
      simp only [fixEmptyL] at this
      simp only [fixEmpty, fixEmptyL, Newick.writeNode, atom, nameOut_fixName, this]
  theorem writeKids_fixEmptyL : ∀ ks : List NT, Newick.writeKids (fixEmptyL ks) = Newick.writeKids ks
    | [] => rfl
    | [k] => by simp only [fixEmptyL, Newick.writeKids, writeNode_fixEmpty k]
    | k :: k' :: ks => by
      have := writeKids_fixEmptyL (k' :: ks)
      simp only [fixEmptyL] at this
      simp only [fixEmptyL, Newick.writeKids, writeNode_fixEmpty k, this]
end

theorem write_fixEmpty (t : NT) : Newick.write (fixEmpty t) = Newick.write t := by
  simp only [Newick.write, writeChars, writeNode_fixEmpty]

mutual
  /-- Safe names, except that a name may be empty. -/
  def safeTreeE : NT → Bool
    | .node n c ks =>
      (n == "" || safeName n) && (match c with | some v => safeValue v | none => true) && safeTreesE ks
  def safeTreesE : List NT → Bool
    | [] => true
    | k :: ks => safeTreeE k && safeTreesE ks
end

theorem safeName_fixName {n : String} (h : (n == "" || safeName n) = true) :
    safeName (fixName n) = true := by
  unfold fixName
  split
  · decide
  · rename_i hne
    simpa [hne] using h

mutual
  theorem safeTree_fixEmpty : ∀ t : NT, safeTreeE t = true → safeTree (fixEmpty t) = true
    | .node n c ks, h => by
      simp only [safeTreeE, Bool.and_eq_true] at h
      simp only [fixEmpty, safeTree, Bool.and_eq_true]
      exact ⟨⟨safeName_fixName h.1.1, h.1.2⟩, safeTrees_fixEmptyL ks h.2⟩
  theorem safeTrees_fixEmptyL : ∀ ks : List NT, safeTreesE ks = true →
      safeTrees (fixEmptyL ks) = true
    | [], _ => rfl
    | k :: ks, h => by
      simp only [safeTreesE, Bool.and_eq_true] at h
      simp only [fixEmptyL, safeTrees, Bool.and_eq_true]
      exact ⟨safeTree_fixEmpty k h.1, safeTrees_fixEmptyL ks h.2⟩
end

theorem reparse (t : NT) (h : safeTreeE t = true) :
    Newick.readNT (Newick.write t) = .ok (fixEmpty t) := by
  rw [← write_fixEmpty]
  exact Newick.readNT_write _ (safeTree_fixEmpty t h)

theorem same_fixName (n : String) : Same n (fixName n) := by
  unfold fixName
  split
  · rename_i h; subst h; exact ⟨fun h => by simp [isUnnamed] at h, fun _ => by decide⟩
  · exact Same.refl n

mutual
  /-- For `label_internal` the re-parsed tree is the written tree. -/
  theorem relab_fixEmpty : ∀ t : NT, Relab Same t (fixEmpty t)
    | .node n c ks => by
      simp only [fixEmpty, Relab]
      exact ⟨same_fixName n, trivial, relabL_fixEmptyL ks⟩
  theorem relabL_fixEmptyL : ∀ ks : List NT, RelabL Same ks (fixEmptyL ks)
    | [] => by simp [fixEmptyL, RelabL]
    | k :: ks => by
      simp only [fixEmptyL, RelabL]
      exact ⟨relab_fixEmpty k, relabL_fixEmptyL ks⟩
end

theorem RelabL.safeTrees_of {R : String → String → Prop}
    (hR : ∀ n n', R n n' → (n == "" || safeName n) = true → safeName n' = true) :
    ∀ (ks ks' : List NT), RelabL R ks ks' → safeTreesE ks = true → safeTrees ks' = true := by
  refine RelabL.ind (fun _ => rfl) fun n n' c cs cs' ks ks' hn _ _ h1 h2 hs => ?_
  simp only [safeTreesE, safeTreeE, Bool.and_eq_true] at hs
  simp only [safeTrees, safeTree, Bool.and_eq_true]
  exact ⟨⟨⟨hR n n' hn hs.1.1.1, hs.1.1.2⟩, h1 hs.1.2⟩, h2 hs.2⟩

theorem Relab.safeTree_of {R : String → String → Prop}
    (hR : ∀ n n', R n n' → (n == "" || safeName n) = true → safeName n' = true) (t t' : NT)
    (h : Relab R t t') (hs : safeTreeE t = true) : safeTree t' = true := by
  have := RelabL.safeTrees_of hR [t] [t'] ⟨h, trivial⟩
  simp only [safeTreesE, safeTrees, Bool.and_true] at this
  exact this hs

theorem safeTree_labelTree {pfx : String} (hp : pfx.toList.all NT.safeChar = true) (t : NT)
    (h : safeTreeE t = true) : safeTree (labelTree pfx t) = true := by
  refine Relab.safeTree_of ?_ t _ (labelTree_relab pfx t) h
  intro n n' hr hs
  cases hu : isUnnamed n with
  | true =>
    obtain ⟨k, hk, _⟩ := hr.2 hu
    rw [hk]; exact safeName_of_safeStr (safeStr_mkName hp k)
  | false =>
    rw [hr.1 hu]
    have hne : n ≠ "" := by
      intro he; subst he; simp [isUnnamed] at hu
    simpa [hne] using hs

/-- Names and colours of a code are safe or empty. -/
def okPair (x : String × Option String) : Bool :=
  (x.1 == "" || safeName x.1) && (match x.2 with | some v => safeValue v | none => true)

def Dec.Safe (d : Dec) : Prop := ∀ i, okPair (d.leaf i) = true ∧ okPair (d.ann i) = true

theorem safeTreeE_decB {d : Dec} (hd : d.Safe) : ∀ b : Bin.BinT, safeTreeE (decB d b) = true
  | .leaf i => by
    have := (hd i).1
    simp only [okPair, Bool.and_eq_true] at this
    simp only [decB, safeTreeE, safeTreesE, Bool.and_eq_true, and_true]
    exact this
  | .node a l r => by
    have ha : okPair (d.annOf a) = true := by
      cases a with
      | none => rfl
      | some k => exact (hd k).2
    simp only [okPair, Bool.and_eq_true] at ha
    simp only [decB, safeTreeE, safeTreesE, Bool.and_eq_true, and_true]
    exact ⟨ha, safeTreeE_decB hd l, safeTreeE_decB hd r⟩

end SR.Cli
