/-
  The ordered instance (`ordAlg`, `spfs`): from the algebra's edge costs (`subseqSegmentDist` with /
  without the end runs) to the evaluator's ordered labelling cost.  At one node the generic local
  cost is at most the evaluator's `localRecCost + sloss · localOrdLosses`, and equal to it for
  non-empty child masks (`gl_ord_le`, `gl_ord`); over a solution with non-empty masks, which finite
  cost forces (`nz_of_finite`), `labCost` is the evaluated total cost (`totalCost_ordSol`).  Also the
  edge-cost law `conserv ≤ segment + 2·sloss`: an edge that keeps the end runs has at most two more
  lost runs.  Introduced here and used by every ordered statement downstream: `costOf`, `lossCost`
  (a distance as a cost), `NZ`, `Fits`, `LeavesOk` (conditions on masks and leaf syntenies),
  `ordLossesM` (the evaluator's loss count on masks).
-/
import SRVerif.Proofs.LabelDPThl
import SRVerif.Proofs.SubseqSeq

namespace SR

open Cost Path SubseqSpec SubseqProofs

theorem contained_of_segDist {mc m : Nat} (hc : mc ≠ 0) {e : Bool}
    (h : ¬ subseqSegmentDist mc m e < 0) : Contained mc m :=
  Decidable.byContradiction fun hn => h ((subseqSegmentDist_neg_iff hc m e).mpr hn)

theorem ne_zero_of_contained {mc m : Nat} (hc : mc ≠ 0) (h : Contained mc m) : m ≠ 0 := by
  rintro rfl
  apply hc
  apply Nat.eq_of_testBit_eq
  intro i
  cases hi : mc.testBit i
  · simp
  · have := h i hi; simp at this

/-- A distance turned into a cost: negative = inadmissible. -/
def costOf (sl : Nat) (d : Int) : Cost := if d < 0 then .inf else .fin (d.toNat * sl)

theorem segDist_true_neg (mc m : Nat) (h : subseqSegmentDist mc m true < 0) :
    subseqSegmentDist mc m false < 0 := by
  rw [subseqSegmentDist_total] at h ⊢
  split at h
  · omega
  · rename_i hn
    rw [if_neg fun hp => hn ⟨hp.1, Or.inr rfl⟩]; omega

theorem ord_conserv_eq (c : Costs) (a ca : OrdAnn) (m mc : Nat) :
    (ordAlg c).conserv a m ca mc = costOf c.sloss (subseqSegmentDist mc m true) := by
  simp only [ordAlg, costOf]

theorem ord_segment_eq (c : Costs) (a ca : OrdAnn) (m mc : Nat) :
    (ordAlg c).segment a m ca mc = costOf c.sloss (subseqSegmentDist mc m false) := by
  simp only [ordAlg, costOf]
  by_cases h1 : subseqSegmentDist mc m true < 0
  · have h2 := segDist_true_neg mc m h1
    simp [h1, h2]
  · by_cases h2 : subseqSegmentDist mc m false < 0 <;> simp [h1, h2]

theorem ord_costs {c : Costs} {a ca : OrdAnn} {m mc : Nat} (hc : mc ≠ 0) :
    (Contained mc m ∧
      (ordAlg c).conserv a m ca mc = .fin ((subseqSegmentDist mc m true).toNat * c.sloss) ∧
      (ordAlg c).segment a m ca mc = .fin ((subseqSegmentDist mc m false).toNat * c.sloss) ∧
      0 ≤ subseqSegmentDist mc m true ∧ 0 ≤ subseqSegmentDist mc m false) ∨
    (¬ Contained mc m ∧ (ordAlg c).conserv a m ca mc = .inf ∧ (ordAlg c).segment a m ca mc = .inf ∧
      subseqSegmentDist mc m true < 0 ∧ subseqSegmentDist mc m false < 0) := by
  have s1 := subseqSegmentDist_neg_iff hc m true
  have s2 := subseqSegmentDist_neg_iff hc m false
  by_cases h : Contained mc m
  · left
    have n1 : ¬ subseqSegmentDist mc m true < 0 := fun hlt => s1.mp hlt h
    have n2 : ¬ subseqSegmentDist mc m false < 0 := fun hlt => s2.mp hlt h
    refine ⟨h, ?_, ?_, Int.not_lt.mp n1, Int.not_lt.mp n2⟩
    · rw [ord_conserv_eq, costOf, if_neg n1]
    · rw [ord_segment_eq, costOf, if_neg n2]
  · right
    refine ⟨h, ?_, ?_, s1.mpr h, s2.mpr h⟩
    · rw [ord_conserv_eq, costOf, if_pos (s1.mpr h)]
    · rw [ord_segment_eq, costOf, if_pos (s2.mpr h)]

theorem cnt_edges_le (l : List Bool) : ∀ s s' : Bool,
    cnt true s l ≤ cnt false s' l + 1 + (if s' = false ∧ l.head? = some false then 1 else 0) := by
  induction l with
  | nil => intro s s'; simp
  | cons a t ih =>
    intro s s'
    rw [cnt_cons, cnt_cons]
    have h := ih (s || a) (s' || a)
    clear ih
    cases a <;> cases s' <;>
      (cases t with
       | nil => simp
       | cons b t' => cases b <;> simp at h ⊢ <;> omega)

theorem lostRuns_edges_le (l : List Bool) : lostRuns true l ≤ lostRuns false l + 2 := by
  rw [lostRuns_eq_cnt, lostRuns_eq_cnt]
  have := cnt_edges_le l false false
  split at this <;> omega

theorem segDist_slack (mc m : Nat) (h2 : 0 ≤ subseqSegmentDist mc m false) :
    subseqSegmentDist mc m true ≤ subseqSegmentDist mc m false + 2 := by
  -- the distance without the end runs is defined only for a non-empty contained mask
  by_cases hc : Contained mc m ∧ (mc ≠ 0 ∨ false = true)
  · rw [subseqSegmentDist_total, if_pos ⟨hc.1, Or.inr rfl⟩, subseqSegmentDist_total mc m false,
      if_pos hc]
    have := lostRuns_edges_le (keptPattern mc m)
    omega
  · rw [subseqSegmentDist_total, if_neg hc] at h2; omega

theorem ord_slack (c : Costs) : (ordAlg c).Slack (2 * c.sloss) := by
  intro a m ca mc
  simp only [ordAlg]
  by_cases h1 : subseqSegmentDist mc m true < 0
  · simp [h1]
  · by_cases h2 : subseqSegmentDist mc m false < 0
    · have e : (decide (subseqSegmentDist mc m true < 0) ||
          decide (subseqSegmentDist mc m false < 0)) = true := by simp [h2]
      rw [if_pos e, inf_add]; exact le_inf _
    · simp only [h1, h2, if_false, Bool.or_self, decide_false, Bool.false_eq_true,
        fin_add_fin_eq, fin_le_fin]
      have := segDist_slack mc m (by omega)
      have h3 : (subseqSegmentDist mc m true).toNat ≤ (subseqSegmentDist mc m false).toNat + 2 := by
        omega
      calc (subseqSegmentDist mc m true).toNat * c.sloss
          ≤ ((subseqSegmentDist mc m false).toNat + 2) * c.sloss := Nat.mul_le_mul_right _ h3
        _ = (subseqSegmentDist mc m false).toNat * c.sloss + 2 * c.sloss := by
            rw [Nat.add_mul]

def lossCost (sl : Nat) : Option Nat → Cost
  | some k => .fin (k * sl)
  | none => .inf

theorem costOf_add (sl : Nat) (a b : Int) :
    costOf sl a + costOf sl b = lossCost sl (addDist a b) := by
  unfold costOf addDist
  by_cases ha : a < 0
  · simp [ha, lossCost]
  · by_cases hb : b < 0
    · simp [ha, hb, lossCost]
    · simp [ha, hb, lossCost, Nat.add_mul]

theorem genLocal_ord (c : Costs) (a la ra : OrdAnn) (s x y : Path) (m ml mr : Nat) :
    genLocal (ordAlg c) c a s m la x ml ra y mr =
      match internalEvent s x y with
      | .spec => localRecCost c s x y +
          lossCost c.sloss (addDist (subseqSegmentDist ml m true) (subseqSegmentDist mr m true))
      | .dup => localRecCost c s x y + Cost.min
          (lossCost c.sloss (addDist (subseqSegmentDist ml m true) (subseqSegmentDist mr m false)))
          (lossCost c.sloss (addDist (subseqSegmentDist ml m false) (subseqSegmentDist mr m true)))
      | .hgt => localRecCost c s x y + lossCost c.sloss
          (addDist (subseqSegmentDist ml m (isAnc s x)) (subseqSegmentDist mr m (!isAnc s x)))
      | _ => .inf := by
  unfold genLocal
  rw [ord_conserv_eq, ord_segment_eq, ord_conserv_eq, ord_segment_eq, gl_general]
  cases internalEvent s x y with
  | hgt => cases isAnc s x <;> simp only [costOf_add, Bool.false_eq_true, if_false, if_true, Bool.not_false, Bool.not_true]
  | _ => simp only [costOf_add]

theorem addDist_eq_none {a b : Int} : addDist a b = none ↔ a < 0 ∨ b < 0 := by
  unfold addDist; split <;> simp_all

/-- The generic local cost is the evaluator's `localRecCost + sloss · localOrdLosses`, unless
    the event is a duplication exactly one of whose two readings is undefined. -/
theorem gl_ord_of (c : Costs) (a la ra : OrdAnn) (s x y : Path) (m ml mr : Nat)
    (h : internalEvent s x y = .dup →
      (addDist (subseqSegmentDist ml m true) (subseqSegmentDist mr m false) = none ↔
        addDist (subseqSegmentDist ml m false) (subseqSegmentDist mr m true) = none)) :
    genLocal (ordAlg c) c a s m la x ml ra y mr =
      match localOrdLosses (internalEvent s x y) (comparable s x) m ml mr with
      | some k => localRecCost c s x y + .fin (k * c.sloss)
      | none => .inf := by
  rw [genLocal_ord]
  cases hev : internalEvent s x y with
  | leaf => rfl
  | invalid => rfl
  | spec =>
    simp only [localOrdLosses]
    cases addDist (subseqSegmentDist ml m true) (subseqSegmentDist mr m true) with
    | none => exact add_inf _
    | some k => rfl
  | hgt =>
    rw [(internalEvent_hgt_sides hev).2.1]
    simp only [localOrdLosses]
    cases addDist (subseqSegmentDist ml m (isAnc s x)) (subseqSegmentDist mr m !isAnc s x) with
    | none => exact add_inf _
    | some k => rfl
  | dup =>
    have hiff := h hev
    simp only [localOrdLosses]
    cases h1 : addDist (subseqSegmentDist ml m true) (subseqSegmentDist mr m false) with
    | none => rw [hiff.mp h1]; exact add_inf _
    | some p =>
      cases h2 : addDist (subseqSegmentDist ml m false) (subseqSegmentDist mr m true) with
      | none => rw [hiff.mpr h2] at h1; cases h1
      | some q => simp only [lossCost, min_fin, Nat.mul_min_mul_right]

theorem gl_ord_le (c : Costs) (a la ra : OrdAnn) (s x y : Path) (m ml mr : Nat) :
    genLocal (ordAlg c) c a s m la x ml ra y mr ≼
      match localOrdLosses (internalEvent s x y) (comparable s x) m ml mr with
      | some k => localRecCost c s x y + .fin (k * c.sloss)
      | none => .inf := by
  by_cases hd : internalEvent s x y = .dup
  · -- a duplication: the evaluator's count is undefined as soon as one reading is
    rw [genLocal_ord, hd]
    simp only [localOrdLosses]
    cases addDist (subseqSegmentDist ml m true) (subseqSegmentDist mr m false) with
    | none => exact le_inf _
    | some p =>
      cases addDist (subseqSegmentDist ml m false) (subseqSegmentDist mr m true) with
      | none => exact le_inf _
      | some q => simp only [lossCost, min_fin, Nat.mul_min_mul_right]; exact le_refl _
  · exact le_of_eq (gl_ord_of c a la ra s x y m ml mr (fun h => absurd h hd))

/-- The local lemma of C02; for an empty child mask only `gl_ord_le` holds. -/
theorem gl_ord (c : Costs) (a la ra : OrdAnn) (s x y : Path) (m ml mr : Nat) (hl : ml ≠ 0)
    (hr : mr ≠ 0) :
    genLocal (ordAlg c) c a s m la x ml ra y mr =
      match localOrdLosses (internalEvent s x y) (comparable s x) m ml mr with
      | some k => localRecCost c s x y + .fin (k * c.sloss)
      | none => .inf := by
  -- the two readings of a duplication are defined together, as the masks are not empty
  refine gl_ord_of c a la ra s x y m ml mr fun _ => ?_
  simp only [addDist_eq_none, subseqSegmentDist_neg_iff hl, subseqSegmentDist_neg_iff hr]

theorem contained_of_genLocal_fin {c : Costs} {a la ra : OrdAnn} {s x y : Path} {m ml mr : Nat}
    (h : genLocal (ordAlg c) c a s m la x ml ra y mr ≠ .inf) :
    (ml ≠ 0 → Contained ml m) ∧ (mr ≠ 0 → Contained mr m) := by
  unfold genLocal at h
  constructor
  · intro hl
    rcases ord_costs (c := c) (a := a) (ca := la) (m := m) hl with ⟨hc, _⟩ | ⟨_, e1, e2, _⟩
    · exact hc
    · rw [e1, e2, gl_inf_left] at h; exact absurd rfl h
  · intro hr
    rcases ord_costs (c := c) (a := a) (ca := ra) (m := m) hr with ⟨hc, _⟩ | ⟨_, e1, e2, _⟩
    · exact hc
    · rw [e1, e2, gl_inf_right] at h; exact absurd rfl h

theorem ordSol_sp (order : List Nat) (ls : LSol Nat) : (ordSol order ls).sp = ls.sp := by
  cases ls <;> rfl

theorem validRec_ordSol (c : Costs) (S : RTree) (base : Bool) (order : List Nat) (o : OTree) :
    ∀ (isRoot : Bool) (ls : LSol Nat), Adm (ordAlg c) (annOrd S base order isRoot o) ls → ls.Valid →
      Spec.validRec o (ordSol order ls) = true := by
  induction o with
  | leaf sp f =>
    intro isRoot ls h _
    obtain rfl := h.leaf_inv
    simp [ordSol, Spec.validRec]
  | node l r ihl ihr =>
    intro isRoot ls h hv
    obtain ⟨s, lab, x, y, rfl, _, _, ax, ay⟩ := h.node_inv
    simp only [ordSol, Spec.validRec, ordSol_sp, ihl false x ax hv.2.1, ihr false y ay hv.2.2,
      Bool.and_true, bne_iff_ne]
    exact hv.1

/-- Every mask is non-empty.  Needed because the ordered algebra and the evaluator part on an empty
    child mask (`gl_ord` needs both child masks non-zero); finite cost forces it (`nz_of_finite`). -/
def NZ : LSol Nat → Prop
  | .leaf _ m => m ≠ 0
  | .node _ m l r => m ≠ 0 ∧ NZ l ∧ NZ r

/-- Every mask has at most `n` bits: what lets a mask be decoded to a synteny and read back
    (`mask_roundtrip`); admissible labellings have it (`fits_of_adm`). -/
def Fits (n : Nat) : LSol Nat → Prop
  | .leaf _ m => m < 2 ^ n
  | .node _ m l r => m < 2 ^ n ∧ Fits n l ∧ Fits n r

theorem NZ.lab_ne {ls : LSol Nat} (h : NZ ls) : ls.lab ≠ 0 := by
  cases ls with
  | leaf => exact h
  | node => exact h.1

/-- The evaluator's ordered loss count, on masks. -/
def ordLossesM : LSol Nat → Option Nat
  | .leaf _ _ => some 0
  | .node s m l r =>
    match localOrdLosses (internalEvent s l.sp r.sp) (comparable s l.sp) m l.lab r.lab,
          ordLossesM l, ordLossesM r with
    | some a, some b, some d => some (a + b + d)
    | _, _, _ => none

theorem annOrd_data_irrel (c : Costs) (a a' la la' ra ra' : OrdAnn) (s x y : Path) (m ml mr : Nat) :
    genLocal (ordAlg c) c a s m la x ml ra y mr = genLocal (ordAlg c) c a' s m la' x ml ra' y mr := rfl

theorem labCost_ord (c : Costs) (S : RTree) (base : Bool) (order : List Nat) (o : OTree) :
    ∀ (isRoot : Bool) (ls : LSol Nat), Adm (ordAlg c) (annOrd S base order isRoot o) ls → NZ ls →
      labCost (ordAlg c) c (annOrd S base order isRoot o) ls =
        match ordLossesM ls with
        | some k => recCost c o (ordSol order ls) + .fin (k * c.sloss)
        | none => .inf := by
  induction o with
  | leaf sp f =>
    intro isRoot ls h _
    obtain rfl := h.leaf_inv
    simp [annOrd, labCost, ordLossesM, ordSol, recCost]
  | node l r ihl ihr =>
    intro isRoot ls h hnz
    obtain ⟨s, m, x, y, rfl, _, _, ax, ay⟩ := h.node_inv
    simp only [annOrd, labCost, ordLossesM, ordSol, recCost_node, ordSol_sp,
      ihl false x ax hnz.2.1, ihr false y ay hnz.2.2,
      gl_ord c _ _ _ s x.sp y.sp m x.lab y.lab hnz.2.1.lab_ne hnz.2.2.lab_ne]
    cases localOrdLosses (internalEvent s x.sp y.sp) (comparable s x.sp) m x.lab y.lab with
    | none => simp
    | some k =>
      cases ordLossesM x with
      | none => simp
      | some kx =>
        cases ordLossesM y with
        | none => simp
        | some ky =>
          simp only []
          have : (k + kx + ky) * c.sloss = k * c.sloss + (kx * c.sloss + ky * c.sloss) := by
            simp only [Nat.add_mul]; omega
          rw [this, ← fin_add_fin_eq, ← fin_add_fin_eq]
          ac_rfl

theorem fits_of_adm (c : Costs) (S : RTree) (base : Bool) (order : List Nat) (o : OTree) :
    ∀ (isRoot : Bool) (ls : LSol Nat), Adm (ordAlg c) (annOrd S base order isRoot o) ls →
      Fits order.length ls := by
  induction o with
  | leaf sp f =>
    intro isRoot ls h
    obtain rfl := h.leaf_inv
    exact mask_lt order f
  | node l r ihl ihr =>
    intro isRoot ls h
    obtain ⟨s, m, x, y, rfl, _, hm, ax, ay⟩ := h.node_inv
    refine ⟨?_, ihl false x ax, ihr false y ay⟩
    simp only [ordAlg] at hm
    have hpos : 0 < 2 ^ order.length := Nat.pos_of_ne_zero (by simp)
    split at hm
    · simp only [List.mem_singleton] at hm; omega
    · simpa using hm

theorem ordSol_fam (order : List Nat) (ls : LSol Nat) :
    (ordSol order ls).fam = (subseqFromMask ls.lab order).getD [] := by
  cases ls <;> rfl

theorem mask_roundtrip {order : List Nat} (hnd : order.Nodup) {m : Nat} (h : m < 2 ^ order.length) :
    maskFromSubseq ((subseqFromMask m order).getD []) order = m := by
  obtain ⟨child, h1, _, h3⟩ := roundtrip_mask order hnd m h
  rw [h1]; exact h3

theorem Fits.lab_lt {n : Nat} {ls : LSol Nat} (h : Fits n ls) : ls.lab < 2 ^ n := by
  cases ls with
  | leaf => exact h
  | node => exact h.1

theorem ordLosses_ordSol {order : List Nat} (hnd : order.Nodup) :
    ∀ (ls : LSol Nat) (m : Nat), Fits order.length ls → m = ls.lab →
      ordLosses order m (ordSol order ls) = ordLossesM ls := by
  intro ls
  induction ls with
  | leaf s lab => intro m _ _; rfl
  | node s lab x y ihx ihy =>
    intro m hf hm
    simp only [Fits] at hf
    simp only [LSol.lab] at hm
    subst hm
    simp only [ordSol, ordLosses, ordLossesM, ordSol_sp, ordSol_fam,
      mask_roundtrip hnd hf.2.1.lab_lt, mask_roundtrip hnd hf.2.2.lab_lt]
    rw [ihx _ hf.2.1 rfl, ihy _ hf.2.2 rfl]
    generalize localOrdLosses (internalEvent s x.sp y.sp) (comparable s x.sp) m x.lab y.lab = A
    generalize ordLossesM x = B
    generalize ordLossesM y = C
    cases A <;> cases B <;> cases C <;> rfl

theorem totalCost_ordSol (c : Costs) (S : RTree) (base : Bool) {order : List Nat} (hnd : order.Nodup)
    (o : OTree) (ls : LSol Nat) (hadm : Adm (ordAlg c) (annOrd S base order true o) ls)
    (hnz : NZ ls) (hroot : ls.lab = 2 ^ order.length - 1) :
    totalCost c .ordered o (ordSol order ls) = labCost (ordAlg c) c (annOrd S base order true o) ls := by
  rw [labCost_ord c S base order o true ls hadm hnz]
  have hfit := fits_of_adm c S base order o true ls hadm
  have hfam : (ordSol order ls).fam = order := by
    rw [ordSol_fam, hroot, subseqFromMask_complete]; rfl
  simp only [totalCost, labelingCost, hfam]
  rw [ordLosses_ordSol hnd ls _ hfit (by rw [hroot]; rfl)]
  cases ordLossesM ls <;> simp

/-- Leaf syntenies are non-empty subsequences of the root order. -/
def LeavesOk (order : List Nat) : OTree → Prop
  | .leaf _ f => f ≠ [] ∧ f.Sublist order
  | .node l r => LeavesOk order l ∧ LeavesOk order r

theorem nz_of_finite (c : Costs) (S : RTree) (base : Bool) (order : List Nat) (o : OTree)
    (hlv : LeavesOk order o) :
    ∀ (isRoot : Bool) (ls : LSol Nat), Adm (ordAlg c) (annOrd S base order isRoot o) ls →
      labCost (ordAlg c) c (annOrd S base order isRoot o) ls ≠ .inf → NZ ls := by
  induction o with
  | leaf sp f =>
    intro isRoot ls h _
    obtain rfl := h.leaf_inv
    exact mask_ne_zero order f hlv.1 hlv.2
  | node l r ihl ihr =>
    intro isRoot ls h hfin
    obtain ⟨s, m, x, y, rfl, _, _, ax, ay⟩ := h.node_inv
    obtain ⟨hg, hxf, hyf⟩ := labCost_node_ne_inf hfin
    have nx := ihl hlv.1 false x ax hxf
    -- the edge to the left child is finite, so its mask is contained in `m`
    exact ⟨ne_zero_of_contained nx.lab_ne ((contained_of_genLocal_fin hg).1 nx.lab_ne), nx,
      ihr hlv.2 false y ay hyf⟩

theorem adm_annOrd_leaf {c : Costs} {S : RTree} {base : Bool} {order : List Nat} {isRoot : Bool}
    {sp s : Path} {f : List Nat} {m : Nat} :
    Adm (ordAlg c) (annOrd S base order isRoot (.leaf sp f)) (.leaf s m) ↔
      s = sp ∧ m = maskFromSubseq f order := Iff.rfl

theorem adm_annOrd_node {c : Costs} {S : RTree} {base : Bool} {order : List Nat} {isRoot : Bool}
    {l r : OTree} {s : Path} {m : Nat} {sl sr : LSol Nat} :
    Adm (ordAlg c) (annOrd S base order isRoot (.node l r)) (.node s m sl sr) ↔
      s ∈ (if base then [(lcaSol (.node l r)).sp] else (allSpecies S).reverse) ∧
      m ∈ (if isRoot then [2 ^ order.length - 1] else List.range (2 ^ order.length)) ∧
      Adm (ordAlg c) (annOrd S base order false l) sl ∧
      Adm (ordAlg c) (annOrd S base order false r) sr := Iff.rfl

end SR
