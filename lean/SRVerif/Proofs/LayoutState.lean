/-
  The state of `_compute_branches` (`layout_state`, an association list species ↦ branches,
  anchors) seen through `brs`, `ancs`, `skeys`, and the object nodes of a reconciliation by path
  (`subAt`, `genesPost`).
-/
import SRVerif.Model.Layout
import SRVerif.Proofs.RTree
import SRVerif.Proofs.ListAux

namespace SR

theorem Layout.setAdd_eq_addNew : Layout.setAdd = List.addNew := rfl

theorem Layout.lookupKey_eq_lookup {β : Type} (l : List (Layout.Key × β)) (k : Layout.Key) :
    Layout.lookupKey l k = l.lookup k := by
  induction l with
  | nil => rfl
  | cons p l ih => rw [Layout.lookupKey, List.lookup_cons_eq_ite, ih]

theorem Layout.getSp_eq_lookup (st : Layout.LState) (s : Path) : Layout.getSp st s = st.lookup s := by
  induction st with
  | nil => rfl
  | cons p st ih => rw [Layout.getSp, List.lookup_cons_eq_ite, ih]

theorem Layout.lookupSp_eq_lookup {β : Type} (l : List (Path × β)) (p : Path) :
    Layout.lookupSp l p = l.lookup p := by
  induction l with
  | nil => rfl
  | cons a l ih => rw [Layout.lookupSp, List.lookup_cons_eq_ite, ih]

theorem Layout.slLookup_eq_find? (all : List Layout.SubLayout) (s : Path) :
    Layout.slLookup all s = all.find? (·.sp == s) := by
  induction all with
  | nil => rfl
  | cons l all ih =>
    rw [Layout.slLookup, List.find?_cons, ih]
    by_cases e : l.sp = s
    · rw [if_pos e, beq_iff_eq.mpr e]
    · rw [if_neg e, beq_eq_false_iff_ne.mpr e]

theorem Layout.slLookup_of_mem {all : List Layout.SubLayout} {s : Path} (h : s ∈ all.map (·.sp)) :
    ∃ sl, Layout.slLookup all s = some sl ∧ sl ∈ all ∧ sl.sp = s := by
  simp only [Layout.slLookup_eq_find?]
  obtain ⟨sl, hsl⟩ := Option.isSome_iff_exists.mp (List.find?_key_isSome_iff_mem_keys.mpr h)
  exact ⟨sl, hsl, List.mem_of_find?_eq_some hsl, List.key_eq_of_find?_eq_some hsl⟩

theorem Layout.fbLookup_eq_find? (bs : List Layout.FBranch) (k : Layout.Key) :
    Layout.fbLookup bs k = bs.find? (·.key == k) := by
  induction bs with
  | nil => rfl
  | cons b bs ih =>
    rw [Layout.fbLookup, List.find?_cons, ih]
    by_cases e : b.key = k
    · rw [if_pos e, beq_iff_eq.mpr e]
    · rw [if_neg e, beq_eq_false_iff_ne.mpr e]

end SR

namespace SR.Layout

open SR

/-- `layout_state[s]["branches"]`, empty when `s` has no state. -/
def brs (st : LState) (s : Path) : List Branch :=
  match getSp st s with
  | some x => x.branches
  | none => []

/-- `layout_state[s]["anchor_nodes"]`, empty when `s` has no state. -/
def ancs (st : LState) (s : Path) : List Key :=
  match getSp st s with
  | some x => x.anchors
  | none => []

theorem brs_of_getSp {st : LState} {t : Path} {x : SpState} (h : getSp st t = some x) :
    brs st t = x.branches := by simp [brs, h]

theorem ancs_of_getSp {st : LState} {t : Path} {x : SpState} (h : getSp st t = some x) :
    ancs st t = x.anchors := by simp [ancs, h]

/-- The species that have a state, in the order of creation. -/
def skeys (st : LState) : List Path := st.map (·.1)

/-- The keys (object node or pseudo-gene of a loss) of a list of branches. -/
def keysOf (l : List Branch) : List Key := l.map (·.key)

@[simp] theorem keysOf_append (a b : List Branch) : keysOf (a ++ b) = keysOf a ++ keysOf b := by
  simp [keysOf]

theorem getSp_modifySp (f : SpState → SpState) (st : LState) (s t : Path) :
    getSp (modifySp f st s) t = if t = s then (getSp st s).map f else getSp st t := by
  induction st with
  | nil => simp [modifySp, getSp]
  | cons e rest ih =>
    obtain ⟨k, v⟩ := e
    by_cases hk : k = s
    · subst hk
      by_cases ht : t = k
      · subst ht; simp [modifySp, getSp]
      · have : ¬ k = t := fun h => ht h.symm
        simp [modifySp, getSp, ht, this]
    · by_cases ht : t = s
      · subst ht
        simp [modifySp, getSp, hk, ih]
      · by_cases hkt : k = t
        · subst hkt; simp [modifySp, getSp, hk]
        · simp [modifySp, getSp, hk, hkt, ih, ht]

theorem skeys_modifySp (f : SpState → SpState) (st : LState) (s : Path) :
    skeys (modifySp f st s) = skeys st := by
  induction st with
  | nil => simp [modifySp, skeys]
  | cons e rest ih =>
    obtain ⟨k, v⟩ := e
    by_cases hk : k = s
    · simp [modifySp, skeys, hk]
    · simp only [skeys] at ih
      simp [modifySp, skeys, hk, ih]

theorem getSp_isSome_iff (st : LState) (s : Path) : (getSp st s).isSome ↔ s ∈ skeys st := by
  rw [getSp_eq_lookup]; exact List.lookup_isSome_iff_mem_keys

theorem getSp_some_of_mem {st : LState} {s : Path} (h : s ∈ skeys st) : ∃ x, getSp st s = some x := by
  rw [getSp_eq_lookup]; exact List.exists_lookup_iff_mem_keys.mpr h

theorem getSp_none_of_not_mem {st : LState} {s : Path} (h : s ∉ skeys st) : getSp st s = none := by
  rw [getSp_eq_lookup]; exact List.lookup_eq_none_iff_not_mem_keys.mpr h

theorem getSp_append_of_mem {st : LState} (ext : LState) {t : Path} (h : t ∈ skeys st) :
    getSp (st ++ ext) t = getSp st t := by
  induction st with
  | nil => simp [skeys] at h
  | cons e st ih =>
    obtain ⟨k, v⟩ := e
    by_cases hk : k = t
    · simp [getSp, hk]
    · have : t ∈ skeys st := by
        simp only [skeys, List.map_cons, List.mem_cons] at h
        exact h.resolve_left fun e => hk e.symm
      simp [getSp, hk, ih this]

theorem modifySp_append_of_mem (f : SpState → SpState) {st : LState} (ext : LState) {t : Path}
    (h : t ∈ skeys st) : modifySp f (st ++ ext) t = modifySp f st t ++ ext := by
  induction st with
  | nil => simp [skeys] at h
  | cons e st ih =>
    obtain ⟨k, v⟩ := e
    by_cases hk : k = t
    · simp [modifySp, hk]
    · have : t ∈ skeys st := by
        simp only [skeys, List.map_cons, List.mem_cons] at h
        exact h.resolve_left fun e => hk e.symm
      simp [modifySp, hk, ih this]

/-- Empty states for the species `L`.  The model creates the state of a species at the start of
    its pass; a run does not see states appended behind it (`Ran.frame`), so all of them may be
    there from the start. -/
def initSt (L : List Path) : LState := L.map fun s => (s, ⟨[], []⟩)

theorem skeys_initSt (L : List Path) : skeys (initSt L) = L := by
  simp [skeys, initSt, Function.comp_def]

theorem getSp_initSt (L : List Path) (t : Path) :
    getSp (initSt L) t = if t ∈ L then some ⟨[], []⟩ else none := by
  induction L with
  | nil => simp [initSt, getSp]
  | cons s L ih =>
    simp only [initSt, List.map_cons, getSp] at ih ⊢
    by_cases h : s = t
    · simp [h]
    · have : ¬ t = s := fun e => h e.symm
      simp [h, this, ih]

theorem brs_initSt (L : List Path) (t : Path) : brs (initSt L) t = [] := by
  unfold brs; rw [getSp_initSt]; by_cases h : t ∈ L <;> simp [h]

theorem ancs_initSt (L : List Path) (t : Path) : ancs (initSt L) t = [] := by
  unfold ancs; rw [getSp_initSt]; by_cases h : t ∈ L <;> simp [h]

theorem brs_modifySp (f : SpState → SpState) (st : LState) (s t : Path) :
    brs (modifySp f st s) t =
      if t = s then (match getSp st s with | some x => (f x).branches | none => []) else brs st t := by
  unfold brs
  rw [getSp_modifySp]
  by_cases h : t = s
  · subst h; simp only [if_true]; cases getSp st t <;> rfl
  · simp [h]

theorem ancs_modifySp (f : SpState → SpState) (st : LState) (s t : Path) :
    ancs (modifySp f st s) t =
      if t = s then (match getSp st s with | some x => (f x).anchors | none => []) else ancs st t := by
  unfold ancs
  rw [getSp_modifySp]
  by_cases h : t = s
  · subst h; simp only [if_true]; cases getSp st t <;> rfl
  · simp [h]

theorem modifySp_congr {f g : SpState → SpState} {st : LState} {s : Path} {x : SpState}
    (h : getSp st s = some x) (hfg : f x = g x) : modifySp f st s = modifySp g st s := by
  induction st with
  | nil => rfl
  | cons e rest ih =>
    obtain ⟨k, v⟩ := e
    by_cases hk : k = s
    · simp only [getSp, hk, if_true, Option.some.injEq] at h
      subst h
      simp [modifySp, hk, hfg]
    · simp only [getSp, hk, if_false] at h
      simp [modifySp, hk, ih h]

theorem mem_setAdd {l : List Key} {k a : Key} : a ∈ setAdd l k ↔ a ∈ l ∨ a = k :=
  List.mem_addNew

def subAt : Sol → Path → Option Sol
  | sol, [] => some sol
  | .node _ _ l r, i :: p => if i = 0 then subAt l p else if i = 1 then subAt r p else none
  | .leaf _ _, _ :: _ => none

theorem subAt_append : ∀ (sol : Sol) (p q : Path),
    subAt sol (p ++ q) = (subAt sol p).bind (fun x => subAt x q) := by
  intro sol p
  induction p generalizing sol with
  | nil => intro q; simp [subAt]
  | cons i p ih =>
    intro q
    cases sol with
    | leaf s f => simp [subAt]
    | node s f l r =>
      simp only [List.cons_append, subAt]
      split
      · exact ih l q
      · split
        · exact ih r q
        · rfl

theorem subAt_child {sol : Sol} {p : Path} {sp : Path} {f : List Nat} {l r : Sol}
    (h : subAt sol p = some (.node sp f l r)) :
    subAt sol (p ++ [0]) = some l ∧ subAt sol (p ++ [1]) = some r := by
  constructor <;> simp [subAt_append, h, subAt]

theorem mem_genesPost : ∀ (sol : Sol) (p0 p : Path) (sub : Sol),
    (p, sub) ∈ genesPost sol p0 ↔ ∃ q, p = p0 ++ q ∧ subAt sol q = some sub := by
  intro sol
  induction sol with
  | leaf s f =>
    intro p0 p sub
    simp only [genesPost, List.mem_singleton, Prod.mk.injEq]
    constructor
    · rintro ⟨rfl, rfl⟩; exact ⟨[], by simp, rfl⟩
    · rintro ⟨q, rfl, h⟩
      cases q with
      | nil => simp [subAt] at h; simp [h]
      | cons i q => simp [subAt] at h
  | node s f l r ihl ihr =>
    intro p0 p sub
    simp only [genesPost, List.mem_append, List.mem_singleton, Prod.mk.injEq, ihl, ihr]
    constructor
    · rintro ((⟨q, rfl, h⟩ | ⟨q, rfl, h⟩) | ⟨rfl, rfl⟩)
      · exact ⟨0 :: q, by simp, by simp [subAt, h]⟩
      · exact ⟨1 :: q, by simp, by simp [subAt, h]⟩
      · exact ⟨[], by simp, rfl⟩
    · rintro ⟨q, rfl, h⟩
      cases q with
      | nil => simp [subAt] at h; right; simp [h]
      | cons i q =>
        simp only [subAt] at h
        left
        split at h
        · left; subst i; exact ⟨q, by simp, h⟩
        · split at h
          · right; subst i; exact ⟨q, by simp, h⟩
          · cases h

/-- Every node of the tree below-or-equal to `s` has been visited once `s` is reached. -/
theorem desc_before {S : RTree} {done rest : List Path} {s t : Path}
    (hsplit : S.postorder = done ++ s :: rest) (ht : S.isNode t = true)
    (hanc : Path.isAnc s t = true) : t ∈ done ++ [s] := by
  have hmem := RTree.mem_postorder_of_isNode t S ht
  rw [hsplit] at hmem
  have hp := RTree.postorder_noLaterDesc S
  rw [hsplit] at hp
  simp only [List.mem_append, List.mem_cons] at hmem
  rcases hmem with h | rfl | h
  · simp [h]
  · simp
  · exfalso
    simp only [List.pairwise_append, List.pairwise_cons] at hp
    have := hp.2.1.1 t h
    rw [hanc] at this
    cases this

end SR.Layout
