/-
  Trees by themselves (no disjoint sets).  The one structural fact everything rests on: the clades
  of a tree with distinct leaf names are laminar (`clades_laminar`), so the clades through a leaf form
  a chain.  From it, without recursion over the tree: BUILD's completeness (`separation`) and "a tree
  that displays the triples of `t` has every clade of `t`" (`clade_of_displays`).  The clades of a
  binary tree are a maximal laminar family, so it is determined by its triples
  (`sameClades_of_displays`).  Second half: the clade family as a predicate (`IsClade`), which makes
  equality up to child order an equation; AllTrees' "each tree once" rests on it.
-/
import SRVerif.Spec.Triples

namespace SR

theorem Tri.Spec.sameSet_iff {a b : List Nat} :
    Tri.Spec.sameSet a b = true ↔ ∀ x, x ∈ a ↔ x ∈ b := by
  simp only [Tri.Spec.sameSet, Bool.and_eq_true, List.all_eq_true, List.contains_iff_mem]
  exact ⟨fun h x => ⟨h.1 x, h.2 x⟩, fun h => ⟨fun x => (h x).mp, fun x => (h x).mpr⟩⟩

end SR

namespace SR.Tri

open SR LTree Spec

theorem mem_leavesL {cs : List LTree} {x : Nat} : x ∈ leavesL cs ↔ ∃ c, c ∈ cs ∧ x ∈ c.leaves := by
  induction cs with
  | nil => simp [leavesL]
  | cons c cs ih => simp [leavesL, ih]

theorem mem_cladesL {cs : List LTree} {C : List Nat} : C ∈ cladesL cs ↔ ∃ c, c ∈ cs ∧ C ∈ clades c := by
  induction cs with
  | nil => simp [cladesL]
  | cons c cs ih => simp [cladesL, ih]

theorem leaves_mem_clades (t : LTree) : t.leaves ∈ clades t := by
  cases t <;> simp [clades, leaves]

theorem displays_iff (t : LTree) (tr : Triple) :
    displays t tr = true ↔ tr.1 ∈ t.leaves ∧ tr.2.1 ∈ t.leaves ∧ tr.2.2 ∈ t.leaves ∧
      ∃ C, C ∈ clades t ∧ tr.1 ∈ C ∧ tr.2.1 ∈ C ∧ tr.2.2 ∉ C := by
  simp [displays, and_assoc]

theorem displays_clade {S : LTree} {tr : Triple} (h : displays S tr = true) :
    ∃ C, C ∈ clades S ∧ tr.1 ∈ C ∧ tr.2.1 ∈ C ∧ tr.2.2 ∉ C :=
  ((displays_iff S tr).mp h).2.2.2

theorem proper_iff (tr : Triple) : proper tr = true ↔ tr.1 ≠ tr.2.1 ∧ tr.1 ≠ tr.2.2 ∧ tr.2.1 ≠ tr.2.2 := by
  simp [proper, and_assoc]

theorem proper_mk {a b c : Nat} (hab : a ≠ b) (hac : a ≠ c) (hbc : b ≠ c) :
    proper (a, b, c) = true := (proper_iff _).mpr ⟨hab, hac, hbc⟩

theorem cladesSub_iff (t u : LTree) :
    cladesSub t u = true ↔ ∀ C, C ∈ clades t → ∃ C', C' ∈ clades u ∧ ∀ x, x ∈ C ↔ x ∈ C' := by
  simp only [cladesSub, List.all_eq_true, List.any_eq_true, Spec.sameSet_iff]

theorem sameClades_iff (t u : LTree) :
    sameClades t u = true ↔
      (∀ C, C ∈ clades t → ∃ C', C' ∈ clades u ∧ ∀ x, x ∈ C ↔ x ∈ C') ∧
      (∀ C, C ∈ clades u → ∃ C', C' ∈ clades t ∧ ∀ x, x ∈ C ↔ x ∈ C') := by
  simp only [sameClades, Bool.and_eq_true, cladesSub_iff]

mutual
  theorem clade_sub_leaves : ∀ (t : LTree) (C : List Nat), C ∈ clades t → ∀ x, x ∈ C → x ∈ t.leaves
    | .leaf a, C, hC, x, hx => by
      simp only [clades, List.mem_singleton] at hC
      subst hC; simpa [leaves] using hx
    | .node cs, C, hC, x, hx => by
      simp only [clades, List.mem_cons] at hC
      rcases hC with rfl | hC
      · exact hx
      · exact cladeL_sub_leaves cs C hC x hx
  theorem cladeL_sub_leaves : ∀ (cs : List LTree) (C : List Nat), C ∈ cladesL cs → ∀ x, x ∈ C → x ∈ leavesL cs
    | [], C, hC, x, hx => by simp [cladesL] at hC
    | c :: cs, C, hC, x, hx => by
      simp only [cladesL, List.mem_append] at hC
      simp only [leavesL, List.mem_append]
      rcases hC with hC | hC
      · exact Or.inl (clade_sub_leaves c C hC x hx)
      · exact Or.inr (cladeL_sub_leaves cs C hC x hx)
end

theorem isBinary_node2 {a b : LTree} :
    (LTree.node [a, b]).isBinary = true ↔ a.isBinary = true ∧ b.isBinary = true := by
  simp only [isBinary, Bool.and_eq_true]

theorem binary_rec {motive : LTree → Prop} (leaf : ∀ a, motive (.leaf a))
    (node : ∀ a b, a.isBinary = true → b.isBinary = true → motive a → motive b →
      motive (.node [a, b])) : ∀ t, t.isBinary = true → motive t
  | .leaf a, _ => leaf a
  | .node [a, b], h =>
    node a b (isBinary_node2.mp h).1 (isBinary_node2.mp h).2
      (binary_rec leaf node a (isBinary_node2.mp h).1) (binary_rec leaf node b (isBinary_node2.mp h).2)
  | .node [], h => by simp [isBinary] at h
  | .node [_], h => by simp [isBinary] at h
  | .node (_ :: _ :: _ :: _), h => by simp [isBinary] at h

theorem binary_cases : ∀ t : LTree, t.isBinary = true →
    (∃ a, t = .leaf a) ∨ ∃ a b, t = .node [a, b] ∧ a.isBinary = true ∧ b.isBinary = true :=
  binary_rec (fun a => Or.inl ⟨a, rfl⟩) (fun a b ha hb _ _ => Or.inr ⟨a, b, rfl, ha, hb⟩)

theorem binary_leaves_ne : ∀ (t : LTree), t.isBinary = true → t.leaves ≠ [] := by
  refine binary_rec (fun a => ?_) (fun a b _ _ ha _ => ?_)
  · simp [leaves]
  · simp [leaves, leavesL, ha]

theorem binary_clade_ne : ∀ (t : LTree), t.isBinary = true → ∀ C, C ∈ clades t → C ≠ [] := by
  refine binary_rec (fun a C hC => ?_) (fun a b ha hb iha ihb C hC => ?_)
  · simp only [clades, List.mem_singleton] at hC
    subst hC; simp
  · simp only [clades, cladesL, List.append_nil, List.mem_cons, List.mem_append] at hC
    rcases hC with rfl | hC | hC
    · exact binary_leaves_ne (.node [a, b]) (isBinary_node2.mpr ⟨ha, hb⟩)
    · exact iha C hC
    · exact ihb C hC

theorem mem_clades_node2 (a b : LTree) (C : List Nat) :
    C ∈ clades (.node [a, b]) ↔ C = a.leaves ++ b.leaves ∨ C ∈ clades a ∨ C ∈ clades b := by
  simp [clades, cladesL, leavesL]

theorem mem_clades_node (cs : List LTree) (C : List Nat) :
    C ∈ clades (.node cs) ↔ C = leavesL cs ∨ ∃ c, c ∈ cs ∧ C ∈ clades c := by
  simp [clades, mem_cladesL]

theorem leaves_node2 (t1 t2 : LTree) (x : Nat) :
    x ∈ (LTree.node [t1, t2]).leaves ↔ x ∈ t1.leaves ∨ x ∈ t2.leaves := by
  simp [leaves, leavesL]

theorem leaves_node2_eq (a b : LTree) : (LTree.node [a, b]).leaves = a.leaves ++ b.leaves := by
  simp [leaves, leavesL]

theorem nodup_node2 {a b : LTree} (h : (LTree.node [a, b]).leaves.Nodup) :
    a.leaves.Nodup ∧ b.leaves.Nodup ∧ ∀ x, x ∈ a.leaves → x ∉ b.leaves := by
  rw [leaves_node2_eq] at h
  obtain ⟨h1, h2, hd⟩ := List.nodup_append.mp h
  exact ⟨h1, h2, fun x hx hx' => hd x hx x hx' rfl⟩

mutual
  theorem singleton_clade : ∀ (t : LTree) (x : Nat), x ∈ t.leaves → [x] ∈ clades t
    | .leaf a, x, hx => by
      simp only [leaves, List.mem_singleton] at hx
      subst hx; simp [clades]
    | .node cs, x, hx => by
      simp only [clades, List.mem_cons]
      exact Or.inr (singleton_cladeL cs x hx)
  theorem singleton_cladeL : ∀ (cs : List LTree) (x : Nat), x ∈ leavesL cs → [x] ∈ cladesL cs
    | [], x, hx => by simp [leavesL] at hx
    | c :: cs, x, hx => by
      simp only [leavesL, List.mem_append] at hx
      simp only [cladesL, List.mem_append]
      rcases hx with hx | hx
      · exact Or.inl (singleton_clade c x hx)
      · exact Or.inr (singleton_cladeL cs x hx)
end

theorem displays_node {cs : List LTree} {c : LTree} (hc : c ∈ cs) {tr : Triple}
    (h : displays c tr = true) : displays (.node cs) tr = true := by
  obtain ⟨h1, h2, h3, C, hC, k⟩ := (displays_iff c tr).mp h
  exact (displays_iff _ tr).mpr ⟨mem_leavesL.mpr ⟨c, hc, h1⟩, mem_leavesL.mpr ⟨c, hc, h2⟩,
    mem_leavesL.mpr ⟨c, hc, h3⟩, C, (mem_clades_node cs C).mpr (Or.inr ⟨c, hc, hC⟩), k⟩

theorem displays_child {t1 t2 : LTree} (hdis : ∀ x, x ∈ t1.leaves → x ∉ t2.leaves) {tr : Triple}
    (hd : displays (.node [t1, t2]) tr = true) :
    ((tr.1 ∈ t1.leaves ∧ tr.2.1 ∈ t1.leaves) ∨ (tr.1 ∈ t2.leaves ∧ tr.2.1 ∈ t2.leaves)) ∧
    (tr.1 ∈ t1.leaves → tr.2.2 ∈ t1.leaves → displays t1 tr = true) ∧
    (tr.1 ∈ t2.leaves → tr.2.2 ∈ t2.leaves → displays t2 tr = true) := by
  obtain ⟨_, _, h3, C, hC, ha, hb, hc⟩ := (displays_iff _ tr).mp hd
  rcases (mem_clades_node2 t1 t2 C).mp hC with rfl | hC1 | hC2
  · exact absurd (by simpa [leaves, leavesL] using h3) hc
  · have a1 := clade_sub_leaves t1 C hC1 _ ha
    have b1 := clade_sub_leaves t1 C hC1 _ hb
    refine ⟨Or.inl ⟨a1, b1⟩, fun _ c1 => ?_, fun a2 _ => absurd a2 (hdis _ a1)⟩
    exact (displays_iff t1 tr).mpr ⟨a1, b1, c1, C, hC1, ha, hb, hc⟩
  · have a2 := clade_sub_leaves t2 C hC2 _ ha
    have b2 := clade_sub_leaves t2 C hC2 _ hb
    refine ⟨Or.inr ⟨a2, b2⟩, fun a1 _ => absurd a2 (hdis _ a1), fun _ c2 => ?_⟩
    exact (displays_iff t2 tr).mpr ⟨a2, b2, c2, C, hC2, ha, hb, hc⟩

theorem child_unique : ∀ {cs : List LTree}, (leavesL cs).Nodup → ∀ {c c' : LTree} {b : Nat},
    c ∈ cs → c' ∈ cs → b ∈ c.leaves → b ∈ c'.leaves → c = c' := by
  intro cs
  induction cs with
  | nil => intro _ c c' b h; cases h
  | cons h tl ih =>
    intro hn c c' b hc hc' hb hb'
    simp only [leavesL] at hn
    obtain ⟨_, hn2, hd⟩ := List.nodup_append.mp hn
    rcases List.mem_cons.mp hc with e1 | k1 <;> rcases List.mem_cons.mp hc' with e2 | k2
    · rw [e1, e2]
    · subst e1; exact absurd rfl (hd b hb b (mem_leavesL.mpr ⟨c', k2, hb'⟩))
    · subst e2; exact absurd rfl (hd b hb' b (mem_leavesL.mpr ⟨c, k1, hb⟩))
    · exact ih hn2 k1 k2 hb hb'

theorem nodup_child {cs : List LTree} (hn : (leavesL cs).Nodup) {c : LTree} (hc : c ∈ cs) :
    c.leaves.Nodup := by
  induction cs with
  | nil => cases hc
  | cons h tl ih =>
    simp only [leavesL] at hn
    obtain ⟨h1, h2, _⟩ := List.nodup_append.mp hn
    rcases List.mem_cons.mp hc with rfl | hc
    · exact h1
    · exact ih h2 hc

theorem clades_laminar (t : LTree) (ht : t.leaves.Nodup) (C C' : List Nat)
    (hC : C ∈ clades t) (hC' : C' ∈ clades t) :
    (∀ x, x ∈ C → x ∈ C') ∨ (∀ x, x ∈ C' → x ∈ C) ∨ (∀ x, x ∈ C → x ∉ C') := by
  match t, ht, hC, hC' with
  | .leaf a, _, hC, hC' =>
    simp only [clades, List.mem_singleton] at hC hC'
    subst hC; subst hC'
    exact Or.inl (fun _ h => h)
  | .node cs, ht, hC, hC' =>
    have ht' : (leavesL cs).Nodup := ht
    rcases (mem_clades_node cs C).mp hC with rfl | ⟨c, hc, hCc⟩
    · exact Or.inr (Or.inl (fun x hx => clade_sub_leaves (.node cs) C' hC' x hx))
    · rcases (mem_clades_node cs C').mp hC' with rfl | ⟨c', hc', hCc'⟩
      · exact Or.inl (fun x hx => clade_sub_leaves (.node cs) C hC x hx)
      · by_cases hex : ∃ x, x ∈ C ∧ x ∈ C'
        · obtain ⟨x, hx, hx'⟩ := hex
          have : c = c' := child_unique ht' hc hc' (clade_sub_leaves c C hCc x hx)
            (clade_sub_leaves c' C' hCc' x hx')
          subst this
          have _hdec : sizeOf c < sizeOf (LTree.node cs) := by
            have := List.sizeOf_lt_of_mem hc
            simp only [LTree.node.sizeOf_spec]; omega
          exact clades_laminar c (nodup_child ht' hc) C C' hCc hCc'
        · exact Or.inr (Or.inr (fun x hx hx' => hex ⟨x, hx, hx'⟩))
termination_by sizeOf t
decreasing_by assumption

section
variable {u : LTree}

theorem clades_nested (hu : u.leaves.Nodup) {E F : List Nat} (hE : E ∈ clades u) (hF : F ∈ clades u)
    {a : Nat} (haE : a ∈ E) (haF : a ∈ F) : (∀ x, x ∈ E → x ∈ F) ∨ (∀ x, x ∈ F → x ∈ E) := by
  rcases clades_laminar u hu E F hE hF with h | h | h
  · exact Or.inl h
  · exact Or.inr h
  · exact absurd haF (h a haE)

/-- Clades through `a` with a property `Q`, one for each `x` of a list: the largest holds all of them. -/
theorem chain_max (hu : u.leaves.Nodup) {a : Nat} {Q : List Nat → Prop} {E0 : List Nat}
    (h0 : E0 ∈ clades u) (a0 : a ∈ E0) (q0 : Q E0) :
    ∀ (Xs : List Nat), (∀ x, x ∈ Xs → ∃ E, E ∈ clades u ∧ a ∈ E ∧ x ∈ E ∧ Q E) →
      ∃ E, E ∈ clades u ∧ a ∈ E ∧ (∀ x, x ∈ Xs → x ∈ E) ∧ Q E := by
  intro Xs
  induction Xs with
  | nil => exact fun _ => ⟨E0, h0, a0, fun _ h => (by cases h), q0⟩
  | cons x Xs ih =>
    intro h
    obtain ⟨E1, hE1, a1, x1, c1⟩ := ih (fun y hy => h y (by simp [hy]))
    obtain ⟨E2, hE2, a2, x2, c2⟩ := h x (by simp)
    rcases clades_nested hu hE1 hE2 a1 a2 with hsub | hsub
    · exact ⟨E2, hE2, a2, fun y hy => (List.mem_cons.mp hy).elim (· ▸ x2) (fun hy => hsub _ (x1 y hy)), c2⟩
    · exact ⟨E1, hE1, a1, fun y hy => (List.mem_cons.mp hy).elim (· ▸ hsub _ x2) (x1 y), c1⟩

/-- Clades through `a` containing `Xs`, one avoiding each `c` of a list: the
    smallest avoids all of them. -/
theorem chain_down (hu : u.leaves.Nodup) {a : Nat} (ha : a ∈ u.leaves) {Xs : List Nat}
    (hX : ∀ x, x ∈ Xs → x ∈ u.leaves) :
    ∀ (Cs : List Nat), (∀ c, c ∈ Cs → ∃ E, E ∈ clades u ∧ a ∈ E ∧ (∀ x, x ∈ Xs → x ∈ E) ∧ c ∉ E) →
      ∃ E, E ∈ clades u ∧ a ∈ E ∧ (∀ x, x ∈ Xs → x ∈ E) ∧ ∀ c, c ∈ Cs → c ∉ E := by
  intro Cs
  induction Cs with
  | nil => intro _; exact ⟨u.leaves, leaves_mem_clades u, ha, hX, fun _ h => (by cases h)⟩
  | cons c Cs ih =>
    intro h
    obtain ⟨E1, hE1, a1, x1, c1⟩ := ih (fun y hy => h y (by simp [hy]))
    obtain ⟨E2, hE2, a2, x2, c2⟩ := h c (by simp)
    rcases clades_nested hu hE1 hE2 a1 a2 with hsub | hsub
    · refine ⟨E1, hE1, a1, x1, ?_⟩
      intro y hy
      rcases List.mem_cons.mp hy with rfl | hy
      · exact fun hh => c2 (hsub _ hh)
      · exact c1 y hy
    · refine ⟨E2, hE2, a2, x2, ?_⟩
      intro y hy
      rcases List.mem_cons.mp hy with rfl | hy
      · exact c2
      · exact fun hh => c1 y hy (hsub _ hh)

end

/-- Some equivalence separates two of the leaves of `l` but never the first two leaves of a
    triple displayed by `t`: two leaves are related when some clade holds both and misses a leaf
    of `l`.  The clades through a leaf form a chain, which gives transitivity, and a chain of
    clades each missing a leaf of `l` cannot cover `l`. -/
theorem separation (t : LTree) (ht : t.leaves.Nodup) (l : List Nat) (hl2 : 2 ≤ l.length) (hln : l.Nodup)
    (hsub : ∀ x, x ∈ l → x ∈ t.leaves) :
    ∃ R : Nat → Nat → Prop, (∀ x, R x x) ∧ (∀ x y, R x y → R y x) ∧ (∀ x y z, R x y → R y z → R x z) ∧
      (∃ x y, x ∈ l ∧ y ∈ l ∧ ¬ R x y) ∧
      ∀ a b c, a ∈ l → b ∈ l → c ∈ l → (∃ C, C ∈ clades t ∧ a ∈ C ∧ b ∈ C ∧ c ∉ C) → R a b := by
  refine ⟨fun x y => x = y ∨ ∃ C, C ∈ clades t ∧ x ∈ C ∧ y ∈ C ∧ ∃ z, z ∈ l ∧ z ∉ C,
    fun x => Or.inl rfl, ?_, ?_, ?_, fun a b c _ _ hc ⟨C, hC, ha, hb, hcC⟩ => Or.inr ⟨C, hC, ha, hb, c, hc, hcC⟩⟩
  · rintro x y (h | ⟨C, hC, hx, hy, hz⟩)
    · exact Or.inl h.symm
    · exact Or.inr ⟨C, hC, hy, hx, hz⟩
  · rintro x y z (rfl | ⟨C, hC, hx, hy, hw⟩) (rfl | ⟨C', hC', hy', hz, hw'⟩)
    · exact Or.inl rfl
    · exact Or.inr ⟨C', hC', hy', hz, hw'⟩
    · exact Or.inr ⟨C, hC, hx, hy, hw⟩
    · rcases clades_nested ht hC hC' hy hy' with h | h
      · exact Or.inr ⟨C', hC', h x hx, hz, hw'⟩
      · exact Or.inr ⟨C, hC, hx, h z hz, hw⟩
  · match l, hl2, hln, hsub with
    | x0 :: x1 :: rest, _, hln, hsub =>
      have h01 : x1 ≠ x0 := fun h => by simp [h] at hln
      have h0 : x0 ∈ x0 :: x1 :: rest := by simp
      have h1 : x1 ∈ x0 :: x1 :: rest := by simp
      generalize x0 :: x1 :: rest = l at *
      apply Classical.byContradiction
      intro hno
      have hx0 := singleton_clade t x0 (hsub x0 h0)
      have q0 : ∃ z, z ∈ l ∧ z ∉ [x0] := ⟨x1, h1, by simpa using h01⟩
      obtain ⟨E, _, _, eY, z, hz, hzE⟩ := chain_max (Q := fun E => ∃ z, z ∈ l ∧ z ∉ E) ht hx0
          (List.mem_singleton.mpr rfl) q0 l fun y hy => by
        rcases Classical.byContradiction fun h => hno ⟨x0, y, h0, hy, h⟩ with rfl | ⟨C, hC, c0, cy, cz⟩
        · exact ⟨_, hx0, by simp, by simp, q0⟩
        · exact ⟨C, hC, c0, cy, cz⟩
      exact hzE (eY z hz)


/-- A non-empty clade `C` of `t` is a clade of every `u` (same leaves, distinct names) that
    displays the triples `ax|c` (`a, x ∈ C`, `c ∉ C`) which `C` itself witnesses in `t`:
    the clades of `u` through `a` form a chain (`chain_max`, `chain_down`). -/
theorem clade_of_displays {t u : LTree} (hu : u.leaves.Nodup) (hl : ∀ x, x ∈ u.leaves ↔ x ∈ t.leaves)
    (hd : ∀ tr, proper tr = true → displays t tr = true → displays u tr = true)
    {C : List Nat} (hC : C ∈ clades t) (hne : C ≠ []) :
    ∃ C', C' ∈ clades u ∧ ∀ x, x ∈ C ↔ x ∈ C' := by
  obtain ⟨a, ha⟩ := List.exists_mem_of_ne_nil _ hne
  have hsub := clade_sub_leaves t C hC
  have hau : a ∈ u.leaves := (hl a).mpr (hsub a ha)
  obtain ⟨E, hE, _, hin, hout⟩ := chain_down hu hau (fun x hx => (hl x).mpr (hsub x hx))
    (t.leaves.filter (fun c => decide (c ∉ C))) (by
      intro c hc
      obtain ⟨hct, hcC⟩ := List.mem_filter.mp hc
      have hcC : c ∉ C := by simpa using hcC
      have hac : a ≠ c := fun h => hcC (h ▸ ha)
      refine chain_max (Q := fun E => c ∉ E) hu (singleton_clade u a hau) (List.mem_singleton.mpr rfl)
        (by simp [Ne.symm hac]) C fun x hx => ?_
      by_cases hxa : x = a
      · subst hxa
        exact ⟨[x], singleton_clade u x hau, by simp, by simp, by simp [Ne.symm hac]⟩
      · exact displays_clade (hd (a, x, c) (proper_mk (Ne.symm hxa) hac (fun h => hcC (h ▸ hx)))
          ((displays_iff t _).mpr ⟨hsub a ha, hsub x hx, hct, C, hC, ha, hx, hcC⟩)))
  refine ⟨E, hE, fun x => ⟨hin x, fun hx => Classical.byContradiction fun hxC => ?_⟩⟩
  exact hout x (List.mem_filter.mpr ⟨(hl x).mp (clade_sub_leaves u E hE x hx), by simpa using hxC⟩) hx

/-- The clades of a binary tree are a maximal laminar family: a non-empty set of leaves that is
    nested with or disjoint from every clade is a clade.  It is inside one child, or it holds both
    children and is the root clade. -/
theorem binary_maximal : ∀ (t : LTree), t.isBinary = true → ∀ (C' : List Nat), C' ≠ [] →
    (∀ z, z ∈ C' → z ∈ t.leaves) →
    (∀ C, C ∈ clades t → (∀ x, x ∈ C → x ∈ C') ∨ (∀ x, x ∈ C' → x ∈ C) ∨ (∀ x, x ∈ C → x ∉ C')) →
    ∃ C, C ∈ clades t ∧ ∀ x, x ∈ C ↔ x ∈ C' := by
  refine binary_rec (fun a C' hne hsub _ => ?_) (fun t1 t2 _ _ ih1 ih2 C' hne hsub hlam => ?_)
  · obtain ⟨z, hz⟩ := List.exists_mem_of_ne_nil _ hne
    have hza : z = a := by simpa [leaves] using hsub z hz
    exact ⟨[a], by simp [clades], fun x =>
      ⟨fun hx => by rw [List.mem_singleton.mp hx, ← hza]; exact hz, fun hx => by simpa [leaves] using hsub x hx⟩⟩
  · have up1 : ∀ C, C ∈ clades t1 → C ∈ clades (.node [t1, t2]) := fun C h =>
      (mem_clades_node2 t1 t2 C).mpr (Or.inr (Or.inl h))
    have up2 : ∀ C, C ∈ clades t2 → C ∈ clades (.node [t1, t2]) := fun C h =>
      (mem_clades_node2 t1 t2 C).mpr (Or.inr (Or.inr h))
    have hsub' := fun z hz => (leaves_node2 t1 t2 z).mp (hsub z hz)
    rcases hlam _ (up1 _ (leaves_mem_clades t1)) with h1 | h1 | h1
    · rcases hlam _ (up2 _ (leaves_mem_clades t2)) with h2 | h2 | h2
      · exact ⟨_, (mem_clades_node2 t1 t2 _).mpr (Or.inl rfl), fun x =>
          ⟨fun hx => (List.mem_append.mp hx).elim (h1 x) (h2 x), fun hx => List.mem_append.mpr (hsub' x hx)⟩⟩
      · obtain ⟨C, hC, h⟩ := ih2 C' hne h2 (fun C hC => hlam C (up2 C hC))
        exact ⟨C, up2 C hC, h⟩
      · obtain ⟨C, hC, h⟩ := ih1 C' hne (fun z hz => (hsub' z hz).resolve_right (fun h => h2 z h hz))
          (fun C hC => hlam C (up1 C hC))
        exact ⟨C, up1 C hC, h⟩
    · obtain ⟨C, hC, h⟩ := ih1 C' hne h1 (fun C hC => hlam C (up1 C hC))
      exact ⟨C, up1 C hC, h⟩
    · obtain ⟨C, hC, h⟩ := ih2 C' hne (fun z hz => (hsub' z hz).resolve_left (fun h => h1 z h hz))
        (fun C hC => hlam C (up2 C hC))
      exact ⟨C, up2 C hC, h⟩

/-- A binary tree is determined by its rooted triples: `u` has every clade of `t`
    (`clade_of_displays`), so its clades are laminar with those of `t`, and a binary tree
    cannot be refined (`binary_maximal`). -/
theorem sameClades_of_displays {t u : LTree} (hb : t.isBinary = true)
    (hu : u.leaves.Nodup) (hne : ∀ C, C ∈ clades u → C ≠ [])
    (hl : ∀ x, x ∈ u.leaves ↔ x ∈ t.leaves)
    (hd : ∀ tr, proper tr = true → displays t tr = true → displays u tr = true) :
    sameClades t u = true := by
  have hfw := fun C hC => clade_of_displays hu hl hd hC (binary_clade_ne t hb C hC)
  rw [sameClades_iff]
  refine ⟨hfw, fun C' hC' => ?_⟩
  obtain ⟨C, hC, h⟩ := binary_maximal t hb C' (hne C' hC')
    (fun z hz => (hl z).mp (clade_sub_leaves u C' hC' z hz)) (fun C hC => by
      obtain ⟨D, hD, hCD⟩ := hfw C hC
      rcases clades_laminar u hu D C' hD hC' with h | h | h
      · exact Or.inl fun x hx => h x ((hCD x).mp hx)
      · exact Or.inr (Or.inl fun x hx => (hCD x).mpr (h x hx))
      · exact Or.inr (Or.inr fun x hx => h x ((hCD x).mp hx)))
  exact ⟨C, hC, fun x => (h x).symm⟩

/-- `S` is (the membership predicate of) a clade of `t`.  Equality up to child order is equality
    of these families (`sameClades_iff_eq`), so it can be rewritten with; the clades of a child are
    the clades of the node that lie inside the child (`isClade_left`), and the cut of the leaves
    at the root can be read off the family (`same_child_iff`). -/
def IsClade (t : LTree) (S : Nat → Prop) : Prop := ∃ C, C ∈ clades t ∧ ∀ x, S x ↔ x ∈ C

theorem isClade_of_mem {t : LTree} {C : List Nat} (h : C ∈ clades t) : IsClade t (· ∈ C) :=
  ⟨C, h, fun _ => Iff.rfl⟩

theorem sameClades_iff_eq (t u : LTree) : sameClades t u = true ↔ IsClade t = IsClade u := by
  rw [sameClades_iff]
  constructor
  · rintro ⟨h1, h2⟩
    funext S
    apply propext
    constructor
    · rintro ⟨C, hC, hS⟩
      obtain ⟨C', hC', heq⟩ := h1 C hC
      exact ⟨C', hC', fun x => (hS x).trans (heq x)⟩
    · rintro ⟨C, hC, hS⟩
      obtain ⟨C', hC', heq⟩ := h2 C hC
      exact ⟨C', hC', fun x => (hS x).trans (heq x)⟩
  · intro h
    constructor
    · intro C hC
      obtain ⟨C', hC', heq⟩ := h ▸ isClade_of_mem hC
      exact ⟨C', hC', heq⟩
    · intro C hC
      obtain ⟨C', hC', heq⟩ := h ▸ isClade_of_mem hC
      exact ⟨C', hC', heq⟩

theorem sameClades_refl (t : LTree) : sameClades t t = true := (sameClades_iff_eq t t).mpr rfl

theorem isClade_node2 (a b : LTree) (S : Nat → Prop) :
    IsClade (.node [a, b]) S ↔
      (∀ x, S x ↔ x ∈ a.leaves ∨ x ∈ b.leaves) ∨ IsClade a S ∨ IsClade b S := by
  simp only [IsClade, mem_clades_node2, or_and_right, exists_or, exists_eq_left, List.mem_append]

theorem isClade_swap (a b : LTree) : IsClade (.node [a, b]) = IsClade (.node [b, a]) := by
  funext S
  simp only [isClade_node2, Or.comm (a := IsClade a S), Or.comm (a := _ ∈ a.leaves)]

theorem IsClade.sub {t : LTree} {S : Nat → Prop} (h : IsClade t S) {x : Nat} (hx : S x) : x ∈ t.leaves := by
  obtain ⟨C, hC, hS⟩ := h
  exact clade_sub_leaves t C hC x ((hS x).mp hx)

theorem IsClade.ne {t : LTree} (hb : t.isBinary = true) {S : Nat → Prop} (h : IsClade t S) : ∃ x, S x := by
  obtain ⟨C, hC, hS⟩ := h
  obtain ⟨x, hx⟩ := List.exists_mem_of_ne_nil _ (binary_clade_ne t hb C hC)
  exact ⟨x, (hS x).mpr hx⟩

theorem mem_leaves_iff_clade (t : LTree) (x : Nat) : x ∈ t.leaves ↔ ∃ S, IsClade t S ∧ S x :=
  ⟨fun h => ⟨_, isClade_of_mem (leaves_mem_clades t), h⟩, fun ⟨_, hS, hx⟩ => hS.sub hx⟩

theorem isClade_left {a b : LTree} (hb : b.isBinary = true)
    (hdis : ∀ x, x ∈ a.leaves → x ∉ b.leaves) (S : Nat → Prop) :
    IsClade a S ↔ IsClade (.node [a, b]) S ∧ ∀ x, S x → x ∈ a.leaves := by
  rw [isClade_node2]
  constructor
  · exact fun h => ⟨Or.inr (Or.inl h), fun x hx => h.sub hx⟩
  · rintro ⟨h | h | h, hsub⟩
    · obtain ⟨y, hy⟩ := List.exists_mem_of_ne_nil _ (binary_leaves_ne b hb)
      exact absurd hy (hdis y (hsub y ((h y).mpr (Or.inr hy))))
    · exact h
    · obtain ⟨x, hx⟩ := h.ne hb
      exact absurd (h.sub hx) (hdis x (hsub x hx))

theorem isClade_right {a b : LTree} (ha : a.isBinary = true)
    (hdis : ∀ x, x ∈ a.leaves → x ∉ b.leaves) (S : Nat → Prop) :
    IsClade b S ↔ IsClade (.node [a, b]) S ∧ ∀ x, S x → x ∈ b.leaves := by
  rw [isClade_swap]
  exact isClade_left ha (fun x hx hx' => hdis x hx' hx) S

theorem sameClades_children {a b a' b' : LTree}
    (hA : ∀ x, x ∈ a.leaves ↔ x ∈ a'.leaves) (hB : ∀ x, x ∈ b.leaves ↔ x ∈ b'.leaves)
    (hdis : ∀ x, x ∈ a.leaves → x ∉ b.leaves)
    (ha : a.isBinary = true) (hb : b.isBinary = true) (ha' : a'.isBinary = true) (hb' : b'.isBinary = true)
    (h : sameClades (.node [a, b]) (.node [a', b']) = true) :
    sameClades a a' = true ∧ sameClades b b' = true := by
  rw [sameClades_iff_eq] at h ⊢
  rw [sameClades_iff_eq]
  have hdis' : ∀ x, x ∈ a'.leaves → x ∉ b'.leaves := fun x hx hx' => hdis x ((hA x).mpr hx) ((hB x).mpr hx')
  constructor <;> funext S <;> apply propext
  · rw [isClade_left hb hdis, isClade_left hb' hdis', h]; simp only [hA]
  · rw [isClade_right ha hdis, isClade_right ha' hdis', h]; simp only [hB]

theorem sameClades_node2 {t1 t2 ua ub : LTree}
    (h : (sameClades t1 ua = true ∧ sameClades t2 ub = true) ∨
      (sameClades t2 ua = true ∧ sameClades t1 ub = true)) :
    sameClades (.node [t1, t2]) (.node [ua, ub]) = true := by
  have key : ∀ {T1 T2 : LTree}, sameClades T1 ua = true → sameClades T2 ub = true →
      IsClade (.node [T1, T2]) = IsClade (.node [ua, ub]) := by
    intro T1 T2 h1 h2
    rw [sameClades_iff_eq] at h1 h2
    have l1 : ∀ x, x ∈ T1.leaves ↔ x ∈ ua.leaves := fun x => by
      rw [mem_leaves_iff_clade, mem_leaves_iff_clade, h1]
    have l2 : ∀ x, x ∈ T2.leaves ↔ x ∈ ub.leaves := fun x => by
      rw [mem_leaves_iff_clade, mem_leaves_iff_clade, h2]
    funext S
    simp only [isClade_node2, h1, h2, l1, l2]
  rw [sameClades_iff_eq]
  rcases h with ⟨h1, h2⟩ | ⟨h1, h2⟩
  · exact key h1 h2
  · rw [isClade_swap]; exact key h1 h2

theorem same_child_iff {a b : LTree} (ha : a.isBinary = true) (hb : b.isBinary = true)
    (hdis : ∀ x, x ∈ a.leaves → x ∉ b.leaves) {x y : Nat}
    (hx : x ∈ a.leaves ∨ x ∈ b.leaves) (hy : y ∈ a.leaves ∨ y ∈ b.leaves) :
    (x ∈ a.leaves ↔ y ∈ a.leaves) ↔
      ∃ S, IsClade (.node [a, b]) S ∧ S x ∧ S y ∧ ∃ S' z, IsClade (.node [a, b]) S' ∧ S' z ∧ ¬ S z := by
  obtain ⟨za, hza⟩ := List.exists_mem_of_ne_nil _ (binary_leaves_ne a ha)
  obtain ⟨zb, hzb⟩ := List.exists_mem_of_ne_nil _ (binary_leaves_ne b hb)
  have hroot := isClade_of_mem (leaves_mem_clades (.node [a, b]))
  constructor
  · intro h
    by_cases hxa : x ∈ a.leaves
    · exact ⟨_, (isClade_node2 a b _).mpr (Or.inr (Or.inl (isClade_of_mem (leaves_mem_clades a)))),
        hxa, h.mp hxa, _, zb, hroot, (leaves_node2 a b zb).mpr (Or.inr hzb), fun h' => hdis zb h' hzb⟩
    · have hya : y ∉ a.leaves := fun h' => hxa (h.mpr h')
      exact ⟨_, (isClade_node2 a b _).mpr (Or.inr (Or.inr (isClade_of_mem (leaves_mem_clades b)))),
        hx.resolve_left hxa, hy.resolve_left hya, _, za, hroot, (leaves_node2 a b za).mpr (Or.inl hza),
        hdis za hza⟩
  · rintro ⟨S, hS, sx, sy, S', z, hS', hz, sz⟩
    rcases (isClade_node2 a b S).mp hS with h | h | h
    · exact absurd ((h z).mpr ((leaves_node2 a b z).mp (hS'.sub hz))) sz
    · exact ⟨fun _ => h.sub sy, fun _ => h.sub sx⟩
    · exact ⟨fun h' => absurd (h.sub sx) (hdis x h'), fun h' => absurd (h.sub sy) (hdis y h')⟩

/-- "Different up to child order"; the statements of Properties/C20 and C20Super spell it out as
    `sameClades t u = false`. -/
def Differ (t u : LTree) : Prop := sameClades t u = false

theorem differ_of_cut {a b a' b' : LTree}
    (ha : a.isBinary = true) (hb : b.isBinary = true) (ha' : a'.isBinary = true) (hb' : b'.isBinary = true)
    (hdis : ∀ x, x ∈ a.leaves → x ∉ b.leaves) (hdis' : ∀ x, x ∈ a'.leaves → x ∉ b'.leaves) {x y : Nat}
    (hx : x ∈ a.leaves ∨ x ∈ b.leaves) (hy : y ∈ a.leaves ∨ y ∈ b.leaves)
    (hx' : x ∈ a'.leaves ∨ x ∈ b'.leaves) (hy' : y ∈ a'.leaves ∨ y ∈ b'.leaves)
    (hne : ¬ ((x ∈ a.leaves ↔ y ∈ a.leaves) ↔ (x ∈ a'.leaves ↔ y ∈ a'.leaves))) :
    Differ (.node [a, b]) (.node [a', b']) :=
  eq_false_of_ne_true fun hs => hne (by
    rw [same_child_iff ha hb hdis hx hy, same_child_iff ha' hb' hdis' hx' hy',
      (sameClades_iff_eq _ _).mp hs])

end SR.Tri
