/-
  C08: no two members of `binarize t` have the same topology up to
  child order (for a well-formed tree with distinct leaves).

  The topology of `subst σ` is the *join* of the skeleton `σ` with the
  topologies of its items.  Because the items have pairwise disjoint,
  non-empty leaf sets, an equivalence between two joins can only match an
  item with an item (`equivR_of_join`), so it induces an equivalence of the
  skeletons whose matched items are equivalent (`EquivR`).  At the end, the `ignore`
  mechanism of `graft` run on the actual tree (`graftIgn_subst`).
-/
import SRVerif.Proofs.BinarizeTree

namespace SR.Bin

open BTree

variable {α β : Type}

/-- An arrangement of arrangements as one arrangement: what `subst` does to topologies
    (`skel_subst`). -/
def join : BTree (BTree α) → BTree α
  | .item t => t
  | .node l r => .node (join l) (join r)

theorem BTree.items_map (f : β → α) (s : BTree β) : (s.map f).items = s.items.map f := by
  induction s with
  | item a => rfl
  | node l r ihl ihr => simp [BTree.map, BTree.items, ihl, ihr]

theorem items_join (σ : BTree (BTree α)) : (join σ).items = σ.items.flatMap BTree.items := by
  induction σ with
  | item t => simp [join, BTree.items]
  | node l r ihl ihr => simp [join, BTree.items, ihl, ihr]

theorem mem_items_join_map {f : β → BTree α} {σ : BTree β} {a : α} :
    a ∈ (join (σ.map f)).items ↔ ∃ d ∈ σ.items, a ∈ (f d).items := by
  rw [items_join, BTree.items_map]
  simp only [List.mem_flatMap, List.mem_map]
  constructor
  · rintro ⟨_, ⟨d, hd, rfl⟩, ha⟩; exact ⟨d, hd, ha⟩
  · rintro ⟨d, hd, ha⟩; exact ⟨_, ⟨d, hd, rfl⟩, ha⟩

theorem BinT.items_skel (b : BinT) : b.skel.items = b.leaves := by
  induction b with
  | leaf i => rfl
  | node a l r ihl ihr => simp [BinT.skel, BTree.items, BinT.leaves, ihl, ihr]

theorem skel_subst (s : BTree BinT) : (subst s).skel = join (s.map BinT.skel) := by
  induction s with
  | item d => rfl
  | node l r ihl ihr => simp [subst, BinT.skel, BTree.map, join, ihl, ihr]

theorem BinT.skel_setAnn (a : Option Nat) (b : BinT) : (b.setAnn a).skel = b.skel := by
  cases b <;> rfl

theorem BinT.Equiv.leaves_perm {b b' : BinT} (h : BinT.Equiv b b') : b.leaves.Perm b'.leaves := by
  have := BTree.Equiv.items_perm h
  rwa [BinT.items_skel, BinT.items_skel] at this

theorem BinT.Equiv.symm {a b : BinT} (h : BinT.Equiv a b) : BinT.Equiv b a := BTree.Equiv.symm h

theorem BinT.Equiv.trans {a b c : BinT} (h1 : BinT.Equiv a b) (h2 : BinT.Equiv b c) :
    BinT.Equiv a c := BTree.Equiv.trans h1 h2

theorem BinT.exists_mem_leaves (b : BinT) : ∃ x, x ∈ b.leaves := by
  rw [← BinT.items_skel]; exact BTree.exists_mem_items _

theorem join_map_item (s : BTree α) : join (s.map BTree.item) = s := by
  induction s with
  | item a => rfl
  | node l r ihl ihr => simp [BTree.map, join, ihl, ihr]

theorem equiv_join_map (f : β → BTree α) {s s' : BTree β} (h : BTree.Equiv s s') :
    BTree.Equiv (join (s.map f)) (join (s'.map f)) := by
  induction h with
  | item a => exact .refl _
  | congr _ _ ih1 ih2 => exact .congr ih1 ih2
  | swap _ _ ih1 ih2 => exact .swap ih1 ih2

theorem binarizeChildren_leaves (ids : List Nat) :
    binarizeChildren (ids.map NTree.leaf) = [ids.map BinT.leaf] := by
  induction ids with
  | nil => simp [binarizeChildren]
  | cons i rest ih => simp [binarizeChildren, binarize, ih]

/-- Equality up to child order in which matched items are related by `R` instead of equal
    (`BTree.Equiv` is the case `R = Eq`): what an equivalence of `subst σ` and `subst σ'`
    induces on the skeletons `σ`, `σ'`, with `R` the equivalence of the items. -/
inductive EquivR (R : β → β → Prop) : BTree β → BTree β → Prop where
  | item {a b : β} : R a b → EquivR R (.item a) (.item b)
  | congr {l r l' r' : BTree β} : EquivR R l l' → EquivR R r r' → EquivR R (.node l r) (.node l' r')
  | swap {l r l' r' : BTree β} : EquivR R l r' → EquivR R r l' → EquivR R (.node l r) (.node l' r')

theorem EquivR.exists_right {R : β → β → Prop} {σ σ' : BTree β} (h : EquivR R σ σ') :
    ∀ d ∈ σ.items, ∃ d' ∈ σ'.items, R d d' := by
  induction h with
  | item h => intro d hd; simp only [BTree.items, List.mem_singleton] at hd; subst hd
              exact ⟨_, BTree.mem_item _, h⟩
  | congr _ _ ih1 ih2 =>
    intro d hd
    simp only [BTree.items, List.mem_append] at hd
    rcases hd with hd | hd
    · obtain ⟨d', hd', h⟩ := ih1 d hd; exact ⟨d', BTree.mem_node_left hd', h⟩
    · obtain ⟨d', hd', h⟩ := ih2 d hd; exact ⟨d', BTree.mem_node_right hd', h⟩
  | swap _ _ ih1 ih2 =>
    intro d hd
    simp only [BTree.items, List.mem_append] at hd
    rcases hd with hd | hd
    · obtain ⟨d', hd', h⟩ := ih1 d hd; exact ⟨d', BTree.mem_node_right hd', h⟩
    · obtain ⟨d', hd', h⟩ := ih2 d hd; exact ⟨d', BTree.mem_node_left hd', h⟩

theorem EquivR.to_equiv {R : β → β → Prop} {σ σ' : BTree β} (h : EquivR R σ σ')
    (hR : ∀ d ∈ σ.items, ∀ d' ∈ σ'.items, R d d' → d = d') : BTree.Equiv σ σ' := by
  induction h with
  | item h => rw [hR _ (BTree.mem_item _) _ (BTree.mem_item _) h]; exact .item _
  | congr _ _ ih1 ih2 =>
    exact .congr
      (ih1 fun d hd d' hd' => hR d (BTree.mem_node_left hd) d' (BTree.mem_node_left hd'))
      (ih2 fun d hd d' hd' => hR d (BTree.mem_node_right hd) d' (BTree.mem_node_right hd'))
  | swap _ _ ih1 ih2 =>
    exact .swap
      (ih1 fun d hd d' hd' => hR d (BTree.mem_node_left hd) d' (BTree.mem_node_right hd'))
      (ih2 fun d hd d' hd' => hR d (BTree.mem_node_right hd) d' (BTree.mem_node_left hd'))

/-- The members of the family have pairwise disjoint item sets: what distinct leaves give for a
    tuple of refinements of the children (`disjFam_of_nodup`). -/
def DisjFam (f : β → BTree α) (l : List β) : Prop :=
  l.Pairwise (fun d d' => ∀ a ∈ (f d).items, a ∉ (f d').items)

theorem DisjFam.of_node {f : β → BTree α} {l r : BTree β} (h : DisjFam f (BTree.node l r).items) :
    DisjFam f l.items ∧ DisjFam f r.items := by
  simp only [DisjFam, BTree.items, List.pairwise_append] at h
  exact ⟨h.1, h.2.1⟩

theorem DisjFam.not_all_same {f : β → BTree α} {l r : BTree β}
    (hd : DisjFam f (BTree.node l r).items) {S : α → Prop}
    (h : ∀ d ∈ (BTree.node l r).items, ∀ a, a ∈ (f d).items ↔ S a) : False := by
  obtain ⟨d1, hd1⟩ := BTree.exists_mem_items l
  obtain ⟨d2, hd2⟩ := BTree.exists_mem_items r
  obtain ⟨a, ha⟩ := BTree.exists_mem_items (f d1)
  simp only [DisjFam, BTree.items, List.pairwise_append] at hd
  have hS := (h d1 (BTree.mem_node_left hd1) a).mp ha
  exact hd.2.2 d1 hd1 d2 hd2 a ha ((h d2 (BTree.mem_node_right hd2) a).mpr hS)

theorem equivR_of_join (f : β → BTree α) (σ σ' : BTree β)
    (hsep : ∀ d ∈ σ.items, ∀ d' ∈ σ'.items, (∃ a, a ∈ (f d).items ∧ a ∈ (f d').items) →
      ∀ a, a ∈ (f d).items ↔ a ∈ (f d').items)
    (hd : DisjFam f σ.items) (hd' : DisjFam f σ'.items)
    (he : BTree.Equiv (join (σ.map f)) (join (σ'.map f))) :
    EquivR (fun d d' => BTree.Equiv (f d) (f d')) σ σ' := by
  induction σ generalizing σ' with
  | item d =>
    cases σ' with
    | item d' => exact .item he
    | node l' r' =>
      refine (hd'.not_all_same (S := fun a => a ∈ (f d).items) fun d' hd0 a => ?_).elim
      obtain ⟨a0, ha0⟩ := BTree.exists_mem_items (f d')
      have : a0 ∈ (f d).items := (he.mem_items_iff a0).mpr (mem_items_join_map.mpr ⟨d', hd0, ha0⟩)
      exact ((hsep d (BTree.mem_item _) d' hd0 ⟨a0, this, ha0⟩) a).symm
  | node l r ihl ihr =>
    obtain ⟨hdl, hdr⟩ := hd.of_node
    cases σ' with
    | item d' =>
      refine (hd.not_all_same (S := fun a => a ∈ (f d').items) fun d0 hd0 a => ?_).elim
      obtain ⟨a0, ha0⟩ := BTree.exists_mem_items (f d0)
      have : a0 ∈ (f d').items := (he.mem_items_iff a0).mp (mem_items_join_map.mpr ⟨d0, hd0, ha0⟩)
      exact hsep d0 hd0 d' (BTree.mem_item _) ⟨a0, ha0, this⟩ a
    | node l' r' =>
      obtain ⟨hdl', hdr'⟩ := hd'.of_node
      simp only [BTree.map, join] at he
      cases he with
      | congr h1 h2 =>
        exact .congr
          (ihl l' (fun d hd0 d' hd0' => hsep d (BTree.mem_node_left hd0) d'
            (BTree.mem_node_left hd0')) hdl hdl' h1)
          (ihr r' (fun d hd0 d' hd0' => hsep d (BTree.mem_node_right hd0) d'
            (BTree.mem_node_right hd0')) hdr hdr' h2)
      | swap h1 h2 =>
        exact .swap
          (ihl r' (fun d hd0 d' hd0' => hsep d (BTree.mem_node_left hd0) d'
            (BTree.mem_node_right hd0')) hdl hdr' h1)
          (ihr l' (fun d hd0 d' hd0' => hsep d (BTree.mem_node_right hd0) d'
            (BTree.mem_node_left hd0')) hdr hdl' h2)

/-- Position-wise relation between two lists (`List.Forall₂`, declared here because this
    module and those it imports use core Lean only). -/
inductive All2 {β γ : Type} (R : β → γ → Prop) : List β → List γ → Prop where
  | nil : All2 R [] []
  | cons {a : β} {b : γ} {as : List β} {bs : List γ} : R a b → All2 R as bs →
      All2 R (a :: as) (b :: bs)

theorem pairwise_disjoint_of_nodup_flatMap {γ : Type} {f : β → List γ} {l : List β}
    (h : (l.flatMap f).Nodup) : l.Pairwise (fun a b => ∀ x ∈ f a, x ∉ f b) :=
  (List.pairwise_flatMap.mp h).2.imp fun hab x hx hxb => hab x hx x hxb rfl

theorem eq_of_share {l : List BinT} (hd : DisjFam BinT.skel l) {d d' : BinT} (h : d ∈ l)
    (h' : d' ∈ l) {a : Nat} (ha : a ∈ d.leaves) (ha' : a ∈ d'.leaves) : d = d' :=
  eq_of_rel_of_pairwise (R := fun d d' => ∃ a, a ∈ d.leaves ∧ a ∈ d'.leaves)
    (fun ⟨a, h1, h2⟩ => ⟨a, h2, h1⟩)
    (hd.imp fun hdd ⟨a, h1, h2⟩ => hdd a (by rwa [BinT.items_skel]) (by rwa [BinT.items_skel]))
    h h' ⟨a, ha, ha'⟩

theorem disjFam_of_nodup {l : List BinT} (hnd : (l.flatMap BinT.leaves).Nodup) :
    DisjFam BinT.skel l := by
  unfold DisjFam
  refine (pairwise_disjoint_of_nodup_flatMap hnd).imp ?_
  intro d d' h x hx; rw [BinT.items_skel] at hx ⊢; exact h x hx

/-- Position by position the same leaves, as two tuples of `binarizeChildren cs` have
    (`sameLeaves_of_mem`). -/
def SameLeaves (l l' : List BinT) : Prop := All2 (fun d d' => d.leaves.Perm d'.leaves) l l'

theorem All2.imp_of_mem {β γ : Type} {R S : β → γ → Prop} {xs : List β} {ys : List γ}
    (h : All2 R xs ys) (hRS : ∀ x ∈ xs, ∀ y ∈ ys, R x y → S x y) : All2 S xs ys := by
  induction h with
  | nil => exact All2.nil
  | cons hh _ ih =>
    exact All2.cons (hRS _ (by simp) _ (by simp) hh)
      (ih fun x hx y hy => hRS x (by simp [hx]) y (by simp [hy]))

theorem All2.exists_left {β γ : Type} {R : β → γ → Prop} {xs : List β} {ys : List γ}
    (h : All2 R xs ys) : ∀ y ∈ ys, ∃ x ∈ xs, R x y := by
  induction h with
  | nil => simp
  | cons hh _ ih =>
    intro y hy
    rcases List.mem_cons.mp hy with rfl | hy
    · exact ⟨_, by simp, hh⟩
    · obtain ⟨x, hx, h⟩ := ih y hy; exact ⟨x, by simp [hx], h⟩

/-- The partner of a member shares its leaves with the member at the same position of the
    other tuple, hence is that member. -/
theorem SameLeaves.all2_equiv {l l' : List BinT} (h : SameLeaves l l')
    (hnd' : (l'.flatMap BinT.leaves).Nodup)
    (hm : ∀ d ∈ l, ∃ d' ∈ l', BinT.Equiv d d') : All2 BinT.Equiv l l' :=
  h.imp_of_mem fun x hx y hy hxy => by
    obtain ⟨d', hd', he⟩ := hm x hx
    obtain ⟨a, ha⟩ := BinT.exists_mem_leaves x
    rwa [eq_of_share (disjFam_of_nodup hnd') hy hd' (hxy.mem_iff.mp ha)
      (he.leaves_perm.mem_iff.mp ha)]

theorem sameLeaves_of_mem : ∀ (cs : List NTree), NTree.WFList cs = true →
    ∀ descs ∈ binarizeChildren cs, ∀ descs' ∈ binarizeChildren cs, SameLeaves descs descs'
  | [], _, descs, hd, descs', hd' => by
    rw [mem_binarizeChildren_nil] at hd hd'; subst hd; subst hd'; exact All2.nil
  | c :: cs, hwf, descs, hd, descs', hd' => by
    rw [NTree.WFList, Bool.and_eq_true] at hwf
    obtain ⟨d, ds, rfl, hdc, hds⟩ := mem_binarizeChildren_cons.mp hd
    obtain ⟨d', ds', rfl, hdc', hds'⟩ := mem_binarizeChildren_cons.mp hd'
    exact All2.cons ((binarize_sound c hwf.1 d hdc).1.trans (binarize_sound c hwf.1 d' hdc').1.symm)
      (sameLeaves_of_mem cs hwf.2 ds hds ds' hds')

theorem skel_subst_setAnn (a : Option Nat) (σ : BTree BinT) :
    ((subst σ).setAnn a).skel = join (σ.map BinT.skel) := by
  rw [BinT.skel_setAnn, skel_subst]

theorem disjFam_of_perm {l l' : List BinT} (hp : l.Perm l') (h : DisjFam BinT.skel l') :
    DisjFam BinT.skel l := by
  unfold DisjFam at *
  refine (hp.pairwise_iff ?_).mpr h
  intro d d' hdd a ha ha'
  exact hdd a ha' ha

theorem equivR_of_results {descs descs' : List BinT} (hsl : SameLeaves descs descs')
    (hnd : (descs.flatMap BinT.leaves).Nodup) (hnd' : (descs'.flatMap BinT.leaves).Nodup)
    {σ σ' : BTree BinT} (hσ : σ ∈ arrange descs) (hσ' : σ' ∈ arrange descs') (a : Option Nat)
    (he : BinT.Equiv ((subst σ).setAnn a) ((subst σ').setAnn a)) :
    EquivR BinT.Equiv σ σ' := by
  have hp := items_arrange hσ
  have hp' := items_arrange hσ'
  unfold BinT.Equiv at he
  rw [skel_subst_setAnn, skel_subst_setAnn] at he
  refine equivR_of_join BinT.skel σ σ' ?_ ?_ ?_ he
  · rintro d hd d' hd' ⟨x, hx, hx'⟩
    rw [BinT.items_skel] at hx hx'
    -- the member of `descs` at the position of `d'` shares `x` with `d`, hence is `d`
    obtain ⟨d0, hd0, hp0⟩ := All2.exists_left hsl d' (hp'.mem_iff.mp hd')
    rw [← eq_of_share (disjFam_of_nodup hnd) (hp.mem_iff.mp hd) hd0 hx (hp0.mem_iff.mpr hx')] at hp0
    intro y; rw [BinT.items_skel, BinT.items_skel]; exact hp0.mem_iff
  · exact disjFam_of_perm hp (disjFam_of_nodup hnd)
  · exact disjFam_of_perm hp' (disjFam_of_nodup hnd')

theorem eq_of_equiv_of_mem {descs : List BinT} (hnd : (descs.flatMap BinT.leaves).Nodup)
    {d d' : BinT} (hd : d ∈ descs) (hd' : d' ∈ descs) (he : BinT.Equiv d d') : d = d' := by
  obtain ⟨a, ha⟩ := BinT.exists_mem_leaves d
  exact eq_of_share (disjFam_of_nodup hnd) hd hd' ha (he.leaves_perm.mem_iff.mp ha)

theorem nodup_of_leaves_nodup {descs : List BinT} (hnd : (descs.flatMap BinT.leaves).Nodup) :
    descs.Nodup := by
  refine (pairwise_disjoint_of_nodup_flatMap hnd).imp ?_
  intro d d' h hdd
  subst hdd
  obtain ⟨a, ha⟩ := BinT.exists_mem_leaves d
  exact h a ha ha

mutual
  theorem binarize_pairwise : ∀ (t : NTree), t.WF = true → t.leaves.Nodup →
      (binarize t).Pairwise (fun b b' => ¬ BinT.Equiv b b')
    | .leaf i, _, _ => List.pairwise_singleton _ _
    | .node a cs, hwf, hnd => by
      have hwf0 := hwf
      rw [NTree.WF, Bool.and_eq_true, decide_eq_true_eq] at hwf
      rw [NTree.leaves] at hnd
      have hlv : ∀ descs ∈ binarizeChildren cs, (descs.flatMap BinT.leaves).Nodup := fun descs hd =>
        (binarizeChildren_sound cs hwf.2 descs hd).2.1.nodup_iff.mpr hnd
      rw [binarize, List.pairwise_flatMap]
      refine ⟨?_, ?_⟩
      · intro descs hd
        rw [List.pairwise_map]
        refine (pairwise_arrange descs (nodup_of_leaves_nodup (hlv descs hd))).imp_of_mem ?_
        intro σ σ' hσ hσ' hne he
        apply hne
        have hR := equivR_of_results (sameLeaves_of_mem cs hwf.2 descs hd descs hd) (hlv descs hd)
          (hlv descs hd) hσ hσ' a he
        refine hR.to_equiv ?_
        intro d hd0 d' hd0' hdd
        exact eq_of_equiv_of_mem (hlv descs hd) ((items_arrange hσ).mem_iff.mp hd0)
          ((items_arrange hσ').mem_iff.mp hd0') hdd
      · refine (binarizeChildren_pairwise cs hwf.2 hnd).imp_of_mem ?_
        intro descs descs' hd hd' hne b hb b' hb' he
        rw [List.mem_map] at hb hb'
        obtain ⟨σ, hσ, rfl⟩ := hb
        obtain ⟨σ', hσ', rfl⟩ := hb'
        apply hne
        have hsl := sameLeaves_of_mem cs hwf.2 descs hd descs' hd'
        have hR := equivR_of_results hsl (hlv descs hd) (hlv descs' hd') hσ hσ' a he
        refine hsl.all2_equiv (hlv descs' hd') ?_
        intro d hd0
        obtain ⟨d', hd0', h⟩ := hR.exists_right d ((items_arrange hσ).mem_iff.mpr hd0)
        exact ⟨d', (items_arrange hσ').mem_iff.mp hd0', h⟩
  theorem binarizeChildren_pairwise : ∀ (cs : List NTree), NTree.WFList cs = true →
      (NTree.leavesList cs).Nodup →
      (binarizeChildren cs).Pairwise (fun ds ds' => ¬ All2 BinT.Equiv ds ds')
    | [], _, _ => List.pairwise_singleton _ _
    | c :: cs, hwf, hnd => by
      rw [NTree.WFList, Bool.and_eq_true] at hwf
      rw [NTree.leavesList, List.nodup_append] at hnd
      rw [binarizeChildren, List.pairwise_flatMap]
      refine ⟨?_, ?_⟩
      · intro d _
        rw [List.pairwise_map]
        refine (binarizeChildren_pairwise cs hwf.2 hnd.2.1).imp ?_
        intro ds ds' hne h
        cases h with
        | cons _ ht => exact hne ht
      · refine (binarize_pairwise c hwf.1 hnd.1).imp ?_
        intro d d' hne x hx y hy h
        rw [List.mem_map] at hx hy
        obtain ⟨ds, _, rfl⟩ := hx
        obtain ⟨ds', _, rfl⟩ := hy
        cases h with
        | cons hh _ => exact hne hh
end

theorem sameSet_iff {a b : List Nat} : sameSet a b = true ↔ ∀ x, x ∈ a ↔ x ∈ b := by
  simp only [sameSet, Bool.and_eq_true, List.all_eq_true, List.contains_iff_mem]
  exact ⟨fun h x => ⟨h.1 x, h.2 x⟩, fun h => ⟨fun x => (h x).mp, fun x => (h x).mpr⟩⟩

/-- `graft` with the `ignore` set of `arrange_leaves` (the leaf sets of the
    items being arranged), run on the actual tree, produces exactly the trees
    of the item-level `graft`: the test stops at every item and at no
    skeleton node, because the items have pairwise disjoint leaf sets. -/
theorem graftIgn_subst (x : BinT) (S : BTree BinT) (hS : DisjFam BinT.skel S.items) (s : BTree BinT)
    (hsub : ∀ d ∈ s.items, d ∈ S.items) (hs : DisjFam BinT.skel s.items) :
    graftIgn (S.items.map BinT.leaves) x (subst s) = (graft x s).map subst := by
  induction s with
  | item d =>
    cases d with
    | leaf i => simp [subst, graftIgn, graft]
    | node a l r =>
      have : (S.items.map BinT.leaves).any (sameSet (l.leaves ++ r.leaves)) = true := by
        rw [List.any_eq_true]
        exact ⟨(BinT.node a l r).leaves,
          List.mem_map.mpr ⟨BinT.node a l r, hsub _ (BTree.mem_item _), rfl⟩, by
            show sameSet (l.leaves ++ r.leaves) (l.leaves ++ r.leaves) = true
            exact sameSet_iff.mpr fun _ => Iff.rfl⟩
      simp [subst, graftIgn, graft, this]
  | node l r ihl ihr =>
    have hsl : ∀ d ∈ l.items, d ∈ S.items := fun d hd => hsub d (BTree.mem_node_left hd)
    have hsr : ∀ d ∈ r.items, d ∈ S.items := fun d hd => hsub d (BTree.mem_node_right hd)
    have hno : (S.items.map BinT.leaves).any
        (sameSet ((subst l).leaves ++ (subst r).leaves)) = false := by
      rw [Bool.eq_false_iff]
      intro hany
      rw [List.any_eq_true] at hany
      obtain ⟨L, hL, hsame⟩ := hany
      obtain ⟨d, hd, rfl⟩ := List.mem_map.mp hL
      -- every item below this node shares a leaf with `d`, hence is `d`
      refine hs.not_all_same (S := fun a => a ∈ d.leaves) fun d0 hd0 a => ?_
      obtain ⟨a0, ha0⟩ := BinT.exists_mem_leaves d0
      have hin : a0 ∈ (subst (.node l r)).leaves := by
        rw [leaves_subst]; exact List.mem_flatMap.mpr ⟨d0, hd0, ha0⟩
      rw [eq_of_share hS (hsub d0 hd0) hd ha0 ((sameSet_iff.mp hsame _).mp hin), BinT.items_skel]
    have hl := ihl hsl hs.of_node.1
    have hr := ihr hsr hs.of_node.2
    simp only [subst, graftIgn, hno, graft, List.map_cons, List.map_append, List.map_map, hl, hr]
    simp [Function.comp_def, subst]

end SR.Bin
