/-
  The solvers as exact optimisers, in the vocabulary of `Optima.lean`: `exhaustive`, `thl`,
  `spfs` (any prescribed root order) and `uspfs` return exactly the (finite) optima of the
  evaluated cost over their valid solutions (LCA-mapped for the base variants, canonical for
  `uspfs`), and the oracle's optimum is the minimum — C01, C02, C03 restated so that the C09
  clauses, about presentations and about cost vectors alike, follow from generic facts about
  optima.
-/
import SRVerif.Properties.C01Enum
import SRVerif.Properties.C01Thl
import SRVerif.Properties.C02Spec
import SRVerif.Properties.C03Full
import SRVerif.Proofs.OptAdequacyPlain
import SRVerif.Proofs.Optima

namespace SR.C09

open SR

/-- Membership in `reconcile_exhaustive`'s result, as an optimum (C01). -/
theorem mem_exhaustive_iff (c : Costs) (o : OTree) (sol : Sol) :
    sol ∈ exhaustive c o ↔
      IsOptimalFor (fun s => Spec.validRec o s = true ∧ plainLabels o s = true)
        (totalCost c .plain o) sol := by
  rw [C01.C01_exh_iff]
  exact ⟨fun ⟨h, hm⟩ => ⟨h, fun s' hs' => hm s' hs'.1 hs'.2⟩,
    fun ⟨h, hm⟩ => ⟨h, fun s' h1 h2 => hm s' ⟨h1, h2⟩⟩⟩

/-- Membership in `reconcile_thl`'s result, as an optimum (C01/C05), for a
    well-formed input inside the coherent region. -/
theorem mem_thl_iff (c : Costs) (S : RTree) (o : OTree) (hb : S.isBinary = true)
    (hS : ∀ p ∈ leafSpecies o, S.isNode p = true) (hcoh : c.spe ≤ c.dup + 2 * c.floss) (sol : Sol) :
    sol ∈ thl c S o ↔
      IsOptimalFor (fun s => Spec.validRec o s = true ∧ s ∈ Spec.allMappings S o)
        (totalCost c .plain o) sol :=
  (C01.C01_thl_all c S o hb hS hcoh).1 sol

open Spec

/-- Valid solutions of `o` — using the LCA species mapping when `base`. -/
def VSol (mode : LabelMode) (base : Bool) (o : OTree) (s : Sol) : Prop :=
  Spec.validSol mode o s = true ∧ (base = true → sameMapping s (lcaSol o) = true)

theorem isOptimal_of_vsol {c : Costs} {mode : LabelMode} {o : OTree} {s : Sol}
    (h : IsOptimalFor (VSol mode false o) (totalCost c mode o) s) : IsOptimal c mode o s :=
  ⟨h.1.1, fun s' hv' => h.2 s' ⟨hv', fun e => by cases e⟩⟩

/-- The guards of `mem_spfs_iff` (`GuardUn`: those of `mem_uspfs_iff`). -/
structure GuardOrd (c : Costs) (S : RTree) (o : OTree) : Prop where
  ne : ∀ f ∈ leafSyntenies o, f ≠ []
  bin : S.isBinary = true
  sp : ∀ p ∈ leafSpecies o, S.isNode p = true
  coh : c.spe + 2 * c.sloss ≤ c.dup + 2 * c.floss

structure GuardUn (c : Costs) (S : RTree) (o : OTree) : Prop where
  bin : S.isBinary = true
  sp : ∀ p ∈ leafSpecies o, S.isNode p = true
  coh : c.spe + c.sloss ≤ c.dup + 2 * c.floss

/-- The solutions valid under the prescribed root order `pre` — using the LCA species mapping
    when `base`.  For `pre = none` this is `VSol .ordered base o`. -/
def VPre (base : Bool) (o : OTree) (pre : Option (List Nat)) (s : Sol) : Prop :=
  validSolPre .ordered o pre s = true ∧ (base = true → sameMapping s (lcaSol o) = true)

/-- `spfs` with any prescribed root order = the solutions valid under it (LCA-mapped for
    `base`) of minimum finite cost (C02).  The last conjunct is the slot `P` of `exact_same_order`
    / `emb_transfer` (what the solver's decoder adds: `canonicalUn` for `uspfs`, nothing here), kept
    so that `spfs` and `uspfs` feed the same lemmas. -/
theorem mem_spfs_pre_iff (c : Costs) (S : RTree) (base : Bool) (o : OTree) (pre : Option (List Nat))
    (hord : C02.OrdersOk o pre) (hb : S.isBinary = true)
    (hS : ∀ p ∈ leafSpecies o, S.isNode p = true)
    (hcoh : c.spe + 2 * c.sloss ≤ c.dup + 2 * c.floss) (s : Sol) :
    s ∈ spfs c S base o pre ↔
      IsOptimalFor (VPre base o pre) (totalCost c .ordered o) s ∧
        totalCost c .ordered o s ≠ .inf ∧ True := by
  have hV : ∀ σ, validSolPre .ordered o pre σ = true ∧ SpeciesOk S base o σ ↔ VPre base o pre σ :=
    fun σ => and_congr_right fun hv => by
      cases base with
      | false => simpa using C02.speciesOk_of_validPre S o pre hS σ hv
      | true => simpa using C02.speciesOk_base_iff_pre S o pre σ hv
  simp only [C02.spfs_exact_sols c S base o pre hord hb hS hcoh, hV, IsOptimalFor, and_true]

theorem mem_spfs_iff {c : Costs} {S : RTree} {o : OTree} (G : GuardOrd c S o) (base : Bool)
    (s : Sol) :
    s ∈ spfs c S base o none ↔
      IsOptimalFor (VSol .ordered base o) (totalCost c .ordered o) s ∧
        totalCost c .ordered o s ≠ .inf ∧ True :=
  mem_spfs_pre_iff c S base o none (C02.C02_orders_ok o G.ne) G.bin G.sp G.coh s

/-- `uspfs` = the canonical valid (LCA-mapped for `base`) solutions of minimum finite cost
    among ALL valid (LCA-mapped) solutions (C03). -/
theorem mem_uspfs_iff {c : Costs} {S : RTree} {o : OTree} (G : GuardUn c S o) (base : Bool)
    (s : Sol) :
    s ∈ uspfs c S base o ↔
      IsOptimalFor (VSol .unordered base o) (totalCost c .unordered o) s ∧
        totalCost c .unordered o s ≠ .inf ∧ Spec.canonicalUn o [] [] s = true := by
  have hV : ∀ σ, C03.ValidOk S base o σ ↔ VSol .unordered base o σ := fun σ =>
    and_congr_right fun hv => by
      cases base with
      | false => simpa using C03.speciesOk_ext_iff_un S o G.sp σ hv
      | true => simpa using C03.speciesOk_base_iff_un S o σ hv
  rw [C03.uspfs_optimal_iff c S base o G.bin G.sp G.coh]
  simp only [IsOptimalFor, hV]

theorem nodup_spfs (c : Costs) (S : RTree) (base : Bool) (o : OTree) :
    (spfs c S base o none).Nodup := by unfold spfs; exact nodup_rankByCost _ _ _ _

theorem nodup_uspfs (c : Costs) (S : RTree) (base : Bool) (o : OTree) :
    (uspfs c S base o).Nodup := by unfold uspfs; exact nodup_rankByCost _ _ _ _


theorem optimum_plain_isMinCost (c : Costs) (S : RTree) (o : OTree) (keep : Bool)
    (pre : Option (List Nat)) (hS : ∀ p ∈ leafSpecies o, S.isNode p = true) :
    IsMinCost c .plain o (Spec.optimum c S .plain false keep o pre).1 :=
  ((adequate_plain c S o false pre).congr fun σ => by
    simp only [validSol, Bool.and_true]
    exact and_iff_left_of_imp (speciesOk_of_valid S o σ hS)).isMinCost keep

/-- In every mode the oracle's optimum (extended variant, no prescribed root order) is the
    minimum evaluated cost over the valid solutions (C01/C02/C03 oracle adequacy: every valid
    solution has allowed species). -/
theorem optimum_isMinCost (c : Costs) (S : RTree) (mode : LabelMode) (o : OTree) (keep : Bool)
    (hS : ∀ p ∈ leafSpecies o, S.isNode p = true) :
    IsMinCost c mode o (Spec.optimum c S mode false keep o none).1 := by
  cases mode with
  | plain => exact optimum_plain_isMinCost c S o keep none hS
  | ordered =>
    exact ((adequate_ord c S false o none (C02.rootsOk_none o)).congr fun σ =>
      and_iff_left_of_imp (C02.speciesOk_of_validPre S o none hS σ)).isMinCost keep
  | unordered =>
    exact ((adequate_un c S o false none).congr fun σ => and_iff_left_of_imp fun hv =>
      speciesOk_of_valid S o σ hS (C03.validRec_of_validUn hv)).isMinCost keep

end SR.C09
