/-
  The label DP under the retention policy ANY (`Model/LabelDPAny.lean`) against the one
  under ALL, for every valid choice of the selection functions: same cell values, the same
  (species, label, value) triples in the two tables, and each cell under ANY decodes to
  exactly one of the solutions of the cell under ALL.  The code's own rule (first optimal
  candidate, `Agg.foldl_updateAny`) is one such selection function.
-/
import SRVerif.Proofs.LabelDPMain
import SRVerif.Model.LabelDPAny

namespace SR

open Cost Path

theorem PickOk.mem {β : Type} {p : List β → Option β} (h : PickOk p) {l : List β} {x : β}
    (hx : p l = some x) : x ∈ l := h.1 l x hx

theorem PickOk.some_of_ne_nil {β : Type} {p : List β → Option β} (h : PickOk p) {l : List β}
    (hne : l ≠ []) : ∃ x, p l = some x := by
  cases hp : p l with
  | none => exact absurd (h.2 l hp) hne
  | some x => exact ⟨x, rfl⟩

theorem PickOk.some_of_mem {β : Type} {p : List β → Option β} (h : PickOk p) {l : List β} {y : β}
    (hy : y ∈ l) : ∃ x, p l = some x :=
  h.some_of_ne_nil (List.ne_nil_of_mem hy)

theorem PickOk.mem_of_mem_toList {β : Type} {p : List β → Option β} (h : PickOk p) {l : List β}
    {x : β} (hx : x ∈ (p l).toList) : x ∈ l := h.mem (Option.mem_toList.mp hx)

theorem PickOk.toList_eq_nil_iff {β : Type} {p : List β → Option β} (h : PickOk p) {l : List β} :
    (p l).toList = [] ↔ l = [] := by
  rw [Option.toList_eq_nil_iff]
  constructor
  · exact h.2 l
  · rintro rfl
    cases hq : p [] with
    | none => rfl
    | some x => exact absurd (h.mem hq) (by simp)

theorem PickOk.length_toList {β : Type} {p : List β → Option β} (h : PickOk p) {l : List β}
    (hne : l ≠ []) : (p l).toList.length = 1 := by
  obtain ⟨x, hx⟩ := h.some_of_ne_nil hne
  rw [hx]; rfl

theorem pickOk_head? {β : Type} : PickOk (List.head? : List β → Option β) := by
  refine ⟨?_, ?_⟩
  · intro l x h; exact List.mem_of_mem_head? (by rw [h]; rfl)
  · intro l h; cases l with
    | nil => rfl
    | cons a l => simp at h

theorem pickOk_getLast? {β : Type} : PickOk (List.getLast? : List β → Option β) := by
  refine ⟨?_, ?_⟩
  · intro l x h; exact List.mem_of_getLast? h
  · intro l h; exact List.getLast?_eq_none_iff.mp h

theorem Picker.first_ok (Lab : Type) : (Picker.first Lab).Ok :=
  ⟨pickOk_head?, pickOk_head?, pickOk_head?⟩

theorem Picker.last_ok (Lab : Type) : (Picker.last Lab).Ok :=
  ⟨pickOk_getLast?, pickOk_getLast?, pickOk_getLast?⟩

namespace Agg

variable {τ : Type} [DecidableEq τ]

theorem update_any_head (a b : Agg τ) (v : Cost) (t : τ)
    (h : b = a.any List.head?) : b.updateAny v t = (a.update v t).any List.head? := by
  subst h
  unfold updateAny update any
  by_cases hv : v = a.val
  · simp only [hv, if_true]
    cases htags : a.tags with
    | nil => simp
    | cons x xs =>
      by_cases ht : t ∈ x :: xs
      · simp [ht, htags]
      · simp [ht]
  · simp only [hv, if_false]
    by_cases hlt : Cost.lt v a.val = true
    · simp [hlt]
    · simp [hlt]

/-- Folding the ANY update of the code over any list of candidates yields the
    ALL aggregate of the same candidates with only its FIRST tag. -/
theorem foldl_updateAny (xs : List (Cost × τ)) (a b : Agg τ) (h : b = a.any List.head?) :
    xs.foldl (fun e p => e.updateAny p.1 p.2) b = (offerAll a xs).any List.head? := by
  induction xs generalizing a b with
  | nil => simpa [offerAll] using h
  | cons x xs ih =>
    simp only [List.foldl_cons, offerAll]
    exact ih _ _ (update_any_head a b x.1 x.2 h)

theorem ofList_updateAny (xs : List (Cost × τ)) :
    xs.foldl (fun e p => e.updateAny p.1 p.2) empty = (ofList xs).any List.head? :=
  foldl_updateAny xs empty empty (by simp [any, empty])

omit [DecidableEq τ] in
theorem mem_any_tags {p : List τ → Option τ} {a : Agg τ} {t : τ} :
    t ∈ (a.any p).tags ↔ p a.tags = some t := by
  simp only [any, Option.mem_toList]

end Agg

theorem Roles.any_get {τ : Type} (p : List τ → Option τ) (r : Roles τ) (ρ : RoleId) :
    (r.any p).get ρ = (r.get ρ).any p := by
  cases ρ <;> rfl

section

variable {α Lab : Type} [DecidableEq Lab]

/-- `cands` of `Proofs/LabelDPRoles.lean` under ANY: the candidates of one entry, each role keeping
    the one tag `P.tag` selects (`DPSolver.candsAny` is something else: a solver's outputs). -/
def candsAny (P : Picker Lab) (A : LabelAlg α Lab) (c : Costs) (S : RTree) (a : α) (s : Path)
    (lab : Lab) (la ra : α) (L R : List (DCell Lab)) :
    List (Cost × ((Path × Lab) × (Path × Lab))) :=
  entryCands c ((roles A c S a s lab la L).any P.tag) ((roles A c S a s lab ra R).any P.tag)

def bestAny (P : Picker Lab) (A : LabelAlg α Lab) (c : Costs) (S : RTree) (a : α) (s : Path)
    (lab : Lab) (la ra : α) (L R : List (DCell Lab)) : Cost :=
  Cost.minList ((candsAny P A c S a s lab la ra L R).map (·.1))

theorem mem_candsAny {P : Picker Lab} {A : LabelAlg α Lab} {c : Costs} {S : RTree} {a : α}
    {s : Path} {lab : Lab} {la ra : α} {L R : List (DCell Lab)} {v : Cost} {t0 t1 : Path × Lab} :
    (v, (t0, t1)) ∈ candsAny P A c S a s lab la ra L R ↔
      ∃ ev ∈ events c,
        P.tag ((roles A c S a s lab la L).get ev.2.1).tags = some t0 ∧
        P.tag ((roles A c S a s lab ra R).get ev.2.2).tags = some t1 ∧
        v = ev.1 + ((roles A c S a s lab la L).get ev.2.1).val +
          ((roles A c S a s lab ra R).get ev.2.2).val := by
  simp only [candsAny, entryCands_eq, List.mem_flatMap, Agg.mem_comb, Roles.any_get,
    Agg.mem_any_tags]
  rfl

variable (P : Picker Lab) (hP : P.Ok) (A : LabelAlg α Lab) (c : Costs) (S : RTree) (a : α)
  (s : Path) (lab : Lab) (la ra : α) (L R : List (DCell Lab))

include hP

theorem candsAny_sub {p : Cost × ((Path × Lab) × (Path × Lab))}
    (h : p ∈ candsAny P A c S a s lab la ra L R) : p ∈ cands A c S a s lab la ra L R := by
  obtain ⟨v, t0, t1⟩ := p
  obtain ⟨ev, hev, h0, h1, hv⟩ := mem_candsAny.mp h
  exact mem_cands.mpr ⟨ev, hev, hP.tag.mem h0, hP.tag.mem h1, hv⟩

theorem candsAny_cover {v : Cost} {t0 t1 : Path × Lab}
    (h : (v, (t0, t1)) ∈ cands A c S a s lab la ra L R) :
    ∃ u0 u1, (v, (u0, u1)) ∈ candsAny P A c S a s lab la ra L R := by
  obtain ⟨ev, hev, h0, h1, hv⟩ := mem_cands.mp h
  obtain ⟨u0, e0⟩ := hP.tag.some_of_mem h0
  obtain ⟨u1, e1⟩ := hP.tag.some_of_mem h1
  exact ⟨u0, u1, mem_candsAny.mpr ⟨ev, hev, e0, e1, hv⟩⟩

theorem bestAny_eq : bestAny P A c S a s lab la ra L R = best A c S a s lab la ra L R := by
  unfold bestAny
  apply minList_eq
  · intro x hx
    obtain ⟨p, hp, rfl⟩ := List.mem_map.mp hx
    exact minList_le (List.mem_map.mpr ⟨p, candsAny_sub P hP A c S a s lab la ra L R hp, rfl⟩)
  · by_cases hfin : best A c S a s lab la ra L R = inf
    · exact Or.inl hfin
    · obtain ⟨t0, t1, hc⟩ := best_attained A c S a s lab la ra L R hfin
      obtain ⟨u0, u1, hu⟩ := candsAny_cover P hP A c S a s lab la ra L R hc
      exact Or.inr (List.mem_map.mpr ⟨_, hu, by dsimp only⟩)

omit hP in
theorem entryAny_eq :
    entryAny P A c S a s lab la ra L R =
      if (bestAny P A c S a s lab la ra L R).isInf then none
      else some { sp := s, lab := lab, cost := bestAny P A c S a s lab la ra L R,
                  sols := (P.pair (dedup (((candsAny P A c S a s lab la ra L R).filter
                    (fun p => p.1 = bestAny P A c S a s lab la ra L R)).map (·.2)))).toList.flatMap
                      (decodeTag s lab L R) } := by
  unfold entryAny bestAny candsAny
  rfl

theorem entryAny_eq_some {d : DCell Lab}
    (h : entryAny P A c S a s lab la ra L R = some d) :
    d.sp = s ∧ d.lab = lab ∧ d.cost = best A c S a s lab la ra L R ∧
    best A c S a s lab la ra L R ≠ inf ∧
    ∃ t0 t1, (best A c S a s lab la ra L R, (t0, t1)) ∈ candsAny P A c S a s lab la ra L R ∧
      d.sols = decodeTag s lab L R (t0, t1) := by
  have hbe := bestAny_eq P hP A c S a s lab la ra L R
  rw [entryAny_eq] at h
  obtain ⟨hfin, rfl⟩ := ite_isInf_eq_some h
  rw [hbe] at hfin
  refine ⟨rfl, rfl, by dsimp only; exact hbe, hfin, ?_⟩
  -- the list of optimal tag pairs is not empty
  obtain ⟨t0, t1, hc⟩ := best_attained A c S a s lab la ra L R hfin
  obtain ⟨u0, u1, hu⟩ := candsAny_cover P hP A c S a s lab la ra L R hc
  obtain ⟨⟨w0, w1⟩, hw⟩ := hP.pair.some_of_mem (mem_dedup_filter_val.mpr (hbe ▸ hu))
  exact ⟨w0, w1, hbe ▸ mem_dedup_filter_val.mp (hP.pair.mem hw), by rw [hw]; simp⟩
end

section

variable {α Lab : Type} [DecidableEq Lab]

theorem mem_dpTableAny_node {P : Picker Lab} {A : LabelAlg α Lab} {c : Costs} {S : RTree} {a : α}
    {l r : ATree α} {d : DCell Lab} :
    d ∈ dpTableAny P A c S (.node a l r) ↔
      ∃ s ∈ A.allowed a, ∃ lab ∈ A.labs a,
        entryAny P A c S a s lab l.data r.data (dpTableAny P A c S l) (dpTableAny P A c S r) =
          some d := by
  simp only [dpTableAny, List.mem_flatMap, List.mem_filterMap]

theorem mem_dpTableAny_leaf {P : Picker Lab} {A : LabelAlg α Lab} {c : Costs} {S : RTree} {a : α}
    {sp : Path} {d : DCell Lab} :
    d ∈ dpTableAny P A c S (.leaf a sp) ↔
      d = { sp := sp, lab := A.leafLab a, cost := .fin 0, sols := [LSol.leaf sp (A.leafLab a)] } := by
  simp only [dpTableAny, List.mem_singleton]

theorem candsAny_congr (P : Picker Lab) (A : LabelAlg α Lab) (c : Costs) (S : RTree) (a : α)
    (s : Path) (lab : Lab)
    (la ra : α) {L R L' R' : List (DCell Lab)} (hL : L.map DCell.core = L'.map DCell.core)
    (hR : R.map DCell.core = R'.map DCell.core) :
    candsAny P A c S a s lab la ra L R = candsAny P A c S a s lab la ra L' R' := by
  simp only [candsAny, roles_congr A c S a s lab la hL, roles_congr A c S a s lab ra hR]

theorem entryAny_map_core (P : Picker Lab) (hP : P.Ok) (A : LabelAlg α Lab) (c : Costs) (S : RTree)
    (a : α) (s : Path) (lab : Lab) (la ra : α) (L R : List (DCell Lab)) :
    (entryAny P A c S a s lab la ra L R).map DCell.core =
      if (best A c S a s lab la ra L R).isInf then none
      else some (s, lab, best A c S a s lab la ra L R) := by
  rw [← bestAny_eq P hP, entryAny_eq]
  split
  · rfl
  · simp only [Option.map_some, DCell.core]

theorem dpTableAny_core (P : Picker Lab) (hP : P.Ok) (A : LabelAlg α Lab) (c : Costs) (S : RTree)
    (t : ATree α) :
    (dpTableAny P A c S t).map DCell.core = (dpTable A c S true t).map DCell.core := by
  induction t with
  | leaf a sp => simp [dpTable, dpTableAny, DCell.core]
  | node a l r ihl ihr =>
    simp only [dpTable, dpTableAny, List.map_flatMap, List.map_filterMap, entry_map_core,
      entryAny_map_core P hP, fun s lab => best_congr A c S a s lab l.data r.data ihl ihr]

omit [DecidableEq Lab] in
theorem mem_of_core_eq {L L' : List (DCell Lab)} (h : L.map DCell.core = L'.map DCell.core)
    {d : DCell Lab} (hd : d ∈ L) : ∃ d' ∈ L', d'.core = d.core := by
  have : d.core ∈ L'.map DCell.core := h ▸ List.mem_map.mpr ⟨d, hd, rfl⟩
  obtain ⟨d', hd', e⟩ := List.mem_map.mp this
  exact ⟨d', hd', e⟩

omit [DecidableEq Lab] in
theorem cellTag_of_core {d d' : DCell Lab} (h : d'.core = d.core) : cellTag d' = cellTag d := by
  simp only [DCell.core, Prod.mk.injEq] at h
  simp [cellTag, h.1, h.2.1]

theorem findCell_core {L L' : List (DCell Lab)} (h : L.map DCell.core = L'.map DCell.core)
    {t : Path × Lab} {d : DCell Lab} (hf : findCell L t = some d) :
    ∃ d', findCell L' t = some d' := by
  obtain ⟨hd, ht⟩ := findCell_some hf
  obtain ⟨d', hd', e⟩ := mem_of_core_eq h hd
  obtain ⟨d'', hf'⟩ := findCell_of_mem hd'
  rw [cellTag_of_core e, ht] at hf'
  exact ⟨d'', hf'⟩

theorem dpTableAny_sols (P : Picker Lab) (hP : P.Ok) (A : LabelAlg α Lab) (c : Costs) (S : RTree) :
    ∀ (t : ATree α), ∀ d ∈ dpTableAny P A c S t, ∀ d' ∈ dpTable A c S true t,
      cellTag d = cellTag d' → ∃ x, d.sols = [x] ∧ x ∈ d'.sols := by
  intro t
  induction t with
  | leaf a sp =>
    intro d hd d' hd' _
    rw [mem_dpTableAny_leaf] at hd
    rw [mem_dpTable_leaf] at hd'
    subst hd; subst hd'
    exact ⟨_, rfl, by simp⟩
  | node a l r ihl ihr =>
    intro d hd d' hd' htag
    obtain ⟨s, _, lab, _, e⟩ := mem_dpTableAny_node.mp hd
    obtain ⟨s', _, lab', _, e'⟩ := mem_dpTable_node.mp hd'
    have hcl := dpTableAny_core P hP A c S l
    have hcr := dpTableAny_core P hP A c S r
    obtain ⟨p1, p2, _, _, t0, t1, hc, hsols⟩ :=
      entryAny_eq_some P hP A c S a s lab l.data r.data _ _ e
    obtain ⟨q1, q2, _, _, hsols', _⟩ := entry_eq_some _ _ _ _ _ _ _ _ _ _ e'
    obtain rfl : s' = s := by rw [← q1, ← p1]; exact (congrArg Prod.fst htag).symm
    obtain rfl : lab' = lab := by rw [← q2, ← p2]; exact (congrArg Prod.snd htag).symm
    -- the tag pair chosen under ANY is an optimal candidate under ALL
    have hcAll := candsAny_sub P hP A c S a s' lab' l.data r.data _ _ hc
    rw [best_congr A c S a s' lab' l.data r.data hcl hcr,
      cands_congr A c S a s' lab' l.data r.data hcl hcr] at hcAll
    -- both tags name cells of the children's tables
    obtain ⟨ev, _, dl, hdl, dr, hdr, _, _, _, _, e0, e1, _⟩ :=
      entry_attained _ _ _ _ _ _ _ _ _ _ hcAll
    have fl' := e0 ▸ findCell_dpTable A c S true l hdl
    have fr' := e1 ▸ findCell_dpTable A c S true r hdr
    obtain ⟨cl, fl⟩ := findCell_core hcl.symm fl'
    obtain ⟨cr, fr⟩ := findCell_core hcr.symm fr'
    obtain ⟨hcl1, hcl2⟩ := findCell_some fl
    obtain ⟨hcr1, hcr2⟩ := findCell_some fr
    obtain ⟨x, hx, hx'⟩ := ihl cl hcl1 dl hdl (hcl2.trans e0.symm)
    obtain ⟨y, hy, hy'⟩ := ihr cr hcr1 dr hdr (hcr2.trans e1.symm)
    refine ⟨LSol.node s' lab' x y, ?_, ?_⟩
    · rw [hsols]
      simp only [decodeTag, fl, fr, hx, hy]
      simp
    · exact (hsols' rfl _).mpr ⟨t0, t1, dl, dr, x, y, hcAll, fl', fr', hx', hy', rfl⟩

/-- The representation relation between a list of cells under ANY and the list
    of cells under ALL: same states, one decoded solution each, taken from the
    ALL cell with the same state. -/
def Rep (Tany Tall : List (DCell Lab)) : Prop :=
  (∀ d ∈ Tany, ∃ d' ∈ Tall, cellTag d = cellTag d' ∧ ∃ x, d.sols = [x] ∧ x ∈ d'.sols) ∧
  (∀ d' ∈ Tall, ∃ d ∈ Tany, cellTag d = cellTag d' ∧ ∃ x, d.sols = [x] ∧ x ∈ d'.sols)

theorem dpTableAny_rep (P : Picker Lab) (hP : P.Ok) (A : LabelAlg α Lab) (c : Costs) (S : RTree)
    (t : ATree α) : Rep (dpTableAny P A c S t) (dpTable A c S true t) := by
  have hcore := dpTableAny_core P hP A c S t
  constructor
  · intro d hd
    obtain ⟨d', hd', e⟩ := mem_of_core_eq hcore hd
    have ht := (cellTag_of_core e).symm
    exact ⟨d', hd', ht, dpTableAny_sols P hP A c S t d hd d' hd' ht⟩
  · intro d' hd'
    obtain ⟨d, hd, e⟩ := mem_of_core_eq hcore.symm hd'
    have ht := cellTag_of_core e
    exact ⟨d, hd, ht, dpTableAny_sols P hP A c S t d hd d' hd' ht⟩

omit [DecidableEq Lab] in
theorem Rep.filter_lab {Tany Tall : List (DCell Lab)} (h : Rep Tany Tall) (f : Lab → Bool) :
    Rep (Tany.filter (fun d => f d.lab)) (Tall.filter (fun d => f d.lab)) := by
  constructor
  · intro d hd
    obtain ⟨hd, hf⟩ := List.mem_filter.mp hd
    obtain ⟨d', hd', ht, hx⟩ := h.1 d hd
    have : d.lab = d'.lab := congrArg Prod.snd ht
    exact ⟨d', List.mem_filter.mpr ⟨hd', by rw [← this]; exact hf⟩, ht, hx⟩
  · intro d' hd'
    obtain ⟨hd', hf⟩ := List.mem_filter.mp hd'
    obtain ⟨d, hd, ht, hx⟩ := h.2 d' hd'
    have : d.lab = d'.lab := congrArg Prod.snd ht
    exact ⟨d, List.mem_filter.mpr ⟨hd, by rw [this]; exact hf⟩, ht, hx⟩

end

end SR
