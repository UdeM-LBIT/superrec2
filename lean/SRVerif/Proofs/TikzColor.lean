/-
  Colour propagation: the pre-order loop computes the nearest coloured ancestor-or-self.
-/
import SRVerif.Model.Tikz

namespace SR.Tikz.CTree

/-- The `color` feature the node at `q` was given by the user. -/
def ownAt (t : CTree) (q : List Bool) : Option Str := (sub t q).bind color

/-- Specification, independent of the traversal: the own colour of the longest prefix of the
    path that has one. -/
def nearestSpec (t : CTree) (p : List Bool) : Option Str :=
  (List.range (p.length + 1)).reverse.findSome? (fun k => ownAt t (p.take k))

theorem color_propagate (inh : Option Str) (t : CTree) : (propagate inh t).color = t.color.or inh := by
  cases t <;> rfl

theorem sub_propagate (inh : Option Str) (t : CTree) (p : List Bool) :
    (sub (propagate inh t) p).map color = nearestFrom inh t p := by
  induction p generalizing inh t with
  | nil => simp [sub, nearestFrom, color_propagate]
  | cons b r ih =>
    cases t with
    | leaf c => simp [propagate, sub, nearestFrom]
    | node c l rt =>
      cases b
      · simpa [propagate, sub, nearestFrom] using ih (c.or inh) l
      · simpa [propagate, sub, nearestFrom] using ih (c.or inh) rt

theorem nearestFrom_isSome (last : Option Str) (t : CTree) (p : List Bool) :
    (nearestFrom last t p).isSome = (sub t p).isSome := by
  induction p generalizing last t with
  | nil => simp [sub, nearestFrom]
  | cons b r ih =>
    cases t with
    | leaf c => simp [sub, nearestFrom]
    | node c l rt => cases b <;> simp [sub, nearestFrom, ih]

theorem nearestSpec_nil (t : CTree) : nearestSpec t [] = t.color := by
  simp [nearestSpec, ownAt, sub]

theorem nearestSpec_cons (c : Option Str) (l r : CTree) (b : Bool) (p : List Bool) :
    nearestSpec (node c l r) (b :: p) = (nearestSpec (if b then r else l) p).or c := by
  simp only [nearestSpec, List.length_cons]
  rw [List.range_succ_eq_map, List.reverse_cons, ← List.map_reverse, List.findSome?_append,
    List.findSome?_map]
  have hk : ∀ k, ownAt (node c l r) ((b :: p).take (k + 1)) = ownAt (if b then r else l) (p.take k) := by
    intro k; cases b <;> simp [ownAt, sub]
  have : ((fun k => ownAt (node c l r) ((b :: p).take k)) ∘ Nat.succ)
      = fun k => ownAt (if b then r else l) (p.take k) := by
    funext k; exact hk k
  rw [this]
  have h0' : ownAt (node c l r) [] = c := by simp [ownAt, sub, color]
  simp [h0']

theorem nearestFrom_spec (last : Option Str) (t : CTree) (p : List Bool) (h : (sub t p).isSome = true) :
    nearestFrom last t p = some ((nearestSpec t p).or last) := by
  induction p generalizing last t with
  | nil => simp [nearestFrom, nearestSpec_nil]
  | cons b r ih =>
    cases t with
    | leaf c => simp [sub] at h
    | node c l rt =>
      have h' : (sub (if b then rt else l) r).isSome = true := by
        cases b <;> simpa [sub] using h
      rw [nearestFrom, ih _ _ h', nearestSpec_cons]
      cases nearestSpec (if b then rt else l) r <;> simp [Option.or]

theorem colorAt_propagate (t : CTree) (p : List Bool) (h : (sub t p).isSome = true) :
    (propagate none t).colorAt p = nearestSpec t p := by
  have h1 := sub_propagate none t p
  rw [nearestFrom_spec none t p h] at h1
  simp only [colorAt]
  cases hs : sub (propagate none t) p with
  | none => simp [hs] at h1
  | some s =>
    simp only [hs, Option.map_some, Option.some.injEq] at h1
    simp [h1]

end SR.Tikz.CTree
