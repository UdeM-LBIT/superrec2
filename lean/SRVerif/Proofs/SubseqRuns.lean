/-
  The counting specification `lostRuns` agrees with the literal formulation by maximal constant
  groups (`List.splitBy`: `lostGroups_eq`) and by stripping the lost positions at both ends
  (`lostRuns_false_eq_trim`); `C18.C18_runs_groups` puts the two together.
-/
import SRVerif.Proofs.Subseq
import SRVerif.Proofs.ListAux

namespace SR.SubseqProofs
open SR.SubseqSpec

theorem rstripLost_nil : rstripLost [] = [] := rfl

theorem rstripLost_cons (b : Bool) (t : List Bool) :
    rstripLost (b :: t) = if rstripLost t = [] ∧ b = false then [] else b :: rstripLost t := by
  unfold rstripLost
  rw [List.reverse_cons, List.dropWhile_append]
  by_cases h : (List.dropWhile (fun x => !x) t.reverse) = []
  · cases b <;> simp [h]
  · simp [h]

/-- Stripping trailing lost positions keeps the head, unless nothing is left; then no kept
    position was there. -/
theorem head?_rstripLost (t : List Bool) :
    if rstripLost t = [] then t.head? ≠ some true else (rstripLost t).head? = t.head? := by
  cases t with
  | nil => simp [rstripLost_nil]
  | cons a t =>
    rw [rstripLost_cons]
    by_cases hc : rstripLost t = [] ∧ a = false
    · simp [hc]
    · simp [hc]

/-- Ends excluded, a kept position already seen: only the trailing lost run is not counted, so it can
    be stripped and the ends counted. -/
theorem cnt_false_true_eq (t : List Bool) :
    cnt false true t = cnt true false (rstripLost t) := by
  induction t with
  | nil => rfl
  | cons b t ih =>
    rw [rstripLost_cons]
    cases b
    · have hh := head?_rstripLost t
      rw [cnt_cons_false, ih]
      by_cases h : rstripLost t = []
      · rw [if_pos h] at hh
        cases ht : t.head? <;> simp_all
      · rw [if_neg h] at hh
        obtain ⟨b, hb⟩ : ∃ b, t.head? = some b := by
          cases t with
          | nil => exact absurd rstripLost_nil h
          | cons b _ => exact ⟨b, rfl⟩
        simp [h, cnt_cons_false, hh, hb]
    · simp [cnt_cons_true, ih, cnt_true_seen true false]

/-- Ends excluded, no kept position seen yet: the leading lost run is not counted. -/
theorem cnt_false_false_dropWhile (l : List Bool) :
    cnt false false l = cnt false false (l.dropWhile (!·)) := by
  induction l with
  | nil => rfl
  | cons b t ih => cases b <;> simp [cnt_cons_false, ih]

theorem lostRuns_false_eq_trim (l : List Bool) :
    lostRuns false l = lostRuns true (trimLost l) := by
  rw [lostRuns_eq_cnt, lostRuns_eq_cnt, cnt_false_false_dropWhile]
  unfold trimLost
  rcases h : l.dropWhile (!·) with _ | ⟨b, t⟩
  · simp [rstripLost_nil]
  · have hb : b = true := by
      have := List.head_dropWhile_not (p := (!·)) (l := l) (by rw [h]; simp)
      simpa [h] using this
    subst hb
    rw [cnt_cons_true, cnt_false_true_eq, rstripLost_cons]
    simp [cnt_cons_true, cnt_true_seen true false]

theorem lostGroups_eq (l : List Bool) : lostGroups l = cnt true false l := by
  induction l with
  | nil => simp [lostGroups, List.splitBy]
  | cons a t ih =>
    cases t with
    | nil => cases a <;> simp [lostGroups, List.splitBy, List.splitBy.loop, cnt_cons]
    | cons b t =>
      obtain ⟨hd, tl, h1, h2⟩ := List.splitBy_cons_cons (· == ·) a b t
      unfold lostGroups at ih ⊢
      rw [h1] at ih
      rw [h2, cnt_cons, cnt_true_seen _ false, ← ih]
      cases a <;> cases b <;> simp <;> omega

end SR.SubseqProofs
