/-
  Sequences versus masks (property C18): round trips, the bits of a mask, and the bridge from
  masks taken with respect to a common root order to runs counted on the sequences.
-/
import SRVerif.Proofs.Subseq

namespace SR.SubseqProofs
open SR.SubseqSpec

variable {α : Type}

theorem odd_div_two (a : Nat) : (1 + 2 * a) / 2 = a := by omega

theorem odd_mod_two (a : Nat) : (1 + 2 * a) % 2 = 1 := by omega

theorem subseqFromMask_zero (p : List α) : subseqFromMask 0 p = some [] := by
  unfold subseqFromMask; rfl

theorem subseqFromMask_cons (m : Nat) (p : α) (ps : List α) :
    subseqFromMask m (p :: ps) =
      (subseqFromMask (m / 2) ps).map fun r => if m % 2 = 1 then p :: r else r := by
  cases m with
  | zero => simp [subseqFromMask_zero]
  | succ m =>
    rw [subseqFromMask]
    cases subseqFromMask ((m + 1) / 2) ps <;> simp

theorem subseqFromMask_nil (m : Nat) :
    subseqFromMask m ([] : List α) = if m = 0 then some [] else none := by
  cases m with
  | zero => simp [subseqFromMask_zero]
  | succ m => rw [subseqFromMask]; simp

variable [DecidableEq α]

@[simp] theorem maskFromSubseq_nil_left (p : List α) : maskFromSubseq [] p = 0 := by
  cases p <;> rfl

@[simp] theorem maskFromSubseq_nil_right (c : List α) : maskFromSubseq c [] = 0 := by
  cases c <;> rfl

theorem maskFromSubseq_cons_self (c : α) (cs ps : List α) :
    maskFromSubseq (c :: cs) (c :: ps) = 1 + 2 * maskFromSubseq cs ps := by
  simp [maskFromSubseq]

theorem maskFromSubseq_cons_ne {c p : α} (h : c ≠ p) (cs ps : List α) :
    maskFromSubseq (c :: cs) (p :: ps) = 2 * maskFromSubseq (c :: cs) ps := by
  simp [maskFromSubseq, h]

theorem maskFromSubseq_skip {r : α} {child : List α} (h : r ∉ child) (rs : List α) :
    maskFromSubseq child (r :: rs) = 2 * maskFromSubseq child rs := by
  cases child with
  | nil => simp
  | cons c cs =>
    have : c ≠ r := fun e => h (by simp [e])
    exact maskFromSubseq_cons_ne this cs rs

omit [DecidableEq α] in
theorem sublist_of_cons_ne {c p : α} {cs ps : List α} (hcp : c ≠ p)
    (h : (c :: cs).Sublist (p :: ps)) : (c :: cs).Sublist ps := by
  rcases List.sublist_cons_iff.1 h with h' | ⟨r, hr, _⟩
  · exact h'
  · exact absurd (List.cons.inj hr).1 hcp

theorem roundtrip_seq (parent : List α) : ∀ child : List α, child.Sublist parent →
    subseqFromMask (maskFromSubseq child parent) parent = some child := by
  induction parent with
  | nil => intro child h; simp [List.sublist_nil.1 h, subseqFromMask_zero]
  | cons p ps ih =>
    intro child h
    cases child with
    | nil => simp [subseqFromMask_zero]
    | cons c cs =>
      by_cases hcp : c = p
      · subst hcp
        have hs : cs.Sublist ps := List.cons_sublist_cons.1 h
        rw [maskFromSubseq_cons_self, subseqFromMask_cons, odd_div_two, odd_mod_two, ih cs hs]
        rfl
      · have hs := sublist_of_cons_ne hcp h
        rw [maskFromSubseq_cons_ne hcp, subseqFromMask_cons, Nat.mul_div_cancel_left _ Nat.two_pos,
          Nat.mul_mod_right, ih _ hs]
        rfl

theorem roundtrip_mask (parent : List α) (hnd : parent.Nodup) : ∀ mask : Nat,
    mask < 2 ^ parent.length →
    ∃ child, subseqFromMask mask parent = some child ∧ child.Sublist parent ∧
      maskFromSubseq child parent = mask := by
  induction parent with
  | nil =>
    intro mask h
    have : mask = 0 := by simpa using h
    subst this
    exact ⟨[], subseqFromMask_zero _, List.Sublist.refl _, by simp⟩
  | cons p ps ih =>
    intro mask h
    have hp : p ∉ ps := (List.nodup_cons.1 hnd).1
    have hlt : mask / 2 < 2 ^ ps.length := by
      rw [List.length_cons, Nat.pow_succ] at h
      exact (Nat.div_lt_iff_lt_mul Nat.two_pos).2 h
    obtain ⟨r, hr, hsub, hm⟩ := ih (List.nodup_cons.1 hnd).2 (mask / 2) hlt
    by_cases hodd : mask % 2 = 1
    · refine ⟨p :: r, ?_, List.cons_sublist_cons.2 hsub, ?_⟩
      · rw [subseqFromMask_cons, hr]; simp [hodd]
      · rw [maskFromSubseq_cons_self, hm, ← hodd]; exact Nat.mod_add_div mask 2
    · refine ⟨r, ?_, List.Sublist.cons _ hsub, ?_⟩
      · rw [subseqFromMask_cons, hr]; simp [hodd]
      · have : p ∉ r := fun hmem => hp (hsub.subset hmem)
        have h0 : mask % 2 = 0 := (Nat.mod_two_eq_zero_or_one mask).resolve_right hodd
        rw [maskFromSubseq_skip this, hm, ← Nat.zero_add (2 * _), ← h0]
        exact Nat.mod_add_div mask 2

theorem mask_lt (parent : List α) : ∀ child : List α,
    maskFromSubseq child parent < 2 ^ parent.length := by
  induction parent with
  | nil => intro child; simp
  | cons p ps ih =>
    intro child
    cases child with
    | nil => simp; exact Nat.pos_of_ne_zero (by simp)
    | cons c cs =>
      rw [List.length_cons, Nat.pow_succ]
      by_cases hcp : c = p
      · subst hcp
        have := ih cs
        rw [maskFromSubseq_cons_self]; omega
      · have := ih (c :: cs)
        rw [maskFromSubseq_cons_ne hcp]; omega

theorem mask_self (parent : List α) : maskFromSubseq parent parent = subseqComplete parent := by
  unfold subseqComplete
  induction parent with
  | nil => simp
  | cons p ps ih =>
    have : 0 < 2 ^ ps.length := Nat.pos_of_ne_zero (by simp)
    rw [maskFromSubseq_cons_self, ih, List.length_cons, Nat.pow_succ]; omega

theorem subseqFromMask_complete (parent : List α) :
    subseqFromMask (2 ^ parent.length - 1) parent = some parent := by
  have := roundtrip_seq parent parent (List.Sublist.refl _)
  rwa [mask_self] at this

theorem mask_ne_zero (parent : List α) : ∀ child : List α, child ≠ [] → child.Sublist parent →
    maskFromSubseq child parent ≠ 0 := by
  intro child hne h h0
  -- a zero mask decodes to the empty sequence, and decoding gives the child back
  have := roundtrip_seq parent child h
  rw [h0, subseqFromMask_zero] at this
  exact hne (Option.some.inj this).symm

theorem bits_mask {child root : List α} (hnd : root.Nodup) (h : child.Sublist root) :
    bits root.length (maskFromSubseq child root) = root.map fun x => decide (x ∈ child) := by
  induction root generalizing child with
  | nil => rfl
  | cons r rs ih =>
    have hr : r ∉ rs := (List.nodup_cons.1 hnd).1
    have hnd' := (List.nodup_cons.1 hnd).2
    rw [List.length_cons, bits_succ, List.map_cons]
    rcases List.sublist_cons_iff.1 h with hs | ⟨cs, rfl, hs⟩
    · have hmem : r ∉ child := fun hm => hr (hs.subset hm)
      rw [maskFromSubseq_skip hmem, Nat.mul_mod_right, Nat.mul_div_cancel_left _ Nat.two_pos,
        ih hnd' hs, decide_eq_false hmem]
      rfl
    · rw [maskFromSubseq_cons_self, odd_mod_two, odd_div_two, ih hnd' hs,
        decide_eq_true List.mem_cons_self]
      -- on `rs`, which avoids `r`, membership in `r :: cs` is membership in `cs`
      congr 1
      refine List.map_congr_left fun x hx => ?_
      exact (decide_eq_decide.2 (List.mem_cons.trans (or_iff_right fun e : x = r => hr (e ▸ hx)))).symm

theorem mask_testBit (root : List α) (hnd : root.Nodup) : ∀ (child : List α),
    child.Sublist root → ∀ i,
    ((maskFromSubseq child root).testBit i = true ↔ ∃ x, root[i]? = some x ∧ x ∈ child) := by
  intro child h i
  by_cases hi : i < root.length
  · have := congrArg (·[i]?) (bits_mask hnd h)
    simp only [bits, List.getElem?_map, List.getElem?_range hi, List.getElem?_eq_getElem hi,
      Option.map_some, Option.some.injEq] at this
    simp [this, List.getElem?_eq_getElem hi]
  · rw [Nat.testBit_lt_two_pow (Nat.lt_of_lt_of_le (mask_lt root child)
      (Nat.pow_le_pow_right Nat.two_pos (Nat.le_of_not_lt hi)))]
    simp [List.getElem?_eq_none (Nat.le_of_not_lt hi)]

theorem contained_of_sublist {child parent root : List α} (hnd : root.Nodup)
    (hcp : child.Sublist parent) (hpr : parent.Sublist root) :
    Contained (maskFromSubseq child root) (maskFromSubseq parent root) := by
  intro i hi
  obtain ⟨x, hx, hxc⟩ := (mask_testBit root hnd child (hcp.trans hpr) i).1 hi
  exact (mask_testBit root hnd parent hpr i).2 ⟨x, hx, hcp.subset hxc⟩

theorem filter_mem_of_sublist {parent root : List α} (hnd : root.Nodup)
    (h : parent.Sublist root) : root.filter (fun x => decide (x ∈ parent)) = parent := by
  induction h with
  | slnil => rfl
  | cons a h ih =>
    have ha := (List.nodup_cons.1 hnd).1
    rw [List.filter_cons_of_neg (by simpa using fun hm => ha (h.subset hm)), ih (List.nodup_cons.1 hnd).2]
  | cons_cons a h ih =>
    have ha := (List.nodup_cons.1 hnd).1
    rw [List.filter_cons_of_pos (by simp), ← ih (List.nodup_cons.1 hnd).2]
    congr 1
    refine List.filter_congr fun x hx => ?_
    rw [ih (List.nodup_cons.1 hnd).2]
    exact decide_eq_decide.2 (List.mem_cons.trans (or_iff_right fun e : x = a => ha (e ▸ hx)))

theorem keptPattern_masks {child parent root : List α} (hnd : root.Nodup)
    (hcp : child.Sublist parent) (hpr : parent.Sublist root) :
    keptPattern (maskFromSubseq child root) (maskFromSubseq parent root)
      = parent.map fun x => decide (x ∈ child) := by
  rw [keptPattern_bits _ (mask_lt root parent), bits_mask hnd (hcp.trans hpr), bits_mask hnd hpr,
    keptOf_map, filter_mem_of_sublist hnd hpr]

/-- For `child <+ parent <+ root` with a duplicate-free root order, the segment distance between the
    masks taken with respect to `root` is the number of maximal runs of consecutive parent elements
    absent from the child — for a non-empty child, and for any child when the end runs count. -/
theorem subseqSegmentDist_masks {child parent root : List α} (edges : Bool) (hnd : root.Nodup)
    (hcp : child.Sublist parent) (hpr : parent.Sublist root) (hne : child ≠ [] ∨ edges = true) :
    subseqSegmentDist (maskFromSubseq child root) (maskFromSubseq parent root) edges
      = (lostRunsSeq edges child parent : Nat) := by
  rw [subseqSegmentDist_total,
    if_pos ⟨contained_of_sublist hnd hcp hpr,
      hne.imp_left fun h => mask_ne_zero root child h (hcp.trans hpr)⟩,
    keptPattern_masks hnd hcp hpr]
  rfl

end SR.SubseqProofs
