/-
  Relabelling of the species (C09: species-child swap, outgroup).  A `PathEmb φ` shifts depth
  uniformly and commutes with the longest common prefix; every query the evaluator makes on
  species (`isAnc`, `isStrictAnc`, `comparable`, `lcp`, `dist`, `==`) is kept by such a map, hence
  events, costs and validity when input and solution are relabelled through `φ` (`mapSp_same`).
  `Path.relabelAt σ p`, which renames the children of the species node `p`, is one for injective
  `σ`; `Path.swapAt`, `RTree.swapAt` exchange two children.
-/
import SRVerif.Proofs.Paths
import SRVerif.Proofs.RTree
import SRVerif.Proofs.Enum
import SRVerif.Spec.Opt

namespace SR

open Path

/-- Injective map of root paths that commutes with the longest common prefix and
    shifts every depth by the same amount (0 for a relabelling, 1 for the
    embedding below a new root).  The field `inj` follows from the other two
    (`PathEmb.of_len_lcp`, through which the instances are built). -/
structure PathEmb (φ : Path → Path) : Prop where
  len : ∃ k, ∀ p, (φ p).length = p.length + k
  lcp : ∀ p q, Path.lcp (φ p) (φ q) = φ (Path.lcp p q)
  inj : ∀ p q, φ p = φ q → p = q

namespace Path

theorem isAnc_iff_lcp (p q : Path) : isAnc p q = true ↔ lcp p q = p := by
  constructor
  · exact lcp_eq_left_of_isAnc
  · intro h
    have := lcp_isAnc_right p q
    rwa [h] at this

end Path

/-- Injectivity comes with the other two: if `φ p = φ q` then `φ (lcp p q) = φ p`, so `lcp p q` is
    as long as `p` and as `q`, hence equal to both. -/
theorem PathEmb.of_len_lcp {φ : Path → Path} (len : ∃ k, ∀ p, (φ p).length = p.length + k)
    (lcp : ∀ p q, Path.lcp (φ p) (φ q) = φ (Path.lcp p q)) : PathEmb φ := by
  refine ⟨len, lcp, fun p q e => ?_⟩
  obtain ⟨k, hk⟩ := len
  have h := congrArg List.length (lcp p q)
  have hp : (Path.lcp p q).length = p.length := by
    rw [e, Path.lcp_self, ← e, hk, hk] at h
    exact (Nat.add_right_cancel h).symm
  have hq : (Path.lcp p q).length = q.length := by
    rw [e, Path.lcp_self, hk, hk] at h
    exact (Nat.add_right_cancel h).symm
  exact (Path.eq_of_isAnc_of_length_le (Path.lcp_isAnc_left p q) (Nat.le_of_eq hp.symm)).symm.trans
    (Path.eq_of_isAnc_of_length_le (Path.lcp_isAnc_right p q) (Nat.le_of_eq hq.symm))

/-- Maps of paths that act level by level: a class `C` of maps, each fixing `[]` and sending
    `k :: q` to `g k :: ψ q` with `g` injective and `ψ` again in `C`.  Every such map keeps
    lengths and commutes with `lcp`, hence is a `PathEmb` (`of_len_lcp`).  (`relabelAt σ p` and
    `flipPos F` are of this kind.) -/
theorem PathEmb.of_levelwise (C : (Path → Path) → Prop) (hnil : ∀ φ, C φ → φ [] = [])
    (hcons : ∀ φ, C φ → ∃ g : Nat → Nat, (∀ a b, g a = g b → a = b) ∧
      ∀ k, ∃ ψ, C ψ ∧ ∀ q, φ (k :: q) = g k :: ψ q) :
    ∀ φ, C φ → PathEmb φ := by
  have len : ∀ q φ, C φ → (φ q).length = q.length := by
    intro q
    induction q with
    | nil => intro φ h; rw [hnil φ h]
    | cons k q ih =>
      intro φ h
      obtain ⟨g, _, hk⟩ := hcons φ h
      obtain ⟨ψ, hψ, e⟩ := hk k
      rw [e, List.length_cons, ih ψ hψ, List.length_cons]
  refine fun φ h => PathEmb.of_len_lcp ⟨0, fun p => len p φ h⟩ ?_
  intro p
  induction p generalizing φ with
  | nil => intro q; rw [hnil φ h]; exact (hnil φ h).symm
  | cons a p ih =>
    intro q
    obtain ⟨g, hg, hk⟩ := hcons φ h
    obtain ⟨ψ, hψ, ea⟩ := hk a
    cases q with
    | nil => rw [hnil φ h, Path.lcp_nil_right, Path.lcp_nil_right, hnil φ h]
    | cons b q =>
      obtain ⟨ψ', _, eb⟩ := hk b
      by_cases hab : a = b
      · subst hab
        simp only [ea, Path.lcp, beq_self_eq_true, if_true, ih ψ hψ]
      · have : g a ≠ g b := fun e => hab (hg _ _ e)
        simp only [ea, eb, Path.lcp, beq_iff_eq, hab, this, if_false, hnil φ h]
namespace PathEmb

variable {φ : Path → Path} (h : PathEmb φ)
include h

theorem beq (p q : Path) : (φ p == φ q) = (p == q) := by
  rw [Bool.eq_iff_iff]
  simp only [beq_iff_eq]
  exact ⟨h.inj p q, fun e => by rw [e]⟩

theorem bne (p q : Path) : (φ p != φ q) = (p != q) := by
  simp only [_root_.bne, h.beq]

theorem isAnc (p q : Path) : Path.isAnc (φ p) (φ q) = Path.isAnc p q := by
  rw [Bool.eq_iff_iff, Path.isAnc_iff_lcp, Path.isAnc_iff_lcp, h.lcp]
  exact ⟨h.inj _ _, fun e => by rw [e]⟩

theorem isStrictAnc (p q : Path) : Path.isStrictAnc (φ p) (φ q) = Path.isStrictAnc p q := by
  simp only [Path.isStrictAnc, h.isAnc, h.bne]

theorem comparable (p q : Path) : Path.comparable (φ p) (φ q) = Path.comparable p q := by
  simp only [Path.comparable, h.isAnc]

theorem dist (p q : Path) : Path.dist (φ p) (φ q) = Path.dist p q := by
  obtain ⟨k, hk⟩ := h.len
  simp only [Path.dist, h.lcp, hk]
  omega

theorem internalEvent (s a b : Path) :
    SR.internalEvent (φ s) (φ a) (φ b) = SR.internalEvent s a b := by
  simp only [SR.internalEvent, h.isStrictAnc, h.isAnc, h.lcp, h.beq, h.comparable]

theorem localRecCost (c : Costs) (s a b : Path) :
    SR.localRecCost c (φ s) (φ a) (φ b) = SR.localRecCost c s a b := by
  simp only [SR.localRecCost, h.internalEvent, h.dist, h.isAnc]

end PathEmb

def OTree.mapSp (φ : Path → Path) : OTree → OTree
  | .leaf sp f => .leaf (φ sp) f
  | .node l r => .node (mapSp φ l) (mapSp φ r)

def Sol.mapSp (φ : Path → Path) : Sol → Sol
  | .leaf sp f => .leaf (φ sp) f
  | .node sp f l r => .node (φ sp) f (mapSp φ l) (mapSp φ r)

@[simp] theorem Sol.mapSp_sp (φ : Path → Path) (s : Sol) : (s.mapSp φ).sp = φ s.sp := by
  cases s <;> rfl

@[simp] theorem Sol.mapSp_fam (φ : Path → Path) (s : Sol) : (s.mapSp φ).fam = s.fam := by
  cases s <;> rfl

theorem Sol.mapSp_leftInv {φ ψ : Path → Path} (h : ∀ p, ψ (φ p) = p) (s : Sol) :
    (s.mapSp φ).mapSp ψ = s := by
  induction s with
  | leaf sp f => simp [Sol.mapSp, h]
  | node sp f l r ihl ihr => simp [Sol.mapSp, h, ihl, ihr]

theorem OTree.mapSp_leftInv {φ ψ : Path → Path} (h : ∀ p, ψ (φ p) = p) (o : OTree) :
    (o.mapSp φ).mapSp ψ = o := by
  induction o with
  | leaf sp f => simp [OTree.mapSp, h]
  | node l r ihl ihr => simp [OTree.mapSp, ihl, ihr]

theorem leafPaths_mapSp (φ : Path → Path) (o : OTree) : leafPaths (o.mapSp φ) = leafPaths o := by
  induction o with
  | leaf sp f => rfl
  | node l r ihl ihr => simp [OTree.mapSp, leafPaths, ihl, ihr]

theorem leafSyntenies_mapSp (φ : Path → Path) (o : OTree) :
    leafSyntenies (o.mapSp φ) = leafSyntenies o := by
  rw [← leafPaths_snd, ← leafPaths_snd, leafPaths_mapSp]

theorem families_mapSp (φ : Path → Path) (o : OTree) : families (o.mapSp φ) = families o := by
  simp [families, leafSyntenies_mapSp]

theorem gainsAt_mapSp (φ : Path → Path) (o : OTree) (p : Path) :
    gainsAt (o.mapSp φ) p = gainsAt o p := by
  simp [gainsAt, families_mapSp, leafPaths_mapSp]

theorem allowedContent_mapSp (φ : Path → Path) (o : OTree) (p : Path) :
    Spec.allowedContent (o.mapSp φ) p = Spec.allowedContent o p := by
  simp [Spec.allowedContent, families_mapSp, leafPaths_mapSp]

theorem edgeOk_un_mapSp (φ : Path → Path) (o : OTree) (p : Path) (f fc : List Nat) :
    Spec.edgeOk .unordered (o.mapSp φ) p f fc = Spec.edgeOk .unordered o p f fc := by
  simp [Spec.edgeOk, gainsAt_mapSp]

theorem leafSpecies_mapSp (φ : Path → Path) (o : OTree) :
    leafSpecies (o.mapSp φ) = (leafSpecies o).map φ := by
  induction o with
  | leaf sp f => rfl
  | node l r ihl ihr => simp [OTree.mapSp, leafSpecies, ihl, ihr]

theorem forall_leafSpecies_mapSp {φ : Path → Path} {o : OTree} {P Q : Path → Prop}
    (hS : ∀ q ∈ leafSpecies o, P q) (h : ∀ q, P q → Q (φ q)) :
    ∀ q ∈ leafSpecies (o.mapSp φ), Q q := by
  intro q hq
  rw [leafSpecies_mapSp] at hq
  obtain ⟨r, hr, rfl⟩ := List.mem_map.mp hq
  exact h r (hS r hr)

def sum3 : Option Nat → Option Nat → Option Nat → Option Nat
  | some a, some b, some d => some (a + b + d)
  | _, _, _ => none

/-- `ordLosses` and `unordLosses` are both a local count at every internal node, summed; the
    local count sees the event, `keepLeft`, a state handed down by the parent through `nxt`
    (the node's own mask, in the ordered model), and the three syntenies. -/
def genLosses {σ : Type} (loc : Event → Bool → σ → List Nat → List Nat → List Nat → Option Nat)
    (nxt : σ → List Nat → σ) : σ → Sol → Option Nat
  | _, .leaf _ _ => some 0
  | st, .node s f l r =>
    sum3 (loc (internalEvent s l.sp r.sp) (comparable s l.sp) st f l.fam r.fam)
      (genLosses loc nxt (nxt st l.fam) l) (genLosses loc nxt (nxt st r.fam) r)

theorem ordLosses_eq_gen (rootSyn : List Nat) : ∀ (sol : Sol) (m : Nat),
    ordLosses rootSyn m sol =
      genLosses (fun ev kl m _ lf rf =>
          localOrdLosses ev kl m (maskFromSubseq lf rootSyn) (maskFromSubseq rf rootSyn))
        (fun _ f => maskFromSubseq f rootSyn) m sol := by
  intro sol
  induction sol with
  | leaf s g => intro m; rfl
  | node s g l r ihl ihr =>
    intro m
    simp only [ordLosses, genLosses, ihl, ihr]
    rfl

theorem unordLosses_eq_gen : ∀ (sol : Sol),
    unordLosses sol =
      genLosses (fun ev kl (_ : Unit) f lf rf => localUnordLosses ev kl f lf rf)
        (fun _ _ => ()) () sol := by
  intro sol
  induction sol with
  | leaf s g => rfl
  | node s g l r ihl ihr =>
    simp only [unordLosses, genLosses, ihl, ihr]
    rfl

/-- Everything computed by recursion on the pair (input, solution) is kept by a relabelling of
    the species, in one induction.  The three label tests do not look at the species at all;
    the reconciliation part needs that `φ` keeps the species queries. -/
theorem mapSp_same (φ : Path → Path) (whole : OTree) : ∀ (o : OTree) (sol : Sol),
    (PathEmb φ → (∀ c, recCost c (o.mapSp φ) (sol.mapSp φ) = recCost c o sol) ∧
      Spec.validRec (o.mapSp φ) (sol.mapSp φ) = Spec.validRec o sol) ∧
    plainLabels (o.mapSp φ) (sol.mapSp φ) = plainLabels o sol ∧
    Spec.validOrdLabels (o.mapSp φ) (sol.mapSp φ) = Spec.validOrdLabels o sol ∧
    (∀ p, Spec.validUnLabels (whole.mapSp φ) p (o.mapSp φ) (sol.mapSp φ) =
      Spec.validUnLabels whole p o sol) := by
  intro o
  induction o with
  | leaf sp f =>
    intro sol
    cases sol <;>
      simp +contextual only [OTree.mapSp, Sol.mapSp, recCost, Spec.validRec, plainLabels,
        Spec.validOrdLabels, Spec.validUnLabels, PathEmb.beq, implies_true, and_self]
  | node ol or ihl ihr =>
    intro sol
    cases sol with
    | leaf s g =>
      simp only [OTree.mapSp, Sol.mapSp, recCost, Spec.validRec, plainLabels, Spec.validOrdLabels,
        Spec.validUnLabels, implies_true, and_self]
    | node s g l r =>
      obtain ⟨l1, l2, l3, l4⟩ := ihl l
      obtain ⟨r1, r2, r3, r4⟩ := ihr r
      refine ⟨fun h => ?_, ?_⟩
      · simp only [OTree.mapSp, Sol.mapSp, recCost, Spec.validRec, Sol.mapSp_sp, h.internalEvent,
          h.localRecCost, l1 h, r1 h, implies_true, and_self]
      · simp only [OTree.mapSp, Sol.mapSp, plainLabels, Spec.validOrdLabels, Spec.validUnLabels,
          Sol.mapSp_fam, allowedContent_mapSp, edgeOk_un_mapSp, l2, l3, l4, r2, r3, r4,
          implies_true, and_self]

theorem plainLabels_mapSp (φ : Path → Path) (o : OTree) (sol : Sol) :
    plainLabels (o.mapSp φ) (sol.mapSp φ) = plainLabels o sol :=
  (mapSp_same φ o o sol).2.1

theorem validOrdLabels_mapSp (φ : Path → Path) (o : OTree) (sol : Sol) :
    Spec.validOrdLabels (o.mapSp φ) (sol.mapSp φ) = Spec.validOrdLabels o sol :=
  (mapSp_same φ o o sol).2.2.1

theorem validUnLabels_mapSp (φ : Path → Path) (whole o : OTree) (p : Path) (sol : Sol) :
    Spec.validUnLabels (whole.mapSp φ) p (o.mapSp φ) (sol.mapSp φ) =
      Spec.validUnLabels whole p o sol :=
  (mapSp_same φ whole o sol).2.2.2 p

section Emb

variable {φ : Path → Path} (h : PathEmb φ)
include h

theorem genLosses_mapSp {σ : Type}
    (loc : Event → Bool → σ → List Nat → List Nat → List Nat → Option Nat) (nxt : σ → List Nat → σ) :
    ∀ (sol : Sol) (st : σ), genLosses loc nxt st (sol.mapSp φ) = genLosses loc nxt st sol := by
  intro sol
  induction sol with
  | leaf s g => intro st; rfl
  | node s g l r ihl ihr =>
    intro st
    simp only [Sol.mapSp, genLosses, Sol.mapSp_sp, Sol.mapSp_fam, h.internalEvent, h.comparable,
      ihl, ihr]

theorem ordLosses_mapSp (rootSyn : List Nat) (sol : Sol) (m : Nat) :
    ordLosses rootSyn m (sol.mapSp φ) = ordLosses rootSyn m sol := by
  rw [ordLosses_eq_gen, ordLosses_eq_gen]
  exact genLosses_mapSp h _ _ sol m

theorem unordLosses_mapSp (sol : Sol) : unordLosses (sol.mapSp φ) = unordLosses sol := by
  rw [unordLosses_eq_gen, unordLosses_eq_gen]
  exact genLosses_mapSp h _ _ sol ()

theorem totalCost_mapSp (c : Costs) (mode : LabelMode) (o : OTree) (sol : Sol) :
    totalCost c mode (o.mapSp φ) (sol.mapSp φ) = totalCost c mode o sol := by
  cases mode <;>
    simp only [totalCost, labelingCost, Sol.mapSp_fam, ordLosses_mapSp h, unordLosses_mapSp h,
      ((mapSp_same φ o o sol).1 h).1]

theorem validSol_mapSp (mode : LabelMode) (o : OTree) (sol : Sol) :
    Spec.validSol mode (o.mapSp φ) (sol.mapSp φ) = Spec.validSol mode o sol := by
  cases mode <;>
    simp only [Spec.validSol, ((mapSp_same φ o o sol).1 h).2, validOrdLabels_mapSp,
      validUnLabels_mapSp, families_mapSp, Sol.mapSp_fam]

end Emb

theorem mem_allMappings_node (S : RTree) (ol or : OTree) (s : Path) (g : List Nat) (l r : Sol) :
    Sol.node s g l r ∈ Spec.allMappings S (.node ol or) ↔
      g = [] ∧ s ∈ allSpecies S ∧ l ∈ Spec.allMappings S ol ∧ r ∈ Spec.allMappings S or := by
  simp only [Spec.allMappings, List.mem_flatMap, List.mem_map, Sol.node.injEq]
  exact ⟨fun ⟨_, hl, _, hr, _, hs, e1, e2, e3, e4⟩ => ⟨e2.symm, e1 ▸ hs, e3 ▸ hl, e4 ▸ hr⟩,
    fun ⟨e, hs, hl, hr⟩ => ⟨l, hl, r, hr, s, hs, rfl, e.symm, rfl, rfl⟩⟩

theorem leaf_not_mem_allMappings_node (S : RTree) (ol or : OTree) (s : Path) (g : List Nat) :
    Sol.leaf s g ∉ Spec.allMappings S (.node ol or) := by
  simp [Spec.allMappings]

theorem mem_allMappings_mapSp (φ : Path → Path) (S S' : RTree)
    (hS : ∀ p, S.isNode p = true → S'.isNode (φ p) = true) : ∀ (o : OTree) (sol : Sol),
    sol ∈ Spec.allMappings S o → sol.mapSp φ ∈ Spec.allMappings S' (o.mapSp φ) := by
  intro o
  induction o with
  | leaf sp f =>
    intro sol hs
    simp only [Spec.allMappings, List.mem_singleton] at hs
    subst hs
    simp [Spec.allMappings, OTree.mapSp, Sol.mapSp]
  | node l r ihl ihr =>
    intro sol hs
    cases sol with
    | leaf s g => exact absurd hs (leaf_not_mem_allMappings_node S l r s g)
    | node s g sl sr =>
      rw [mem_allMappings_node] at hs
      simp only [OTree.mapSp, Sol.mapSp, mem_allMappings_node]
      exact ⟨hs.1, (RTree.mem_preorder_iff _ S').mpr (hS s ((RTree.mem_preorder_iff s S).mp hs.2.1)),
        ihl _ hs.2.2.1, ihr _ hs.2.2.2⟩

namespace Path

/-- Rename the children of the node `p` through `σ`: `p ++ k :: q ↦ p ++ σ k :: q`;
    paths that do not pass strictly below `p` are unchanged. -/
def relabelAt (σ : Nat → Nat) : Path → Path → Path
  | [], [] => []
  | [], k :: q => σ k :: q
  | _ :: _, [] => []
  | a :: p, b :: q => if a = b then b :: relabelAt σ p q else b :: q

def swapNat (i j k : Nat) : Nat := if k = i then j else if k = j then i else k

/-- The species relabelling induced by exchanging the children `i` and `j` of the
    species node `p`. -/
def swapAt (p : Path) (i j : Nat) : Path → Path := relabelAt (swapNat i j) p

theorem swapNat_invol (i j k : Nat) : swapNat i j (swapNat i j k) = k := by
  by_cases hi : k = i
  · subst hi
    by_cases hj : j = k <;> simp [swapNat, hj]
  · by_cases hj : k = j
    · subst hj; simp [swapNat, hi]
    · simp [swapNat, hi, hj]

theorem swapNat_inj (i j : Nat) : ∀ a b, swapNat i j a = swapNat i j b → a = b := by
  intro a b e
  have := congrArg (swapNat i j) e
  rwa [swapNat_invol, swapNat_invol] at this

theorem relabelAt_cons_cons (σ : Nat → Nat) (a : Nat) (p : Path) (b : Nat) (q : Path) :
    relabelAt σ (a :: p) (b :: q) = b :: (if a = b then relabelAt σ p q else q) := by
  simp only [relabelAt]
  split <;> rfl

theorem relabelAt_append (σ : Nat → Nat) (p : Path) (k : Nat) (q : Path) :
    relabelAt σ p (p ++ k :: q) = p ++ σ k :: q := by
  induction p with
  | nil => rfl
  | cons a p ih => simp [relabelAt, ih]

theorem relabelAt_of_not_below (σ : Nat → Nat) : ∀ (p q : Path), isStrictAnc p q = false →
    relabelAt σ p q = q := by
  intro p
  induction p with
  | nil =>
    intro q hq
    cases q with
    | nil => rfl
    | cons k q => simp [isStrictAnc, isAnc] at hq
  | cons a p ih =>
    intro q hq
    cases q with
    | nil => rfl
    | cons b q =>
      simp only [relabelAt]
      split
      · rename_i hab
        subst hab
        rw [ih q]
        simpa [isStrictAnc, isAnc] using hq
      · rfl

theorem relabelAt_len (σ : Nat → Nat) : ∀ (p q : Path), (relabelAt σ p q).length = q.length := by
  intro p
  induction p with
  | nil => intro q; cases q <;> simp [relabelAt]
  | cons a p ih =>
    intro q
    cases q with
    | nil => rfl
    | cons b q =>
      simp only [relabelAt]
      split <;> simp [ih]

theorem relabelAt_invol (σ : Nat → Nat) (hσ : ∀ k, σ (σ k) = k) : ∀ (p q : Path),
    relabelAt σ p (relabelAt σ p q) = q := by
  intro p
  induction p with
  | nil => intro q; cases q <;> simp [relabelAt, hσ]
  | cons a p ih =>
    intro q
    cases q with
    | nil => rfl
    | cons b q =>
      by_cases hab : a = b
      · simp [relabelAt, hab, ih]
      · simp [relabelAt, hab]

theorem relabelAt_emb (σ : Nat → Nat) (hσ : ∀ a b, σ a = σ b → a = b) (p : Path) :
    PathEmb (relabelAt σ p) := by
  refine PathEmb.of_levelwise (fun φ => φ = id ∨ ∃ p, φ = relabelAt σ p) ?_ ?_ _ (.inr ⟨p, rfl⟩)
  · rintro _ (rfl | ⟨p, rfl⟩)
    · rfl
    · cases p <;> rfl
  · rintro _ (rfl | ⟨p, rfl⟩)
    · exact ⟨id, fun _ _ e => e, fun _ => ⟨id, .inl rfl, fun _ => rfl⟩⟩
    · cases p with
      | nil => exact ⟨σ, hσ, fun _ => ⟨id, .inl rfl, fun _ => rfl⟩⟩
      | cons a p =>
        refine ⟨id, fun _ _ e => e, fun k => ?_⟩
        by_cases hak : a = k
        · exact ⟨relabelAt σ p, .inr ⟨p, rfl⟩, fun q => by rw [relabelAt_cons_cons, if_pos hak]; rfl⟩
        · exact ⟨id, .inl rfl, fun q => by rw [relabelAt_cons_cons, if_neg hak]; rfl⟩

theorem swapAt_emb (p : Path) (i j : Nat) : PathEmb (swapAt p i j) :=
  relabelAt_emb _ (swapNat_inj i j) p

theorem swapAt_invol (p : Path) (i j : Nat) (q : Path) : swapAt p i j (swapAt p i j q) = q :=
  relabelAt_invol _ (swapNat_invol i j) p q

theorem swapAt_left (p : Path) (i j : Nat) (q : Path) : swapAt p i j (p ++ i :: q) = p ++ j :: q := by
  simp [swapAt, relabelAt_append, swapNat]

theorem swapAt_right (p : Path) (i j : Nat) (q : Path) : swapAt p i j (p ++ j :: q) = p ++ i :: q := by
  simp only [swapAt, relabelAt_append, swapNat]
  split <;> simp_all

end Path

theorem Sol.swapSp_invol (p : Path) (i j : Nat) (s : Sol) :
    (s.mapSp (Path.swapAt p i j)).mapSp (Path.swapAt p i j) = s :=
  Sol.mapSp_leftInv (Path.swapAt_invol p i j) s

/-- Exchange the entries `i` and `j` of a list (nothing if one is out of range). -/
def listSwap {α : Type} (cs : List α) (i j : Nat) : List α :=
  match cs[i]?, cs[j]? with
  | some a, some b => (cs.set i b).set j a
  | _, _ => cs

theorem listSwap_getElem? {α : Type} (cs : List α) (i j : Nat) (hi : i < cs.length)
    (hj : j < cs.length) (k : Nat) : (listSwap cs i j)[Path.swapNat i j k]? = cs[k]? := by
  have e1 : cs[i]? = some cs[i] := List.getElem?_eq_getElem hi
  have e2 : cs[j]? = some cs[j] := List.getElem?_eq_getElem hj
  simp only [listSwap, e1, e2, Path.swapNat]
  by_cases hki : k = i
  · subst hki
    simp only [if_true]
    rw [List.getElem?_set_self (by simpa using hj)]
    exact e1.symm
  · simp only [hki, if_false]
    by_cases hkj : k = j
    · subst hkj
      simp only [if_true]
      by_cases hij : i = k
      · exact absurd hij.symm hki
      · rw [List.getElem?_set_ne (by omega), List.getElem?_set_self hi]
        exact e2.symm
    · simp only [hkj, if_false]
      rw [List.getElem?_set_ne (by omega), List.getElem?_set_ne (by omega)]

theorem listSwap_length {α : Type} (cs : List α) (i j : Nat) : (listSwap cs i j).length = cs.length := by
  unfold listSwap
  split <;> simp

namespace RTree

mutual
  /-- Exchange the child subtrees `i` and `j` of the node at path `p`
      (nothing if `p` is not a node or has fewer children). -/
  def swapAt : RTree → Path → Nat → Nat → RTree
    | .node cs, [], i, j => .node (listSwap cs i j)
    | .node cs, a :: p, i, j => .node (swapAtList cs a p i j)
  def swapAtList : List RTree → Nat → Path → Nat → Nat → List RTree
    | [], _, _, _, _ => []
    | c :: cs, 0, p, i, j => swapAt c p i j :: cs
    | c :: cs, a + 1, p, i, j => c :: swapAtList cs a p i j
end

theorem swapAtList_getElem? : ∀ (cs : List RTree) (a : Nat) (p : Path) (i j k : Nat),
    (swapAtList cs a p i j)[k]? =
      if k = a then (cs[k]?).map (fun c => swapAt c p i j) else cs[k]? := by
  intro cs
  induction cs with
  | nil => intro a p i j k; simp [swapAtList]
  | cons c cs ih =>
    intro a p i j k
    cases a with
    | zero =>
      cases k with
      | zero => simp [swapAtList]
      | succ k => simp [swapAtList]
    | succ a =>
      cases k with
      | zero => simp [swapAtList]
      | succ k => simp [swapAtList, ih]

/-- The arity of the node at `p` in `S` (0 if `p` is not a node). -/
def arityAt (S : RTree) (p : Path) : Nat :=
  match S.sub p with
  | some t => t.children.length
  | none => 0

theorem isNode_swapAt : ∀ (p : Path) (S : RTree) (i j : Nat), i < S.arityAt p → j < S.arityAt p →
    ∀ q, (S.swapAt p i j).isNode (Path.swapAt p i j q) = S.isNode q := by
  intro p
  induction p with
  | nil =>
    intro S i j hi hj q
    cases S with
    | node cs =>
      simp only [arityAt, sub, children] at hi hj
      cases q with
      | nil => simp [Path.swapAt, Path.relabelAt, isNode_nil]
      | cons k q =>
        rw [Bool.eq_iff_iff]
        simp only [swapAt, Path.swapAt, Path.relabelAt, isNode_cons, listSwap_getElem? cs i j hi hj]
  | cons a p ih =>
    intro S i j hi hj q
    cases S with
    | node cs =>
      cases q with
      | nil => simp [Path.swapAt, Path.relabelAt, isNode_nil]
      | cons b q =>
        rw [Bool.eq_iff_iff]
        simp only [swapAt, Path.swapAt, Path.relabelAt]
        by_cases hab : a = b
        · subst hab
          simp only [if_true, isNode_cons, swapAtList_getElem?]
          cases hc : cs[a]? with
          | none => simp
          | some c =>
            have hi' : i < c.arityAt p := by simpa [arityAt, sub, hc] using hi
            have hj' : j < c.arityAt p := by simpa [arityAt, sub, hc] using hj
            have := ih c i j hi' hj' q
            simp only [Path.swapAt] at this
            simp [this]
        · have hba : ¬ b = a := fun e => hab e.symm
          simp only [hab, if_false, isNode_cons, swapAtList_getElem?, hba]

mutual
  theorem isBinary_swapAt : ∀ (S : RTree) (p : Path) (i j : Nat),
      (S.swapAt p i j).isBinary = S.isBinary
    | .node cs, [], i, j => by
      simp only [swapAt]
      match cs with
      | [] => simp [listSwap]
      | [x] => cases i <;> cases j <;> simp [listSwap, isBinary]
      | [x, y] =>
        match i, j with
        | 0, 0 => simp [listSwap]
        | 0, 1 => simp [listSwap, isBinary, Bool.and_comm]
        | 1, 0 => simp [listSwap, isBinary, Bool.and_comm]
        | 1, 1 => simp [listSwap]
        | 0, _ + 2 => simp [listSwap]
        | 1, _ + 2 => simp [listSwap]
        | _ + 2, _ => simp [listSwap]
      | x :: y :: z :: r =>
        have h1 : (listSwap (x :: y :: z :: r) i j).length = r.length + 3 := by
          rw [listSwap_length]; simp
        match hL : listSwap (x :: y :: z :: r) i j with
        | [] => rw [hL] at h1; simp at h1
        | [_] => rw [hL] at h1; simp at h1
        | [_, _] => rw [hL] at h1; simp at h1
        | _ :: _ :: _ :: _ => simp [isBinary]
    | .node cs, a :: p, i, j => by
      simp only [swapAt]
      match cs, a with
      | [], _ => simp [swapAtList]
      | [x], 0 => simp [swapAtList, isBinary]
      | [x], _ + 1 => simp [swapAtList, isBinary]
      | [x, y], 0 => simp [swapAtList, isBinary, isBinary_swapAt x p i j]
      | [x, y], 1 => simp [swapAtList, isBinary, isBinary_swapAt y p i j]
      | [x, y], _ + 2 => simp [swapAtList, isBinary]
      | x :: y :: z :: r, 0 => simp [swapAtList, isBinary]
      | x :: y :: z :: r, 1 => simp [swapAtList, isBinary]
      | x :: y :: z :: r, 2 => simp [swapAtList, isBinary]
      | x :: y :: z :: [], _ + 3 => simp [swapAtList, isBinary]
      | x :: y :: z :: w :: r, _ + 3 => simp [swapAtList, isBinary]
end

end RTree

end SR
