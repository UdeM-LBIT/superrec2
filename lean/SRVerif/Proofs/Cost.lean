/-
  `Cost` (naturals with `∞`): the order, written `a ≼ b` for `Cost.le a b = true`, with `+`, `min`,
  `minList`, `scale` and the embedding `toExt` into `ExtInt`.  Then `dedup` and `rankByCost`
  (minimisers of a cost over a list, each once), the leaf lists, and the evaluator at an internal
  node (`recCost_node`, `totalCost_plain`).  `Spec/EventLog` is imported for `leCosts_refl` alone.
-/
import SRVerif.Model.Solvers
import SRVerif.Model.CostExt
import SRVerif.Spec.EventLog
import SRVerif.Proofs.ListAux

namespace SR

namespace Cost

theorem lt_irrefl (a : Cost) : lt a a = false := by cases a <;> simp [lt]

theorem lt_trans {a b c : Cost} (h1 : lt a b = true) (h2 : lt b c = true) : lt a c = true := by
  cases a <;> cases b <;> cases c <;> simp_all [lt] <;> omega

theorem lt_asymm {a b : Cost} (h : lt a b = true) : lt b a = false := by
  cases h' : lt b a
  · rfl
  · exact absurd (lt_trans h h') (by rw [lt_irrefl]; simp)

theorem trichotomy (a b : Cost) : a = b ∨ lt a b = true ∨ lt b a = true := by
  cases a <;> cases b <;> simp [lt] <;> omega

theorem lt_of_lt_of_not_lt {a b c : Cost} (h1 : lt a b = true) (h2 : lt c b = false) :
    lt a c = true := by
  rcases trichotomy b c with rfl | h | h
  · exact h1
  · exact lt_trans h1 h
  · rw [h] at h2; cases h2

theorem le_refl (a : Cost) : le a a = true := by simp [le, lt_irrefl]

theorem le_trans {a b c : Cost} (h1 : le a b = true) (h2 : le b c = true) : le a c = true := by
  simp only [le, Bool.not_eq_true'] at *
  cases h : lt c a
  · rfl
  · rw [lt_of_lt_of_not_lt h h1] at h2; cases h2

theorem le_antisymm {a b : Cost} (h1 : le a b = true) (h2 : le b a = true) : a = b := by
  simp only [le, Bool.not_eq_true'] at *
  rcases trichotomy a b with h | h | h
  · exact h
  · rw [h] at h2; cases h2
  · rw [h] at h1; cases h1

@[simp] theorem le_inf (a : Cost) : le a inf = true := by cases a <;> simp [le, lt]

/-- Opening `if v.isInf then none else some x`, the shape of a table entry. -/
theorem ite_isInf_eq_some {β : Type} {v : Cost} {x d : β}
    (h : (if v.isInf then none else some x) = some d) : v ≠ inf ∧ x = d := by
  cases v with
  | inf => simp [isInf] at h
  | fin n => exact ⟨by simp, by simpa [isInf] using h⟩

theorem le_of_ne_inf {a b : Cost} (h : b ≠ inf → le a b = true) : le a b = true := by
  cases b with
  | inf => exact le_inf a
  | fin n => exact h (by simp)

theorem min_le_left (a b : Cost) : le (min a b) a = true := by
  unfold min; split
  · rename_i h; simp [le, lt_asymm h]
  · exact le_refl a

theorem min_le_right (a b : Cost) : le (min a b) b = true := by
  unfold min; split
  · exact le_refl b
  · rename_i h; simp [le]; simpa using h

theorem min_eq_or (a b : Cost) : min a b = a ∨ min a b = b := by
  unfold min; split <;> simp

theorem minList_le {l : List Cost} {x : Cost} (h : x ∈ l) : le (minList l) x = true := by
  induction l with
  | nil => cases h
  | cons y ys ih =>
    simp only [minList]
    rcases List.mem_cons.mp h with h' | h'
    · subst h'; exact min_le_left _ _
    · exact le_trans (min_le_right _ _) (ih h')

theorem minList_mem_or_inf (l : List Cost) : minList l = inf ∨ minList l ∈ l := by
  induction l with
  | nil => simp [minList]
  | cons y ys ih =>
    simp only [minList]
    rcases min_eq_or y (minList ys) with h | h
    · right; rw [h]; simp
    · rw [h]; rcases ih with ih | ih
      · left; exact ih
      · right; simp [ih]

theorem add_comm (a b : Cost) : a + b = b + a := by
  show add a b = add b a
  cases a <;> cases b <;> simp [add, Nat.add_comm]

theorem add_assoc (a b c : Cost) : a + b + c = a + (b + c) := by
  show add (add a b) c = add a (add b c)
  cases a <;> cases b <;> cases c <;> simp [add, Nat.add_assoc]

theorem add_le_add {a b c d : Cost} (h1 : le a b = true) (h2 : le c d = true) :
    le (a + c) (b + d) = true := by
  show le (add a c) (add b d) = true
  cases b with
  | inf => exact le_inf _
  | fin y =>
    cases d with
    | inf => exact le_inf _
    | fin w => cases a <;> cases c <;> simp_all [add, le, lt] <;> omega

theorem scale_fin (k a : Nat) : scale k (fin a) = fin (k * a) := rfl
theorem scale_inf (k : Nat) : scale k inf = inf := rfl

theorem scale_isInf (k : Nat) (a : Cost) : (scale k a).isInf = a.isInf := by
  cases a <;> rfl

theorem scale_lt {k : Nat} (hk : 0 < k) (a b : Cost) : lt (scale k a) (scale k b) = lt a b := by
  cases a <;> cases b <;> simp [scale, lt, Nat.mul_lt_mul_left hk]

theorem scale_le {k : Nat} (hk : 0 < k) (a b : Cost) : le (scale k a) (scale k b) = le a b := by
  simp [le, scale_lt hk]

theorem scale_inj {k : Nat} (hk : 0 < k) {a b : Cost} : scale k a = scale k b ↔ a = b := by
  cases a <;> cases b <;> simp [scale, Nat.mul_right_inj (Nat.pos_iff_ne_zero.mp hk)]

theorem scale_min {k : Nat} (hk : 0 < k) (a b : Cost) :
    min (scale k a) (scale k b) = scale k (min a b) := by
  unfold min
  rw [scale_lt hk]
  split <;> rfl

theorem scale_minList {k : Nat} (hk : 0 < k) (l : List Cost) :
    minList (l.map (scale k)) = scale k (minList l) := by
  induction l with
  | nil => rfl
  | cons x xs ih => simp only [List.map_cons, minList, ih, scale_min hk]

theorem scale_mono (k : Nat) {a b : Cost} (h : le a b = true) :
    le (scale k a) (scale k b) = true := by
  cases a <;> cases b <;> simp_all [scale, le, lt]
  exact Nat.mul_le_mul_left k h

theorem scale_add (k : Nat) (a b : Cost) : scale k (a + b) = scale k a + scale k b := by
  show scale k (add a b) = add (scale k a) (scale k b)
  cases a <;> cases b <;> simp [scale, add, Nat.mul_add]

theorem scale_ne_inf (k : Nat) (a : Cost) : scale k a ≠ .inf ↔ a ≠ .inf := by
  cases a <;> simp [scale]

/-- `a ≼ b` : the order of `Cost` as a proposition. -/
abbrev LE (a b : Cost) : Prop := Cost.le a b = true

@[inherit_doc] scoped infix:50 " ≼ " => Cost.LE

theorem add_def (a b : Cost) : a + b = Cost.add a b := rfl

instance : Std.Associative (α := Cost) (· + ·) := ⟨add_assoc⟩
instance : Std.Commutative (α := Cost) (· + ·) := ⟨add_comm⟩

@[simp] theorem fin_add_fin_eq (a b : Nat) : (fin a + fin b : Cost) = fin (a + b) := rfl
@[simp] theorem inf_add (a : Cost) : (inf + a : Cost) = inf := rfl
@[simp] theorem add_inf (a : Cost) : (a + inf : Cost) = inf := by cases a <;> rfl
@[simp] theorem add_zero (a : Cost) : a + fin 0 = a := by cases a <;> rfl
@[simp] theorem zero_add (a : Cost) : fin 0 + a = a := by cases a <;> simp [add_def, add]

@[simp] theorem fin_le_fin (a b : Nat) : (fin a ≼ fin b) ↔ a ≤ b := by
  simp [LE, le, lt]

@[simp] theorem inf_le (a : Cost) : (inf ≼ a) ↔ a = inf := by
  cases a <;> simp [LE, le, lt]

theorem add_eq_fin {a b : Cost} {n : Nat} (h : a + b = fin n) :
    ∃ x y, a = fin x ∧ b = fin y ∧ x + y = n := by
  cases a <;> cases b <;> simp_all [add_def, add]

theorem add_ne_inf {a b : Cost} (h : a + b ≠ inf) : a ≠ inf ∧ b ≠ inf := by
  cases a <;> cases b <;> simp_all

theorem ne_inf_iff {a : Cost} : a ≠ inf ↔ ∃ n, a = fin n := by
  cases a <;> simp

theorem ne_inf_of_le {a b : Cost} (h : a ≼ b) (hb : b ≠ .inf) : a ≠ .inf :=
  fun e => hb ((inf_le _).mp (e ▸ h))

theorem add_ne_inf_of {a b : Cost} (ha : a ≠ .inf) (hb : b ≠ .inf) : a + b ≠ .inf := by
  obtain ⟨x, rfl⟩ := ne_inf_iff.mp ha
  obtain ⟨y, rfl⟩ := ne_inf_iff.mp hb
  simp [fin_add_fin_eq]

theorem isInf_eq_false {a : Cost} : a.isInf = false ↔ a ≠ inf := by
  cases a <;> simp [isInf]

theorem le_of_lt {a b : Cost} (h : lt a b = true) : a ≼ b := by
  cases a <;> cases b <;> simp_all [LE, le, lt] <;> omega

theorem le_of_not_lt {a b : Cost} (h : lt b a = false) : a ≼ b := by
  simp [LE, le, h]

theorem le_add_right (a b : Cost) : a ≼ a + b := by
  cases a <;> cases b <;> simp [add_def, add, LE, le, lt]

theorem le_add_left (a b : Cost) : a ≼ b + a := by
  rw [add_comm]; exact le_add_right a b

theorem le_of_eq {a b : Cost} (h : a = b) : a ≼ b := h ▸ le_refl a

theorem min_le_iff {a b m : Cost} : (m ≼ min a b) ↔ (m ≼ a ∧ m ≼ b) := by
  constructor
  · intro h; exact ⟨le_trans h (min_le_left a b), le_trans h (min_le_right a b)⟩
  · rintro ⟨h1, h2⟩; rcases min_eq_or a b with h | h <;> rw [h] <;> assumption

theorem min_le_min {a b a' b' : Cost} (h1 : a ≼ a') (h2 : b ≼ b') : min a b ≼ min a' b' :=
  min_le_iff.2 ⟨le_trans (min_le_left a b) h1, le_trans (min_le_right a b) h2⟩

theorem eq_of_add_le {a a' b b' e : Cost} {n : Nat} (ha : a ≼ a') (hb : b ≼ b')
    (hfin : e + a' + b' = fin n) (hle : e + a' + b' ≼ e + a + b) : a = a' ∧ b = b' := by
  obtain ⟨m, y', hea', rfl, hm⟩ := add_eq_fin hfin
  obtain ⟨k, x', rfl, rfl, hk⟩ := add_eq_fin hea'
  -- `a`, `b` lie below finite values, so everything is a natural number
  cases a with
  | inf => simp at ha
  | fin x =>
    cases b with
    | inf => simp at hb
    | fin y =>
      simp only [fin_add_fin_eq, fin_le_fin, fin.injEq] at *
      omega

theorem minList_eq {l : List Cost} {m : Cost} (hlb : ∀ x ∈ l, m ≼ x) (hatt : m = inf ∨ m ∈ l) :
    minList l = m := by
  apply le_antisymm
  · rcases hatt with h | h
    · rw [h]; exact le_inf _
    · exact minList_le h
  · rcases minList_mem_or_inf l with h | h
    · rw [h]; exact le_inf _
    · exact hlb _ h

theorem minList_eq_inf_iff {l : List Cost} : minList l = .inf ↔ ∀ x ∈ l, x = .inf := by
  constructor
  · intro h x hx
    have := minList_le hx
    rw [h] at this
    exact (inf_le x).mp this
  · intro h
    rcases minList_mem_or_inf l with h' | h'
    · exact h'
    · exact h _ h'

@[simp] theorem toExt_fin (n : Nat) : (Cost.fin n).toExt = ExtInt.fin (n : Int) := rfl
@[simp] theorem toExt_inf : Cost.inf.toExt = ExtInt.posInf := rfl

theorem toExt_add (a b : Cost) : (a + b).toExt = a.toExt + b.toExt := by
  cases a <;> cases b <;> rfl

theorem toExt_inj {a b : Cost} (h : a.toExt = b.toExt) : a = b := by
  cases a <;> cases b <;> simp_all [toExt] <;> omega

theorem toExt_eq_posInf {a : Cost} : a.toExt = .posInf ↔ a = .inf := by
  cases a <;> simp [toExt]

theorem toExt_eq_fin {a : Cost} {n : Nat} : a.toExt = .fin (n : Int) ↔ a = .fin n := by
  cases a <;> simp [toExt] <;> omega

theorem toExt_ne_negInf (a : Cost) : a.toExt ≠ .negInf := by
  cases a <;> simp [Cost.toExt]

theorem toExt_lt (a b : Cost) : ExtInt.lt a.toExt b.toExt = Cost.lt a b := by
  cases a <;> cases b <;> simp [toExt, ExtInt.lt, Cost.lt]

theorem toExt_isInfinite (a : Cost) : a.toExt.isInfinite = a.isInf := by
  cases a <;> rfl

theorem min_self (a : Cost) : Cost.min a a = a := by
  unfold Cost.min; split <;> rfl

theorem min_fin (p q : Nat) : Cost.min (.fin p) (.fin q) = .fin (Nat.min p q) := by
  unfold Cost.min Cost.lt
  by_cases h : q < p
  · simp [h, Nat.min_def]; omega
  · simp [h, Nat.min_def]

theorem min_add_left (k : Nat) (P Q : Cost) :
    Cost.min (.fin k + P) (.fin k + Q) = .fin k + Cost.min P Q := by
  cases P with
  | inf => cases Q <;> simp [Cost.min, Cost.lt, add_def, Cost.add]
  | fin p =>
    cases Q with
    | inf => simp [Cost.min, Cost.lt, add_def, Cost.add]
    | fin q =>
      rw [fin_add_fin_eq, fin_add_fin_eq, min_fin, min_fin, fin_add_fin_eq]
      congr 1
      simp only [Nat.min_def]
      split <;> split <;> omega

theorem min_add_right (a b z : Cost) : Cost.min a b + z = Cost.min (a + z) (b + z) := by
  cases z with
  | inf => simp only [add_inf, min_self]
  | fin k => rw [add_comm a, add_comm b, min_add_left, add_comm]

end Cost

theorem EventLog.leCosts_refl (c : Costs) : EventLog.leCosts c c :=
  ⟨Nat.le_refl _, Nat.le_refl _, Cost.le_refl _, Nat.le_refl _, Nat.le_refl _⟩

theorem mem_dedup {β : Type} [DecidableEq β] {l : List β} {y : β} : y ∈ dedup l ↔ y ∈ l :=
  List.mem_foldl_addNew_nil

theorem nodup_dedup {β : Type} [DecidableEq β] (l : List β) : (dedup l).Nodup :=
  List.nodup_foldl_addNew_nil

theorem dedup_of_nodup {β : Type} [DecidableEq β] (l : List β) (h : l.Nodup) : dedup l = l :=
  List.foldl_addNew_nil_eq_self_iff.mpr h

/-- The test `len(l) == len(set(l))` of the Python source. -/
theorem length_dedup_iff_nodup {β : Type} [DecidableEq β] (l : List β) :
    l.length = (dedup l).length ↔ l.Nodup :=
  eq_comm.trans List.length_foldl_addNew_nil_eq_iff

theorem mem_dedup_filter_val {τ : Type} [DecidableEq τ] {cs : List (Cost × τ)} {b : Cost} {w : τ} :
    w ∈ dedup ((cs.filter fun p => p.1 = b).map (·.2)) ↔ (b, w) ∈ cs := by
  simp only [mem_dedup, List.mem_map, List.mem_filter, decide_eq_true_eq]
  constructor
  · rintro ⟨⟨v, w'⟩, ⟨hp, rfl⟩, rfl⟩; exact hp
  · intro h; exact ⟨(b, w), ⟨h, rfl⟩, rfl⟩

section

variable {α : Type} [DecidableEq α] (cost : α → Cost) (l : List α)

theorem mem_dedup_filter_minList (x : α) :
    x ∈ dedup (l.filter fun y => cost y = Cost.minList (l.map cost)) ↔
      x ∈ l ∧ ∀ y ∈ l, Cost.le (cost x) (cost y) = true := by
  simp only [mem_dedup, List.mem_filter, decide_eq_true_eq]
  constructor
  · rintro ⟨hx, hbest⟩
    refine ⟨hx, fun y hy => ?_⟩
    rw [hbest]
    exact Cost.minList_le (List.mem_map.mpr ⟨y, hy, rfl⟩)
  · rintro ⟨hx, hmin⟩
    refine ⟨hx, (Cost.minList_eq (fun v hv => ?_) (.inr (List.mem_map.mpr ⟨x, hx, rfl⟩))).symm⟩
    obtain ⟨y, hy, rfl⟩ := List.mem_map.mp hv
    exact hmin y hy

theorem dedup_filter_minList_ne_nil (h : l ≠ []) :
    dedup (l.filter fun y => cost y = Cost.minList (l.map cost)) ≠ [] := by
  obtain ⟨x, hx⟩ := List.exists_mem_of_ne_nil l h
  -- the minimum is the cost of a member, or `inf` and then the cost of every member
  have hz : ∃ z ∈ l, cost z = Cost.minList (l.map cost) := by
    rcases Cost.minList_mem_or_inf (l.map cost) with hinf | hmem
    · have hle : Cost.le (Cost.minList (l.map cost)) (cost x) = true :=
        Cost.minList_le (List.mem_map.mpr ⟨x, hx, rfl⟩)
      rw [hinf] at hle ⊢
      exact ⟨x, hx, Cost.le_antisymm (Cost.le_inf _) hle⟩
    · obtain ⟨z, hz, e⟩ := List.mem_map.mp hmem
      exact ⟨z, hz, e⟩
  obtain ⟨z, hz, e⟩ := hz
  intro hnil
  have hmem : z ∈ dedup (l.filter fun y => cost y = Cost.minList (l.map cost)) :=
    mem_dedup.mpr (List.mem_filter.mpr ⟨hz, decide_eq_true e⟩)
  rw [hnil] at hmem
  cases hmem

end

/-- What the result entry of every solver keeps: exactly the offered outputs
    whose evaluated cost is the minimum over all offered outputs. -/
theorem mem_rankByCost (c : Costs) (mode : LabelMode) (o : OTree) (sols : List Sol) (s : Sol) :
    s ∈ rankByCost c mode o sols ↔
      s ∈ sols ∧ ∀ s' ∈ sols, Cost.le (totalCost c mode o s) (totalCost c mode o s') = true :=
  mem_dedup_filter_minList (totalCost c mode o) sols s

theorem rankByCost_ne_nil (c : Costs) (mode : LabelMode) (o : OTree) {cands : List Sol}
    (h : cands ≠ []) : rankByCost c mode o cands ≠ [] :=
  dedup_filter_minList_ne_nil (totalCost c mode o) cands h

theorem rankByCost_eq_nil_iff (c : Costs) (mode : LabelMode) (o : OTree) (cands : List Sol) :
    rankByCost c mode o cands = [] ↔ cands = [] := by
  constructor
  · intro h
    cases cands with
    | nil => rfl
    | cons x xs => exact absurd h (rankByCost_ne_nil c mode o (List.cons_ne_nil x xs))
  · rintro rfl; rfl

theorem nodup_rankByCost (c : Costs) (mode : LabelMode) (o : OTree) (sols : List Sol) :
    (rankByCost c mode o sols).Nodup := nodup_dedup _

theorem leafPaths_snd (o : OTree) : (leafPaths o).map (·.2) = leafSyntenies o := by
  induction o with
  | leaf sp f => rfl
  | node l r ihl ihr => simp [leafPaths, leafSyntenies, ← ihl, ← ihr, Function.comp_def]

/-- The evaluator at an internal node; an invalid event makes the local cost `∞`, which absorbs
    the children's costs. -/
theorem recCost_node (c : Costs) (ol or : OTree) (s : Path) (f : List Nat) (l r : Sol) :
    recCost c (.node ol or) (.node s f l r) =
      localRecCost c s l.sp r.sp + (recCost c ol l + recCost c or r) := by
  simp only [recCost]
  cases h : internalEvent s l.sp r.sp <;> simp only [localRecCost, h]
  rfl

theorem recCost_node_ne_inf {c : Costs} {ol or : OTree} {s : Path} {f : List Nat} {l r : Sol}
    (h : recCost c (.node ol or) (.node s f l r) ≠ .inf) :
    localRecCost c s l.sp r.sp ≠ .inf ∧ recCost c ol l ≠ .inf ∧ recCost c or r ≠ .inf := by
  rw [recCost_node] at h
  revert h
  cases localRecCost c s l.sp r.sp <;> cases recCost c ol l <;> cases recCost c or r <;> simp <;> rfl

theorem totalCost_plain (c : Costs) (o : OTree) (sol : Sol) :
    totalCost c .plain o sol = recCost c o sol := by
  simp only [totalCost, labelingCost]
  cases recCost c o sol <;> rfl

end SR
