/-
  What the base variants are to the others.  They only restrict the species allowed at the
  internal nodes to the LCA image: the extended annotation simulates the base one along the
  identity (`sim_annOrd_ext`, `sim_annUn_ext`), so every labelling admissible for a base variant
  is admissible for the extended one with the same generic cost; and the one plain labelling
  they leave, the LCA mapping, costs what the LCA reconciliation costs (`labCost_annP_lca`).
-/
import SRVerif.Proofs.C10Sim
import SRVerif.Proofs.LcaMapOpt
import SRVerif.Proofs.UnContentDecode

namespace SR.C10

open Cost Path

theorem labCost_annP_lca (c : Costs) (S : RTree) (o : OTree)
    (hS : ∀ p ∈ leafSpecies o, S.isNode p = true) :
    labCost thlAlg c (annP (fun o' => [(lcaSol o').sp]) o) (toLSol (lcaSol o)) =
      recCost c o (lcaSol o) ∧ recCost c o (lcaSol o) ≠ .inf := by
  obtain ⟨admT, eT⟩ := adm_toLSol S o (lcaSol o) (lcaSol_mem_allMappings S o hS)
  obtain ⟨n, hn⟩ := totalCost_lcaSol_fin c o
  rw [totalCost_plain] at hn
  rw [labCost_annP c _ (fun _ => allSpecies S), ← annPlain_eq, labCost_thl c S o _ admT, eT, hn]
  exact ⟨rfl, by simp⟩

theorem sim_annOrd_ext (c : Costs) (S : RTree) (order : List Nat) (o : OTree)
    (hS : ∀ p ∈ leafSpecies o, S.isNode p = true) : ∀ isRoot,
    Sim (ordAlg c) (ordAlg c) id (fun _ => True) (annOrd S true order isRoot o)
      (annOrd S false order isRoot o) := by
  induction o with
  | leaf sp f => intro isRoot; exact .leaf _ _ sp rfl
  | node l r ihl ihr =>
    intro isRoot
    refine .node ?_ (fun x hx _ => hx) (fun _ _ _ _ => ⟨rfl, rfl⟩) (fun _ _ _ _ => ⟨rfl, rfl⟩)
      (ihl (fun q hq => hS q (by simp [leafSpecies, hq])) false)
      (ihr (fun q hq => hS q (by simp [leafSpecies, hq])) false)
    intro s hs
    obtain rfl := List.mem_singleton.mp hs
    exact lcaSol_sp_mem_allSpecies S (.node l r) hS

theorem annUn_data (S : RTree) (b b' : Bool) (whole o : OTree) :
    ∀ p, (annUn S b whole p o).data.lcaSet = (annUn S b' whole p o).data.lcaSet ∧
      (annUn S b whole p o).data.gain = (annUn S b' whole p o).data.gain := by
  induction o with
  | leaf sp f => intro p; exact ⟨rfl, rfl⟩
  | node l r ihl ihr =>
    intro p
    simp only [annUn, ATree.data_node]
    rw [(ihl (p ++ [0])).1, (ihr (p ++ [1])).1, (ihl (p ++ [0])).2, (ihr (p ++ [1])).2]
    exact ⟨rfl, trivial⟩

def unNodeAnn (S : RTree) (base : Bool) (whole : OTree) (p : Path) (l r : OTree) : UnAnn :=
  (annUn S base whole p (.node l r)).data

theorem unNodeAnn_allowed (S : RTree) (base : Bool) (whole : OTree) (p : Path) (l r : OTree) :
    (unNodeAnn S base whole p l r).allowed =
      if base then [(lcaSol (.node l r)).sp] else (allSpecies S).reverse := rfl

theorem sim_annUn_ext (c : Costs) (S : RTree) (whole o : OTree)
    (hS : ∀ p ∈ leafSpecies o, S.isNode p = true) : ∀ p,
    Sim (unAlg c) (unAlg c) id (fun _ => True) (annUn S true whole p o)
      (annUn S false whole p o) := by
  induction o with
  | leaf sp f => intro p; exact .leaf _ _ sp rfl
  | node l r ihl ihr =>
    intro p
    have d := (annUn_data S true false whole (.node l r) p).1
    rw [annUn_node, annUn_node]
    refine .node ?_ (fun x hx _ => hx)
      (fun x y _ _ => unAlg_congr c d.symm (annUn_data S true false whole l _).1.symm x y)
      (fun x y _ _ => unAlg_congr c d.symm (annUn_data S true false whole r _).1.symm x y)
      (ihl (fun q hq => hS q (by simp [leafSpecies, hq])) _)
      (ihr (fun q hq => hS q (by simp [leafSpecies, hq])) _)
    intro s hs
    obtain rfl := List.mem_singleton.mp hs
    exact lcaSol_sp_mem_allSpecies S (.node l r) hS

theorem unSol_base (S : RTree) (b b' : Bool) (whole o : OTree) :
    ∀ (p : Path) (anc : List Nat) (ls : LSol Kind),
      unSol (annUn S b whole p o) anc ls = unSol (annUn S b' whole p o) anc ls := by
  induction o with
  | leaf sp f => intro p anc ls; cases ls <;> rfl
  | node l r ihl ihr =>
    intro p anc ls
    have dl := annUn_data S b b' whole l (p ++ [0])
    have dr := annUn_data S b b' whole r (p ++ [1])
    cases ls with
    | leaf s k => simp only [annUn, unSol, dl.1, dl.2, dr.1, dr.2]
    | node s k x y =>
      simp only [annUn, unSol, dl.1, dl.2, dr.1, dr.2]
      rw [ihl, ihr]

end SR.C10
