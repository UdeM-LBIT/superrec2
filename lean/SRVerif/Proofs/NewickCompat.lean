/-
  C11 (Newick codec) — link with the hypotheses of `Properties/C11.lean`:
  `NT.SafeNames` (every name and colour a non-empty word over `[A-Za-z0-9_.-]`)
  implies `safeTree`, hence the model codec satisfies `NewickLaw`.
  Two alphabets with near-identical names: `NT.safeChar` / `NT.safeStr` (`Model/Serialize`) is
  that word alphabet, "word" in the names below; `Newick.safeChars` (`Model/Newick`) only excludes
  the eleven characters of `illegal` and is much larger.
-/
import SRVerif.Proofs.NewickTop
import SRVerif.Proofs.SerializeClasses

namespace SR.Newick

open SR.Ser

theorem safeChar_range {c : Char} (h : NT.safeChar c = true) :
    (48 ≤ c.toNat ∧ c.toNat ≤ 57) ∨ (65 ≤ c.toNat ∧ c.toNat ≤ 90) ∨ (97 ≤ c.toNat ∧ c.toNat ≤ 122)
      ∨ c.toNat = 95 ∨ c.toNat = 46 ∨ c.toNat = 45 := by
  simp only [NT.safeChar, Char.isAlphanum, Char.isAlpha, Char.isUpper, Char.isLower, Char.isDigit,
    Bool.or_eq_true, Bool.and_eq_true, decide_eq_true_eq, beq_iff_eq] at h
  rcases h with ((((h | h) | h) | h) | h) | h
  · right; left
    exact ⟨UInt32.le_iff_toNat_le.1 h.1, UInt32.le_iff_toNat_le.1 h.2⟩
  · right; right; left
    exact ⟨UInt32.le_iff_toNat_le.1 h.1, UInt32.le_iff_toNat_le.1 h.2⟩
  · left
    exact ⟨UInt32.le_iff_toNat_le.1 h.1, UInt32.le_iff_toNat_le.1 h.2⟩
  · right; right; right; left; subst h; decide
  · right; right; right; right; left; subst h; decide
  · right; right; right; right; right; subst h; decide

theorem wordChar_legal {c : Char} (h : NT.safeChar c = true) : illegal c = false := by
  cases hi : illegal c with
  | false => rfl
  | true =>
    simp only [illegal, Bool.or_eq_true, beq_iff_eq] at hi
    rcases hi with (((((((((rfl | rfl) | rfl) | rfl) | rfl) | rfl) | rfl) | rfl) | rfl) | rfl) | rfl
    all_goals exact absurd h (by decide)

theorem wordChar_nonspace {c : Char} (h : NT.safeChar c = true) : isSpace c = false := by
  have hr : 45 ≤ c.toNat ∧ c.toNat ≤ 122 := by
    have := safeChar_range h
    omega
  simp only [isSpace, Bool.or_eq_false_iff, Bool.and_eq_false_iff, decide_eq_false_iff_not,
    beq_eq_false_iff_ne, ne_eq]
  omega

theorem safeChars_of_word {s : Chars} (h : s.all NT.safeChar = true) : safeChars s = true := by
  simp only [safeChars, List.all_eq_true, Bool.not_eq_true'] at h ⊢
  exact fun c hc => wordChar_legal (h c hc)

theorem safeName_of_safeStr {n : String} (h : NT.safeStr n = true) : safeName n = true := by
  simp only [NT.safeStr, Bool.and_eq_true, Bool.not_eq_true'] at h
  have hall := h.2
  simp only [safeName, Bool.and_eq_true]
  refine ⟨safeChars_of_word hall, ?_⟩
  rw [List.all_eq_true] at hall
  cases hl : n.toList with
  | nil => simp [hl] at h
  | cons a m =>
    have ha : isSpace a = false := wordChar_nonspace (hall a (by simp [hl]))
    have hz : isSpace ((a :: m).getLast (by simp)) = false :=
      wordChar_nonspace (hall _ (by rw [hl]; exact List.getLast_mem _))
    simp [edgeOk, List.getLast?_eq_some_getLast, ha, hz]

theorem safeValue_of_safeStr {v : String} (h : NT.safeStr v = true) : safeValue v = true := by
  simp only [NT.safeStr, Bool.and_eq_true] at h
  exact safeChars_of_word h.2

/-- The hypothesis of `NT.SafeNames` on one node. -/
def WordNode (s : NT) : Prop :=
  NT.safeStr s.name = true ∧ ∀ c, s.color = some c → NT.safeStr c = true

mutual
  theorem safeTree_of_sub : ∀ (t : NT), (∀ p s, t.sub p = some s → WordNode s) → safeTree t = true
    | .node n c ks, h => by
      have hroot := h [] (.node n c ks) rfl
      simp only [safeTree, Bool.and_eq_true]
      refine ⟨⟨safeName_of_safeStr hroot.1, ?_⟩, safeTrees_of_sub ks ?_⟩
      · cases c with
        | none => rfl
        | some v => exact safeValue_of_safeStr (hroot.2 v rfl)
      · intro k hk p s hs
        obtain ⟨i, hi⟩ := List.getElem?_of_mem hk
        apply h (i :: p) s
        simp [NT.sub, NT.children, hi, hs]
  theorem safeTrees_of_sub : ∀ (ks : List NT), (∀ k ∈ ks, ∀ p s, k.sub p = some s → WordNode s) →
      safeTrees ks = true
    | [], _ => rfl
    | k :: ks, h => by
      simp only [safeTrees, Bool.and_eq_true]
      exact ⟨safeTree_of_sub k (h k (by simp)), safeTrees_of_sub ks (fun k' hk' => h k' (by simp [hk']))⟩
end

theorem safeTree_of_SafeNames {t : NT} (h : t.SafeNames) : safeTree t = true := by
  apply safeTree_of_sub
  intro p s hs
  exact h (p, s) ((NT.mem_pre t p s).2 hs)

theorem newickLaw : NewickLaw Newick.write (fun s => (Newick.readNT s).toOption) := by
  intro t _ hs
  simp [readNT_write t (safeTree_of_SafeNames hs), Except.toOption]

end SR.Newick
