/-
  Helper lemmas for `Model/CliGlue.lean`: the shunting-yard parser on fully
  parenthesised token strings (`showT`: an expression tree written as such a string),
  the value algebra, `dump_results` as lines (`termLines`: the newline-terminated
  lines of a text), `read_input` from the document.  `showT` and `termLines` occur in
  the statements of `Properties/C12Cli.lean`.
-/
import SRVerif.Model.CliGlue

namespace SR.Cli

open SR.Ser

def BinOp.tok : BinOp → Tok
  | .add => .plus
  | .sub => .minus
  | .mul => .star
  | .fdiv => .fdiv

/-- The fully parenthesised token string of an expression tree:
    atoms as such, `-(e)`, `+(e)`, `((a) op (b))`. -/
def showT : CExpr → List Tok
  | .lit n => [.int n]
  | .inf => [.inf]
  | .name s => [.name s]
  | .neg e => .minus :: .lpar :: (showT e ++ [.rpar])
  | .pos e => .plus :: .lpar :: (showT e ++ [.rpar])
  | .bin o a b => .lpar :: .lpar :: (showT a ++ .rpar :: o.tok :: .lpar :: (showT b ++ [.rpar, .rpar]))

/-- A pending unary sign is applied by whatever comes next: with an operator expected, every
    action of the loop starts by reducing the signs on top of the stack. -/
theorem pending_neg (ts : List Tok) (e : CExpr) (out : List CExpr) (ops : List SOp) :
    parseGo ts (e :: out) (.neg :: ops) false = parseGo ts (.neg e :: out) ops false := by
  cases ts with
  | nil => rfl
  | cons t ts => cases t <;> rfl

theorem pending_pos (ts : List Tok) (e : CExpr) (out : List CExpr) (ops : List SOp) :
    parseGo ts (e :: out) (.pos :: ops) false = parseGo ts (.pos e :: out) ops false := by
  cases ts with
  | nil => rfl
  | cons t ts => cases t <;> rfl

theorem parse_showT (e : CExpr) : ∀ (ts : List Tok) (out : List CExpr) (ops : List SOp),
    parseGo (showT e ++ ts) out ops true = parseGo ts (e :: out) ops false := by
  induction e with
  | lit n => intro ts out ops; rfl
  | inf => intro ts out ops; rfl
  | name s => intro ts out ops; rfl
  | neg e ih =>
    intro ts out ops
    simp only [showT, List.cons_append, List.append_assoc, List.nil_append, parseGo, ih, popToParen]
    exact pending_neg ts e out ops
  | pos e ih =>
    intro ts out ops
    simp only [showT, List.cons_append, List.append_assoc, List.nil_append, parseGo, ih, popToParen]
    exact pending_pos ts e out ops
  | bin o a b iha ihb =>
    intro ts out ops
    simp only [showT, List.cons_append, List.append_assoc, List.nil_append, parseGo, iha,
      popToParen]
    cases o <;>
      simp only [BinOp.tok, parseGo, pushBin, popWhile, Option.map, ihb, popToParen, applyOp,
        Option.bind]

theorem parseGo_showT (e : CExpr) : parseGo (showT e) [] [] true = .ok e := by
  have := parse_showT e [] [] []
  simp only [List.append_nil] at this
  rw [this]
  simp [parseGo, popAll]

theorem toCost_eq_some {a : Val} {x : Cost} (h : a.toCost = some x) :
    (∃ n : Int, 0 ≤ n ∧ a = .int n ∧ x = .fin n.toNat) ∨ (a = .pinf ∧ x = .inf) := by
  cases a with
  | int n =>
    by_cases hn : 0 ≤ n
    · simp only [Val.toCost, hn, if_true, Option.some.injEq] at h
      exact .inl ⟨n, hn, rfl, h.symm⟩
    · simp [Val.toCost, hn] at h
  | pinf =>
    simp only [Val.toCost, Option.some.injEq] at h
    exact .inr ⟨rfl, h.symm⟩
  | ninf => cases h
  | nan => cases h

theorem toCost_add {a b : Val} {x y : Cost} (ha : a.toCost = some x) (hb : b.toCost = some y) :
    (a.add b).toCost = some (x + y) := by
  rcases toCost_eq_some ha with ⟨m, hm, rfl, rfl⟩ | ⟨rfl, rfl⟩
  · rcases toCost_eq_some hb with ⟨n, hn, rfl, rfl⟩ | ⟨rfl, rfl⟩
    · show (if 0 ≤ m + n then some (Cost.fin (m + n).toNat) else none)
        = some (Cost.fin (m.toNat + n.toNat))
      rw [if_pos (Int.add_nonneg hm hn), Int.toNat_add hm hn]
    · rfl
  · rcases toCost_eq_some hb with ⟨n, hn, rfl, rfl⟩ | ⟨rfl, rfl⟩
    · rfl
    · rfl

/-- Integer arithmetic is Python's: `//` rounds towards minus infinity. -/
theorem fdiv_int (a b : Int) (hb : b ≠ 0) :
    Val.fdiv (.int a) (.int b) = .val (.int (Int.fdiv a b)) := by
  cases b with
  | ofNat n =>
    cases n with
    | zero => exact absurd rfl hb
    | succ n => rfl
  | negSucc n => rfl

/-- Newline-terminated lines of a text. -/
def linesAux : List Char → List Char → List (List Char)
  | [], _ => []
  | c :: cs, acc => if c = '\n' then acc.reverse :: linesAux cs [] else linesAux cs (c :: acc)

def termLines (s : List Char) : List (List Char) := linesAux s []

theorem linesAux_line (l rest acc : List Char) (h : '\n' ∉ l) :
    linesAux (l ++ '\n' :: rest) acc = (acc.reverse ++ l) :: linesAux rest [] := by
  induction l generalizing acc with
  | nil => simp [linesAux]
  | cons c l ih =>
    have hc : c ≠ '\n' := fun e => h (by simp [e])
    have hl : '\n' ∉ l := fun e => h (by simp [e])
    simp only [List.cons_append, linesAux, hc, if_false]
    rw [ih _ hl]
    simp

theorem termLines_flatten (ls : List (List Char)) (h : ∀ l ∈ ls, '\n' ∉ l) :
    termLines (ls.map (fun l => l ++ ['\n'])).flatten = ls := by
  induction ls with
  | nil => simp [termLines, linesAux]
  | cons l ls ih =>
    have h1 := h l (by simp)
    have h2 : ∀ l' ∈ ls, '\n' ∉ l' := fun l' hl => h l' (by simp [hl])
    simp only [List.map_cons, List.flatten_cons, termLines, List.append_assoc, List.singleton_append]
    rw [linesAux_line l _ [] h1]
    simp only [List.reverse_nil, List.nil_append, List.cons.injEq, true_and]
    exact ih h2

theorem dumpResults_toList {ρ : Type} (enc : ρ → String) (rs : List ρ) :
    (dumpResults enc rs).toList = (rs.map (fun r => (enc r).toList ++ ['\n'])).flatten := by
  rw [dumpResults, String.toList_join, List.flatMap_def, List.map_map]
  simp [Function.comp_def, String.toList_append]

theorem minCostText_head (c : Cost) : (minCostText c).toList.head? = some 'M' := by
  rw [minCostText, String.toList_append]
  rfl

theorem warnText_head (a : String) : (warnText a).toList.head? = some 'W' := by
  rw [warnText, String.toList_append, String.toList_append]
  rfl

theorem errorText_head (a : String) : (errorText a).toList.head? = some 'E' := by
  rw [errorText, String.toList_append, String.toList_append]
  rfl

/-- The cost line is told from the two other messages by its first character. -/
theorem minCostText_ne_warnText (c : Cost) (a : String) : minCostText c ≠ warnText a := by
  intro h
  have := minCostText_head c
  rw [h, warnText_head] at this
  cases this

theorem minCostText_ne_errorText (c : Cost) (a : String) : minCostText c ≠ errorText a := by
  intro h
  have := minCostText_head c
  rw [h, errorText_head] at this
  cases this

theorem bind_ok {ε α β : Type} {x : Except ε α} {f : α → Except ε β} {b : β}
    (h : x >>= f = .ok b) : ∃ a, x = .ok a ∧ f a = .ok b := by
  cases x with
  | error e => cases h
  | ok a => exact ⟨a, rfl, h⟩

theorem liftSer_ok {α : Type} {x : Except Err α} {a : α} (h : liftSer x = .ok a) : x = .ok a := by
  cases x with
  | ok b => simp [liftSer] at h; rw [h]
  | error e => simp [liftSer] at h

theorem readTree_ok {read : String → Option NT} {s : String} {t : NT}
    (h : readTree read s = .ok t) : read s = some t := by
  unfold readTree at h
  cases hr : read s with
  | none => simp [hr] at h
  | some t' => simp [hr] at h; rw [h]

theorem docStr_ok {doc : List (String × JV)} {k s : String} (h : docStr doc k = .ok s) :
    doc.lookup k = some (.str s) := by
  unfold docStr at h
  cases hl : doc.lookup k with
  | none => simp [hl] at h
  | some v =>
    cases v <;> simp [hl, JV.asStr] at h
    rw [h]

theorem docStr_missing {doc : List (String × JV)} {k : String} (h : doc.lookup k = none) :
    docStr doc k = .error (.ser .keyError) := by
  simp [docStr, h]

theorem docOpt_ok {α : Type} {doc : List (String × JV)} {k : String} {conv : JV → Option α}
    {r : Option α} (h : docOpt doc k conv = .ok r) :
    (r = none ↔ doc.lookup k = none) ∧ ∀ v, doc.lookup k = some v → conv v = r := by
  unfold docOpt at h
  cases hl : doc.lookup k with
  | none => simp [hl] at h; subst h; simp
  | some v =>
    cases hc : conv v with
    | none => simp [hl, hc] at h
    | some a =>
      simp [hl, hc] at h
      subst h
      simp [hc]

theorem docToDict_ok {read : String → Option NT} {doc : List (String × JV)} {d : InputDict}
    (h : docToDict read doc = .ok d) :
    doc.lookup "object_tree" = some (.str d.object_tree) ∧ (read d.object_tree).isSome ∧
    doc.lookup "species_tree" = some (.str d.species_tree) ∧ (read d.species_tree).isSome ∧
    d.costs = none ∧
    (d.leaf_object_species = none ↔ doc.lookup "leaf_object_species" = none) ∧
    (∀ v, doc.lookup "leaf_object_species" = some v → v.asStrMap = d.leaf_object_species) ∧
    (d.leaf_syntenies = none ↔ doc.lookup "leaf_syntenies" = none) ∧
    (∀ v, doc.lookup "leaf_syntenies" = some v → v.asSynMap = d.leaf_syntenies) := by
  unfold docToDict at h
  obtain ⟨ots, h1, h⟩ := bind_ok h
  obtain ⟨ot, h2, h⟩ := bind_ok h
  obtain ⟨sts, h3, h⟩ := bind_ok h
  obtain ⟨st, h4, h⟩ := bind_ok h
  obtain ⟨los, h5, h⟩ := bind_ok h
  obtain ⟨ls, h6, h⟩ := bind_ok h
  cases h
  exact ⟨docStr_ok h1, by rw [readTree_ok (liftSer_ok h2)]; rfl, docStr_ok h3,
    by rw [readTree_ok (liftSer_ok h4)]; rfl, rfl, (docOpt_ok h5).1, (docOpt_ok h5).2,
    (docOpt_ok h6).1, (docOpt_ok h6).2⟩

theorem RecInput.fromDict_ok {read : String → Option NT} {d : InputDict} {x : RecInput}
    (hc : d.costs = none) (h : RecInput.fromDict read d = .ok x) :
    read d.object_tree = some x.objectTree ∧ read d.species_tree = some x.speciesTree ∧
    x.costs = defaultCost ∧
    (d.leaf_object_species = none → x.leafObjectSpecies = getSpeciesMapping x.objectTree x.speciesTree) ∧
    (∀ l, d.leaf_object_species = some l →
      parseTreeMapping x.objectTree x.speciesTree l = .ok x.leafObjectSpecies) := by
  unfold RecInput.fromDict at h
  rw [hc] at h
  obtain ⟨ot, h1, h⟩ := bind_ok h
  obtain ⟨st, h2, h⟩ := bind_ok h
  cases hl : d.leaf_object_species with
  | none =>
    rw [hl] at h
    cases h
    exact ⟨readTree_ok h1, readTree_ok h2, rfl, fun _ => rfl, nofun⟩
  | some l =>
    rw [hl] at h
    obtain ⟨los, h3, h⟩ := bind_ok h
    cases h
    refine ⟨readTree_ok h1, readTree_ok h2, rfl, nofun, fun l' hl' => ?_⟩
    cases hl'
    exact h3

theorem readInput_ok {read : String → Option NT} {d : InputDict} {argCosts : CostValues}
    {inp : AnyInput} (h : readInput read d argCosts = .ok inp) :
    ∃ ot st, read d.object_tree = some ot ∧ read d.species_tree = some st ∧
      inp.base.objectTree = labelTree "O" ot ∧ inp.base.speciesTree = labelTree "S" st ∧
      inp.base.costs = Dict.ofList argCosts ∧
      (AnyInput.kind inp = InputKind.super ↔ d.leaf_syntenies ≠ none) ∧
      (d.leaf_object_species = none → inp.base.leafObjectSpecies = getSpeciesMapping ot st) ∧
      (∀ l, d.leaf_object_species = some l →
        parseTreeMapping ot st l = .ok inp.base.leafObjectSpecies) ∧
      (∀ l, d.leaf_syntenies = some l → ∃ i, inp = .super i ∧
        parseSynMapping ot l = .ok i.leafSyntenies) := by
  unfold readInput at h
  cases hs : d.leaf_syntenies with
  | none =>
    rw [hs] at h
    obtain ⟨x, h1, h⟩ := bind_ok h
    cases h
    obtain ⟨a, b, _, c, e⟩ := RecInput.fromDict_ok rfl h1
    exact ⟨x.objectTree, x.speciesTree, a, b, rfl, rfl, rfl,
      by simp [labelInternalAny, AnyInput.kind], c, e, nofun⟩
  | some l =>
    rw [hs] at h
    obtain ⟨i, h1, h⟩ := bind_ok h
    cases h
    unfold SRecInput.fromDict at h1
    obtain ⟨x, h2, h1⟩ := bind_ok h1
    obtain ⟨m, h3, h1⟩ := bind_ok h1
    cases h1
    obtain ⟨a, b, _, c, e⟩ := RecInput.fromDict_ok rfl h2
    refine ⟨x.objectTree, x.speciesTree, a, b, rfl, rfl, rfl,
      by simp [labelInternalAny, AnyInput.kind], c, e, fun l' hl' => ?_⟩
    cases hl'
    exact ⟨_, rfl, h3⟩

end SR.Cli
