/-
  `toposort_all` / `_toposort_all_bt` as generated (`Generated/TopoPy.lean`), for EVERY iteration
  order of the Python sets `starts` / `next_starts`: the generated functions take that order as the
  parameter `ord_` (applied to the elements in insertion order), the hand-written model fixes the
  list order, so the two are not equal as lists.  The loops over fixed collections are EQUAL to the
  model's (`allInit`, `decAll setAdd`, `incAll`, `checkRev`; exceptions included, on every input).
  The backtracking is proved, for every `ord` with `Py.SetOrder ord` and under the model's state
  invariant `Inv`, to meet the specification that `bt_spec` proves of the model's `bt` (same
  induction, over the permuted list `ord starts`).
-/
import SRVerif.Proofs.TopoPyEquiv

namespace SR.TopoPyProofs
open SR SR.Toposort

theorem all_loop2_eq (ss st : List Nat) (I : Indeg) :
    (Gen.Topo.toposort_all.loop2 ss (st, I) : Py.Ctl _ (List (List Nat)))
      = ctl id (ss.foldlM allInitOne (st, I)) := by
  refine Py.forLoop_foldlM (ctl id) id (fun _ => rfl) (fun s => by rw [id, Gen.Topo.toposort_all.loop2])
    (fun a l s => ?_) ss (st, I)
  obtain ⟨st, I⟩ := s
  rw [id, Gen.Topo.toposort_all.loop2]
  simp only [Py.dictGet?_eq_lookup, allInitOne, Indeg.bump, discard_eq]
  cases hl : I.lookup a with
  | none => rfl
  | some x => simp only [dictSet_eq_set _ hl]; rfl

theorem all_loop1_eq (g : Graph) (st : List Nat) (I : Indeg) :
    (Gen.Topo.toposort_all.loop1 (Py.dictValues g) (st, I) : Py.Ctl _ (List (List Nat)))
      = ctl id (g.foldlM (fun st p => p.2.foldlM allInitOne st) (st, I)) := by
  refine (Py.forLoop_foldlM (step := fun st ss => ss.foldlM allInitOne st) (ctl id) id (fun _ => rfl)
    (fun s => by rw [id, Gen.Topo.toposort_all.loop1]) (fun ss l s => ?_) _ (st, I)).trans
    (by rw [Py.dictValues, List.foldlM_map])
  obtain ⟨st, I⟩ := s
  rw [id, Gen.Topo.toposort_all.loop1, all_loop2_eq]
  cases ss.foldlM allInitOne (st, I) <;> rfl

/-- `for node_to in graph[node_from]: indeg[node_to] -= 1; if indeg[node_to] == 0: next_starts.add(node_to)`. -/
theorem bt_loop2_eq (ss ns : List Nat) (I : Indeg) :
    (Gen.Topo._toposort_all_bt.loop2 ss (I, ns) : Py.Ctl _ (List (Nat × Int) × List (List Nat)))
      = ctl (fun s : List Nat × Indeg => (s.2, s.1)) (decAll Toposort.setAdd ss (ns, I)) := by
  refine Py.forLoop_foldlM (ctl _) (fun s : List Nat × Indeg => (s.2, s.1)) (fun _ => rfl)
    (fun s => by rw [Gen.Topo._toposort_all_bt.loop2]) (fun a l s => ?_) ss (ns, I)
  obtain ⟨ns, I⟩ := s
  rw [Gen.Topo._toposort_all_bt.loop2]
  simp only [Py.dictGet?_eq_lookup, decOne, Indeg.bump]
  cases hl : I.lookup a with
  | none => rfl
  | some x =>
    simp only [dictSet_eq_set _ hl, lookup_set_self I a _ _ hl, Int.sub_eq_add_neg, setAdd_eq]
    split <;> rfl

/-- `for node_to in graph[node_from]: indeg[node_to] += 1`. -/
theorem bt_loop4_eq (ss : List Nat) (I : Indeg) :
    (Gen.Topo._toposort_all_bt.loop4 ss I : Py.Ctl _ (List (Nat × Int) × List (List Nat)))
      = ctl id (incAll ss I) := by
  refine Py.forLoop_foldlM (ctl id) id (fun _ => rfl) (fun s => by rw [id, Gen.Topo._toposort_all_bt.loop4])
    (fun a l I => ?_) ss I
  rw [id, Gen.Topo._toposort_all_bt.loop4]
  simp only [Py.dictGet?_eq_lookup, incOne, Indeg.bump]
  cases hl : I.lookup a with
  | none => rfl
  | some x => simp only [dictSet_eq_set _ hl]; rfl

/-- `for subresult in <sub>: subresult.append(node_from); results.append(subresult)`. -/
theorem bt_loop3_eq (x : Nat) : ∀ (sub acc : List (List Nat)),
    (Gen.Topo._toposort_all_bt.loop3 x sub acc : Py.Ctl _ (List (Nat × Int) × List (List Nat)))
      = .next (acc ++ sub.map (· ++ [x]))
  | [], acc => by simp [Gen.Topo._toposort_all_bt.loop3]
  | r :: sub, acc => by
    rw [Gen.Topo._toposort_all_bt.loop3, bt_loop3_eq x sub]
    simp

/-- The generated `for node_from in starts` loop, given the specification of the recursive calls:
    the counterpart of `btLoop_spec`, with the copy `set(starts)` listed in the order `ord`. -/
theorem bt_loop1_spec {ord : List Nat → List Nat} (hord : Py.SetOrder ord) {g : Graph} (hwf : WF g)
    {done starts : List Nat} {I : Indeg} (hinv : Inv g done starts I)
    (rec : List Nat → Graph → Indeg → Except Py.Err (List (Nat × Int) × List (List Nat)))
    (hrec : ∀ x ns I', Inv g (x :: done) ns I' →
      ∃ rs, rec ns g I' = .ok (I', rs) ∧ Enum g (x :: done) rs) :
    ∀ (l : List Nat) (acc : List (List Nat)), l.Nodup → (∀ x ∈ l, x ∈ starts) →
      ∃ rs, Gen.Topo._toposort_all_bt.loop1 ord rec starts g l (I, acc) = .next (I, acc ++ rs) ∧
        EnumVia g done l rs := by
  intro l
  induction l with
  | nil => intro acc _ _; exact ⟨[], by simp [Gen.Topo._toposort_all_bt.loop1], .nil⟩
  | cons x l ih =>
    intro acc hl hsub
    have hx : x ∈ starts := hsub x List.mem_cons_self
    have hon : (ord starts).Nodup := hord.nodup hinv.snodup
    obtain ⟨ss, hss, ns', I', hdec, hinv', hinc⟩ := inv_step hwf hinv hx ((ord starts).erase x)
      (hon.erase x) (fun v => by rw [hon.mem_erase_iff, hord.mem hinv.snodup, and_comm])
      Toposort.setAdd setAdd_fresh
    obtain ⟨sub, hsubr, hsube⟩ := hrec x ns' I' hinv'
    obtain ⟨rs', h1, h2⟩ := ih (acc ++ sub.map (· ++ [x]))
      (List.nodup_cons.1 hl).2 (fun y hy => hsub y (List.mem_cons_of_mem _ hy))
    refine ⟨sub.map (· ++ [x]) ++ rs', ?_, .cons (List.nodup_cons.1 hl).1 hsube h2⟩
    have hgs : Py.dictGet? g x = some ss := by
      rw [Py.dictGet?_eq_lookup]
      cases h : g.lookup x with
      | none => simp [getSuccs, h] at hss
      | some s => simpa [getSuccs, h] using hss
    rw [Gen.Topo._toposort_all_bt.loop1]
    simp only [Py.setOfList_nodup hon, remove?_eq, (hord.mem hinv.snodup).2 hx, if_true, hgs,
      bt_loop2_eq, hdec, ctl_ok, hsubr, bt_loop3_eq, bt_loop4_eq, hinc, id]
    rw [h1, List.append_assoc]

theorem bt_rec_spec {ord : List Nat → List Nat} (hord : Py.SetOrder ord) {g : Graph} (hwf : WF g) :
    ∀ (fuel : Nat) (done starts : List Nat) (I : Indeg),
    Inv g done starts I → g.length - done.length < fuel →
    ∃ rs, Gen.Topo._toposort_all_bt.rec_ ord fuel starts g I = .ok (I, rs) ∧ rs.Nodup ∧
      ∀ r, r ∈ rs ↔ Greedy g done r.reverse := by
  intro fuel
  induction fuel with
  | zero => intro _ _ _ _ h; omega
  | succ fuel ih =>
    intro done starts I hinv hfuel
    cases hst : starts with
    | nil =>
      refine ⟨[[]], by simp [Gen.Topo._toposort_all_bt.rec_], Enum.stuck fun v hv => ?_⟩
      simpa [hst] using (hinv.smem v).2 hv
    | cons x0 t =>
      have hmem := fun v => hord.mem hinv.snodup (v := v)
      obtain ⟨rs, h1, h2⟩ := bt_loop1_spec hord hwf hinv (Gen.Topo._toposort_all_bt.rec_ ord fuel)
        (fun x ns I' hinv' => ih _ ns I' hinv' (fuel_step hinv' hfuel))
        (ord starts) [] (hord.nodup hinv.snodup) (fun v hv => (hmem v).1 hv)
      refine ⟨rs, ?_, h2.enum (fun v => (hmem v).trans (hinv.smem v)) fun e => ?_⟩
      · rw [Gen.Topo._toposort_all_bt.rec_]
        rw [hst] at h1
        simp [h1]
      · exact List.not_mem_nil (e ▸ (hmem x0).2 (by simp [hst]))

/-- `for subresult in results: if len(subresult) != len(graph): return []; subresult.reverse()`. -/
theorem all_loop3_eq (g : Graph) : ∀ (rs acc : List (List Nat)),
    (Gen.Topo.toposort_all.loop3 g rs acc : Py.Ctl _ (List (List Nat)))
      = match checkRev g.length rs with
        | none => .ret []
        | some out => .next (acc ++ out) := by
  intro rs
  induction rs with
  | nil => intro acc; simp [Gen.Topo.toposort_all.loop3, checkRev]
  | cons r rs ih =>
    intro acc
    rw [Gen.Topo.toposort_all.loop3, checkRev]
    by_cases hlen : r.length = g.length
    · simp only [hlen, ne_eq, not_true_eq_false, if_false]
      rw [ih]
      cases checkRev g.length rs with
      | none => rfl
      | some out => simp
    · simp [hlen]

/-- The generated `toposort_all` as a function of the model's initialisation and of the generated
    backtracking (no hypothesis on the graph but pairwise different keys). -/
theorem toposort_all_unfold (ord : List Nat → List Nat) {g : Graph} (hk : (keys g).Nodup) :
    Gen.Topo.toposort_all ord g =
      match allInit g with
      | .error e => .error (toPy e)
      | .ok (starts, I) =>
        match Gen.Topo._toposort_all_bt.rec_ ord (g.length + 1) starts g I with
        | .error e => .error e
        | .ok (_, rs) => .ok ((checkRev g.length rs).getD []) := by
  rw [Gen.Topo.toposort_all]
  simp only [dictKeys_eq, dictOfList_init hk, Py.setOfList_nodup hk, all_loop1_eq, allInit]
  cases hi : g.foldlM (fun st p => p.2.foldlM allInitOne st) (keys g, Indeg.init g) with
  | error e => simp
  | ok s =>
    obtain ⟨starts, I⟩ := s
    simp only [ctl_ok, id, Gen.Topo._toposort_all_bt]
    cases hb : Gen.Topo._toposort_all_bt.rec_ ord (g.length + 1) starts g I with
    | error e => simp
    | ok p =>
      obtain ⟨I', rs⟩ := p
      simp only [all_loop3_eq, List.nil_append]
      cases checkRev g.length rs with
      | none => simp
      | some out => simp

theorem toposort_all_spec {ord : List Nat → List Nat} (hord : Py.SetOrder ord) {g : Graph} (hwf : WF g) :
    ∃ os, Gen.Topo.toposort_all ord g = .ok os ∧ os.Nodup ∧ ∀ o, o ∈ os ↔ IsTopo g o := by
  obtain ⟨starts, I, hinit, hinv⟩ := allInit_spec hwf
  obtain ⟨rs, hbt, hrs⟩ := bt_rec_spec hord hwf (g.length + 1) [] starts I hinv (by simp)
  exact ⟨(checkRev g.length rs).getD [], by rw [toposort_all_unfold ord hwf.1, hinit]; simp [hbt],
    checkRev_spec hwf hrs⟩

theorem toposort_all_perm {ord : List Nat → List Nat} (hord : Py.SetOrder ord) {g : Graph} (hwf : WF g) :
    ∃ os ms, Gen.Topo.toposort_all ord g = .ok os ∧ toposortAll g = .ok ms ∧ os.Perm ms := by
  obtain ⟨os, h, hn, hm⟩ := toposort_all_spec hord hwf
  obtain ⟨ms, h', hn', hm'⟩ := toposortAll_spec hwf
  exact ⟨os, ms, h, h', (List.perm_ext_iff_of_nodup hn hn').2 (fun o => (hm o).trans (hm' o).symm)⟩

/-- The initialisation already fails, whatever the order. -/
theorem toposort_all_malformed (ord : List Nat → List Nat) {g : Graph} (hk : (keys g).Nodup)
    (hbad : ∃ p ∈ g, ∃ v ∈ p.2, v ∉ keys g) :
    Gen.Topo.toposort_all ord g = .error .KeyError := by
  rw [toposort_all_unfold ord hk, allInit_err hbad]
  rfl

end SR.TopoPyProofs
