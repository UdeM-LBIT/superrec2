/-
  C12 (bridge): the evaluator on the parsed structure (`evalPlain` / `evalSuper` of
  `Model/SolOutput.lean`) gives, on the embedding of a solution, the `totalCost` of the solution.
  Reading the embedded object tree back with mappings that agree with the solution gives the
  input tree with its leaf syntenies erased and the solution with every synteny passed through a
  re-coding `h` (`decode_ntOf`).  Neither matters: the evaluator never reads the leaf syntenies of
  the input and only compares families, so it is invariant under an injective renaming — ordered:
  `List.map g`; unordered: any `h` with `x ∈ h f ↔ x ∈ f.map g`, the order inside a set being
  immaterial.
-/
import SRVerif.Proofs.SolOutput
import SRVerif.Proofs.SolverLists

namespace SR.SolOut

open SR SR.Ser

theorem decodeCosts_costTable (c : Costs) : decodeCosts (costTable c) = some c := by
  cases c
  rfl

/-- From a statement about the entries of `m.map (cons2 i)` below `p` to one about the entries
    of `m` below the `i`-th child of `p`. -/
theorem shift_cons2 {β : Type} (P : Path → β → Prop) (i : Nat) {m : List (Path × β)} {p : Path}
    (h : ∀ x ∈ m.map (cons2 i), P (p ++ x.1) x.2) : ∀ x ∈ m, P (p ++ [i] ++ x.1) x.2 :=
  fun x hx => by
    rw [List.append_assoc]
    exact h (cons2 i x) (List.mem_map_of_mem hx)

theorem decode_ntOf (los os : TreeMapping) (famAt : Path → List Nat) (h : List Nat → List Nat) :
    ∀ (o : OTree) (s : Sol) (nmf : Path → String) (p : Path), s.shape = o.shape →
      (∀ x ∈ leafMap (fun sp _ => sp) o, los.lookup (p ++ x.1) = some x.2) →
      (∀ x ∈ nodeMap (fun sp _ => sp) s, os.lookup (p ++ x.1) = some x.2) →
      (∀ x ∈ nodeMap (fun _ f => f) s, famAt (p ++ x.1) = h x.2) →
      decode los os famAt (ntOf nmf o.shape) p = some (o.eraseFam, s.mapFam h) := by
  intro o
  induction o with
  | leaf sp f =>
    intro s nmf p hsh h1 h2 h3
    cases s with
    | node _ _ _ _ => simp [Sol.shape, OTree.shape] at hsh
    | leaf v g =>
      simp only [leafMap, nodeMap, List.forall_mem_singleton, List.append_nil] at h1 h2 h3
      simp only [OTree.shape, ntOf, ntOfL, decode, decodeL, h1, h2, h3, OTree.eraseFam, Sol.mapFam]
  | node l r ihl ihr =>
    intro s nmf p hsh h1 h2 h3
    cases s with
    | leaf _ _ => simp [Sol.shape, OTree.shape] at hsh
    | node v g sl sr =>
      simp only [Sol.shape, OTree.shape, RTree.node.injEq, List.cons.injEq, and_true] at hsh
      simp only [leafMap, nodeMap, List.forall_mem_cons, List.forall_mem_append,
        List.append_nil] at h1 h2 h3
      have dl := ihl sl (fun q => nmf (0 :: q)) (p ++ [0]) hsh.1
        (shift_cons2 (fun q v => los.lookup q = some v) 0 h1.1)
        (shift_cons2 (fun q v => os.lookup q = some v) 0 h2.2.1)
        (shift_cons2 (fun q v => famAt q = h v) 0 h3.2.1)
      have dr := ihr sr (fun q => nmf (1 :: q)) (p ++ [1]) hsh.2
        (shift_cons2 (fun q v => los.lookup q = some v) 1 h1.2)
        (shift_cons2 (fun q v => os.lookup q = some v) 1 h2.2.2)
        (shift_cons2 (fun q v => famAt q = h v) 1 h3.2.2)
      simp only [OTree.shape, ntOf, ntOfL, decode, decodeL, Nat.zero_add, dl, dr, h2.1, h3.1,
        OTree.eraseFam, Sol.mapFam]

theorem mapFam_sp (h : List Nat → List Nat) (s : Sol) : (s.mapFam h).sp = s.sp := by
  cases s <;> rfl

theorem mapFam_fam (h : List Nat → List Nat) (s : Sol) : (s.mapFam h).fam = h s.fam := by
  cases s <;> rfl

theorem recCost_mapFam (c : Costs) (h : List Nat → List Nat) (o : OTree) (s : Sol) :
    recCost c o (s.mapFam h) = recCost c o s := by
  induction o generalizing s with
  | leaf _ _ => cases s <;> rfl
  | node ol or ihl ihr =>
    cases s with
    | leaf _ _ => rfl
    | node v g l r => simp only [Sol.mapFam, recCost, mapFam_sp, ihl, ihr]

theorem recCost_eraseFam (c : Costs) (o : OTree) (s : Sol) :
    recCost c o.eraseFam s = recCost c o s := by
  induction o generalizing s with
  | leaf _ _ => cases s <;> rfl
  | node ol or ihl ihr =>
    cases s with
    | leaf _ _ => rfl
    | node v g l r => simp only [OTree.eraseFam, recCost, ihl, ihr]

theorem totalCost_eraseFam (c : Costs) (mode : LabelMode) (o : OTree) (s : Sol) :
    totalCost c mode o.eraseFam s = totalCost c mode o s := by
  simp only [totalCost, recCost_eraseFam]

theorem totalCost_mapFam_plain (c : Costs) (h : List Nat → List Nat) (o : OTree) (s : Sol) :
    totalCost c .plain o (s.mapFam h) = totalCost c .plain o s := by
  simp only [totalCost, labelingCost, recCost_mapFam]

section inj

variable (g : Nat → Nat) (hg : ∀ a b, g a = g b → a = b)

include hg in
theorem maskFromSubseq_map : ∀ (child parent : List Nat),
    maskFromSubseq (child.map g) (parent.map g) = maskFromSubseq child parent
  | [], _ => by simp only [List.map_nil, maskFromSubseq]
  | _ :: _, [] => rfl
  | c :: cs, p :: ps => by
    have hi : g c = g p ↔ c = p := ⟨hg c p, congrArg g⟩
    have ih := maskFromSubseq_map (c :: cs) ps
    rw [List.map_cons] at ih
    simp only [List.map_cons, maskFromSubseq, hi, maskFromSubseq_map cs ps, ih]

include hg in
theorem ordLosses_mapFam (root : List Nat) : ∀ (s : Sol) (m : Nat),
    ordLosses (root.map g) m (s.mapFam (List.map g)) = ordLosses root m s
  | .leaf _ _, _ => rfl
  | .node v f l r, m => by
    simp only [Sol.mapFam, ordLosses, mapFam_sp, mapFam_fam, maskFromSubseq_map g hg,
      ordLosses_mapFam root l, ordLosses_mapFam root r]

include hg in
theorem totalCost_mapFam_ordered (c : Costs) (o : OTree) (s : Sol) :
    totalCost c .ordered o (s.mapFam (List.map g)) = totalCost c .ordered o s := by
  simp only [totalCost, labelingCost, recCost_mapFam, mapFam_fam, ordLosses_mapFam g hg,
    subseqComplete, List.length_map]

variable (h : List Nat → List Nat) (hh : ∀ f x, x ∈ h f ↔ x ∈ f.map g)

include hg hh in
theorem subsetB_recode (a b : List Nat) : subsetB (h a) (h b) = subsetB a b := by
  have hm : ∀ x, g x ∈ b.map g ↔ x ∈ b := fun x =>
    ⟨fun hx => by obtain ⟨y, hy, e⟩ := List.mem_map.1 hx; exact hg _ _ e ▸ hy, List.mem_map_of_mem⟩
  rw [subsetB_eq_of_mem_iff (hh a) (hh b), Bool.eq_iff_iff, subsetB_eq_true_iff,
    subsetB_eq_true_iff, List.forall_mem_map]
  simp only [hm]

include hg hh in
theorem unordLosses_mapFam : ∀ s : Sol, unordLosses (s.mapFam h) = unordLosses s
  | .leaf _ _ => rfl
  | .node v f l r => by
    simp only [Sol.mapFam, unordLosses, localUnordLosses, mapFam_sp, mapFam_fam,
      subsetB_recode g hg h hh, unordLosses_mapFam l, unordLosses_mapFam r]

include hg hh in
theorem totalCost_mapFam_unordered (c : Costs) (o : OTree) (s : Sol) :
    totalCost c .unordered o (s.mapFam h) = totalCost c .unordered o s := by
  simp only [totalCost, labelingCost, recCost_mapFam, unordLosses_mapFam g hg h hh]

end inj

theorem nodeMap_lookup {β : Type} (f : Path → List Nat → β) (s : Sol) :
    ∀ x ∈ nodeMap f s, (nodeMap f s).lookup x.1 = some x.2 := fun _ hx =>
  (List.lookup_eq_some_iff_mem (by rw [nodeMap_keys]; exact RTree.nodup_preorder _)).2 hx

theorem evalWith_emb (mode : LabelMode) (nm : Naming) (c : Costs) (S : RTree) {o : OTree} {s : Sol}
    (hv : Spec.validRec o s = true) (famAt : Path → List Nat) (h : List Nat → List Nat)
    (hf : ∀ x ∈ nodeMap (fun _ f => f) s, famAt x.1 = h x.2) :
    evalWith mode (embInput nm c S o) (nodeMap (fun sp _ => sp) s) famAt
      = totalCost c mode o (s.mapFam h) := by
  have hd := decode_ntOf (leafMap (fun sp _ => sp) o) (nodeMap (fun sp _ => sp) s) famAt h o s
    nm.oname [] (shape_of_validRec o s hv)
    (fun _ hx => (List.lookup_eq_some_iff_mem
      ((leafMap_keys_sublist _ o).nodup (RTree.nodup_preorder _))).2 hx)
    (nodeMap_lookup _ s) hf
  simp only [evalWith, embInput, decodeCosts_costTable, hd, totalCost_eraseFam]

theorem evalPlain_emb (nm : Naming) (c : Costs) (S : RTree) {o : OTree} {s : Sol}
    (hv : Spec.validRec o s = true) (withSyn : Bool) :
    evalPlain (embPlain nm c S o withSyn s).input.base (embPlain nm c S o withSyn s).objectSpecies
      = totalCost c .plain o s := by
  show evalWith .plain (embAnyInput nm c S o withSyn).base (nodeMap (fun sp _ => sp) s)
    (fun _ => []) = _
  rw [embAnyInput_base, evalWith_emb .plain nm c S hv (fun _ => []) (fun _ => []) (fun _ _ => rfl),
    totalCost_mapFam_plain]

theorem synFam_nodeMap (enc : List Nat → Syn) (s : Sol) :
    ∀ x ∈ nodeMap (fun _ f => f) s,
      synFam (nodeMap (fun _ f => enc f) s) x.1 = (enc x.2).serial.map strCode := by
  intro x hx
  have hm : (x.1, enc x.2) ∈ nodeMap (fun _ f => enc f) s := by
    rw [← nodeMap_map (fun _ f => f) enc s]
    exact List.mem_map.mpr ⟨x, hx, rfl⟩
  simp only [synFam, nodeMap_lookup _ s _ hm]

/-- Ordered model (`ordered = true`): the syntenies are lists; unordered (`false`): sets, written
    in any iteration order `arr`. -/
theorem evalSuper_emb (nm : Naming) (hf : ∀ a b, nm.fname a = nm.fname b → a = b)
    (arr : List String → List String) (harr : ∀ l, (arr l).Perm l) (c : Costs) (S : RTree)
    {o : OTree} {s : Sol} (hv : Spec.validRec o s = true) (ordered : Bool) :
    evalSuper (embSuper nm arr c S o ordered s).input.base
        (embSuper nm arr c S o ordered s).objectSpecies
        (embSuper nm arr c S o ordered s).syntenies (embSuper nm arr c S o ordered s).ordered
      = totalCost c (if ordered then .ordered else .unordered) o s := by
  show evalWith (if ordered then .ordered else .unordered) (embInput nm c S o)
    (nodeMap (fun sp _ => sp) s) (synFam (nodeMap (fun _ f => encSyn nm arr ordered f) s)) = _
  rw [evalWith_emb _ nm c S hv _ (fun f => (encSyn nm arr ordered f).serial.map strCode)
    (synFam_nodeMap _ s)]
  have hg : ∀ a b, strCode (nm.fname a) = strCode (nm.fname b) → a = b :=
    fun a b e => hf a b (strCode_inj _ _ e)
  cases ordered
  · simp only [Bool.false_eq_true, if_false]
    refine totalCost_mapFam_unordered (fun a => strCode (nm.fname a)) hg _ ?_ c o s
    intro f x
    simp only [encSyn, Bool.false_eq_true, if_false, Syn.serial]
    rw [(((sortSynteny_perm _).trans (harr _)).map strCode).mem_iff, List.map_map]
    rfl
  · simp only [if_true]
    have e : (fun f => (encSyn nm arr true f).serial.map strCode)
        = List.map (fun a => strCode (nm.fname a)) := by
      funext f
      simp [encSyn, Syn.serial, List.map_map, Function.comp_def]
    rw [e]
    exact totalCost_mapFam_ordered _ hg c o s

/-- The evaluator reads a set-valued synteny through its sorted list: the hypothesis
    `hset` of `C11_same_evaluation`. -/
theorem evalSuper_normSyn (i : RecInput) (m : TreeMapping) (s : SynMapping) (b : Bool) :
    evalSuper i m (normSyn s) b = evalSuper i m s b := by
  have : synFam (normSyn s) = synFam s := by
    funext p
    have e : (normSyn s).lookup p = (s.lookup p).map (fun v => Syn.lst v.serial) :=
      List.lookup_map_snd (fun _ (v : Syn) => Syn.lst v.serial) s p
    simp only [synFam, e]
    cases s.lookup p with
    | none => rfl
    | some x => cases x <;> rfl
  simp only [evalSuper, this]

end SR.SolOut
