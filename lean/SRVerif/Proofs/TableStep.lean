/-
  What one operation does to a table (`Model/Table.lean`; histories of
  operations are in `Proofs/TableRun.lean`): every operation leaves every cell
  alone except a write to a valid address, which acts on that cell as
  `Cell.update`; the dictionary keys only grow, by keys on the paths the
  operation mentions.
-/
import SRVerif.Proofs.Table

namespace SR.DP

variable {τ : Type} [DecidableEq τ]

namespace Table

omit [DecidableEq τ] in
/-- Indexing a complete chain that is a valid address as a whole (`index_complete` has the general
    case). -/
theorem index_valid (t : Table τ) (ks a : List Key) (hne : ks ≠ []) (hlen : ks.length = t.dims.length)
    (ha : addr t.dims ks = .ok a) :
    t.index ks = ((t.walk ks.dropLast).1, .ok (.entry ks)) := by
  obtain ⟨ks', k, rfl⟩ : ∃ ks' k, ks = ks' ++ [k] := ⟨ks.dropLast, ks.getLast hne, (List.dropLast_concat_getLast hne).symm⟩
  obtain ⟨a', ha'⟩ := addr_prefix_ok t.dims ks' [k] a ha
  rw [index_full t ks' k (by simpa using hlen), ha']
  simp [Except.map]

omit [DecidableEq τ] in
/-- Indexing with as many keys as axes walks all but the last key: if that prefix is a valid address
    the result is an `EntryProxy` for the chain (whatever the last key), otherwise the exception of the
    first invalid key, which is that of the whole chain. -/
theorem index_complete (t : Table τ) (ks : List Key) (hne : ks ≠ []) (hlen : ks.length = t.dims.length) :
    (∃ a', addr t.dims ks.dropLast = .ok a' ∧ t.index ks = ((t.walk ks.dropLast).1, .ok (.entry ks)))
    ∨ (∃ e, addr t.dims ks = .error e ∧ t.index ks = ((t.walk ks.dropLast).1, .error e)) := by
  obtain ⟨ks', k, rfl⟩ : ∃ ks' k, ks = ks' ++ [k] := ⟨ks.dropLast, ks.getLast hne, (List.dropLast_concat_getLast hne).symm⟩
  rw [index_full t ks' k (by simpa using hlen)]
  cases ha : addr t.dims ks' with
  | ok a' => left; exact ⟨a', by simp [ha], by simp [Except.map]⟩
  | error e => right; exact ⟨e, addr_prefix_err t.dims ks' [k] e ha, by simp [Except.map]⟩

end Table

/-- The raw paths an operation mentions. -/
def opPaths : Op τ → List (List Key)
  | .index ks => [ks]
  | .set pre k _ => [pre ++ [k]]
  | .update ks _ => [ks]
  | .value ks => [ks]
  | .infos ks => [ks]
  | .info ks => [ks]
  | .isInf ks => [ks]
  | .len ks => [ks]
  | .iter ks => [ks]
  | .keys ks => [ks]
  | .contains ks _ => [ks]
  | .eqEntry ks _ _ => [ks]
  | .eqCell ks ks' => [ks, ks']
  | .combine ks ks' _ => [ks, ks']

/-- The dictionary keys an operation may create: those on the paths it mentions. -/
def opVisits (ds : List Dim) (op : Op τ) : List (List Key) := (opPaths op).flatMap (visited ds)

/-- The batch an operation offers to the cell of normalised address `a`: only assignments and
    `update`s through a complete, valid chain of keys denoting `a` offer anything. -/
def writesTo (ds : List Dim) (a : List Key) : Op τ → Option (List (Cand τ))
  | .set pre k c => if (pre ++ [k]).length = ds.length ∧ isAddr ds (pre ++ [k]) a then some [c] else none
  | .update ks b => if ks ≠ [] ∧ ks.length = ds.length ∧ isAddr ds ks a then some b else none
  | _ => none

/-- What an operation does to the cell `a`: `Cell.update` with the batch it offers to `a`, if any. -/
def opCell (ds : List Dim) (m : Merge) (r : Retain) (op : Op τ) (a : List Key) (c : Cell τ) : Cell τ :=
  match writesTo ds a op with
  | some b => Cell.update m r c b
  | none => c

theorem Ext.of_pure {P : List (List Key)} {ds : List Dim} {m : Merge} {r : Retain} {op : Op τ}
    {t t' : Table τ} (h : ExtP P t t') (hw : ∀ a, writesTo ds a op = none) :
    Ext P (opCell ds m r op) t t' :=
  h.congr fun a c => by simp [opCell, hw a]

/-! Reading accesses keep a table within `ExtP P t0`, provided the path they walk is in `P`. -/

omit [DecidableEq τ] in
theorem Ext.index {P : List (List Key)} {t0 t t1 : Table τ} {ks : List Key} {r : Except PyErr Ref}
    (h : ExtP P t0 t) (hP : ∀ p ∈ visited t0.dims ks, p ∈ P) (hi : t.index ks = (t1, r)) :
    ExtP P t0 t1 := by
  have := (Table.index_spec t ks).2.1
  rw [hi, h.dims] at this
  exact Ext.trans h (this.mono hP)

omit [DecidableEq τ] in
theorem Ext.getReal {P : List (List Key)} {t0 t t1 : Table τ} {key : List Key}
    {r : Except PyErr (Cell τ)}
    (h : ExtP P t0 t) (hP : ∀ p ∈ visited t0.dims key, p ∈ P) (hg : t.getReal key = (t1, r)) :
    ExtP P t0 t1 := by
  have := Table.getReal_ext t key
  rw [hg, h.dims] at this
  exact Ext.trans h (this.mono hP)

omit [DecidableEq τ] in
theorem Ext.keysAt {P : List (List Key)} {t0 t t1 : Table τ} {pre : List Key}
    {r : Except PyErr (List Key)}
    (h : ExtP P t0 t) (hP : ∀ p ∈ visited t0.dims pre, p ∈ P) (hk : t.keysAt pre = (t1, r)) :
    ExtP P t0 t1 := by
  have := Table.keysAt_ext t pre
  rw [hk, h.dims] at this
  exact Ext.trans h (this.mono hP)

theorem Ext.updateAt {P : List (List Key)} {t0 t t1 : Table τ} {key : List Key}
    {b : List (Cand τ)} {r : Except PyErr Unit}
    (h : ExtP P t0 t) (hP : ∀ p ∈ visited t0.dims key, p ∈ P) (hu : t.updateAt key b = (t1, r)) :
    Ext P (fun a c => if isAddr t0.dims key a then Cell.update t0.merge t0.retain c b else c)
      t0 t1 := by
  have := Table.updateAt_ext t key b
  rw [hu, h.dims, h.merge, h.retain] at this
  exact Ext.trans h (this.mono hP)

namespace Table

omit [DecidableEq τ] in
theorem index_proxy {t t1 : Table τ} {ks p : List Key} (hi : t.index ks = (t1, .ok (.proxy p))) :
    p = ks ∧ ¬ (ks ≠ [] ∧ ks.length = t.dims.length) :=
  (index_spec t ks).2.2.2 p (by rw [hi])

omit [DecidableEq τ] in
theorem index_entry {t t1 : Table τ} {ks key : List Key}
    (hi : t.index ks = (t1, .ok (.entry key))) :
    key = ks ∧ ks ≠ [] ∧ ks.length = t.dims.length :=
  (index_spec t ks).2.2.1 key (by rw [hi])

omit [DecidableEq τ] in
theorem withCell_ext (t : Table τ) (ks : List Key) (e : PyErr) (k : Table τ → Cell τ → Out τ) :
    ExtP (visited t.dims ks) t (t.withCell ks e k).1 := by
  have h0 := ExtP.refl (visited t.dims ks) t
  unfold withCell
  split
  · next t1 e' hi => exact h0.index (fun _ h => h) hi
  · next t1 p hi => exact h0.index (fun _ h => h) hi
  · next t1 key hi =>
    obtain ⟨rfl, -⟩ := index_entry hi
    have h1 := h0.index (fun _ h => h) hi
    split
    · next t2 e' hg => exact h1.getReal (fun _ h => h) hg
    · next t2 c hg => exact h1.getReal (fun _ h => h) hg

/-- One operation as an `Ext` step: keys created on the paths it mentions, the cell it writes to
    transformed by `Cell.update`, every other cell left alone. -/
theorem step_ext [Min τ] (t : Table τ) (op : Op τ) :
    Ext (opVisits t.dims op) (opCell t.dims t.merge t.retain op) t (t.step op).1 := by
  have hmem : ∀ ks : List Key, ks ∈ opPaths op → ∀ p ∈ visited t.dims ks, p ∈ opVisits t.dims op :=
    fun ks hks p hp => List.mem_flatMap.2 ⟨ks, hks, hp⟩
  have h0 := ExtP.refl (opVisits t.dims op) t
  cases op with
  | index ks =>
    have hP := hmem ks (by simp [opPaths])
    refine Ext.of_pure ?_ fun _ => rfl
    simp only [step]
    split
    · next t1 e hi => exact h0.index hP hi
    · next t1 p hi => exact h0.index hP hi
    · next t1 key hi => exact h0.index hP hi
  | set pre k c =>
    have hP := hmem (pre ++ [k]) (by simp [opPaths])
    have hP' : ∀ p ∈ visited t.dims pre, p ∈ opVisits t.dims (.set pre k c) :=
      fun p hp => hP p (visited_prefix _ _ _ p hp)
    by_cases hl : pre.length + 1 = t.dims.length
    · -- a complete chain of keys: `t[pre…]` is a proxy, reached without looking at anything
      have hcell : ∀ a cc, (if isAddr t.dims (pre ++ [k]) a = true
            then Cell.update t.merge t.retain cc [c] else cc)
          = opCell t.dims t.merge t.retain (.set pre k c) a cc := by
        intro a cc
        simp only [opCell, writesTo, List.length_append, List.length_singleton, hl, true_and]
        split <;> rfl
      simp only [step, index_short t pre (by omega), setitem, if_pos hl]
      split
      · next t2 e hu => exact (h0.updateAt hP hu).congr hcell
      · next t2 u hu => exact (h0.updateAt hP hu).congr hcell
    · -- otherwise nothing is offered to any cell
      have hw : ∀ a, writesTo t.dims a (.set pre k c) = none := fun a =>
        if_neg fun h => hl (by simpa using h.1)
      refine Ext.of_pure ?_ hw
      simp only [step]
      split
      · next t1 e hi => exact h0.index hP' hi
      · next t1 ref hi =>
        have h1 := h0.index hP' hi
        cases ref with
        | entry key => exact h1
        | proxy p =>
          obtain ⟨rfl, -⟩ := index_proxy hi
          simp only [setitem, h1.dims, if_neg hl]
          exact h1
  | update ks b =>
    have hP := hmem ks (by simp [opPaths])
    simp only [step]
    split
    · next t1 e hi =>
      -- a valid full address would have been indexed without error
      refine Ext.of_pure (h0.index hP hi) fun a => if_neg ?_
      rintro ⟨hne, hl, ha⟩
      rw [index_valid t ks a hne hl ((isAddr_iff _ _ _).mp ha)] at hi
      cases hi
    · next t1 p hi =>
      obtain ⟨rfl, hn⟩ := index_proxy hi
      exact Ext.of_pure (h0.index hP hi) fun a => if_neg fun h => hn ⟨h.1, h.2.1⟩
    · next t1 key hi =>
      obtain ⟨rfl, hne, hl⟩ := index_entry hi
      have h1 := h0.index hP hi
      have hcell : ∀ a cc, (if isAddr t.dims key a = true
            then Cell.update t.merge t.retain cc b else cc)
          = opCell t.dims t.merge t.retain (.update key b) a cc := by
        intro a cc
        simp only [opCell, writesTo, hl, hne, ne_eq, not_false_eq_true, true_and]
        split <;> rfl
      split
      · next t2 e hu => exact (h1.updateAt hP hu).congr hcell
      · next t2 u hu => exact (h1.updateAt hP hu).congr hcell
  | value ks | infos ks | info ks | isInf ks | len ks =>
    exact Ext.of_pure ((withCell_ext t ks _ _).mono (hmem ks (by simp [opPaths]))) fun _ => rfl
  | iter ks | contains ks _ =>
    have hP := hmem ks (by simp [opPaths])
    refine Ext.of_pure ?_ fun _ => rfl
    simp only [step]
    split
    · next t1 e hi => exact h0.index hP hi
    · next t1 p hi =>
      obtain ⟨rfl, -⟩ := index_proxy hi
      have h1 := h0.index hP hi
      split <;> exact h1.keysAt hP (by assumption)
    · next t1 key hi =>
      obtain ⟨rfl, -⟩ := index_entry hi
      have h1 := h0.index hP hi
      split <;> exact h1.getReal hP (by assumption)
  | keys ks =>
    have hP := hmem ks (by simp [opPaths])
    refine Ext.of_pure ?_ fun _ => rfl
    simp only [step]
    split
    · next t1 e hi => exact h0.index hP hi
    · next t1 p hi =>
      obtain ⟨rfl, -⟩ := index_proxy hi
      have h1 := h0.index hP hi
      split <;> exact h1.keysAt hP (by assumption)
    · next t1 key hi => exact h0.index hP hi
  | eqEntry ks v infos =>
    have hP := hmem ks (by simp [opPaths])
    refine Ext.of_pure ?_ fun _ => rfl
    simp only [step]
    split
    · next t1 e hi => exact h0.index hP hi
    · next t1 p hi => exact h0.index hP hi
    · next t1 key hi =>
      obtain ⟨rfl, -⟩ := index_entry hi
      have h1 := h0.index hP hi
      split <;> exact h1.getReal hP (by assumption)
  | eqCell ks ks' =>
    have hP := hmem ks (by simp [opPaths])
    have hP' := hmem ks' (by simp [opPaths])
    refine Ext.of_pure ?_ fun _ => rfl
    simp only [step]
    split
    · next t1 e hi => exact h0.index hP hi
    · next t1 r hi =>
      have h1 := h0.index hP hi
      split
      · next t2 e hi' => exact h1.index hP' hi'
      · next t2 r' hi' =>
        have h2 := h1.index hP' hi'
        split
        · next key key' =>
          obtain ⟨rfl, -⟩ := index_entry hi
          obtain ⟨rfl, -⟩ := index_entry hi'
          split
          · next t3 e hg => exact h2.getReal hP hg
          · next t3 c hg =>
            have h3 := h2.getReal hP hg
            split
            · next t4 e hg' => exact h3.getReal hP' hg'
            · next t4 c' hg' => exact h3.getReal hP' hg'
        · exact h2
        · exact h2
        · exact h2
  | combine ks ks' f =>
    have hP := hmem ks (by simp [opPaths])
    have hP' := hmem ks' (by simp [opPaths])
    refine Ext.of_pure ?_ fun _ => rfl
    simp only [step]
    split
    · next t1 e hi => exact h0.index hP hi
    · next t1 p hi => exact h0.index hP hi
    · next t1 key hi =>
      obtain ⟨rfl, -⟩ := index_entry hi
      have h1 := h0.index hP hi
      split
      · next t2 e hi' => exact h1.index hP' hi'
      · next t2 r' hi' =>
        have h2 := h1.index hP' hi'
        split
        · next t3 e hg => exact h2.getReal hP hg
        · next t3 hg => exact h2.getReal hP hg
        · next t3 ea hg =>
          have h3 := h2.getReal hP hg
          split
          · exact h3
          · next key' =>
            obtain ⟨rfl, -⟩ := index_entry hi'
            split
            · next t4 e hg' => exact h3.getReal hP' hg'
            · next t4 c' hg' =>
              have h4 := h3.getReal hP' hg'
              split <;> exact h4

end Table

end SR.DP
