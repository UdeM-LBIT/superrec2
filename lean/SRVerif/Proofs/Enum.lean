/-
  The enumerator `generateAll` (`generate_all` of `compute/exhaustive.py`):
  the placements it tries for a parent over children placed at `a`, `b`
  (ancestors of the LCA; the two upward walks that stop before the LCA) are
  exactly the species whose event is not INVALID, each once; hence
  `generateAll` lists exactly the valid plain reconciliations, each once.
  Over a species tree containing the leaf species this is `Spec.allValid`
  (`mem_generateAll_iff_allValid`); the LCA reconciliation `lcaSol` is listed.
-/
import SRVerif.Model.Solvers
import SRVerif.Spec.Opt
import SRVerif.Proofs.Cost
import SRVerif.Proofs.RTree
import SRVerif.Proofs.EventAt
import Mathlib.Data.List.Induction
import Mathlib.Data.List.Nodup

namespace SR

open Path

theorem ancestorsInclusive_nil : ancestorsInclusive [] = [[]] := by decide

theorem ancestorsInclusive_concat (p : Path) (x : Nat) :
    ancestorsInclusive (p ++ [x]) = (p ++ [x]) :: ancestorsInclusive p := by
  simp only [ancestorsInclusive, List.length_append, List.length_singleton]
  rw [List.range_succ, List.reverse_append, List.reverse_singleton, List.singleton_append,
    List.map_cons]
  congr 1
  · apply List.take_of_length_le; simp
  · apply List.map_congr_left
    intro k hk
    have hk' : k ≤ p.length := by
      simp only [List.mem_reverse, List.mem_range] at hk; omega
    exact List.take_append_of_le_length hk'

theorem mem_ancestorsInclusive (s p : Path) : s ∈ ancestorsInclusive p ↔ isAnc s p = true := by
  rw [isAnc_iff_prefix]
  simp only [ancestorsInclusive, List.mem_map, List.mem_reverse, List.mem_range]
  constructor
  · rintro ⟨k, _, rfl⟩; exact List.take_prefix _ _
  · intro h
    exact ⟨s.length, by have := h.length_le; omega, (List.prefix_iff_eq_take.mp h).symm⟩

theorem nodup_ancestorsInclusive (p : Path) : (ancestorsInclusive p).Nodup := by
  induction p using List.reverseRecOn with
  | nil => simp [ancestorsInclusive_nil]
  | append_singleton p x ih =>
    rw [ancestorsInclusive_concat, List.nodup_cons]
    refine ⟨?_, ih⟩
    intro h
    have := length_le_of_isAnc ((mem_ancestorsInclusive _ _).mp h)
    simp only [List.length_append, List.length_singleton] at this
    omega

theorem walkUpTo_concat (stop p : Path) (x : Nat) :
    walkUpTo stop (p ++ [x]) = if p ++ [x] = stop then [] else (p ++ [x]) :: walkUpTo stop p := by
  simp only [walkUpTo, ancestorsInclusive_concat, List.takeWhile_cons]
  by_cases h : p ++ [x] = stop <;> simp [h]

theorem mem_walkUpTo {stop t : Path} (h : isAnc stop t = true) (s : Path) :
    s ∈ walkUpTo stop t ↔ isAnc s t = true ∧ isAnc stop s = true ∧ s ≠ stop := by
  simp only [isAnc_iff_prefix] at h ⊢
  induction t using List.reverseRecOn generalizing s with
  | nil =>
    have hstop : stop = [] := List.prefix_nil.mp h
    subst hstop
    have : walkUpTo [] [] = [] := by decide
    rw [this]
    constructor
    · intro h; cases h
    · rintro ⟨h1, _, h3⟩; exact absurd (List.prefix_nil.mp h1) h3
  | append_singleton t x ih =>
    rw [walkUpTo_concat]
    by_cases hst : t ++ [x] = stop
    · rw [if_pos hst]
      constructor
      · intro h; cases h
      · rintro ⟨h1, h2, h3⟩
        rw [hst] at h1
        exact absurd (List.IsPrefix.eq_of_length_le h1 h2.length_le) h3
    · rw [if_neg hst]
      have hpre : stop <+: t := by
        rcases List.prefix_concat_iff.mp h with h' | h'
        · exact absurd h'.symm hst
        · exact h'
      rw [List.mem_cons, ih s hpre, List.prefix_concat_iff]
      constructor
      · rintro (rfl | ⟨h1, h2, h3⟩)
        · exact ⟨Or.inl rfl, h, hst⟩
        · exact ⟨Or.inr h1, h2, h3⟩
      · rintro ⟨h1 | h1, h2, h3⟩
        · exact Or.inl h1
        · exact Or.inr ⟨h1, h2, h3⟩

theorem nodup_walkUpTo (stop t : Path) : (walkUpTo stop t).Nodup :=
  (List.takeWhile_sublist _).nodup (nodup_ancestorsInclusive t)

/-- The species `generate_all` tries for a node whose children sit at `a`, `b`. -/
def placements (a b : Path) : List Path :=
  ancestorsInclusive (lcp a b) ++ (if isAnc b a then [] else walkUpTo (lcp a b) a) ++
    (if isAnc a b then [] else walkUpTo (lcp a b) b)

theorem generateAll_node (l r : OTree) :
    generateAll (.node l r) =
      (generateAll l).flatMap fun ml => (generateAll r).flatMap fun mr =>
        (placements ml.sp mr.sp).map fun s => Sol.node s [] ml mr := rfl

/-- The second part of `placements`: the upward walk from `a`, where the event is a transfer of
    `b` (skipped when `b` is an ancestor-or-self of `a`). -/
theorem mem_transferWalk (s a b : Path) :
    s ∈ (if isAnc b a then [] else walkUpTo (lcp a b) a) ↔
      isAnc s a = true ∧ isAnc s b = false ∧ isStrictAnc b s = false := by
  have hla := lcp_isAnc_left a b
  have hlb := lcp_isAnc_right a b
  constructor
  · intro h
    split at h
    · cases h
    · rename_i hba
      obtain ⟨sa, ls, hne⟩ := (mem_walkUpTo hla s).mp h
      refine ⟨sa, ?_, ?_⟩
      -- `s` lies strictly below the lcp: above `b` as well it would be above the lcp
      · cases sb : isAnc s b
        · rfl
        · exact absurd (isAnc_antisymm (isAnc_lcp sa sb) ls) hne
      · cases hbs : isStrictAnc b s
        · rfl
        · rw [isStrictAnc_iff] at hbs
          exact absurd (isAnc_trans hbs.1 sa) hba
  · rintro ⟨sa, sb, hbs⟩
    -- `b` above `a` would be comparable with `s`: above it or below it, both excluded
    have hba : ¬ isAnc b a = true := by
      intro hba
      rcases isAnc_total_of_isAnc hba sa with h | h
      · by_cases heq : b = s
        · subst heq; rw [isAnc_refl] at sb; cases sb
        · have : isStrictAnc b s = true := (isStrictAnc_iff b s).mpr ⟨h, heq⟩
          rw [this] at hbs; cases hbs
      · rw [h] at sb; cases sb
    rw [if_neg hba, mem_walkUpTo hla]
    refine ⟨sa, ?_, ?_⟩
    · rcases isAnc_total_of_isAnc hla sa with h | h
      · exact h
      · rw [isAnc_trans h hlb] at sb; cases sb
    · rintro rfl
      rw [hlb] at sb; cases sb

theorem mem_transferWalk' (s a b : Path) :
    s ∈ (if isAnc a b then [] else walkUpTo (lcp a b) b) ↔
      isAnc s b = true ∧ isAnc s a = false ∧ isStrictAnc a s = false := by
  rw [lcp_comm]; exact mem_transferWalk s b a

theorem mem_placements (s a b : Path) : s ∈ placements a b ↔ internalEvent s a b ≠ .invalid := by
  rw [internalEvent_ne_invalid_iff]
  simp only [placements, List.mem_append, mem_ancestorsInclusive, mem_transferWalk s a b,
    mem_transferWalk' s a b]
  rw [isAnc_lcp_iff]
  have ha : isAnc s a = true → isStrictAnc a s = false := isStrictAnc_false_of_isAnc
  have hb : isAnc s b = true → isStrictAnc b s = false := isStrictAnc_false_of_isAnc
  revert ha hb
  cases isAnc s a <;> cases isAnc s b <;> cases isStrictAnc a s <;> cases isStrictAnc b s <;> simp

/-- The placements, as the code generates them. -/
theorem mem_placements_explicit (s a b : Path) :
    s ∈ placements a b ↔
      isAnc s (lcp a b) = true ∨
      (isAnc b a = false ∧ isAnc s a = true ∧ isStrictAnc (lcp a b) s = true) ∨
      (isAnc a b = false ∧ isAnc s b = true ∧ isStrictAnc (lcp a b) s = true) := by
  have hla := lcp_isAnc_left a b
  have hlb := lcp_isAnc_right a b
  have hne : s ≠ lcp a b ↔ lcp a b ≠ s := ⟨Ne.symm, Ne.symm⟩
  simp only [placements, List.mem_append, mem_ancestorsInclusive, isStrictAnc_iff, or_assoc]
  cases hba : isAnc b a <;> cases hab : isAnc a b <;>
    simp [mem_walkUpTo hla, mem_walkUpTo hlb, hne]

theorem nodup_placements (a b : Path) : (placements a b).Nodup := by
  unfold placements
  rw [List.nodup_append, List.nodup_append]
  refine ⟨⟨nodup_ancestorsInclusive _, ?_, ?_⟩, ?_, ?_⟩
  · split
    · simp
    · exact nodup_walkUpTo _ _
  · intro x hx y hy hxy
    subst hxy
    have h1 := (isAnc_lcp_iff x a b).mp ((mem_ancestorsInclusive _ _).mp hx)
    have h3 := (mem_transferWalk x a b).mp hy
    rw [h1.2] at h3; cases h3.2.1
  · split
    · simp
    · exact nodup_walkUpTo _ _
  · intro x hx y hy hxy
    subst hxy
    have h3 := (mem_transferWalk' x a b).mp hy
    rcases List.mem_append.mp hx with hx | hx
    · have h1 := (isAnc_lcp_iff x a b).mp ((mem_ancestorsInclusive _ _).mp hx)
      rw [h1.1] at h3; cases h3.2.1
    · have h1 := (mem_transferWalk x a b).mp hx
      rw [h1.1] at h3; cases h3.2.1

/-- The annotations of a plain reconciliation of `o`: same shape as `o`, leaf
    data as given, no synteny at internal nodes. -/
def plainLabels : OTree → Sol → Bool
  | .leaf _ f, .leaf _ g => g == f
  | .node ol or, .node _ g l r => g == [] && plainLabels ol l && plainLabels or r
  | _, _ => false

/-- The leaf species, left to right; the guard of the solver theorems is written with it.
    `OTree.leafSpecies` of `Proofs/LcaMap.lean` is the same function (`leafSpecies_eq`). -/
def leafSpecies : OTree → List Path
  | .leaf sp _ => [sp]
  | .node l r => leafSpecies l ++ leafSpecies r

theorem mem_generateAll (o : OTree) : ∀ sol : Sol,
    sol ∈ generateAll o ↔ Spec.validRec o sol = true ∧ plainLabels o sol = true := by
  induction o with
  | leaf sp f =>
    intro sol
    cases sol with
    | leaf s g => simp [generateAll, Spec.validRec, plainLabels]
    | node s g sl sr => simp [generateAll, Spec.validRec, plainLabels]
  | node l r ihl ihr =>
    intro sol
    rw [generateAll_node]
    simp only [List.mem_flatMap, List.mem_map]
    cases sol with
    | leaf s g => simp [Spec.validRec, plainLabels]
    | node s g sl sr =>
      simp only [Spec.validRec, plainLabels, Bool.and_eq_true, bne_iff_ne, beq_iff_eq,
        Sol.node.injEq]
      constructor
      · rintro ⟨ml, hml, mr, hmr, s', hs', rfl, rfl, rfl, rfl⟩
        have h1 := (ihl ml).mp hml
        have h2 := (ihr mr).mp hmr
        exact ⟨⟨⟨(mem_placements _ _ _).mp hs', h1.1⟩, h2.1⟩, ⟨rfl, h1.2⟩, h2.2⟩
      · rintro ⟨⟨⟨hev, hvl⟩, hvr⟩, ⟨hg, hpl⟩, hpr⟩
        exact ⟨sl, (ihl sl).mpr ⟨hvl, hpl⟩, sr, (ihr sr).mpr ⟨hvr, hpr⟩, s,
          (mem_placements _ _ _).mpr hev, rfl, hg.symm, rfl, rfl⟩

/-- The node step shared by the enumerator and the specification's list of mappings: one node
    per pair of sub-solutions and per species of a duplicate-free list. -/
theorem nodup_nodes {L R : List Sol} (pl : Sol → Sol → List Path) (hL : L.Nodup) (hR : R.Nodup)
    (hp : ∀ ml mr, (pl ml mr).Nodup) :
    (L.flatMap fun ml => R.flatMap fun mr => (pl ml mr).map fun s => Sol.node s [] ml mr).Nodup := by
  rw [List.nodup_flatMap]
  refine ⟨fun ml _ => ?_, ?_⟩
  · rw [List.nodup_flatMap]
    refine ⟨fun mr _ => ?_, ?_⟩
    · rw [List.Nodup, List.pairwise_map]
      exact (hp ml mr).imp (fun hne heq => hne (by injection heq))
    · refine List.Pairwise.imp ?_ hR
      intro mr mr' hne x hx hx'
      simp only [List.mem_map] at hx hx'
      obtain ⟨s, _, rfl⟩ := hx
      obtain ⟨s', _, heq⟩ := hx'
      injection heq with _ _ _ h
      exact hne h.symm
  · refine List.Pairwise.imp ?_ hL
    intro ml ml' hne x hx hx'
    simp only [List.mem_flatMap, List.mem_map] at hx hx'
    obtain ⟨mr, _, s, _, rfl⟩ := hx
    obtain ⟨mr', _, s', _, heq⟩ := hx'
    injection heq with _ _ h _
    exact hne h.symm

theorem nodup_generateAll (o : OTree) : (generateAll o).Nodup := by
  induction o with
  | leaf sp f => simp [generateAll]
  | node l r ihl ihr =>
    exact nodup_nodes (fun ml mr => placements ml.sp mr.sp) ihl ihr fun _ _ => nodup_placements _ _

theorem validRec_leaf_inv {sp : Path} {f : List Nat} {sol : Sol}
    (h : Spec.validRec (.leaf sp f) sol = true) : ∃ g, sol = .leaf sp g := by
  cases sol with
  | leaf s g =>
    simp only [Spec.validRec, beq_iff_eq] at h
    exact ⟨g, by rw [h]⟩
  | node s g l r => simp [Spec.validRec] at h

theorem validRec_node_inv {ol or : OTree} {sol : Sol}
    (h : Spec.validRec (.node ol or) sol = true) :
    ∃ s g l r, sol = .node s g l r ∧ internalEvent s l.sp r.sp ≠ .invalid ∧
      Spec.validRec ol l = true ∧ Spec.validRec or r = true := by
  cases sol with
  | leaf s g => simp [Spec.validRec] at h
  | node s g l r =>
    simp only [Spec.validRec, Bool.and_eq_true, bne_iff_ne, ne_eq] at h
    exact ⟨s, g, l, r, rfl, h.1.1, h.1.2, h.2⟩

theorem Spec.validRec_induction {P : OTree → Sol → Prop}
    (leaf : ∀ sp f g, P (.leaf sp f) (.leaf sp g))
    (node : ∀ ol or s g l r, internalEvent s l.sp r.sp ≠ .invalid → Spec.validRec ol l = true →
      Spec.validRec or r = true → P ol l → P or r → P (.node ol or) (.node s g l r)) :
    ∀ (o : OTree) (sol : Sol), Spec.validRec o sol = true → P o sol := by
  intro o
  induction o with
  | leaf sp f =>
    intro sol h
    obtain ⟨g, rfl⟩ := validRec_leaf_inv h
    exact leaf sp f g
  | node ol or ihl ihr =>
    intro sol h
    obtain ⟨s, g, l, r, rfl, hev, hl, hr⟩ := validRec_node_inv h
    exact node ol or s g l r hev hl hr (ihl l hl) (ihr r hr)

theorem validRec_sp_anc_leaf : ∀ (o : OTree) (sol : Sol), Spec.validRec o sol = true →
    ∃ p ∈ leafSpecies o, isAnc sol.sp p = true := by
  refine Spec.validRec_induction (fun sp f g => ⟨sp, by simp [leafSpecies], isAnc_refl _⟩) ?_
  intro l r s g sl sr hev _ _ ⟨p, hp, hpa⟩ ⟨q, hq, hqa⟩
  obtain ⟨_, _, hanc⟩ := (internalEvent_ne_invalid_iff _ _ _).mp hev
  rcases hanc with hanc | hanc
  · exact ⟨p, by simp [leafSpecies, hp], isAnc_trans hanc hpa⟩
  · exact ⟨q, by simp [leafSpecies, hq], isAnc_trans hanc hqa⟩

theorem plainLabels_of_mem_allMappings (S : RTree) (o : OTree) : ∀ sol : Sol,
    sol ∈ Spec.allMappings S o → plainLabels o sol = true := by
  induction o with
  | leaf sp f =>
    intro sol h
    simp only [Spec.allMappings, List.mem_singleton] at h
    subst h
    simp [plainLabels]
  | node l r ihl ihr =>
    intro sol h
    simp only [Spec.allMappings, List.mem_flatMap, List.mem_map] at h
    obtain ⟨ml, hml, mr, hmr, s, _, rfl⟩ := h
    simp [plainLabels, ihl ml hml, ihr mr hmr]

theorem mem_allMappings_of_valid (S : RTree) (o : OTree) : ∀ sol : Sol,
    (∀ p ∈ leafSpecies o, S.isNode p = true) →
    Spec.validRec o sol = true → plainLabels o sol = true → sol ∈ Spec.allMappings S o := by
  induction o with
  | leaf sp f =>
    intro sol _ hv hp
    obtain ⟨g, rfl⟩ := validRec_leaf_inv hv
    simp only [plainLabels, beq_iff_eq] at hp
    simp [Spec.allMappings, hp]
  | node l r ihl ihr =>
    intro sol hS hv hp
    obtain ⟨p, hpl, hpa⟩ := validRec_sp_anc_leaf _ sol hv
    obtain ⟨s, g, sl, sr, rfl, -, hvl, hvr⟩ := validRec_node_inv hv
    simp only [plainLabels, Bool.and_eq_true, beq_iff_eq] at hp
    obtain ⟨⟨hg, hpll⟩, hplr⟩ := hp
    subst hg
    simp only [Spec.allMappings, List.mem_flatMap, List.mem_map]
    refine ⟨sl, ihl sl (fun q hq => hS q (by simp [leafSpecies, hq])) hvl hpll,
      sr, ihr sr (fun q hq => hS q (by simp [leafSpecies, hq])) hvr hplr, s, ?_, rfl⟩
    exact (RTree.mem_preorder_iff s S).mpr (RTree.isNode_of_isAnc hpa (hS p hpl))

theorem mem_generateAll_iff_allValid (S : RTree) (o : OTree)
    (hS : ∀ p ∈ leafSpecies o, S.isNode p = true) (sol : Sol) :
    sol ∈ generateAll o ↔ sol ∈ Spec.allValid S o := by
  rw [mem_generateAll, Spec.allValid, List.mem_filter]
  constructor
  · rintro ⟨hv, hp⟩; exact ⟨mem_allMappings_of_valid S o sol hS hv hp, hv⟩
  · rintro ⟨hm, hv⟩; exact ⟨hv, plainLabels_of_mem_allMappings S o sol hm⟩

theorem nodup_allMappings (S : RTree) (o : OTree) : (Spec.allMappings S o).Nodup := by
  induction o with
  | leaf sp f => simp [Spec.allMappings]
  | node l r ihl ihr =>
    exact nodup_nodes (fun _ _ => allSpecies S) ihl ihr fun _ _ => RTree.nodup_preorder S

theorem nodup_allValid (S : RTree) (o : OTree) : (Spec.allValid S o).Nodup :=
  (List.filter_sublist).nodup (nodup_allMappings S o)

theorem lcaSol_mem_generateAll (o : OTree) : lcaSol o ∈ generateAll o := by
  induction o with
  | leaf sp f => simp [lcaSol, generateAll]
  | node l r ihl ihr =>
    rw [generateAll_node]
    simp only [List.mem_flatMap, List.mem_map]
    refine ⟨lcaSol l, ihl, lcaSol r, ihr, lcp (lcaSol l).sp (lcaSol r).sp, ?_, rfl⟩
    simp only [placements, List.mem_append, mem_ancestorsInclusive, isAnc_refl, true_or]

theorem internalEvent_lcp (a b : Path) :
    internalEvent (lcp a b) a b = .spec ∨ internalEvent (lcp a b) a b = .dup := by
  rw [internalEvent_of_isAnc (lcp_isAnc_left a b) (lcp_isAnc_right a b)]
  split <;> simp

end SR
