/-
  `RetentionPolicy.ANY` against `RetentionPolicy.ALL` at the level of `Entry` (`Model/Entry.lean`),
  for the three code-structured solver models.  The two runs offer DIFFERENT candidate lists to
  their entries (under ANY a `combine` yields at most one candidate, under ALL one per pair of
  retained tags), related by `BRel`; the value of an entry does not depend on the retention
  policy and the ANY tag is one of the ALL tags (`Inv.anySub`), through `combine`,
  `EntryProxy.update` and the result entry.  For a single policy: a written cell keeps the tag of
  a candidate that is not `+inf` (`tag_of_prov`), which lets a decoder go on below a cell.
-/
import SRVerif.Proofs.Entry
import SRVerif.Model.CostExt

namespace SR

namespace AnyCode

theorem add_ne_posInf {a b : ExtInt} (h : a + b ≠ .posInf) : a ≠ .posInf ∧ b ≠ .posInf := by
  constructor
  · rintro rfl; exact h rfl
  · rintro rfl; cases a <;> exact h rfl

open Entry

set_option linter.unusedSectionVars false

section

variable {τ : Type} [DecidableEq τ]

/-- The candidates offered under ANY against those offered under ALL. -/
structure BRel (csA csL : List (Cand τ)) : Prop where
  sub : ∀ c ∈ csA, c ∈ csL
  cover : ∀ c ∈ csL, ∃ c' ∈ csA, c'.value = c.value ∧ (c.info.isSome → c'.info.isSome)

theorem BRel.refl (cs : List (Cand τ)) : BRel cs cs :=
  ⟨fun _ h => h, fun c h => ⟨c, h, rfl, id⟩⟩

theorem BRel.nil : BRel ([] : List (Cand τ)) [] := BRel.refl _

theorem BRel.append {a b a' b' : List (Cand τ)} (h : BRel a b) (h' : BRel a' b') :
    BRel (a ++ a') (b ++ b') := by
  constructor
  · intro c hc
    rcases List.mem_append.mp hc with hc | hc
    · exact List.mem_append.mpr (Or.inl (h.sub c hc))
    · exact List.mem_append.mpr (Or.inr (h'.sub c hc))
  · intro c hc
    rcases List.mem_append.mp hc with hc | hc
    · obtain ⟨c', h1, h2⟩ := h.cover c hc
      exact ⟨c', List.mem_append.mpr (Or.inl h1), h2⟩
    · obtain ⟨c', h1, h2⟩ := h'.cover c hc
      exact ⟨c', List.mem_append.mpr (Or.inr h1), h2⟩

theorem BRel.flatMap {α : Type} (xs : List α) (f g : α → List (Cand τ))
    (h : ∀ x ∈ xs, BRel (f x) (g x)) : BRel (xs.flatMap f) (xs.flatMap g) := by
  induction xs with
  | nil => exact BRel.nil
  | cons x xs ih =>
    simp only [List.flatMap_cons]
    exact (h x (by simp)).append (ih fun y hy => h y (by simp [hy]))

theorem BRel.writes {a b : List (Cand τ)} (h : BRel a b) : C16.writes a = C16.writes b := by
  cases hb : C16.writes b with
  | true =>
    simp only [C16.writes, List.any_eq_true] at hb ⊢
    obtain ⟨c, hc, hf⟩ := hb
    obtain ⟨c', hc', hv, _⟩ := h.cover c hc
    exact ⟨c', hc', by rw [hv]; exact hf⟩
  | false =>
    cases ha : C16.writes a with
    | false => rfl
    | true =>
      simp only [C16.writes, List.any_eq_true] at ha
      obtain ⟨c, hc, hf⟩ := ha
      have : C16.writes b = true := by
        simp only [C16.writes, List.any_eq_true]
        exact ⟨c, h.sub c hc, hf⟩
      rw [this] at hb; cases hb

/-- An entry of the ANY run against the entry of the ALL run. -/
structure AnySub (m : Merge) (eA eL : Entry τ) : Prop where
  value : eA.value = eL.value
  sub : ∀ t ∈ eA.infos, t ∈ eL.infos
  nonempty : eL.infos ≠ [] → eA.infos ≠ []
  le1 : eA.infos.length ≤ 1
  mergeA : eA.merge = m
  mergeL : eL.merge = m
  retainA : eA.retain = .any
  retainL : eL.retain = .all

theorem _root_.SR.Entry.Inv.anySub {m : Merge} {csA csL : List (Cand τ)} {eA eL : Entry τ}
    (hA : Inv m .any csA eA) (hL : Inv m .all csL eL) (h : BRel csA csL) : AnySub m eA eL := by
  have hAL : better m eL.value eA.value = false := by
    rcases hA.attained with h' | ⟨c, hc, h'⟩
    · rw [h']; exact hL.optimalS
    · rw [← h']; exact hL.optimal c (h.sub c hc)
  have hLA : better m eA.value eL.value = false := by
    rcases hL.attained with h' | ⟨c, hc, h'⟩
    · rw [h']; exact hA.optimalS
    · obtain ⟨c', hc', hv, _⟩ := h.cover c hc
      rw [← h', ← hv]; exact hA.optimal c' hc'
  have hval : eA.value = eL.value := by
    by_cases hne : eA.value = eL.value
    · exact hne
    · have := better_total hne hLA
      rw [this] at hAL; cases hAL
  refine ⟨hval, ?_, ?_, hA.any1 rfl, hA.merge, hL.merge, hA.retain, hL.retain⟩
  · intro t ht
    obtain ⟨c, hc, h1, h2⟩ := hA.anySound rfl t ht
    exact (hL.all rfl t).mpr ⟨c, h.sub c hc, h1, by rw [h2, hval]⟩
  · intro hne
    obtain ⟨t, ht⟩ := List.exists_mem_of_ne_nil _ hne
    obtain ⟨c, hc, h1, h2⟩ := (hL.all rfl t).mp ht
    obtain ⟨c', hc', hv, hs⟩ := h.cover c hc
    exact hA.anyComplete rfl ⟨c', hc', hs (by simp [h1]), by rw [hv, h2, hval]⟩

end

section combine

variable {τ σ : Type} [DecidableEq τ] [DecidableEq σ]

theorem combine_anySub {m : Merge} {A A' B B' : Entry τ} (hA : AnySub m A A') (hB : AnySub m B B')
    (f : ExtInt → τ → ExtInt → τ → Cand σ) (g : ExtInt → ExtInt → ExtInt) (mk : τ → τ → σ)
    (hf : ∀ av x bv y, f av x bv y = ⟨g av bv, some (mk x y)⟩) :
    AnySub m (A.combine B f) (A'.combine B' f) := by
  have iA := C16.combine_inv A B f
  have iL := C16.combine_inv A' B' f
  rw [hA.mergeA, hA.retainA] at iA
  rw [hA.mergeL, hA.retainL] at iL
  apply Inv.anySub iA iL
  constructor
  · intro c hc
    obtain ⟨x, hx, y, hy, rfl⟩ := (C16.mem_pairCands A B f c).mp hc
    rw [hA.value, hB.value]
    exact (C16.mem_pairCands A' B' f _).mpr ⟨x, hA.sub x hx, y, hB.sub y hy, rfl⟩
  · intro c hc
    obtain ⟨x, hx, y, hy, rfl⟩ := (C16.mem_pairCands A' B' f c).mp hc
    obtain ⟨x0, hx0⟩ := List.exists_mem_of_ne_nil _ (hA.nonempty (List.ne_nil_of_mem hx))
    obtain ⟨y0, hy0⟩ := List.exists_mem_of_ne_nil _ (hB.nonempty (List.ne_nil_of_mem hy))
    refine ⟨f A.value x0 B.value y0, (C16.mem_pairCands A B f _).mpr ⟨x0, hx0, y0, hy0, rfl⟩, ?_, ?_⟩
    · rw [hf, hf, hA.value, hB.value]
    · intro _; rw [hf]; rfl

theorem combine_prov {r r' : Retain} {A B : Entry τ} {csA csB : List (Cand τ)}
    (iA : Inv .min r csA A) (iB : Inv .min r' csB B) (f : ExtInt → τ → ExtInt → τ → Cand σ)
    (g : ExtInt → ExtInt → ExtInt) (mk : τ → τ → σ)
    (hf : ∀ av x bv y, f av x bv y = ⟨g av bv, some (mk x y)⟩) :
    ∀ t ∈ (A.combine B f).infos, ∃ x y, t = mk x y ∧ ∃ ca ∈ csA, ∃ cb ∈ csB,
      ca.info = some x ∧ cb.info = some y ∧ (A.combine B f).value = g ca.value cb.value := by
  intro t ht
  obtain ⟨c, hc, h1, h2⟩ := Inv.sound (C16.combine_inv A B f) t ht
  obtain ⟨x, hx, y, hy, rfl⟩ := (C16.mem_pairCands A B f c).mp hc
  rw [hf] at h1 h2
  obtain ⟨ca, hca, h3, h4⟩ := Inv.sound iA x hx
  obtain ⟨cb, hcb, h5, h6⟩ := Inv.sound iB y hy
  exact ⟨x, y, (Option.some.inj h1).symm, ca, hca, cb, hcb, h3, h5, by rw [← h2, h4, h6]⟩

theorem cands_bRel {m : Merge} {eA eL : Entry τ} (h : AnySub m eA eL) :
    BRel (eA.infos.map fun t => (⟨eA.value, some t⟩ : Cand τ))
      (eL.infos.map fun t => (⟨eL.value, some t⟩ : Cand τ)) := by
  constructor
  · intro c hc
    obtain ⟨t, ht, rfl⟩ := List.mem_map.mp hc
    rw [h.value]
    exact List.mem_map.mpr ⟨t, h.sub t ht, rfl⟩
  · intro c hc
    obtain ⟨t, ht, rfl⟩ := List.mem_map.mp hc
    obtain ⟨t0, ht0⟩ := List.exists_mem_of_ne_nil _ (h.nonempty (List.ne_nil_of_mem ht))
    exact ⟨⟨eA.value, some t0⟩, List.mem_map.mpr ⟨t0, ht0, rfl⟩, h.value, fun _ => rfl⟩

end combine

section cell

variable {τ : Type} [DecidableEq τ]

/-- A cell of the ANY table against the cell of the ALL table: instantiated
    together, with related histories. -/
inductive CellRel (m : Merge) : Cell τ → Cell τ → Prop
  | none : CellRel m none none
  | some {eA eL : Entry τ} {hA hL : List (Cand τ)} :
      Inv m .any hA eA → Inv m .all hL eL → BRel hA hL → CellRel m (some eA) (some eL)

theorem cellRel_update {m : Merge} {cA cL : Cell τ} (h : CellRel m cA cL)
    {bA bL : List (Cand τ)} (hb : BRel bA bL) :
    CellRel m (Cell.update m .any cA bA) (Cell.update m .all cL bL) := by
  have hw := hb.writes
  simp only [C16.writes] at hw
  unfold Cell.update
  rw [hw]
  split
  · cases h with
    | none =>
      exact .some (inv_fresh m .any bA) (inv_fresh m .all bL) (by simpa using hb)
    | some iA iL hr =>
      exact .some (inv_update iA bA) (inv_update iL bL) (hr.append hb)
  · exact h

/-- Related histories of batches. -/
inductive BRels : List (List (Cand τ)) → List (List (Cand τ)) → Prop
  | nil : BRels [] []
  | cons {a b : List (Cand τ)} {as bs : List (List (Cand τ))} :
      BRel a b → BRels as bs → BRels (a :: as) (b :: bs)

theorem cellRel_foldl {m : Merge} {bsA bsL : List (List (Cand τ))}
    (hbs : BRels bsA bsL) {cA cL : Cell τ} (h : CellRel m cA cL) :
    CellRel m (bsA.foldl (Cell.update m .any) cA) (bsL.foldl (Cell.update m .all) cL) := by
  induction hbs generalizing cA cL with
  | nil => exact h
  | cons hb _ ih => exact ih (cellRel_update h hb)

theorem CellRel.anySub {m : Merge} {eA eL : Entry τ} (h : CellRel m (Option.some eA) (Option.some eL)) :
    AnySub m eA eL := by
  cases h with
  | some iA iL hr => exact Inv.anySub iA iL hr

/-- Two cells instantiated together, with related entries. -/
def CellSub (m : Merge) (cA cL : Cell τ) : Prop :=
  (cA = Option.none ∧ cL = Option.none) ∨
    ∃ eA eL, cA = Option.some eA ∧ cL = Option.some eL ∧ AnySub m eA eL

theorem CellSub.spec {m : Merge} {cA cL : Cell τ} (h : CellSub m cA cL) :
    (cA = Option.none ↔ cL = Option.none) ∧ Cell.value m cA = Cell.value m cL ∧
    (Cell.infos cA).length ≤ 1 ∧ (∀ t ∈ Cell.infos cA, t ∈ Cell.infos cL) ∧
    (Cell.infos cL ≠ [] → Cell.infos cA ≠ []) := by
  rcases h with ⟨rfl, rfl⟩ | ⟨eA, eL, rfl, rfl, h⟩
  · exact ⟨Iff.rfl, rfl, Nat.zero_le 1, fun _ h => h, id⟩
  · exact ⟨by simp, h.value, h.le1, h.sub, h.nonempty⟩

theorem CellRel.cellSub {m : Merge} {cA cL : Cell τ} (h : CellRel m cA cL) : CellSub m cA cL := by
  cases h with
  | none => exact .inl ⟨rfl, rfl⟩
  | some iA iL hr => exact .inr ⟨_, _, rfl, rfl, Inv.anySub iA iL hr⟩

theorem CellRel.isNone {m : Merge} {cA cL : Cell τ} (h : CellRel m cA cL) :
    cA = Option.none ↔ cL = Option.none := h.cellSub.spec.1

theorem CellRel.value {m : Merge} {cA cL : Cell τ} (h : CellRel m cA cL) :
    Cell.value m cA = Cell.value m cL := h.cellSub.spec.2.1

theorem CellRel.infos_sub {m : Merge} {cA cL : Cell τ} (h : CellRel m cA cL) :
    ∀ t ∈ Cell.infos cA, t ∈ Cell.infos cL := h.cellSub.spec.2.2.2.1

theorem cell_some_inv {m : Merge} {r : Retain} {bs : List (List (Cand τ))} {e : Entry τ}
    (h : some e = bs.foldl (Cell.update m r) (none : Cell τ)) :
    Inv m r (bs.filter C16.writes).flatten e ∧
      ∃ c0 ∈ (bs.filter C16.writes).flatten, c0.value.isInfinite = false := by
  rw [C16.cell_fold] at h
  split at h
  · cases h
  · rename_i hne
    simp only [Option.getD_none, Option.some.injEq] at h
    subst h
    refine ⟨inv_fresh m r _, ?_⟩
    obtain ⟨b, hb⟩ := List.exists_mem_of_ne_nil _ hne
    have hw := (List.mem_filter.mp hb).2
    simp only [C16.writes, List.any_eq_true] at hw
    obtain ⟨c0, hc0, hf⟩ := hw
    exact ⟨c0, List.mem_flatten.mpr ⟨b, hb, hc0⟩, by simpa using hf⟩

/-- A cell written from scratch, under MIN and a tag-retaining policy, by batches of tagged
    candidates whose tags satisfy `P` unless the candidate is `+inf`: once instantiated, the cell
    keeps a tag satisfying `P`.  (With `P t` = "the child cells named by `t` are instantiated" this
    is what lets a decoder go on below every cell it reaches.) -/
theorem tag_of_prov {r : Retain} (hr : r ≠ .none) {bs : List (List (Cand τ))} {cell : Cell τ}
    (h : cell = bs.foldl (Cell.update .min r) none) (hne : cell ≠ none) {P : τ → Prop}
    (hprov : ∀ c ∈ bs.flatten, ∃ t, c.info = some t ∧ (c.value ≠ .posInf → P t)) :
    ∃ t ∈ Cell.infos cell, P t := by
  obtain ⟨e, rfl⟩ := Option.ne_none_iff_exists'.mp hne
  obtain ⟨inv, c0, hc0, hfin⟩ := cell_some_inv h
  obtain ⟨t, ht, c, hc, hi, hv⟩ := Inv.exists_tag inv hr (fun c hc => by
    obtain ⟨t, hi, _⟩ := hprov c (C16.mem_written_flatten hc)
    simp [hi]) hc0 hfin
  obtain ⟨t', hi', hP⟩ := hprov c (C16.mem_written_flatten hc)
  rw [hi] at hi'
  cases hi'
  exact ⟨t, ht, hP hv⟩

theorem update_tag {r : Retain} (hr : r ≠ .none) {batch : List (Cand τ)} {cell : Cell τ}
    (h : cell = Cell.update .min r none batch) (hne : cell ≠ none) {P : τ → Prop}
    (hprov : ∀ c ∈ batch, ∃ t, c.info = some t ∧ (c.value ≠ .posInf → P t)) :
    ∃ t ∈ Cell.infos cell, P t :=
  tag_of_prov hr (bs := [batch]) h hne fun c hc => hprov c (by
    rwa [List.flatten_cons, List.flatten_nil, List.append_nil] at hc)

end cell

section result

variable {σ ι : Type} [DecidableEq σ]

/-- The candidates `Candidate(cost(output), output)` offered to the result entry:
    for every index (root species, root order) the outputs decoded there. -/
def outCands (cost : σ → ExtInt) (ss : List ι) (d : ι → List σ) : List (Cand σ) :=
  ss.flatMap fun s => (d s).map fun out => ⟨cost out, some out⟩

theorem mem_outCands {cost : σ → ExtInt} {ss : List ι} {d : ι → List σ} {c : Cand σ} :
    c ∈ outCands cost ss d ↔ ∃ s ∈ ss, ∃ out ∈ d s, c = ⟨cost out, some out⟩ := by
  simp only [outCands, List.mem_flatMap, List.mem_map]
  constructor
  · rintro ⟨s, hs, out, ho, rfl⟩; exact ⟨s, hs, out, ho, rfl⟩
  · rintro ⟨s, hs, out, ho, rfl⟩; exact ⟨s, hs, out, ho, rfl⟩

/-- `dA s ⊆ dL s` are the outputs decoded at index `s` under ANY and under ALL, the former
    non-empty when the latter is (`hd`); `cost` is the evaluated cost the solvers rank by.  Equal
    values and inclusion of the tags are concluded only when all ALL-outputs of one index have
    the same cost. -/
theorem result_rel (cost : σ → Cost) (ss : List ι) (dA dL : ι → List σ)
    (hd : ∀ s ∈ ss, (∀ x ∈ dA s, x ∈ dL s) ∧ (dL s ≠ [] → dA s ≠ []))
    (eA eL : Entry σ) (hA : Inv .min .any (outCands (fun out => (cost out).toExt) ss dA) eA)
    (hL : Inv .min .all (outCands (fun out => (cost out).toExt) ss dL) eL) :
    eA.infos.length ≤ 1 ∧ (eA.infos = [] ↔ eL.infos = []) ∧
    ((∀ s ∈ ss, ∀ x ∈ dL s, ∀ y ∈ dL s, cost x = cost y) →
      eA.value = eL.value ∧ ∀ t ∈ eA.infos, t ∈ eL.infos) := by
  have htag : ∀ d : ι → List σ, ∀ c ∈ outCands (fun out => (cost out).toExt) ss d, c.info.isSome := by
    intro d c hc; obtain ⟨s, _, out, _, rfl⟩ := mem_outCands.mp hc; rfl
  -- every ANY candidate is an ALL candidate; every ALL candidate has an ANY candidate of its index
  have hsub : ∀ c ∈ outCands (fun out => (cost out).toExt) ss dA,
      c ∈ outCands (fun out => (cost out).toExt) ss dL := by
    intro c hc
    obtain ⟨s, hs, out, ho, rfl⟩ := mem_outCands.mp hc
    exact mem_outCands.mpr ⟨s, hs, out, (hd s hs).1 out ho, rfl⟩
  have hcov : ∀ s ∈ ss, ∀ out ∈ dL s, ∃ x ∈ dA s, x ∈ dL s ∧
      (⟨(cost x).toExt, some x⟩ : Cand σ) ∈ outCands (fun out => (cost out).toExt) ss dA := by
    intro s hs out ho
    obtain ⟨x, hx⟩ := List.exists_mem_of_ne_nil _ ((hd s hs).2 (List.ne_nil_of_mem ho))
    exact ⟨x, hx, (hd s hs).1 x hx, mem_outCands.mpr ⟨s, hs, x, hx, rfl⟩⟩
  have hcs : outCands (fun out => (cost out).toExt) ss dA = [] ↔
      outCands (fun out => (cost out).toExt) ss dL = [] := by
    constructor
    · intro h
      apply List.eq_nil_iff_forall_not_mem.mpr
      intro c hc
      obtain ⟨s, hs, out, ho, rfl⟩ := mem_outCands.mp hc
      obtain ⟨x, _, _, hx⟩ := hcov s hs out ho
      rw [h] at hx; cases hx
    · intro h
      apply List.eq_nil_iff_forall_not_mem.mpr
      intro c hc
      have := hsub c hc
      rw [h] at this; cases this
  refine ⟨hA.any1 rfl, by
    rw [Inv.infos_nil_iff hA (by simp) (htag dA), Inv.infos_nil_iff hL (by simp) (htag dL), hcs], ?_⟩
  intro hu
  have := Inv.anySub hA hL ⟨hsub, fun c hc => by
    obtain ⟨s, hs, out, ho, rfl⟩ := mem_outCands.mp hc
    obtain ⟨x, _, hxL, hx⟩ := hcov s hs out ho
    exact ⟨_, hx, congrArg Cost.toExt (hu s hs x hxL out ho), fun _ => rfl⟩⟩
  exact ⟨this.value, this.sub⟩

end result

end AnyCode

end SR
