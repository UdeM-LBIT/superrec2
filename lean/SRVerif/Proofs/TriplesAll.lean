/-
  AllTrees (`all_trees_from_triples`) lists, each once up to child order, the
  binary trees on the leaf list that display the triples (`allTrees_enum`).
  The disjoint sets are confined to the level theorem `splits_spec`: the cuts
  `(A, B)` of the leaf list tried at one level are exactly the cuts respected
  by the triples, each once, in one of its two orders.
-/
import SRVerif.Proofs.Triples

namespace SR.Tri

open SR SR.DS LTree Spec

theorem mem_joinAll {ls rs : List LTree} {t : LTree} :
    t ∈ joinAll ls rs ↔ ∃ a, a ∈ ls ∧ ∃ b, b ∈ rs ∧ t = .node [a, b] := by
  simp only [joinAll, List.mem_flatMap, List.mem_map]
  constructor
  · rintro ⟨a, ha, b, hb, rfl⟩; exact ⟨a, ha, b, hb, rfl⟩
  · rintro ⟨a, ha, b, hb, rfl⟩; exact ⟨a, ha, b, hb, rfl⟩

/-- The ordered bipartitions `(A, B)` of the leaf list that AllTrees tries at one level (two leaves:
    the model returns the cherry without consulting the partition). -/
def splits (l : List Nat) (trs : List Triple) : List (List Nat × List Nat) :=
  match l with
  | [a, b] => [([a], [b])]
  | _ => (partitionOf l trs).binary.map fun bp =>
      (groupLeaves l (bp.toList.2.getD 0 []), groupLeaves l (bp.toList.2.getD 1 []))

theorem allTrees_succ {fuel : Nat} {l : List Nat} {trs : List Triple} (h2 : 2 ≤ l.length)
    (hf : l.length ≤ fuel + 1) :
    allTrees (fuel + 1) l trs = (splits l trs).flatMap fun p =>
      joinAll (allTrees fuel p.1 (trs.filter (inside p.1))) (allTrees fuel p.2 (trs.filter (inside p.2))) := by
  match l, h2, hf with
  | [a, b], _, hf =>
    obtain ⟨k, rfl⟩ : ∃ k, fuel = k + 1 := ⟨fuel - 1, by simp at hf; omega⟩
    rfl
  | a :: b :: c :: rest, _, _ => simp only [allTrees, splits, List.flatMap_map]

theorem splits_three {l : List Nat} (trs : List Triple) (h3 : 3 ≤ l.length) :
    splits l trs = (partitionOf l trs).binary.map fun bp =>
      (groupLeaves l (bp.toList.2.getD 0 []), groupLeaves l (bp.toList.2.getD 1 [])) := by
  match l, h3 with
  | _ :: _ :: _ :: _, _ => rfl

theorem isSplit_groups {l : List Nat} {trs : List Triple} (hl : l.Nodup) {g0 g1 : List Nat}
    (hne0 : g0 ≠ []) (hne1 : g1 ≠ []) (hs0 : g0.Pairwise (· < ·)) (hs1 : g1.Pairwise (· < ·))
    (hdis : ∀ i, i ∈ g0 → i ∉ g1) (hcov : ∀ i, i < l.length ↔ i ∈ g0 ∨ i ∈ g1)
    (hconn : ∀ x y, x < l.length → y < l.length →
      Conn (trs.map (fun t => (l.idxOf t.1, l.idxOf t.2.1))) x y → (x ∈ g0 ↔ y ∈ g0)) :
    IsSplit l trs (groupLeaves l g0) (groupLeaves l g1) := by
  have hb0 : ∀ i, i ∈ g0 → i < l.length := fun i hi => (hcov i).mpr (Or.inl hi)
  have hb1 : ∀ i, i ∈ g1 → i < l.length := fun i hi => (hcov i).mpr (Or.inr hi)
  refine ⟨nodup_groupLeaves hl hb0 hs0, nodup_groupLeaves hl hb1 hs1, by simpa [groupLeaves] using hne0,
    by simpa [groupLeaves] using hne1, fun x h0 h1 => ?_, fun x => ?_, fun tr htr hin => ?_⟩
  · exact hdis _ ((mem_groupLeaves_iff hl hb0).mp h0).2 ((mem_groupLeaves_iff hl hb1).mp h1).2
  · rw [mem_groupLeaves_iff hl hb0, mem_groupLeaves_iff hl hb1, ← and_or_left, ← hcov,
      List.idxOf_lt_length_iff, and_self]
  · obtain ⟨ha, hb, _⟩ := (inside_iff l tr).mp hin
    have hia : l.idxOf tr.1 < l.length := List.idxOf_lt_length_iff.mpr ha
    have hib : l.idxOf tr.2.1 < l.length := List.idxOf_lt_length_iff.mpr hb
    have h := hconn _ _ hia hib (Conn.base (List.mem_map.mpr ⟨tr, htr, rfl⟩))
    rw [mem_groupLeaves_iff hl hb0, mem_groupLeaves_iff hl hb0, mem_groupLeaves_iff hl hb1,
      mem_groupLeaves_iff hl hb1]
    by_cases h0 : l.idxOf tr.1 ∈ g0
    · exact Or.inl ⟨⟨ha, h0⟩, hb, h.mp h0⟩
    · exact Or.inr ⟨⟨ha, ((hcov _).mp hia).resolve_left h0⟩, hb,
        ((hcov _).mp hib).resolve_left (fun h' => h0 (h.mpr h'))⟩

theorem splits_spec {l : List Nat} {trs : List Triple} (hl : l.Nodup) (hk : Known l trs)
    (hp : Proper trs) (h2 : 2 ≤ l.length) :
    (∀ p, p ∈ splits l trs → IsSplit l trs p.1 p.2) ∧
    (∀ q : Nat → Prop, (∃ x, x ∈ l ∧ q x) → (∃ x, x ∈ l ∧ ¬ q x) →
      (∀ tr, tr ∈ trs → (q tr.1 ↔ q tr.2.1)) →
      ∃ p, p ∈ splits l trs ∧
        ((∀ x, x ∈ l → (x ∈ p.1 ↔ q x)) ∨ (∀ x, x ∈ l → (x ∈ p.2 ↔ q x)))) ∧
    (splits l trs).Pairwise fun p p' =>
      ∃ x y, x ∈ l ∧ y ∈ l ∧ ¬ ((x ∈ p.1 ↔ y ∈ p.1) ↔ (x ∈ p'.1 ↔ y ∈ p'.1)) := by
  match l, hl, hk, h2 with
  | [a, b], hl, _, _ =>
    have hab : a ≠ b := by simpa using hl
    refine ⟨?_, ?_, by simp [splits]⟩
    · intro p hp'
      simp only [splits, List.mem_singleton] at hp'
      subst hp'
      exact isSplit_two hp hab
    · rintro q ⟨x, hx, hqx⟩ ⟨y, hy, hqy⟩ _
      refine ⟨([a], [b]), by simp [splits], ?_⟩
      simp only [List.mem_cons, List.not_mem_nil, or_false] at hx hy ⊢
      rcases hx with rfl | rfl <;> rcases hy with rfl | rfl
      · exact absurd hqx hqy
      · exact Or.inl (by rintro z (rfl | rfl) <;> simp [hqx, hqy, Ne.symm hab])
      · exact Or.inr (by rintro z (rfl | rfl) <;> simp [hqx, hqy, hab])
      · exact absurd hqx hqy
  | a :: b :: c :: rest, hl, hk, _ =>
    rw [splits_three trs (by simp)]
    generalize a :: b :: c :: rest = l at *
    obtain ⟨hsound, hcomplete, hdistinct⟩ := binary_toList (partitionOf_inv hk)
    -- the two groups of a member, on names
    have hgr : ∀ bp, bp ∈ (partitionOf l trs).binary → ∃ g0 g1, bp.toList.2 = [g0, g1] ∧
        IsSplit l trs (groupLeaves l g0) (groupLeaves l g1) ∧
        ∀ g, g = g0 ∨ g = g1 → ∀ x, x ∈ l → (x ∈ groupLeaves l g ↔ l.idxOf x ∈ g) := by
      intro bp hbp
      obtain ⟨g0, g1, hgs, hne0, hne1, hs0, hs1, hdis, hcov, hconn⟩ := hsound bp hbp
      refine ⟨g0, g1, hgs, isSplit_groups hl hne0 hne1 hs0 hs1 hdis hcov hconn, ?_⟩
      rintro g (rfl | rfl) x hx
      · rw [mem_groupLeaves_iff hl fun i hi => (hcov i).mpr (Or.inl hi)]; simp [hx]
      · rw [mem_groupLeaves_iff hl fun i hi => (hcov i).mpr (Or.inr hi)]; simp [hx]
    refine ⟨?_, ?_, ?_⟩
    · intro p hp'
      obtain ⟨bp, hbp, rfl⟩ := List.mem_map.mp hp'
      obtain ⟨g0, g1, hgs, hS, _⟩ := hgr bp hbp
      simp only [hgs, List.getD_cons_zero, List.getD_cons_succ]
      exact hS
    · rintro q ⟨x1, hx1, hq1⟩ ⟨x2, hx2, hq2⟩ hq
      obtain ⟨bp, g0, g1, hbp, hgs, hor⟩ := hcomplete (fun i => q (l.getD i 0))
        ⟨_, List.idxOf_lt_length_iff.mpr hx1, by rwa [List.getD_idxOf hx1]⟩
        ⟨_, List.idxOf_lt_length_iff.mpr hx2, by rwa [List.getD_idxOf hx2]⟩
        (fun x y _ _ h => conn_names hk (R := fun a b => q a ↔ q b) (fun _ => Iff.rfl)
          (fun _ _ h => h.symm) (fun _ _ _ h h' => h.trans h') hq h)
      obtain ⟨g0', g1', hgs', _, hnm⟩ := hgr bp hbp
      rw [hgs] at hgs'
      simp only [List.cons.injEq, and_true] at hgs'
      obtain ⟨rfl, rfl⟩ := hgs'
      refine ⟨_, List.mem_map.mpr ⟨bp, hbp, rfl⟩, ?_⟩
      simp only [hgs, List.getD_cons_zero, List.getD_cons_succ]
      refine hor.imp (fun h x hx => ?_) (fun h x hx => ?_)
      · rw [hnm _ (Or.inl rfl) x hx, h _ (List.idxOf_lt_length_iff.mpr hx), List.getD_idxOf hx]
      · rw [hnm _ (Or.inr rfl) x hx, h _ (List.idxOf_lt_length_iff.mpr hx), List.getD_idxOf hx]
    · rw [List.pairwise_map]
      refine List.Pairwise.imp_of_mem ?_ hdistinct
      intro bp bp' hbp hbp' ⟨i, j, hi, hj, hne⟩
      obtain ⟨g0, g1, hgs, _, hnm⟩ := hgr bp hbp
      obtain ⟨g0', g1', hgs', _, hnm'⟩ := hgr bp' hbp'
      simp only [hgs, hgs', List.getD_cons_zero] at hne ⊢
      refine ⟨_, _, List.getD_mem hi, List.getD_mem hj, fun h => hne ?_⟩
      rwa [hnm _ (Or.inl rfl) _ (List.getD_mem hi), hnm _ (Or.inl rfl) _ (List.getD_mem hj),
        hnm' _ (Or.inl rfl) _ (List.getD_mem hi), hnm' _ (Or.inl rfl) _ (List.getD_mem hj),
        List.idxOf_getD hl hi, List.idxOf_getD hl hj] at h

theorem allTrees_enum : ∀ (fuel : Nat) (l : List Nat) (trs : List Triple),
    l.Nodup → Known l trs → Proper trs → l.length ≤ fuel →
    (∀ t, t ∈ allTrees fuel l trs → Good trs l t ∧ t.isBinary = true) ∧
    (allTrees fuel l trs).Pairwise Differ ∧
    ∀ T : LTree, T.isBinary = true → T.leaves.Nodup → (∀ x, x ∈ l ↔ x ∈ T.leaves) →
      (∀ tr, tr ∈ trs → inside l tr = true ∧ displays T tr = true) →
      ∃ u, u ∈ allTrees fuel l trs ∧ sameClades T u = true := by
  have none : ∀ T : LTree, T.isBinary = true → (∀ x, x ∈ ([] : List Nat) ↔ x ∈ T.leaves) → False := by
    intro T hb hmem
    obtain ⟨x, hx⟩ := List.exists_mem_of_ne_nil _ (binary_leaves_ne T hb)
    cases (hmem x).mpr hx
  intro fuel
  induction fuel with
  | zero =>
    intro l trs _ _ _ hlen
    obtain rfl := List.eq_nil_of_length_eq_zero (Nat.le_zero.mp hlen)
    exact ⟨by simp [allTrees], by simp [allTrees], fun T hb _ hmem _ => (none T hb hmem).elim⟩
  | succ fuel ih =>
    intro l trs hl hk hp hlen
    by_cases h2 : 2 ≤ l.length
    · rw [allTrees_succ h2 hlen]
      obtain ⟨hS, hC, hD⟩ := splits_spec hl hk hp h2
      have sub := fun (A : List Nat) (hA : A.Nodup) (hlt : A.length < l.length) =>
        ih A (trs.filter (inside A)) hA (known_filter _ _) (proper_filter hp _) (by omega)
      have hmemb : ∀ p, p ∈ splits l trs → ∀ t0 t1, t0 ∈ allTrees fuel p.1 (trs.filter (inside p.1)) →
          t1 ∈ allTrees fuel p.2 (trs.filter (inside p.2)) →
          Good trs p.1 t0 ∧ t0.isBinary = true ∧ Good trs p.2 t1 ∧ t1.isBinary = true := by
        intro p hps t0 t1 h0 h1
        obtain ⟨la, lb⟩ := (hS p hps).length_lt hl
        obtain ⟨g0, b0⟩ := (sub _ (hS p hps).nodupA la).1 t0 h0
        obtain ⟨g1, b1⟩ := (sub _ (hS p hps).nodupB lb).1 t1 h1
        exact ⟨good_of_filter g0, b0, good_of_filter g1, b1⟩
      refine ⟨?_, ?_, ?_⟩
      · intro t ht
        obtain ⟨p, hps, ht⟩ := List.mem_flatMap.mp ht
        obtain ⟨t0, h0, t1, h1, rfl⟩ := mem_joinAll.mp ht
        obtain ⟨g0, b0, g1, b1⟩ := hmemb p hps t0 t1 h0 h1
        exact ⟨(hS p hps).good g0 g1, isBinary_node2.mpr ⟨b0, b1⟩⟩
      · rw [List.pairwise_flatMap]
        constructor
        · -- inside the block of one cut
          intro p hps
          have hs := hS p hps
          obtain ⟨la, lb⟩ := hs.length_lt hl
          have hA := (sub _ hs.nodupA la).2.1
          have hB := (sub _ hs.nodupB lb).2.1
          have hch : ∀ t0 t0' t1 t1', t0 ∈ allTrees fuel p.1 (trs.filter (inside p.1)) →
              t0' ∈ allTrees fuel p.1 (trs.filter (inside p.1)) →
              t1 ∈ allTrees fuel p.2 (trs.filter (inside p.2)) →
              t1' ∈ allTrees fuel p.2 (trs.filter (inside p.2)) →
              sameClades (.node [t0, t1]) (.node [t0', t1']) = true →
              sameClades t0 t0' = true ∧ sameClades t1 t1' = true := by
            intro t0 t0' t1 t1' h0 h0' h1 h1' hsame
            obtain ⟨G0, B0, G1, B1⟩ := hmemb p hps t0 t1 h0 h1
            obtain ⟨G0', B0', G1', B1'⟩ := hmemb p hps t0' t1' h0' h1'
            exact sameClades_children (fun x => (G0.mem x).trans (G0'.mem x).symm)
              (fun x => (G1.mem x).trans (G1'.mem x).symm)
              (fun x hx hx' => hs.disj x ((G0.mem x).mp hx) ((G1.mem x).mp hx')) B0 B1 B0' B1' hsame
          unfold joinAll
          rw [List.pairwise_flatMap]
          constructor
          · intro t0 ht0
            rw [List.pairwise_map]
            refine List.Pairwise.imp_of_mem ?_ hB
            intro t1 t1' h1 h1' hd
            apply eq_false_of_ne_true
            intro hsame
            have := (hch t0 t0 t1 t1' ht0 ht0 h1 h1' hsame).2
            rw [Differ] at hd; rw [hd] at this; cases this
          · refine List.Pairwise.imp_of_mem ?_ hA
            intro t0 t0' h0 h0' hd x hx y hy
            obtain ⟨t1, h1, rfl⟩ := List.mem_map.mp hx
            obtain ⟨t1', h1', rfl⟩ := List.mem_map.mp hy
            apply eq_false_of_ne_true
            intro hsame
            have := (hch t0 t0' t1 t1' h0 h0' h1 h1' hsame).1
            rw [Differ] at hd; rw [hd] at this; cases this
        · -- across the blocks of two cuts
          refine List.Pairwise.imp_of_mem ?_ hD
          intro p p' hps hps' ⟨x, y, hx, hy, hne⟩ t ht u hu
          obtain ⟨t0, h0, t1, h1, rfl⟩ := mem_joinAll.mp ht
          obtain ⟨u0, k0, u1, k1, rfl⟩ := mem_joinAll.mp hu
          obtain ⟨G0, B0, G1, B1⟩ := hmemb p hps t0 t1 h0 h1
          obtain ⟨G0', B0', G1', B1'⟩ := hmemb p' hps' u0 u1 k0 k1
          have hs := hS p hps
          have hs' := hS p' hps'
          exact differ_of_cut B0 B1 B0' B1'
            (fun z h h' => hs.disj z ((G0.mem z).mp h) ((G1.mem z).mp h'))
            (fun z h h' => hs'.disj z ((G0'.mem z).mp h) ((G1'.mem z).mp h'))
            (by simpa only [G0.mem, G1.mem] using (hs.cover x).mp hx)
            (by simpa only [G0.mem, G1.mem] using (hs.cover y).mp hy)
            (by simpa only [G0'.mem, G1'.mem] using (hs'.cover x).mp hx)
            (by simpa only [G0'.mem, G1'.mem] using (hs'.cover y).mp hy)
            (fun h => hne (by simpa only [G0.mem, G0'.mem] using h))
      · intro T hb hTn hmem htrs
        rcases binary_cases T hb with ⟨a, rfl⟩ | ⟨t1, t2, rfl, hb1, hb2⟩
        · have hperm : l.Perm [a] :=
            (List.perm_ext_iff_of_nodup hl (by simp)).mpr (by simpa [leaves] using hmem)
          have := hperm.length_eq
          simp only [List.length_cons, List.length_nil] at this
          omega
        · obtain ⟨hn1, hn2, hdis⟩ := nodup_node2 hTn
          simp only [leaves_node2] at hmem
          have hside := fun tr htr => displays_child hdis (htrs tr htr).2
          obtain ⟨x1, hx1⟩ := List.exists_mem_of_ne_nil _ (binary_leaves_ne t1 hb1)
          obtain ⟨x2, hx2⟩ := List.exists_mem_of_ne_nil _ (binary_leaves_ne t2 hb2)
          obtain ⟨p, hps, hpq⟩ := hC (· ∈ t1.leaves) ⟨x1, (hmem x1).mpr (Or.inl hx1), hx1⟩
            ⟨x2, (hmem x2).mpr (Or.inr hx2), fun h => hdis _ h hx2⟩ (fun tr htr => by
              rcases (hside tr htr).1 with ⟨a, b⟩ | ⟨a, b⟩
              · exact ⟨fun _ => b, fun _ => a⟩
              · exact ⟨fun h => absurd a (hdis _ h), fun h => absurd b (hdis _ h)⟩)
          -- the first child is rebuilt from the part `A` that holds its leaves, the second from `B`
          have key : ∀ A B, IsSplit l trs A B → (∀ x, x ∈ l → (x ∈ A ↔ x ∈ t1.leaves)) →
              (∃ u, u ∈ allTrees fuel A (trs.filter (inside A)) ∧ sameClades t1 u = true) ∧
              (∃ u, u ∈ allTrees fuel B (trs.filter (inside B)) ∧ sameClades t2 u = true) := by
            intro A B hs hA
            obtain ⟨la, lb⟩ := hs.length_lt hl
            have hAm : ∀ w, w ∈ A ↔ w ∈ t1.leaves := fun w =>
              ⟨fun h => (hA w ((hs.cover w).mpr (Or.inl h))).mp h,
                fun h => (hA w ((hmem w).mpr (Or.inl h))).mpr h⟩
            have hBm : ∀ w, w ∈ B ↔ w ∈ t2.leaves := fun w =>
              ⟨fun h => ((hmem w).mp ((hs.cover w).mpr (Or.inr h))).resolve_left
                  (fun h1 => hs.disj w ((hAm w).mpr h1) h),
                fun h => (hs.other hA ((hmem w).mpr (Or.inr h))).mpr (fun h1 => hdis w h1 h)⟩
            constructor
            · refine (sub A hs.nodupA la).2.2 t1 hb1 hn1 hAm (fun tr htr => ?_)
              obtain ⟨htr, hin⟩ := List.mem_filter.mp htr
              obtain ⟨i1, _, i3⟩ := (inside_iff _ tr).mp hin
              exact ⟨hin, (hside tr htr).2.1 ((hAm _).mp i1) ((hAm _).mp i3)⟩
            · refine (sub B hs.nodupB lb).2.2 t2 hb2 hn2 hBm (fun tr htr => ?_)
              obtain ⟨htr, hin⟩ := List.mem_filter.mp htr
              obtain ⟨i1, _, i3⟩ := (inside_iff _ tr).mp hin
              exact ⟨hin, (hside tr htr).2.2 ((hBm _).mp i1) ((hBm _).mp i3)⟩
          rcases hpq with h | h
          · obtain ⟨⟨ua, hua, hsa⟩, ub, hub, hsb⟩ := key _ _ (hS p hps) h
            exact ⟨.node [ua, ub], List.mem_flatMap.mpr ⟨p, hps, mem_joinAll.mpr ⟨ua, hua, ub, hub, rfl⟩⟩,
              sameClades_node2 (Or.inl ⟨hsa, hsb⟩)⟩
          · obtain ⟨⟨ub, hub, hsb⟩, ua, hua, hsa⟩ := key _ _ (hS p hps).symm h
            exact ⟨.node [ua, ub], List.mem_flatMap.mpr ⟨p, hps, mem_joinAll.mpr ⟨ua, hua, ub, hub, rfl⟩⟩,
              sameClades_node2 (Or.inr ⟨hsa, hsb⟩)⟩
    · match l, h2, hl with
      | [], _, _ =>
        exact ⟨by simp [allTrees], by simp [allTrees], fun T hb _ hmem _ => (none T hb hmem).elim⟩
      | [a], _, _ =>
        refine ⟨fun t ht => ?_, by simp [allTrees], fun T hb hTn hmem _ => ?_⟩
        · simp only [allTrees, List.mem_singleton] at ht
          subst ht; exact ⟨good_leaf hp a, rfl⟩
        · simp only [List.mem_singleton] at hmem
          rcases binary_cases T hb with ⟨b, rfl⟩ | ⟨t1, t2, rfl, hb1, hb2⟩
          · obtain rfl : a = b := by simpa [leaves] using (hmem a).mp rfl
            exact ⟨_, by simp [allTrees], sameClades_refl _⟩
          · obtain ⟨x1, hx1⟩ := List.exists_mem_of_ne_nil _ (binary_leaves_ne t1 hb1)
            obtain ⟨x2, hx2⟩ := List.exists_mem_of_ne_nil _ (binary_leaves_ne t2 hb2)
            obtain rfl := (hmem x1).mpr ((leaves_node2 t1 t2 x1).mpr (Or.inl hx1))
            obtain rfl := (hmem x2).mpr ((leaves_node2 t1 t2 x2).mpr (Or.inr hx2))
            exact absurd hx2 ((nodup_node2 hTn).2.2 _ hx1)
      | _ :: _ :: _, h2, _ => exact absurd (by simp) h2

theorem allTreesFromTriples_good {l : List Nat} {trs : List Triple} {t : LTree}
    (hl : l.Nodup) (hk : Known l trs) (hp : Proper trs) (h : t ∈ allTreesFromTriples l trs) :
    Good trs l t ∧ t.isBinary = true := by
  unfold allTreesFromTriples at h
  split at h
  · cases h
  · exact (allTrees_enum _ l trs hl hk hp (Nat.le_refl _)).1 t h

theorem allTreesFromTriples_distinct {l : List Nat} {trs : List Triple}
    (hl : l.Nodup) (hk : Known l trs) (hp : Proper trs) :
    (allTreesFromTriples l trs).Pairwise Differ := by
  unfold allTreesFromTriples
  split
  · exact List.Pairwise.nil
  · exact (allTrees_enum _ l trs hl hk hp (Nat.le_refl _)).2.1

end SR.Tri
