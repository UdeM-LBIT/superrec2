/-
  Spec-level facts about directed cycles: a well-formed graph has a
  topological ordering iff it has no closed walk.  (The "if" direction uses
  the maximal removal sequence that Kahn's loop is proved to produce.)  A vertex
  reachable from `i` that lies on a closed walk is reached by two different walks.
-/
import SRVerif.Spec.FindCycle
import SRVerif.Proofs.ToposortAlg
import Mathlib.Data.List.Chain

namespace SR.Toposort

theorem chain_cons {R : Nat → Nat → Prop} {a b : Nat} {l : List Nat} :
    Chain R (a :: b :: l) ↔ R a b ∧ Chain R (b :: l) := Iff.rfl

/-- The specification's `Chain` (kept free of imports) is the library's `List.IsChain`; chains
    are cut, glued and reversed with the library's lemmas through this. -/
theorem chain_iff_isChain {R : Nat → Nat → Prop} : ∀ {l : List Nat}, Chain R l ↔ l.IsChain R
  | [] => by simp [Chain]
  | [_] => by simp [Chain]
  | a :: b :: l => by rw [List.isChain_cons_cons, ← chain_iff_isChain (l := b :: l)]; rfl

theorem isTopo_acyclic {g : Graph} {o : List Nat} (ht : IsTopo g o) : Acyclic g := by
  intro c hc
  cases c with
  | nil => exact hc
  | cons a l =>
    -- positions in `o` increase along the closed walk `a … a`
    have : Trans (fun a b => o.idxOf a < o.idxOf b) (fun a b => o.idxOf a < o.idxOf b)
      (fun a b => o.idxOf a < o.idxOf b) := ⟨Nat.lt_trans⟩
    have h := ((chain_iff_isChain.1 hc).imp (S := fun x y => o.idxOf x < o.idxOf y) (by
      rintro x y ⟨p, hp, rfl, hy⟩
      exact ht.2.2.2 p hp y hy)).pairwise
    exact Nat.lt_irrefl _ (List.rel_of_pairwise_cons h (by simp))

/-- If every vertex of a non-empty set `R ⊆ keys g` (given as the complement
    of `s`) has a predecessor in it, backward walks of every length exist. -/
theorem backward_walk {g : Graph} {s : List Nat} {v₀ : Nat} (hv₀ : v₀ ∈ keys g ∧ v₀ ∉ s)
    (hpred : ∀ v, v ∈ keys g → v ∉ s → ∃ u, u ∈ keys g ∧ u ∉ s ∧ Arc g u v) :
    ∀ k : Nat, ∃ w : List Nat, w.length = k + 1 ∧ Chain (Arc g) w ∧ ∀ x ∈ w, x ∈ keys g ∧ x ∉ s := by
  intro k
  induction k with
  | zero => exact ⟨[v₀], rfl, trivial, by simpa using hv₀⟩
  | succ k ih =>
    obtain ⟨w, hl, hc, hm⟩ := ih
    cases w with
    | nil => simp at hl
    | cons a l =>
      obtain ⟨u, hu1, hu2, hua⟩ :=
        hpred a (hm a List.mem_cons_self).1 (hm a List.mem_cons_self).2
      refine ⟨u :: a :: l, by rw [List.length_cons, hl], ⟨hua, hc⟩, fun x hx => ?_⟩
      rcases List.mem_cons.1 hx with e | e
      · exact e ▸ ⟨hu1, hu2⟩
      · exact hm x e

theorem exists_cycle_of_no_topo {g : Graph} (hwf : WF g) (hno : ¬ ∃ o, IsTopo g o) :
    ∃ c, IsCycle g c := by
  obtain ⟨starts, I, _, hinv⟩ := kahnInit_spec hwf
  obtain ⟨s, _, hg⟩ := kahnLoop_spec hwf (g.length + 1) [] starts I [] hinv (by simp)
  obtain ⟨hp, hstuck⟩ := (greedy_iff g s []).1 hg
  obtain ⟨v₀, hv₀⟩ : ∃ v, v ∈ keys g ∧ v ∉ s := by
    by_contra hall
    exact hno ⟨s, (isTopo_iff_path hwf.succ_keys).2 ⟨hp, fun v hv =>
      not_not.1 fun hvs => hall ⟨v, hv, hvs⟩⟩⟩
  have hpred : ∀ v, v ∈ keys g → v ∉ s → ∃ u, u ∈ keys g ∧ u ∉ s ∧ Arc g u v := by
    intro v hv hvs
    have hnr := hstuck v
    simp only [Ready, List.append_nil, List.mem_reverse, not_and, not_forall] at hnr
    obtain ⟨p, hp, hvp, hps⟩ := hnr hv hvs
    exact ⟨p.1, List.mem_map_of_mem (f := (·.1)) hp, hps, p, hp, rfl, hvp⟩
  obtain ⟨w, hl, hc, hm⟩ := backward_walk hv₀ hpred g.length
  have hnd : ¬ w.Nodup := by
    intro hn
    have := length_le_of_nodup_keys hn fun x hx => (hm x hx).1
    omega
  obtain ⟨x, l₁, m, l₃, rfl⟩ := List.exists_block_of_not_nodup w hnd
  exact ⟨x :: m, chain_iff_isChain.2 (chain_iff_isChain.1 hc).left_of_append.right_of_append⟩

theorem cyclic_iff_not_acyclic {g : Graph} : (∃ c, IsCycle g c) ↔ ¬ Acyclic g := by
  simp [Acyclic]

theorem acyclic_iff_topo {g : Graph} (hwf : WF g) : Acyclic g ↔ ∃ o, IsTopo g o := by
  constructor
  · intro ha
    by_contra hno
    obtain ⟨c, hc⟩ := exists_cycle_of_no_topo hwf hno
    exact ha c hc
  · rintro ⟨o, ht⟩
    exact isTopo_acyclic ht

theorem walk_extend {g : Graph} {i : Nat} : ∀ (l : List Nat) (v z : Nat) (w : List Nat),
    Chain (Arc g) (v :: l ++ [z]) → WalkTo g i v w →
    ∃ w', WalkTo g i z w' ∧ w.length < w'.length
  | [], _, z, w, h, hw => ⟨z :: w, .snoc hw h.1, by simp⟩
  | b :: l, _, z, w, h, hw => by
    obtain ⟨w', hw', hlen⟩ := walk_extend l b z (b :: w) h.2 (.snoc hw h.1)
    exact ⟨w', hw', by simp at hlen; omega⟩

theorem cycle_rotate {g : Graph} {c : List Nat} (hc : IsCycle g c) {v : Nat} (hv : v ∈ c) :
    ∃ l, Chain (Arc g) (v :: l ++ [v]) := by
  obtain ⟨l₁, l₂, rfl⟩ := List.append_of_mem hv
  cases l₁ with
  | nil => exact ⟨l₂, hc⟩
  | cons a l₁ =>
    -- cut the walk `a … v … a` at `v` and glue the two parts at `a`
    have h : ((a :: l₁) ++ v :: (l₂ ++ [a])).IsChain (Arc g) := by
      simpa [IsCycle, chain_iff_isChain] using hc
    obtain ⟨h1, h2⟩ := List.isChain_split.1 h
    refine ⟨l₂ ++ a :: l₁, chain_iff_isChain.2 ?_⟩
    simpa using (List.isChain_split (l₁ := v :: l₂) (c := a) (l₂ := l₁ ++ [v])).2 ⟨h2, h1⟩

theorem no_reachable_cycle {g : Graph} {i : Nat} (hu : UniqueWalks g i) {c : List Nat}
    (hc : IsCycle g c) {v : Nat} (hv : v ∈ c) {w : List Nat} (hw : WalkTo g i v w) : False := by
  obtain ⟨l, hl⟩ := cycle_rotate hc hv
  obtain ⟨w', hw', hlen⟩ := walk_extend l v v w hl hw
  have := hu v w w' hw hw'
  rw [this] at hlen
  exact Nat.lt_irrefl _ hlen

end SR.Toposort
