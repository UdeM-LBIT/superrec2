/-
  The discovery tree built by `find_cycle`'s depth-first loop, and the
  state invariant of that loop (`Model/FindCycle.lean`).
-/
import SRVerif.Proofs.FindCycleSpec
import SRVerif.Model.FindCycle

namespace SR.Toposort

def pkeys (P : Parents) : List Nat := P.map (·.1)

theorem plookup_ne (P : Parents) {x k : Nat} (v : Nat) (h : x ≠ k) :
    List.lookup x ((k, v) :: P) = List.lookup x P := by
  rw [List.lookup_cons, beq_false_of_ne h]

theorem plookup_mem {P : Parents} {x p : Nat} (h : P.lookup x = some p) : x ∈ pkeys P :=
  List.exists_lookup_iff_mem_keys.1 ⟨p, h⟩

/-- `TO` (tree, ordered): the discovery tree in discovery order.  `P` (most recent entry first)
    records a tree rooted at `i`: the oldest entry is `(i, i)`, every later entry `(v, p)`
    discovers a new vertex `v` through an edge `p → v` from an already discovered `p`. -/
inductive TO (g : Graph) (i : Nat) : Parents → Prop
  | root : TO g i [(i, i)]
  | node {v p : Nat} {P : Parents} :
      TO g i P → v ∉ pkeys P → p ∈ pkeys P → Arc g p v → TO g i ((v, p) :: P)

theorem TO.nodup {g : Graph} {i : Nat} {P : Parents} (h : TO g i P) : (pkeys P).Nodup := by
  induction h with
  | root => exact List.nodup_singleton i
  | node _ hv _ _ ih => exact List.nodup_cons.2 ⟨hv, ih⟩

theorem TO.root_lookup {g : Graph} {i : Nat} {P : Parents} (h : TO g i P) : P.lookup i = some i := by
  induction h with
  | root => exact List.lookup_cons_self
  | @node v p P _ hv _ _ ih =>
    have : i ≠ v := fun e => hv (e ▸ plookup_mem ih)
    rw [plookup_ne P p this, ih]

theorem TO.root_mem {g : Graph} {i : Nat} {P : Parents} (h : TO g i P) : i ∈ pkeys P :=
  plookup_mem h.root_lookup

theorem TO.lookup {g : Graph} {i : Nat} {P : Parents} (h : TO g i P) :
    ∀ v p, P.lookup v = some p → p ∈ pkeys P ∧ (v ≠ i → Arc g p v) := by
  induction h with
  | root =>
    intro v p hl
    by_cases e : v = i
    · subst e
      rw [List.lookup_cons_self] at hl
      cases hl
      exact ⟨List.mem_singleton_self v, fun h => absurd rfl h⟩
    · rw [plookup_ne _ _ e] at hl
      cases hl
  | @node v0 p0 P _ hv hp ha ih =>
    intro v p hl
    by_cases e : v = v0
    · subst e
      rw [List.lookup_cons_self] at hl
      cases hl
      exact ⟨List.mem_cons_of_mem _ hp, fun _ => ha⟩
    · rw [plookup_ne _ _ e] at hl
      exact ⟨List.mem_cons_of_mem _ (ih v p hl).1, (ih v p hl).2⟩

theorem walkTo_head {g : Graph} {i v : Nat} {w : List Nat} (h : WalkTo g i v w) : ∃ t, w = v :: t := by
  cases h with
  | nil => exact ⟨[], rfl⟩
  | snoc _ _ => exact ⟨_, rfl⟩

theorem TO.walk {g : Graph} {i : Nat} {P : Parents} (h : TO g i P) :
    ∀ v ∈ pkeys P, ∃ w, WalkTo g i v w ∧
      (v = i → w = [i]) ∧ (v ≠ i → ∃ p t, P.lookup v = some p ∧ w = v :: p :: t) := by
  induction h with
  | root =>
    intro v hv
    have : v = i := by simpa [pkeys] using hv
    subst this
    exact ⟨[v], .nil, fun _ => rfl, fun h => absurd rfl h⟩
  | @node v0 p0 P hto hv hp ha ih =>
    intro v hvk
    by_cases e : v = v0
    · subst e
      obtain ⟨w, hw, _, _⟩ := ih p0 hp
      obtain ⟨t, rfl⟩ := walkTo_head hw
      have hvi : v ≠ i := fun e => hv (e ▸ hto.root_mem)
      exact ⟨v :: p0 :: t, .snoc hw ha, fun e => absurd e hvi,
        fun _ => ⟨p0, t, List.lookup_cons_self, rfl⟩⟩
    · have hvP : v ∈ pkeys P := by
        simp only [pkeys, List.map_cons, List.mem_cons] at hvk
        rcases hvk with h | h
        · exact absurd h e
        · exact h
      obtain ⟨w, hw, h1, h2⟩ := ih v hvP
      refine ⟨w, hw, h1, fun hne => ?_⟩
      obtain ⟨p, t, hl, rfl⟩ := h2 hne
      exact ⟨p, t, by rw [plookup_ne _ _ e]; exact hl, rfl⟩

theorem TO.sub_keys {g : Graph} {i : Nat} {P : Parents} (h : TO g i P) (hi : i ∈ keys g)
    (hsucc : ∀ p ∈ g, ∀ v ∈ p.2, v ∈ keys g) : ∀ v ∈ pkeys P, v ∈ keys g := by
  induction h with
  | root => intro v hv; simp [pkeys] at hv; exact hv ▸ hi
  | @node v0 p0 P _ _ _ ha ih =>
    intro v hv
    simp only [pkeys, List.map_cons, List.mem_cons] at hv
    rcases hv with e | e
    · obtain ⟨q, hq, _, hvq⟩ := ha
      exact e ▸ hsucc q hq _ hvq
    · exact ih v e

theorem TO.length_le {g : Graph} {i : Nat} {P : Parents} (h : TO g i P) (hi : i ∈ keys g)
    (hsucc : ∀ p ∈ g, ∀ v ∈ p.2, v ∈ keys g) : P.length ≤ g.length := by
  simpa [pkeys] using length_le_of_nodup_keys h.nodup (h.sub_keys hi hsucc)

theorem arc_iff_of_lookup {g : Graph} (hk : (keys g).Nodup) {u : Nat} {ss : List Nat}
    (h : g.lookup u = some ss) (v : Nat) : Arc g u v ↔ v ∈ ss := by
  constructor
  · rintro ⟨⟨_, ss'⟩, hp, rfl, hv⟩
    have := (List.lookup_eq_some_iff_mem hk).2 hp
    rw [h, Option.some.injEq] at this
    exact this ▸ hv
  · exact fun hv => ⟨(u, ss), List.mem_of_lookup_eq_some h, rfl, hv⟩

/-- Between two iterations of the `while` loop (no cycle flagged so far): the stack holds
    discovered vertices not yet expanded.  `par`: a recorded parent has been expanded (it is not
    on the stack).  `done`: ALL arcs out of an expanded vertex are recorded as tree edges; this is
    what makes walks unique when the stack runs empty (`CInv.unique`). -/
structure CInv (g : Graph) (i : Nat) (P : Parents) (S : List Nat) : Prop where
  tree : TO g i P
  snd : S.Nodup
  sk : ∀ v ∈ S, v ∈ pkeys P
  par : ∀ v p, P.lookup v = some p → v ≠ i → p ∉ S
  done : ∀ u ∈ pkeys P, u ∉ S → ∀ v, Arc g u v → P.lookup v = some u ∧ v ≠ i

/-- Inside the `for neighbor` loop of `cur`, `todo` being the neighbours
    not yet looked at. -/
structure CInvS (g : Graph) (i : Nat) (P : Parents) (S : List Nat) (cur : Nat) (todo : List Nat) :
    Prop where
  tree : TO g i P
  snd : S.Nodup
  sk : ∀ v ∈ S, v ∈ pkeys P
  curk : cur ∈ pkeys P
  curs : cur ∉ S
  par : ∀ v p, P.lookup v = some p → v ≠ i → p ∉ S
  done : ∀ u ∈ pkeys P, u ∉ S → ∀ v, Arc g u v →
    (u = cur ∧ v ∈ todo) ∨ (P.lookup v = some u ∧ v ≠ i)
  tnd : todo.Nodup
  tarc : ∀ v ∈ todo, Arc g cur v
  tnew : ∀ v ∈ todo, v ≠ i → P.lookup v ≠ some cur

/-- What is known when the loop stops on a flagged vertex `c`: the final
    dict is the tree `P0` plus the overriding entry `(c, cur)`, and walks from `i` are not unique
    (the clause `findCycle_spec` reads `none ↔ UniqueWalks` from). -/
def Flagged (g : Graph) (i : Nat) (P' : Parents) (c : Nat) : Prop :=
  ∃ P0 cur, P' = (c, cur) :: P0 ∧ TO g i P0 ∧ c ∈ pkeys P0 ∧ cur ∈ pkeys P0 ∧ Arc g cur c ∧
    ¬ UniqueWalks g i

theorem CInv.pop {g : Graph} {i : Nat} {P : Parents} {cur : Nat} {rest succs : List Nat}
    (h : CInv g i P (cur :: rest)) (hk : (keys g).Nodup) (hs : g.lookup cur = some succs)
    (hnd : succs.Nodup) : CInvS g i P rest cur succs := by
  have hn := List.nodup_cons.1 h.snd
  refine ⟨h.tree, hn.2, fun v hv => h.sk v (List.mem_cons_of_mem _ hv), h.sk cur List.mem_cons_self, hn.1,
    fun v p hl hvi hp => h.par v p hl hvi (List.mem_cons_of_mem _ hp), ?_, hnd,
    fun v hv => (arc_iff_of_lookup hk hs v).2 hv, ?_⟩
  · intro u hu hur v ha
    by_cases e : u = cur
    · subst e; exact Or.inl ⟨rfl, (arc_iff_of_lookup hk hs v).1 ha⟩
    · exact Or.inr (h.done u hu (by simp [e, hur]) v ha)
  · intro v _ hvi hl
    exact h.par v cur hl hvi List.mem_cons_self

theorem CInvS.finish {g : Graph} {i cur : Nat} {P : Parents} {S : List Nat}
    (h : CInvS g i P S cur []) : CInv g i P S :=
  ⟨h.tree, h.snd, h.sk, h.par, fun u hu hus v ha =>
    (h.done u hu hus v ha).resolve_left fun hv => List.not_mem_nil hv.2⟩

/-- A neighbour met for the second time: the two walks to it differ. -/
theorem CInvS.flag {g : Graph} {i cur v : Nat} {P : Parents} {S vs : List Nat}
    (h : CInvS g i P S cur (v :: vs)) (hvk : v ∈ pkeys P) : Flagged g i ((v, cur) :: P) v := by
  have hcv : Arc g cur v := h.tarc v List.mem_cons_self
  refine ⟨P, cur, rfl, h.tree, hvk, h.curk, hcv, fun huniq => ?_⟩
  obtain ⟨wc, hwc, _, _⟩ := h.tree.walk cur h.curk
  obtain ⟨tc, rfl⟩ := walkTo_head hwc
  obtain ⟨wv, hwv, h1, h2⟩ := h.tree.walk v hvk
  have heq := huniq v _ _ (WalkTo.snoc hwc hcv) hwv
  by_cases hvi : v = i
  · rw [h1 hvi] at heq; simp at heq
  · obtain ⟨p, t, hl, rfl⟩ := h2 hvi
    simp only [List.cons.injEq, true_and] at heq
    rw [← heq.1] at hl
    exact h.tnew v List.mem_cons_self hvi hl

theorem CInvS.push {g : Graph} {i cur v : Nat} {P : Parents} {S vs : List Nat}
    (h : CInvS g i P S cur (v :: vs)) (hvk : v ∉ pkeys P) :
    CInvS g i ((v, cur) :: P) (v :: S) cur vs := by
  have hvi : v ≠ i := fun e => hvk (e ▸ h.tree.root_mem)
  have hcurv : cur ≠ v := fun e => hvk (e ▸ h.curk)
  have htn := List.nodup_cons.1 h.tnd
  have hnot : ∀ {x}, x ≠ v → x ∉ S → x ∉ v :: S := fun hx hs hm =>
    (List.mem_cons.1 hm).elim hx hs
  refine ⟨.node h.tree hvk h.curk (h.tarc v List.mem_cons_self),
    List.nodup_cons.2 ⟨fun hh => hvk (h.sk v hh), h.snd⟩,
    ?_, List.mem_cons_of_mem _ h.curk, hnot hcurv h.curs,
    ?_, ?_, htn.2, fun x hx => h.tarc x (List.mem_cons_of_mem _ hx), ?_⟩
  · intro x hx
    rcases List.mem_cons.1 hx with e | e
    · exact e ▸ List.mem_cons_self
    · exact List.mem_cons_of_mem _ (h.sk x e)
  · intro x p hl hxi
    by_cases e : x = v
    · subst e
      rw [List.lookup_cons_self] at hl
      cases hl
      exact hnot hcurv h.curs
    · rw [plookup_ne _ _ e] at hl
      exact hnot (fun e => hvk (e ▸ (h.tree.lookup x p hl).1)) (h.par x p hl hxi)
  · intro u hu hus x ha
    have huv : u ≠ v := fun e => hus (e ▸ List.mem_cons_self)
    have huP : u ∈ pkeys P := (List.mem_cons.1 hu).resolve_left huv
    have huS : u ∉ S := fun hh => hus (List.mem_cons_of_mem _ hh)
    rcases h.done u huP huS x ha with ⟨e1, e2⟩ | ⟨e1, e2⟩
    · rcases List.mem_cons.1 e2 with e | e
      · subst e; subst e1; exact Or.inr ⟨List.lookup_cons_self, hvi⟩
      · exact Or.inl ⟨e1, e⟩
    · have : x ≠ v := fun e => hvk (e ▸ plookup_mem e1)
      exact Or.inr ⟨by rw [plookup_ne _ _ this]; exact e1, e2⟩
  · intro x hx hxi hl
    have : x ≠ v := fun e => htn.1 (e ▸ hx)
    rw [plookup_ne _ _ this] at hl
    exact h.tnew x (List.mem_cons_of_mem _ hx) hxi hl

theorem scan_spec {g : Graph} {i cur : Nat} : ∀ (todo : List Nat) (P : Parents) (S : List Nat),
    CInvS g i P S cur todo →
      ((scan cur todo P S).found = none →
        CInv g i (scan cur todo P S).parents (scan cur todo P S).stack ∧
        (scan cur todo P S).parents.length + S.length = P.length + (scan cur todo P S).stack.length) ∧
      (∀ c, (scan cur todo P S).found = some c → Flagged g i (scan cur todo P S).parents c) := by
  intro todo
  induction todo with
  | nil => exact fun P S h => ⟨fun _ => ⟨h.finish, rfl⟩, fun c hc => by simp [scan] at hc⟩
  | cons v vs ih =>
    intro P S h
    rw [scan]
    by_cases hd : (P.lookup v).isSome
    · rw [if_pos hd]
      refine ⟨fun hn => by simp at hn, fun c hc => ?_⟩
      rw [← Option.some.inj hc]
      exact h.flag (List.lookup_isSome_iff_mem_keys.1 hd)
    · rw [if_neg hd]
      obtain ⟨h1, h2⟩ := ih _ _ (h.push fun hh => hd (List.lookup_isSome_iff_mem_keys.2 hh))
      refine ⟨fun hn => ⟨(h1 hn).1, ?_⟩, h2⟩
      have := (h1 hn).2
      simp only [List.length_cons] at this
      omega

end SR.Toposort
