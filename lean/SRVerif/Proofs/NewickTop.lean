/-
  C11 (Newick codec) — `Tree(tree.write(format=8, format_root_node=True, features=["color"]), format=1)`
  on the model: the preliminary tests of `read_newick` pass on a written text, and
  the result is the tree (`read_write`).
-/
import SRVerif.Proofs.NewickRoundtrip

namespace SR.Newick

open SR.Ser (NT Err)

/-- What `read_newick` tests or does before it scans: none of the characters it deletes, as many
    `(` as `)`. -/
def Bal (s : Chars) : Prop :=
  (∀ ch ∈ s, ch ≠ '\n' ∧ ch ≠ '\r' ∧ ch ≠ '\t') ∧ s.count '(' = s.count ')'

theorem bal_plain {s : Chars} (h : Plain s) : Bal s := by
  refine ⟨fun ch hch => (h ch hch).2.2.2, ?_⟩
  have h1 : s.count '(' = 0 := List.count_eq_zero.2 (fun hm => (h _ hm).1 rfl)
  have h2 : s.count ')' = 0 := List.count_eq_zero.2 (fun hm => (h _ hm).2.1 rfl)
  rw [h1, h2]

theorem bal_append {a b : Chars} (ha : Bal a) (hb : Bal b) : Bal (a ++ b) :=
  ⟨List.forall_mem_append.2 ⟨ha.1, hb.1⟩, by rw [List.count_append, List.count_append, ha.2, hb.2]⟩

theorem bal_wrap {a b : Chars} (ha : Bal a) (hb : Bal b) : Bal ('(' :: (a ++ ')' :: b)) := by
  refine ⟨?_, ?_⟩
  · simp only [List.forall_mem_cons, List.forall_mem_append]
    exact ⟨by decide, ha.1, by decide, hb.1⟩
  · simp [List.count_append, ha.2, hb.2]
    omega

theorem bal_comma {a b : Chars} (ha : Bal a) (hb : Bal b) : Bal (a ++ ',' :: b) :=
  bal_append ha (bal_append (a := [',']) (by unfold Bal; decide) hb)

mutual
  theorem bal_writeNode : ∀ t : NT, Bal (writeNode t)
    | .node n c [] => bal_plain (plain_atom n c)
    | .node n c (k :: ks) => bal_wrap (bal_kids (k :: ks)) (bal_plain (plain_atom n c))
  theorem bal_kids : ∀ ks : List NT, Bal (writeKids ks)
    | [] => by simp [writeKids, Bal]
    | [k] => bal_writeNode k
    | k :: k' :: ks => bal_comma (bal_writeNode k) (bal_kids (k' :: ks))
end

/-- `bal_kids`; the hypothesis is not used. -/
theorem bal_writeKids : ∀ (ks : List NT), safeTrees ks = true → Bal (writeKids ks) :=
  fun ks _ => bal_kids ks

theorem bal_writeChars (t : NT) : Bal (writeChars t) :=
  bal_append (bal_writeNode t) (by unfold Bal; decide)

theorem readChars_leaf {n : String} {c : Option String} (h : SafeNode n c) :
    readChars (atom n c ++ [';']) = .ok (RT.ofNT (.node n c [])) := by
  obtain ⟨x, m, h1, h2, h3⟩ := atom_start h
  have hstrip : strip (atom n c ++ [';']) = atom n c ++ [';'] :=
    strip_self _ ⟨x, m ++ [';'], by simp [h1], h2⟩ ⟨atom n c, ';', rfl, by decide⟩
  have hhead : (atom n c ++ [';']).head? = some x := by simp [h1]
  have hx : (some x != some '(') = true := by simpa using h3
  unfold readChars
  simp only [hstrip, hhead, List.getLast?_concat, hx, beq_self_eq_true, Bool.and_self, if_true]
  unfold readFromString
  simp only [hhead, List.getLast?_concat, hx, beq_self_eq_true, Bool.and_self, if_true,
    List.dropLast_concat, readData_atom h, bind, Except.bind, pure, Except.pure, Option.getD_some,
    withLabel_toRT_leaf]

theorem readChars_inner {n : String} {c : Option String} {k : NT} {ks : List NT}
    (ht : safeTree (.node n c (k :: ks)) = true) :
    readChars (writeNode (.node n c (k :: ks)) ++ [';']) = .ok (RT.ofNT (.node n c (k :: ks))) := by
  obtain ⟨hs, hks⟩ := safeTree_node ht
  have hC : SafeLbls [(n, c)] := safeLbls_cons.2 ⟨hs, fun _ h => nomatch h⟩
  have e : writeNode (.node n c (k :: ks)) ++ [';']
      = '(' :: (writeKids (k :: ks) ++ (render [(n, c)] ++ [';'])) := by
    simp [writeNode, render]
  have hbal : Bal (writeNode (.node n c (k :: ks)) ++ [';']) := bal_writeChars _
  have hlast : (writeNode (.node n c (k :: ks)) ++ [';']).getLast? = some ';' := List.getLast?_concat
  rw [e] at hbal hlast ⊢
  generalize hY : writeKids (k :: ks) ++ (render [(n, c)] ++ [';']) = Y at hbal hlast
  have hstrip : strip ('(' :: Y) = '(' :: Y := by
    obtain ⟨m, hm⟩ := List.getLast?_eq_some_iff.1 hlast
    exact strip_self _ ⟨'(', Y, rfl, by decide⟩ ⟨m, ';', hm, by decide⟩
  have hfilter : ('(' :: Y).filter (fun c => !(c == '\n' || c == '\r' || c == '\t')) = '(' :: Y := by
    apply List.filter_eq_self.2
    intro ch hch
    have := hbal.1 ch hch
    simp [this.1, this.2.1, this.2.2]
  have hcount : (('(' :: Y).count '(' != ('(' :: Y).count ')') = false := by
    simp [hbal.2]
  have hsplit : splitOn '(' ('(' :: Y) = [] :: splitOn '(' Y := by simp [splitOn, splitAux]
  have hok : chunkOk Y = true := by
    rw [← hY]
    exact chunkOk_kids k ks _ [';'] (noOpen_render _) (Or.inl rfl)
  have hrun : (splitOn '(' Y).foldlM procChunk (St.closed {})
      = .ok (St.closed (withLabel n c (addKids {} (RT.ofNTs (k :: ks))))) := by
    rw [runChunks_eq_scan, hok]
    simp only [if_true, St.openChunk]
    rw [← hY, scan_kids (k :: ks) hks (by simp) {} [] [(n, c)] [';'] hC (Or.inl rfl) (by simp)]
    simp [closeStep, readClosing_atom hs, St.up, contT, bind, Except.bind, pure, Except.pure]
  unfold readChars
  simp only [hstrip, List.head?_cons, hlast, bne_self_eq_false, Bool.false_and, Bool.false_eq_true,
    if_false, Bool.or_self]
  unfold readFromString
  simp only [List.head?_cons, bne_self_eq_false, Bool.false_and, Bool.false_eq_true, if_false,
    hcount, hfilter, hsplit, hrun, bind, Except.bind, pure, Except.pure, St.result, withLabel_toRT]

theorem readChars_write (t : NT) (ht : safeTree t = true) :
    readChars (writeChars t) = .ok (RT.ofNT t) := by
  unfold writeChars
  match t, ht with
  | .node n c [], ht =>
    simp only [writeNode]
    exact readChars_leaf (safeTree_node ht).1
  | .node n c (k :: ks), ht => exact readChars_inner ht

mutual
  theorem toNT_ofNT : ∀ (t : NT), (RT.ofNT t).toNT = t
    | .node n c ks => by
      cases c <;> simp [RT.ofNT, RT.toNT, toNTs_ofNTs ks, List.lookup]
  theorem toNTs_ofNTs : ∀ (ks : List NT), RT.toNTs (RT.ofNTs ks) = ks
    | [] => rfl
    | k :: ks => by simp [RT.ofNTs, RT.toNTs, toNT_ofNT k, toNTs_ofNTs ks]
end

/-- The reader on a string given by its characters; a string literal is one (`String.ofList`
    of its characters), and evaluation is far faster on characters than on UTF-8 bytes. -/
theorem read_ofList (l : Chars) : read (String.ofList l) = readChars l := by
  rw [read, String.toList_ofList]

theorem readNT_ofList (l : Chars) : readNT (String.ofList l) = (readChars l).map RT.toNT := by
  rw [readNT, read_ofList]

theorem read_write (t : NT) (ht : safeTree t = true) : read (write t) = .ok (RT.ofNT t) := by
  rw [write, read_ofList]
  exact readChars_write t ht

theorem readNT_write (t : NT) (ht : safeTree t = true) : readNT (write t) = .ok t := by
  unfold readNT
  rw [read_write t ht]
  simp [Except.map, toNT_ofNT]

end SR.Newick
