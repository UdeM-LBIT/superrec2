/-
  C12 (bridge, colours): the coloured embedded tree `ntOfC` is the general embedded tree.  Its nodes
  in pre-order are one table (`pre_ntOfC`), and everything the bridge needs of an embedded tree is
  read off it — so `UniqueNames` and `SafeNames` of the tree ARE the clauses of `Naming.Ok` and
  `Colouring.Ok`.  The tree of the model, `recolNT col (ntOf nm t)`, is `ntOfC nm col t`, the
  uncoloured tree is the case of no colour, and EVERY named tree is `ntOfC` of its own names,
  colours and shape, so the same read-outs speak of any tree.  Hence the coloured embedded objects
  are in the domain of the C11 round trip and the uncoloured embedding is the blank colouring.  The
  evaluator's reader never looks at a colour, so the evaluated cost needs no hypothesis on colours.
-/
import SRVerif.Model.SolOutputColour
import SRVerif.Proofs.SolOutputEval

namespace SR.SolOut

open SR SR.Ser

/-- The row of a node after recolouring by `col`: its path and name, the colour `col` gives. -/
def tagC (col : Path → Option String) (x : Path × NT) : Path × String × Option String :=
  (x.1, x.2.name, col x.1)

mutual
  theorem pre_recol : ∀ (col : Path → Option String) (t : NT),
      (recolNT col t).pre.map tagNT = t.pre.map (tagC col)
    | col, .node n c cs => by
      simp only [recolNT, NT.pre, List.map_cons]
      rw [preL_recol col cs 0]
      rfl
  theorem preL_recol : ∀ (col : Path → Option String) (cs : List NT) (i : Nat),
      (NT.preL (recolL col cs i) i).map tagNT = (NT.preL cs i).map (tagC col)
    | col, [], i => by simp [recolL, NT.preL]
    | col, c :: cs, i => by
      simp only [recolL, NT.preL, List.map_append]
      rw [map_tagNT_below, pre_recol, preL_recol col cs (i + 1), List.map_map, List.map_map]
      rfl
end

mutual
  theorem recolNT_ntOf : ∀ (nm : Path → String) (col : Path → Option String) (t : RTree),
      recolNT col (ntOf nm t) = ntOfC nm col t
    | nm, col, .node cs => by
      simp only [ntOf, recolNT, ntOfC, recolL_ntOfL nm col cs 0]
  theorem recolL_ntOfL : ∀ (nm : Path → String) (col : Path → Option String) (cs : List RTree)
      (i : Nat), recolL col (ntOfL nm cs i) i = ntOfCL nm col cs i
    | nm, col, [], i => by simp only [ntOfL, recolL, ntOfCL]
    | nm, col, c :: cs, i => by
      simp only [ntOfL, recolL, ntOfCL, recolNT_ntOf _ _ c, recolL_ntOfL nm col cs (i + 1)]
end

/-- The row at path `q` of the embedded tree named by `nm` and coloured by `col`. -/
def tagPC (nm : Path → String) (col : Path → Option String) (q : Path) :
    Path × String × Option String := (q, nm q, col q)

theorem pre_ntOfC (nm : Path → String) (col : Path → Option String) (t : RTree) :
    (ntOfC nm col t).pre.map tagNT = t.preorder.map (tagPC nm col) := by
  rw [← recolNT_ntOf, pre_recol]
  have h := pre_ntOf nm t
  have e : ∀ l : List (Path × NT), l.map (tagC col)
      = (l.map tagNT).map (fun y : Path × String × Option String => (y.1, y.2.1, col y.1)) := by
    intro l; simp [List.map_map, Function.comp_def, tagC, tagNT]
  rw [e, h]
  simp [List.map_map, Function.comp_def, tagP, tagPC]

/-- The table `pre_ntOfC`, read through any function of path, name and colour. -/
theorem map_pre_ntOfC {γ : Type} (f : Path → String → Option String → γ) (nm : Path → String)
    (col : Path → Option String) (t : RTree) :
    (ntOfC nm col t).pre.map (fun x => f x.1 x.2.name x.2.color)
      = t.preorder.map fun p => f p (nm p) (col p) := by
  have h := congrArg (List.map fun y : Path × String × Option String => f y.1 y.2.1 y.2.2)
    (pre_ntOfC nm col t)
  rwa [List.map_map, List.map_map] at h

theorem paths_ntOfC (nm : Path → String) (col : Path → Option String) (t : RTree) :
    (ntOfC nm col t).pre.map (·.1) = t.preorder :=
  (map_pre_ntOfC (fun p _ _ => p) nm col t).trans (List.map_id _)

theorem names_ntOfC (nm : Path → String) (col : Path → Option String) (t : RTree) :
    (ntOfC nm col t).names = t.preorder.map nm :=
  map_pre_ntOfC (fun _ n _ => n) nm col t

/-- Quantifying over the nodes of an embedded tree is quantifying over the paths of its shape. -/
theorem forall_pre_ntOfC (P : String → Option String → Prop) (nm : Path → String)
    (col : Path → Option String) (t : RTree) :
    (∀ x ∈ (ntOfC nm col t).pre, P x.2.name x.2.color) ↔ ∀ p ∈ t.preorder, P (nm p) (col p) := by
  have h := List.forall_mem_map (f := fun x : Path × NT => (x.2.name, x.2.color))
    (l := (ntOfC nm col t).pre) (P := fun y => P y.1 y.2)
  rw [map_pre_ntOfC (fun _ n c => (n, c)), List.forall_mem_map] at h
  exact h.symm

theorem uniqueNames_ntOfC_iff (nm : Path → String) (col : Path → Option String) (t : RTree) :
    (ntOfC nm col t).UniqueNames ↔ ∀ p ∈ t.preorder, ∀ q ∈ t.preorder, nm p = nm q → p = q := by
  unfold NT.UniqueNames
  rw [names_ntOfC]
  exact ⟨fun h p hp q hq => eq_of_nodup_map nm h hp hq,
    List.nodup_map_of_inj_on nm (RTree.nodup_preorder t)⟩

theorem safeNames_ntOfC_iff (nm : Path → String) (col : Path → Option String) (t : RTree) :
    (ntOfC nm col t).SafeNames ↔ ∀ p ∈ t.preorder,
      NT.safeStr (nm p) = true ∧ ∀ c, col p = some c → NT.safeStr c = true :=
  forall_pre_ntOfC (fun n k => NT.safeStr n = true ∧ ∀ c, k = some c → NT.safeStr c = true) nm col t

theorem sub_ntOfC_isSome (nm : Path → String) (col : Path → Option String) (t : RTree) (q : Path) :
    ((ntOfC nm col t).sub q).isSome = true ↔ t.isNode q = true := by
  rw [sub_isSome_iff_mem_paths, paths_ntOfC, RTree.mem_preorder_iff]

theorem keysIn_ntOfC {ν : Type} (nm : Path → String) (col : Path → Option String) (t : RTree)
    {m : List (Path × ν)} (h : (m.map (·.1)).Sublist t.preorder) : KeysIn (ntOfC nm col t) m :=
  ⟨h.nodup (RTree.nodup_preorder t), fun _ hx => (sub_ntOfC_isSome nm col t _).mpr
    ((RTree.mem_preorder_iff _ _).mp (h.subset (List.mem_map_of_mem hx)))⟩

mutual
  theorem decode_recol (los os : TreeMapping) (famAt : Path → List Nat) :
      ∀ (col : Path → Option String) (t : NT) (p : Path),
        decode los os famAt (recolNT col t) p = decode los os famAt t p
    | col, .node n c cs, p => by
      simp only [recolNT, decode, decodeL_recol los os famAt col cs p 0]
  theorem decodeL_recol (los os : TreeMapping) (famAt : Path → List Nat) :
      ∀ (col : Path → Option String) (cs : List NT) (p : Path) (i : Nat),
        decodeL los os famAt (recolL col cs i) p i = decodeL los os famAt cs p i
    | col, [], p, i => by simp only [recolL]
    | col, c :: cs, p, i => by
      simp only [recolL, decodeL, decode_recol los os famAt _ c (p ++ [i]),
        decodeL_recol los os famAt col cs p (i + 1)]
end

theorem evalWith_recolour (cl : Colouring) (mode : LabelMode) (i : RecInput) (m : TreeMapping)
    (famAt : Path → List Nat) : evalWith mode (i.recolour cl) m famAt = evalWith mode i m famAt := by
  simp only [evalWith, RecInput.recolour, decode_recol]

theorem evalPlain_recolour (cl : Colouring) (i : RecInput) (m : TreeMapping) :
    evalPlain (i.recolour cl) m = evalPlain i m := evalWith_recolour cl _ i m _

theorem evalSuper_recolour (cl : Colouring) (i : RecInput) (m : TreeMapping) (syn : SynMapping)
    (b : Bool) : evalSuper (i.recolour cl) m syn b = evalSuper i m syn b :=
  evalWith_recolour cl _ i m _

theorem AnyInput.recolour_base (cl : Colouring) (i : AnyInput) :
    (i.recolour cl).base = i.base.recolour cl := by
  cases i <;> rfl

theorem nameFn_nil (n : String) (c : Option String) (cs : List NT) :
    nameFn (.node n c cs) [] = n := rfl

theorem colFn_nil (n : String) (c : Option String) (cs : List NT) :
    colFn (.node n c cs) [] = c := rfl

mutual
  theorem ntOfC_ext : ∀ (t : RTree) (nm nm' : Path → String) (col col' : Path → Option String),
      (∀ q, nm q = nm' q) → (∀ q, col q = col' q) → ntOfC nm col t = ntOfC nm' col' t
    | .node cs, nm, nm', col, col', h1, h2 => by
      simp only [ntOfC, h1 [], h2 [], ntOfCL_ext cs 0 nm nm' col col' h1 h2]
  theorem ntOfCL_ext : ∀ (cs : List RTree) (i : Nat) (nm nm' : Path → String)
      (col col' : Path → Option String),
      (∀ q, nm q = nm' q) → (∀ q, col q = col' q) → ntOfCL nm col cs i = ntOfCL nm' col' cs i
    | [], _, _, _, _, _, _, _ => by simp only [ntOfCL]
    | c :: cs, i, nm, nm', col, col', h1, h2 => by
      simp only [ntOfCL, ntOfCL_ext cs (i + 1) nm nm' col col' h1 h2,
        ntOfC_ext c _ _ _ _ (fun q => h1 (i :: q)) (fun q => h2 (i :: q))]
end

theorem nameFn_cons {n : String} {c : Option String} {cs : List NT} {j : Nat} {c' : NT}
    (h : cs[j]? = some c') (q : Path) : nameFn (.node n c cs) (j :: q) = nameFn c' q := by
  simp only [nameFn, NT.nameAt, NT.sub, NT.children, h]

theorem colFn_cons {n : String} {c : Option String} {cs : List NT} {j : Nat} {c' : NT}
    (h : cs[j]? = some c') (q : Path) : colFn (.node n c cs) (j :: q) = colFn c' q := by
  simp only [colFn, NT.sub, NT.children, h]

mutual
  theorem ntOfC_self : ∀ t : NT, ntOfC (nameFn t) (colFn t) (shapeNT t) = t
    | .node n c cs => by
      simp only [shapeNT, ntOfC, nameFn_nil, colFn_nil]
      rw [ntOfCL_self cs 0 _ _ (fun j c' hj => by
        rw [Nat.zero_add]; exact ⟨nameFn_cons hj, colFn_cons hj⟩)]
  theorem ntOfCL_self : ∀ (cs : List NT) (i : Nat) (nm : Path → String)
      (col : Path → Option String),
      (∀ j c', cs[j]? = some c' →
        (∀ q, nm ((i + j) :: q) = nameFn c' q) ∧ (∀ q, col ((i + j) :: q) = colFn c' q)) →
      ntOfCL nm col (shapeL cs) i = cs
    | [], _, _, _, _ => by simp only [shapeL, ntOfCL]
    | c :: cs, i, nm, col, h => by
      have h0 := h 0 c rfl
      simp only [Nat.add_zero] at h0
      simp only [shapeL, ntOfCL]
      rw [ntOfC_ext (shapeNT c) _ (nameFn c) _ (colFn c) h0.1 h0.2, ntOfC_self c,
        ntOfCL_self cs (i + 1) nm col (fun j c' hj => by
          have := h (j + 1) c' (by simpa using hj)
          rw [show i + (j + 1) = i + 1 + j by omega] at this
          exact this)]
end

theorem forall_pre_self (P : String → Option String → Prop) (t : NT) :
    (∀ x ∈ t.pre, P x.2.name x.2.color) ↔
      ∀ p ∈ (shapeNT t).preorder, P (nameFn t p) (colFn t p) := by
  rw [← forall_pre_ntOfC, ntOfC_self]

/-- Colours: every colour present on a node of the species tree or of the object tree is safe
    (a non-empty word over `[A-Za-z0-9_.-]` — e.g. `0000FF`, `red`; the alphabet of C11's
    `SafeNames`, inside which the Newick round trip `C11_newick_roundtrip` is proved). -/
structure Colouring.Ok (cl : Colouring) (S : RTree) (o : OTree) : Prop where
  sSafe : ∀ p ∈ S.preorder, ∀ c, cl.scol p = some c → NT.safeStr c = true
  oSafe : ∀ p ∈ o.shape.preorder, ∀ c, cl.ocol p = some c → NT.safeStr c = true

theorem Colouring.blank_ok (S : RTree) (o : OTree) : Colouring.blank.Ok S o :=
  { sSafe := fun _ _ _ h => by cases h
    oSafe := fun _ _ _ h => by cases h }

variable {nm : Naming} {cl : Colouring} {S : RTree} {o : OTree}

theorem embInputC_eq (nm : Naming) (cl : Colouring) (c : Costs) (S : RTree) (o : OTree) :
    embInputC nm cl c S o =
      { objectTree := ntOfC nm.oname cl.ocol o.shape
        speciesTree := ntOfC nm.sname cl.scol S
        leafObjectSpecies := leafMap (fun sp _ => sp) o
        costs := costTable c } := by
  simp only [embInputC, RecInput.recolour, embInput, recolNT_ntOf]

theorem embInputC_wf (c : Costs) (h : nm.Ok S o) (hcl : cl.Ok S o)
    (hS : ∀ p ∈ leafSpecies o, S.isNode p = true) : (embInputC nm cl c S o).WF := by
  rw [embInputC_eq]
  exact
    { objUnique := (uniqueNames_ntOfC_iff _ _ _).mpr h.oInj
      objSafe := (safeNames_ntOfC_iff _ _ _).mpr fun p hp => ⟨h.oSafe p hp, hcl.oSafe p hp⟩
      speUnique := (uniqueNames_ntOfC_iff _ _ _).mpr h.sInj
      speSafe := (safeNames_ntOfC_iff _ _ _).mpr fun p hp => ⟨h.sSafe p hp, hcl.sSafe p hp⟩
      leaf := ⟨keysIn_ntOfC _ _ _ (leafMap_keys_sublist _ o), fun _ hx =>
        (sub_ntOfC_isSome _ _ _ _).mpr (hS _ (leafMap_sp o ▸ List.mem_map_of_mem hx))⟩
      costs := costTable_wf c }

theorem keysIn_embInputC {ν : Type} (nm : Naming) (cl : Colouring) (c : Costs) (S : RTree)
    {m : List (Path × ν)} (h : (m.map (·.1)).Sublist o.shape.preorder) :
    KeysIn (embInputC nm cl c S o).objectTree m := by
  rw [embInputC_eq]
  exact keysIn_ntOfC _ _ _ h

theorem nodeMap_keysInC {β : Type} (nm : Naming) (cl : Colouring) (c : Costs) (S : RTree)
    (f : Path → List Nat → β) {s : Sol} (hv : Spec.validRec o s = true) :
    KeysIn (embInputC nm cl c S o).objectTree (nodeMap f s) :=
  keysIn_embInputC nm cl c S (by rw [nodeMap_keys, shape_of_validRec o s hv])

theorem nodeMap_treeMappingWFC (nm : Naming) (cl : Colouring) (c : Costs)
    (hS : ∀ p ∈ leafSpecies o, S.isNode p = true) {s : Sol} (hv : Spec.validRec o s = true) :
    TreeMappingWF (embInputC nm cl c S o).objectTree (embInputC nm cl c S o).speciesTree
      (nodeMap (fun sp _ => sp) s) :=
  ⟨nodeMap_keysInC nm cl c S _ hv, fun x hx => by
    rw [embInputC_eq]
    exact (sub_ntOfC_isSome _ _ _ _).mpr (nodeMap_sp_isNode S o s hS hv x hx)⟩

theorem embSInputC_wf (c : Costs) (h : nm.Ok S o) (hcl : cl.Ok S o)
    (hS : ∀ p ∈ leafSpecies o, S.isNode p = true) : ((embSInput nm c S o).recolour cl).WF :=
  ⟨embInputC_wf c h hcl hS, keysIn_embInputC nm cl c S (leafMap_keys_sublist _ o)⟩

theorem embPlainC_base (nm : Naming) (cl : Colouring) (c : Costs) (S : RTree) (o : OTree)
    (withSyn : Bool) (s : Sol) : (embPlainC nm cl c S o withSyn s).input.base = embInputC nm cl c S o := by
  show ((embAnyInput nm c S o withSyn).recolour cl).base = _
  rw [AnyInput.recolour_base, embAnyInput_base]; rfl

theorem embSuperC_base (nm : Naming) (cl : Colouring) (arr : List String → List String) (c : Costs)
    (S : RTree) (o : OTree) (ordered : Bool) (s : Sol) :
    (embSuperC nm cl arr c S o ordered s).input.base = embInputC nm cl c S o := rfl

theorem embPlainC_wf (c : Costs) (h : nm.Ok S o) (hcl : cl.Ok S o)
    (hS : ∀ p ∈ leafSpecies o, S.isNode p = true) (withSyn : Bool) {s : Sol}
    (hv : Spec.validRec o s = true) : (embPlainC nm cl c S o withSyn s).WF := by
  cases withSyn
  · exact ⟨embInputC_wf c h hcl hS, nodeMap_treeMappingWFC nm cl c hS hv⟩
  · exact ⟨embSInputC_wf c h hcl hS, nodeMap_treeMappingWFC nm cl c hS hv⟩

theorem embSuperC_wf (arr : List String → List String) (c : Costs) (h : nm.Ok S o)
    (hcl : cl.Ok S o) (hS : ∀ p ∈ leafSpecies o, S.isNode p = true) (ordered : Bool) {s : Sol}
    (hv : Spec.validRec o s = true) : (embSuperC nm cl arr c S o ordered s).WF where
  input := embSInputC_wf c h hcl hS
  map := nodeMap_treeMappingWFC nm cl c hS hv
  syn := nodeMap_keysInC nm cl c S _ hv

theorem evalPlain_embC (nm : Naming) (cl : Colouring) (c : Costs) (S : RTree) {o : OTree} {s : Sol}
    (hv : Spec.validRec o s = true) (withSyn : Bool) :
    evalPlain (embPlainC nm cl c S o withSyn s).input.base
        (embPlainC nm cl c S o withSyn s).objectSpecies = totalCost c .plain o s := by
  show evalPlain ((embPlain nm c S o withSyn s).input.recolour cl).base _ = _
  rw [AnyInput.recolour_base, evalPlain_recolour]
  exact evalPlain_emb nm c S hv withSyn

theorem evalSuper_embC (nm : Naming) (cl : Colouring) (hf : ∀ a b, nm.fname a = nm.fname b → a = b)
    (arr : List String → List String) (harr : ∀ l, (arr l).Perm l) (c : Costs) (S : RTree)
    {o : OTree} {s : Sol} (hv : Spec.validRec o s = true) (ordered : Bool) :
    evalSuper (embSuperC nm cl arr c S o ordered s).input.base
        (embSuperC nm cl arr c S o ordered s).objectSpecies
        (embSuperC nm cl arr c S o ordered s).syntenies (embSuperC nm cl arr c S o ordered s).ordered
      = totalCost c (if ordered then .ordered else .unordered) o s := by
  show evalSuper ((embSuper nm arr c S o ordered s).input.recolour cl).base _ _ _ = _
  rw [AnyInput.recolour_base, evalSuper_recolour]
  exact evalSuper_emb nm hf arr harr c S hv ordered

mutual
  theorem ntOfC_none : ∀ (nmf : Path → String) (t : RTree), ntOfC nmf (fun _ => none) t = ntOf nmf t
    | nmf, .node cs => by simp only [ntOfC, ntOf, ntOfCL_none nmf cs 0]
  theorem ntOfCL_none : ∀ (nmf : Path → String) (cs : List RTree) (i : Nat),
      ntOfCL nmf (fun _ => none) cs i = ntOfL nmf cs i
    | _, [], _ => by simp only [ntOfCL, ntOfL]
    | nmf, c :: cs, i => by
      simp only [ntOfCL, ntOfL, ntOfC_none _ c, ntOfCL_none nmf cs (i + 1)]
end

theorem embInputC_blank (nm : Naming) (c : Costs) (S : RTree) (o : OTree) :
    embInputC nm Colouring.blank c S o = embInput nm c S o := by
  simp only [embInputC, RecInput.recolour, Colouring.blank, recolNT_ntOf, ntOfC_none, embInput]

theorem embAnyInput_blank (nm : Naming) (c : Costs) (S : RTree) (o : OTree) (withSyn : Bool) :
    (embAnyInput nm c S o withSyn).recolour Colouring.blank = embAnyInput nm c S o withSyn := by
  have h : (embInput nm c S o).recolour Colouring.blank = embInput nm c S o :=
    embInputC_blank nm c S o
  cases withSyn
  · exact congrArg AnyInput.plain h
  · exact congrArg (fun b => AnyInput.super { embSInput nm c S o with base := b }) h

theorem embPlainC_blank (nm : Naming) (c : Costs) (S : RTree) (o : OTree) (withSyn : Bool) (s : Sol) :
    embPlainC nm Colouring.blank c S o withSyn s = embPlain nm c S o withSyn s :=
  congrArg (fun i => { embPlain nm c S o withSyn s with input := i })
    (embAnyInput_blank nm c S o withSyn)

theorem embSuperC_blank (nm : Naming) (arr : List String → List String) (c : Costs) (S : RTree)
    (o : OTree) (ordered : Bool) (s : Sol) :
    embSuperC nm Colouring.blank arr c S o ordered s = embSuper nm arr c S o ordered s :=
  congrArg (fun i => { embSuper nm arr c S o ordered s with input := i })
    (embAnyInput_blank nm c S o true)

end SR.SolOut
