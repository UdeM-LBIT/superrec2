/-
  `_decode_spfs_table` (following the tags of the code's table) yields exactly the `ordSol`
  images of the solutions stored in the label DP's cell with the same key.
-/
import SRVerif.Proofs.SpfsCodeTable

namespace SR.SpfsCode

open Cost Path SubseqSpec

variable (c : Costs) (S : RTree) (base : Bool) (order : List Nat)

theorem mem_decode_node (cells : List TCell) (l r : Tab) (s : Path) (m : Nat) (sol : Sol) :
    sol ∈ decodeTable order (.node cells l r) s m ↔
      ∃ info ∈ Cell.infos (lookup cells s m),
        ∃ ml ∈ decodeTable order l info.1.1 info.1.2,
          ∃ mr ∈ decodeTable order r info.2.1 info.2.2,
            sol = .node s ((subseqFromMask m order).getD []) ml mr := by
  simp only [decodeTable, List.mem_flatMap, List.mem_map]
  constructor
  · rintro ⟨info, hi, ml, hl, mr, hr, rfl⟩; exact ⟨info, hi, ml, hl, mr, hr, rfl⟩
  · rintro ⟨info, hi, ml, hl, mr, hr, rfl⟩; exact ⟨info, hi, ml, hl, mr, hr, rfl⟩

theorem mem_decode_computeTable_node (isRoot : Bool) (l r : OTree) (s : Path) (m : Nat) (sol : Sol) :
    sol ∈ decodeTable order (computeTable c S base .all order isRoot (.node l r)) s m ↔
      ∃ info ∈ Cell.infos (lookup (computeTable c S base .all order isRoot (.node l r)).cells s m),
        ∃ ml ∈ decodeTable order (computeTable c S base .all order false l) info.1.1 info.1.2,
          ∃ mr ∈ decodeTable order (computeTable c S base .all order false r) info.2.1 info.2.2,
            sol = .node s ((subseqFromMask m order).getD []) ml mr := by
  rw [computeTable_node]
  exact mem_decode_node order _ _ _ s m sol

theorem decode_rel (o : OTree) (hS : ∀ p ∈ leafSpecies o, S.isNode p = true)
    (hlv : LeavesOk order o) : ∀ (isRoot : Bool) (s : Path) (m : Nat) (sol : Sol),
    sol ∈ decodeTable order (computeTable c S base .all order isRoot o) s m ↔
      ∃ d, findCell (dpTable (ordAlg c) c S true (annOrd S base order isRoot o)) (s, m) = some d ∧
        ∃ ls ∈ d.sols, sol = ordSol order ls := by
  induction o with
  | leaf sp f =>
    intro isRoot s m sol
    rw [computeTable_leaf, annOrd, findCell_dpTable_leaf]
    simp only [ordAlg, decodeTable, lookup, List.find?_cons, List.find?_nil]
    by_cases hk : s = sp ∧ m = maskFromSubseq f order
    · obtain ⟨rfl, rfl⟩ := hk
      simp [Cell.value, ExtInt.isInfinite, ordSol]
    · have : (sp == s && maskFromSubseq f order == m) = false := by
        cases hh : (sp == s && maskFromSubseq f order == m)
        · rfl
        · simp only [Bool.and_eq_true, beq_iff_eq] at hh
          exact absurd ⟨hh.1.symm, hh.2.symm⟩ hk
      simp [this, hk, Cell.value, ExtInt.isInfinite]
  | node l r ihl ihr =>
    intro isRoot s m sol
    have hSl : ∀ p ∈ leafSpecies l, S.isNode p = true := fun p hp => hS p (by simp [leafSpecies, hp])
    have hSr : ∀ p ∈ leafSpecies r, S.isNode p = true := fun p hp => hS p (by simp [leafSpecies, hp])
    have hcell := computeEntry_rel c S true (nodeAnn S base order isRoot l r)
      (annOrd S base order false l).data (annOrd S base order false r).data s m
      (table_rel c S base order l hSl hlv.1 true false) (table_rel c S base order r hSr hlv.2 true false)
    rw [mem_decode_computeTable_node, annOrd_node, lookup_node, findCell_dpTable_node]
    by_cases hk : s ∈ allowedSpecies S base (.node l r) ∧ m ∈ allowedSyntenies order isRoot
    · rw [if_pos hk, if_pos ⟨(mem_allowed c S base order isRoot l r s).mp hk.1,
        by rw [← syntenies_eq c S base order isRoot l r]; exact hk.2⟩]
      simp only [eq_comm (a := sol) (b := Sol.node _ _ _ _)]
      -- `DL` … `mat` are given: found by unification against the unfolded decoder they are slow
      exact hcell.decode (fun u => ⟨u, rfl⟩) (mk := Sol.node s ((subseqFromMask m order).getD []))
        (DL := fun t ml => ml ∈ decodeTable order (computeTable c S base .all order false l) t.1 t.2)
        (DR := fun t mr => mr ∈ decodeTable order (computeTable c S base .all order false r) t.1 t.2)
        (fL := ordSol order) (fR := ordSol order) (mat := ordSol order)
        (fun t ml => ihl hSl hlv.1 false t.1 t.2 ml) (fun t mr => ihr hSr hlv.2 false t.1 t.2 mr)
        (fun _ _ => rfl) sol
    · rw [if_neg hk, if_neg (fun h => hk ⟨(mem_allowed c S base order isRoot l r s).mpr h.1,
        by rw [syntenies_eq c S base order isRoot l r]; exact h.2⟩)]
      simp [Cell.infos]

end SR.SpfsCode
