/-
  `_compute_thl_table` against the label-DP table of every object node.  For EVERY retention
  policy the table solves the recurrence `RowSpec` (`process_rec`: post-order induction with a
  frame argument, processing a subtree only writes the rows of its own nodes); under ALL a
  solution of the recurrence agrees with the label DP row by row (`rows_ok`).
-/
import SRVerif.Proofs.ThlCodeRow
import SRVerif.Proofs.LabelDPThl

namespace SR

open Path Cost

namespace ThlCode

/-- Under ALL, the row of object node `w` (subtree `t`) agrees with the label-DP table of `t`:
    a leaf holds `Candidate(0)` at its species, an internal node the label DP's entries
    (`CellOK`). -/
def RowAgrees (c : Costs) (S : RTree) (tbl : Table) (w : Path) : OTree → Prop
  | .leaf sp _ => ∀ s, tbl.get (w, s) =
      if s = sp then some { value := .fin 0, infos := [], merge := .min, retain := .all } else none
  | .node l r => ∀ s,
      (s ∈ allSpecies S →
        CellOK thlAlg c S true (allSpecies S) s () (allSpecies S) (allSpecies S)
          (thlCells c S true l) (thlCells c S true r) pairOf (tbl.get (w, s))) ∧
      (s ∉ allSpecies S → tbl.get (w, s) = none)

theorem findCell_thlCells_node (c : Costs) (S : RTree) (l r : OTree) (s : Path) :
    findCell (thlCells c S true (.node l r)) (s, ()) =
      if s ∈ allSpecies S then
        entry thlAlg c S true (allSpecies S) s () (allSpecies S) (allSpecies S)
          (thlCells c S true l) (thlCells c S true r)
      else none := by
  simp only [thlCells, annPlain, findCell_dpTable_node, annPlain_data, thlAlg, List.mem_singleton,
    and_true]

theorem RowAgrees.get {c : Costs} {S : RTree} {tbl : Table} {w : Path} {t : OTree}
    (h : RowAgrees c S tbl w t) (s : Path) :
    (findCell (thlCells c S true t) (s, ()) = none → tbl.get (w, s) = none) ∧
    (∀ d, findCell (thlCells c S true t) (s, ()) = some d →
      ∃ e, tbl.get (w, s) = some e ∧ e.value = d.cost.toExt) := by
  cases t with
  | leaf sp f =>
    rw [h s, thlCells, annPlain, findCell_dpTable_leaf]
    by_cases hs : s = sp
    · simp [hs, thlAlg]
    · simp [hs]
  | node l r =>
    rw [findCell_thlCells_node]
    by_cases hs : s ∈ allSpecies S
    · rw [if_pos hs]
      exact ⟨((h s).1 hs).absent, fun d he => by
        obtain ⟨e, hce, hv, _⟩ := ((h s).1 hs).present d he
        exact ⟨e, hce, hv⟩⟩
    · rw [if_neg hs]
      exact ⟨fun _ => (h s).2 hs, fun d hd => by cases hd⟩

theorem RowAgrees.value {c : Costs} {S : RTree} {tbl : Table} {w : Path} {t : OTree}
    (h : RowAgrees c S tbl w t) (x : Path) :
    tbl.value (w, x) = (cellCost (thlCells c S true t) x).toExt := by
  rw [Table.value, cellCost]
  cases hf : findCell (thlCells c S true t) (x, ()) with
  | none => rw [(h.get x).1 hf]; rfl
  | some d =>
    obtain ⟨e, hce, hv⟩ := (h.get x).2 d hf
    rw [hce]; exact hv

/-- The row of a child node hands the label DP's values to the loops of its parent. -/
theorem RowAgrees.rowOk {c : Costs} {S : RTree} {tbl : Table} {w : Path} {t : OTree}
    (h : RowAgrees c S tbl w t) (hS : ∀ p ∈ leafSpecies t, S.isNode p = true) :
    RowOk S (fun x _ => tbl.value (w, x)) (thlCells c S true t) :=
  ⟨fun x _ => by rw [h.value x, cellCost_eq], fun _ hd => dp_isNode c S true _ (annPlain_internal_spOk S _ hS) hd,
    fun _ h1 _ h2 ht => cellTag_inj thlAlg c S true _ h1 h2 ht⟩

theorem prefix_of_mem_postorderNodes : ∀ (t : OTree) (v : Path) (p : Path × OTree),
    p ∈ postorderNodes t v → v <+: p.1
  | .leaf _ _, v, p, h => by
    simp only [postorderNodes, List.mem_singleton] at h; rw [h]; exact List.prefix_refl v
  | .node l r, v, p, h => by
    simp only [postorderNodes, List.mem_append, List.mem_singleton] at h
    rcases h with (h | h) | h
    · exact (List.prefix_append v [0]).trans (prefix_of_mem_postorderNodes l _ p h)
    · exact (List.prefix_append v [1]).trans (prefix_of_mem_postorderNodes r _ p h)
    · rw [h]; exact List.prefix_refl v

theorem root_mem_postorderNodes (t : OTree) (v : Path) : (v, t) ∈ postorderNodes t v := by
  cases t <;> simp [postorderNodes]

theorem postorderNodes_sub : ∀ (t : OTree) (v : Path) (q : Path × OTree), q ∈ postorderNodes t v →
    ∀ q' ∈ postorderNodes q.2 q.1, q' ∈ postorderNodes t v := by
  intro t
  induction t with
  | leaf sp f =>
    intro v q hq q' hq'
    simp only [postorderNodes, List.mem_singleton] at hq
    subst hq; exact hq'
  | node l r ihl ihr =>
    intro v q hq q' hq'
    simp only [postorderNodes, List.mem_append, List.mem_singleton] at hq
    rcases hq with (hq | hq) | hq
    · simp only [postorderNodes, List.mem_append]
      exact Or.inl (Or.inl (ihl _ q hq q' hq'))
    · simp only [postorderNodes, List.mem_append]
      exact Or.inl (Or.inr (ihr _ q hq q' hq'))
    · subst hq; exact hq'

/-- The body of the loop over the species at one internal object node `v`. -/
def speciesStep (r : Retain) (c : Costs) (S : RTree) (v : Path) (tbl : Table) (s : Path) : Table :=
  tryDuplicationTransfer r c S s v
    (if !S.isLeafAt s then trySpeciation r c S s v tbl else tbl)

theorem speciesStep_get (r : Retain) (c : Costs) (S : RTree) (v : Path) (tbl : Table) (s : Path) (k : Key) :
    (speciesStep r c S v tbl s).get k =
      if k = (v, s) then
        (batches r c S s (fun x => tbl.value (v ++ [0], x)) (fun x => tbl.value (v ++ [1], x))).foldl
          (Cell.update .min r) (tbl.get (v, s))
      else tbl.get k := by
  unfold speciesStep
  rw [tryDuplicationTransfer_eq, Table.get_update]
  by_cases hleaf : S.isLeafAt s = true
  · simp only [hleaf, Bool.not_true, Bool.false_eq_true, if_false, batches, if_true, List.nil_append,
      List.foldl_cons, List.foldl_nil]
  · have hleaf' : S.isLeafAt s = false := by simpa using hleaf
    simp only [hleaf', Bool.not_false, if_true, batches, Bool.false_eq_true, if_false,
      List.cons_append, List.nil_append, List.foldl_cons, List.foldl_nil]
    rw [trySpeciation_eq]
    have h0 : ∀ x, (v ++ [0], x) ≠ (v, s) := fun x h => snoc_ne_self v 0 (Prod.mk.inj h).1
    have h1 : ∀ x, (v ++ [1], x) ≠ (v, s) := fun x h => snoc_ne_self v 1 (Prod.mk.inj h).1
    simp only [Table.value_update_ne _ _ _ (h0 _), Table.value_update_ne _ _ _ (h1 _)]
    by_cases hk : k = (v, s)
    · subst hk; simp only [if_true, Table.get_update]
    · simp only [hk, if_false, Table.get_update]

/-- The species loop over distinct species `ss`, from a table whose child rows read `gl`, `gr`:
    each cell `(v, s)`, `s ∈ ss`, receives the batches of `s`; no other cell changes. -/
theorem speciesLoop_get (r : Retain) (c : Costs) (S : RTree) (v : Path) (gl gr : Path → ExtInt) :
    ∀ (ss : List Path), ss.Nodup → ∀ (tbl : Table),
      (∀ x, tbl.value (v ++ [0], x) = gl x) → (∀ x, tbl.value (v ++ [1], x) = gr x) →
      ∀ k, (ss.foldl (speciesStep r c S v) tbl).get k =
        if k.1 = v ∧ k.2 ∈ ss then
          (batches r c S k.2 gl gr).foldl (Cell.update .min r) (tbl.get k)
        else tbl.get k := by
  intro ss
  induction ss with
  | nil => intro _ tbl _ _ k; simp
  | cons s ss ih =>
    intro hnd tbl hgl hgr k
    obtain ⟨hs, hnd'⟩ := List.nodup_cons.mp hnd
    have hgl' : ∀ x, (speciesStep r c S v tbl s).value (v ++ [0], x) = gl x := by
      intro x
      rw [Table.value, speciesStep_get, if_neg (fun h => snoc_ne_self v 0 (Prod.mk.inj h).1), ← hgl x]; rfl
    have hgr' : ∀ x, (speciesStep r c S v tbl s).value (v ++ [1], x) = gr x := by
      intro x
      rw [Table.value, speciesStep_get, if_neg (fun h => snoc_ne_self v 1 (Prod.mk.inj h).1), ← hgr x]; rfl
    rw [List.foldl_cons, ih hnd' _ hgl' hgr' k, speciesStep_get]
    have hfl : (fun x => tbl.value (v ++ [0], x)) = gl := funext hgl
    have hfr : (fun x => tbl.value (v ++ [1], x)) = gr := funext hgr
    rw [hfl, hfr]
    obtain ⟨kw, ks⟩ := k
    by_cases hw : kw = v
    · subst hw
      by_cases hks : ks = s
      · subst hks
        simp [hs]
      · have : (kw, ks) ≠ (kw, s) := fun h => hks (Prod.mk.inj h).2
        simp [hks, this]
    · have : (kw, ks) ≠ (v, s) := fun h => hw (Prod.mk.inj h).1
      simp [hw, this]

/-- The recurrence satisfied by the row of object node `w` (subtree `t`). -/
def RowSpec (r : Retain) (c : Costs) (S : RTree) (tbl : Table) (w : Path) : OTree → Prop
  | .leaf sp _ => ∀ s, tbl.get (w, s) =
      if s = sp then Cell.update .min r none [⟨.fin 0, none⟩] else none
  | .node _ _ => ∀ s, tbl.get (w, s) =
      if s ∈ S.postorder then
        (batches r c S s (fun x => tbl.value (w ++ [0], x)) (fun x => tbl.value (w ++ [1], x))).foldl
          (Cell.update .min r) none
      else none

theorem RowSpec_congr {r : Retain} {c : Costs} {S : RTree} {tbl tbl' : Table} {w : Path} {t : OTree}
    (h : ∀ w' s, w <+: w' → tbl'.get (w', s) = tbl.get (w', s)) (hr : RowSpec r c S tbl w t) :
    RowSpec r c S tbl' w t := by
  cases t with
  | leaf sp f =>
    intro s; rw [h w s (List.prefix_refl w)]; exact hr s
  | node l r' =>
    intro s
    have h0 : (fun x => tbl'.value (w ++ [0], x)) = fun x => tbl.value (w ++ [0], x) := by
      funext x; simp only [Table.value]; rw [h _ x (List.prefix_append w [0])]
    have h1 : (fun x => tbl'.value (w ++ [1], x)) = fun x => tbl.value (w ++ [1], x) := by
      funext x; simp only [Table.value]; rw [h _ x (List.prefix_append w [1])]
    rw [h w s (List.prefix_refl w), h0, h1]; exact hr s

/-- Every row of the subtree `t` hanging at `w` satisfies the recurrence. -/
def Rows (r : Retain) (c : Costs) (S : RTree) (tbl : Table) (t : OTree) (w : Path) : Prop :=
  ∀ p ∈ postorderNodes t w, RowSpec r c S tbl p.1 p.2

theorem Rows.root {r : Retain} {c : Costs} {S : RTree} {tbl : Table} {t : OTree} {w : Path}
    (h : Rows r c S tbl t w) : RowSpec r c S tbl w t := h _ (root_mem_postorderNodes t w)

theorem Rows.left {r : Retain} {c : Costs} {S : RTree} {tbl : Table} {l r' : OTree} {w : Path}
    (h : Rows r c S tbl (.node l r') w) : Rows r c S tbl l (w ++ [0]) :=
  fun p hp => h p (by simp [postorderNodes, hp])

theorem Rows.right {r : Retain} {c : Costs} {S : RTree} {tbl : Table} {l r' : OTree} {w : Path}
    (h : Rows r c S tbl (.node l r') w) : Rows r c S tbl r' (w ++ [1]) :=
  fun p hp => h p (by simp [postorderNodes, hp])

/-- Processing the nodes of the subtree `t` hanging at `v`, starting from a table
    with nothing at or below `v`, leaves every other row untouched and makes every
    row of the subtree satisfy the recurrence. -/
theorem process_rec (r : Retain) (c : Costs) (S : RTree) : ∀ (t : OTree) (v : Path) (tbl0 : Table),
    (∀ w s, v <+: w → tbl0.get (w, s) = none) →
    (∀ w s, ¬ v <+: w →
      ((postorderNodes t v).foldl (processNode r c S) tbl0).get (w, s) = tbl0.get (w, s)) ∧
    Rows r c S ((postorderNodes t v).foldl (processNode r c S) tbl0) t v := by
  intro t
  induction t with
  | leaf sp f =>
    intro v tbl0 hfresh
    simp only [Rows, postorderNodes, List.foldl_cons, List.foldl_nil, processNode]
    constructor
    · intro w s hw
      rw [Table.get_update, if_neg]
      intro h; exact hw ((Prod.mk.inj h).1 ▸ List.prefix_refl _)
    · intro p hp
      simp only [List.mem_singleton] at hp
      subst hp
      intro s
      rw [Table.get_update]
      by_cases hs : s = sp
      · subst hs; simp only [if_true]; rw [hfresh v s (List.prefix_refl v)]
      · rw [if_neg (fun h => hs (Prod.mk.inj h).2), if_neg hs]
        exact hfresh v s (List.prefix_refl v)
  | node l r' ihl ihr =>
    intro v tbl0 hfresh
    simp only [Rows, postorderNodes, List.foldl_append, List.foldl_cons, List.foldl_nil]
    obtain ⟨frL, rowsL⟩ := ihl (v ++ [0]) tbl0
      (fun w s hw => hfresh w s ((List.prefix_append v [0]).trans hw))
    generalize hL : (postorderNodes l (v ++ [0])).foldl (processNode r c S) tbl0 = tblL at frL rowsL
    have hfreshR : ∀ w s, v ++ [1] <+: w → tblL.get (w, s) = none := by
      intro w s hw
      rw [frL w s (not_snoc_prefix_of_snoc_prefix (by decide) hw)]
      exact hfresh w s ((List.prefix_append v [1]).trans hw)
    obtain ⟨frR, rowsR⟩ := ihr (v ++ [1]) tblL hfreshR
    generalize hR : (postorderNodes r' (v ++ [1])).foldl (processNode r c S) tblL = tblR at frR rowsR
    have hfreshV : ∀ s, tblR.get (v, s) = none := by
      intro s
      rw [frR v s (not_snoc_prefix_self v 1), frL v s (not_snoc_prefix_self v 0)]
      exact hfresh v s (List.prefix_refl v)
    have hloop := speciesLoop_get r c S v (fun x => tblR.value (v ++ [0], x))
      (fun x => tblR.value (v ++ [1], x)) S.postorder (RTree.nodup_postorder S) tblR
      (fun _ => rfl) (fun _ => rfl)
    have hproc : processNode r c S tblR (v, .node l r') = S.postorder.foldl (speciesStep r c S v) tblR := rfl
    rw [hproc]
    have hother : ∀ w s, w ≠ v → (S.postorder.foldl (speciesStep r c S v) tblR).get (w, s) = tblR.get (w, s) := by
      intro w s hw
      rw [hloop (w, s), if_neg (fun h => hw h.1)]
    constructor
    · intro w s hw
      have hwv : w ≠ v := fun h => hw (h ▸ List.prefix_refl _)
      rw [hother w s hwv]
      rw [frR w s (fun h => hw ((List.prefix_append v [1]).trans h)),
        frL w s (fun h => hw ((List.prefix_append v [0]).trans h))]
    · intro p hp
      simp only [List.mem_append, List.mem_singleton] at hp
      rcases hp with (hp | hp) | hp
      · have hpre := prefix_of_mem_postorderNodes l _ p hp
        refine RowSpec_congr (fun w' s hw' => ?_) (rowsL p hp)
        have hpre' : v ++ [0] <+: w' := hpre.trans hw'
        have hne : w' ≠ v := fun h => not_snoc_prefix_self v 0 (h ▸ hpre')
        rw [hother w' s hne]
        exact frR _ s (not_snoc_prefix_of_snoc_prefix (by decide) hpre')
      · have hpre := prefix_of_mem_postorderNodes r' _ p hp
        refine RowSpec_congr (fun w' s hw' => ?_) (rowsR p hp)
        have hpre' : v ++ [1] <+: w' := hpre.trans hw'
        have hne : w' ≠ v := fun h => not_snoc_prefix_self v 1 (h ▸ hpre')
        exact hother w' s hne
      · subst hp
        intro s
        have h0 : (fun x => (S.postorder.foldl (speciesStep r c S v) tblR).value (v ++ [0], x)) =
            fun x => tblR.value (v ++ [0], x) := by
          funext x; simp only [Table.value]; rw [hother _ x (snoc_ne_self v 0)]
        have h1 : (fun x => (S.postorder.foldl (speciesStep r c S v) tblR).value (v ++ [1], x)) =
            fun x => tblR.value (v ++ [1], x) := by
          funext x; simp only [Table.value]; rw [hother _ x (snoc_ne_self v 1)]
        show (S.postorder.foldl (speciesStep r c S v) tblR).get (v, s) = _
        rw [h0, h1, hloop (v, s), hfreshV s]
        by_cases hs : s ∈ S.postorder <;> simp [hs]

theorem computeTable_rec (r : Retain) (c : Costs) (S : RTree) (o : OTree) :
    Rows r c S (computeTable r c S o) o [] :=
  (process_rec r c S o [] Table.empty (fun _ _ _ => rfl)).2

/-- Every row of a table that solves the recurrence under ALL agrees with the label DP:
    the rows of the children give the value rows from which the batches of a cell are
    formed (`batches_corr`), and a cell is the fold of its batches (`CellOK.of_corr`). -/
theorem rows_ok (c : Costs) (S : RTree) (tbl : Table) : ∀ (t : OTree) (w : Path),
    Rows .all c S tbl t w → (∀ p ∈ leafSpecies t, S.isNode p = true) →
    ∀ p ∈ postorderNodes t w, RowAgrees c S tbl p.1 p.2 := by
  intro t
  induction t with
  | leaf sp f =>
    intro w hrows _ p hp
    simp only [postorderNodes, List.mem_singleton] at hp
    subst hp
    intro s
    rw [hrows.root s, Cell.update_leaf]
  | node l r ihl ihr =>
    intro w hrows hS p hp
    have hSl : ∀ p ∈ leafSpecies l, S.isNode p = true :=
      fun p hp => hS p (by simp [leafSpecies, hp])
    have hSr : ∀ p ∈ leafSpecies r, S.isNode p = true :=
      fun p hp => hS p (by simp [leafSpecies, hp])
    simp only [postorderNodes, List.mem_append, List.mem_singleton] at hp
    rcases hp with (hp | hp) | hp
    · exact ihl _ hrows.left hSl p hp
    · exact ihr _ hrows.right hSr p hp
    · subst hp
      have rowL := (ihl _ hrows.left hSl _ (root_mem_postorderNodes l (w ++ [0]))).rowOk hSl
      have rowR := (ihr _ hrows.right hSr _ (root_mem_postorderNodes r (w ++ [1]))).rowOk hSr
      intro s
      have hsp : s ∈ S.postorder ↔ s ∈ allSpecies S := by
        rw [allSpecies, RTree.mem_postorder_iff, RTree.mem_preorder_iff]
      rw [hrows.root s]
      refine ⟨fun hs => ?_, fun hs => by rw [if_neg (fun h => hs (hsp.mp h))]⟩
      rw [if_pos (hsp.mpr hs)]
      exact .of_corr _ _ _ _ _ _ _ _ _ _ _
        (batches_corr c S (allSpecies S) (allSpecies S) (allSpecies S) s _ _ _ _ rowL rowR)

theorem computeTable_ok (c : Costs) (S : RTree) (o : OTree)
    (hS : ∀ p ∈ leafSpecies o, S.isNode p = true) :
    ∀ p ∈ postorderNodes o [], RowAgrees c S (computeTable .all c S o) p.1 p.2 :=
  rows_ok c S _ o [] (computeTable_rec .all c S o) hS

end ThlCode

end SR
