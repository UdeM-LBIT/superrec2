/-
  JSON text layer: `parseRaw (render v) = some v` for EVERY value, `parse (render v) = some v`
  for every value without repeated keys, `render v` is printable ASCII, so has no line break;
  decidable equality of `JVal`.
-/
import SRVerif.Proofs.JsonStr
import SRVerif.Proofs.Serialize

namespace SR.Json

open SR SR.Ser

mutual
  theorem JVal.beq_iff : ∀ (a b : JVal), a.beq b = true ↔ a = b
    | .null, b | .bool _, b | .int _, b | .inf, b | .ninf, b | .str _, b => by
      cases b <;> simp [JVal.beq]
    | .arr x, b => by cases b <;> simp [JVal.beq, beqL_iff x]
    | .obj x, b => by cases b <;> simp [JVal.beq, beqM_iff x]
  theorem beqL_iff : ∀ (a b : List JVal), beqL a b = true ↔ a = b
    | [], [] | [], _ :: _ | _ :: _, [] => by simp [beqL]
    | a :: as, b :: bs => by simp [beqL, JVal.beq_iff a b, beqL_iff as bs]
  theorem beqM_iff : ∀ (a b : List (String × JVal)), beqM a b = true ↔ a = b
    | [], [] | [], _ :: _ | _ :: _, [] => by simp [beqM]
    | (k, a) :: as, (k', b) :: bs => by
      simp [beqM, JVal.beq_iff a b, beqM_iff as bs, and_assoc]
end

instance : DecidableEq JVal := fun a b => decidable_of_iff _ (JVal.beq_iff a b)

theorem ne_of_isDigit {c d : Char} (hc : c.isDigit = true) (hd : d.isDigit = false) : c ≠ d :=
  fun e => by rw [e, hd] at hc; cases hc

/-- What the parser asks of the first character of a value: no white space (nothing to skip),
    no `]` (the array is not empty). -/
def opens (c : Char) : Bool := !isWs c && c != ']'

theorem opens_digit {c : Char} (h : c.isDigit = true) : opens c = true := by
  have ne : ∀ d : Char, d.isDigit = false → c ≠ d := fun d => ne_of_isDigit h
  simp only [opens, isWs, Bool.and_eq_true, Bool.not_eq_true', Bool.or_eq_false_iff,
    beq_eq_false_iff_ne, bne_iff_ne]
  exact ⟨⟨⟨⟨ne _ rfl, ne _ rfl⟩, ne _ rfl⟩, ne _ rfl⟩, ne _ rfl⟩

theorem renderV_head : ∀ v : JVal, ∃ c t, renderV v = c :: t ∧ opens c = true
  | .int (.ofNat k) => by
    obtain ⟨c, t, e, h⟩ := natDigits_head k
    exact ⟨c, t, e, opens_digit h⟩
  | .null | .bool true | .bool false | .int (.negSucc _) | .inf | .ninf | .str _ | .arr []
  | .arr (_ :: _) | .obj [] | .obj ((_, _) :: _) => by
    rw [renderV]
    exact ⟨_, _, rfl, by decide⟩

theorem skipWs_render (v : JVal) (x : List Char) : skipWs (renderV v ++ x) = renderV v ++ x := by
  obtain ⟨c, t, e, h⟩ := renderV_head v
  simp only [opens, Bool.and_eq_true, Bool.not_eq_true'] at h
  simp [e, skipWs, h.1]

theorem head?_render (v : JVal) (x : List Char) : (renderV v ++ x).head? ≠ some ']' := by
  obtain ⟨c, t, e, h⟩ := renderV_head v
  simp only [opens, Bool.and_eq_true, bne_iff_ne] at h
  rw [e, List.cons_append, List.head?_cons]
  exact fun e' => h.2 (Option.some.inj e')

theorem delim_tail : ∀ (l : List JVal) (rest : List Char), Delim (renderTail l ++ ']' :: rest)
  | [], _ => rfl
  | _ :: _, _ => rfl

theorem delim_mtail : ∀ (m : List (String × JVal)) (rest : List Char),
    Delim (renderMTail m ++ '}' :: rest)
  | [], _ => rfl
  | (_, _) :: _, _ => rfl

theorem parseVal_digit (f : Nat) (c : Char) (r : List Char) (h : c.isDigit = true) :
    parseVal (f + 1) (c :: r) = (parseNat (c :: r)).map (fun p => (.int (p.1 : Int), p.2)) := by
  have ne : ∀ d : Char, d.isDigit = false → c ≠ d := fun d => ne_of_isDigit h
  simp only [parseVal, ne 'n' rfl, ne 't' rfl, ne 'f' rfl, ne 'I' rfl, ne '"' rfl, ne '[' rfl,
    ne '{' rfl, ne '-' rfl, if_false]

theorem parseVal_minus (f : Nat) (c : Char) (r : List Char) (h : c.isDigit = true) :
    parseVal (f + 1) ('-' :: c :: r) = (parseNat (c :: r)).map (fun p => (.int (-(p.1 : Int)), p.2)) := by
  simp [parseVal, ne_of_isDigit h (d := 'I') rfl]

theorem parseVal_int (n : Int) (f : Nat) (rest : List Char) (hd : Delim rest) :
    parseVal (f + 1) (renderInt n ++ rest) = some (.int n, rest) := by
  cases n with
  | ofNat k =>
    obtain ⟨c, t, e, h⟩ := natDigits_head k
    have := parseVal_digit f c (t ++ rest) h
    rw [← List.cons_append, ← e, parseNat_natDigits k hd] at this
    exact this
  | negSucc k =>
    obtain ⟨c, t, e, h⟩ := natDigits_head (k + 1)
    have := parseVal_minus f c (t ++ rest) h
    rw [← List.cons_append, ← e, parseNat_natDigits (k + 1) hd] at this
    exact this

theorem parseVal_str (s : String) (f : Nat) (rest : List Char) :
    parseVal (f + 1) (renderStr s.toList ++ rest) = some (.str s, rest) := by
  have : renderStr s.toList ++ rest = '"' :: (s.toList.flatMap escChar ++ '"' :: rest) := by
    simp [renderStr]
  rw [this]
  simp [parseVal, parseStr_render]

theorem skipWs_renderStr (k : List Char) (x : List Char) :
    skipWs (renderStr k ++ x) = renderStr k ++ x := by
  simp [renderStr, skipWs, isWs]

theorem head?_renderStr (k : List Char) (x : List Char) : (renderStr k ++ x).head? ≠ some '}' := by
  simp [renderStr]

theorem length_lt_of_append {a b : List Char} {n : Nat} (h : (a ++ b).length < n) : b.length < n := by
  rw [List.length_append] at h
  omega

/-- A member whose value is read back (`ih`, at any sufficient fuel) is read back. -/
theorem parseMember_render (k : String) (v : JVal) (R : List Char) :
    ∀ f, (renderStr k.toList ++ ':' :: ' ' :: (renderV v ++ R)).length < f →
    (∀ g, (renderV v ++ R).length < g → parseVal g (renderV v ++ R) = some (v, R)) →
    parseMember f (renderStr k.toList ++ ':' :: ' ' :: (renderV v ++ R)) = some ((k, v), R)
  | 0, hf, _ => absurd hf (Nat.not_lt_zero _)
  | f + 1, hf, ih => by
    have h := ih f (by simp only [List.length_append, List.length_cons] at hf ⊢; omega)
    simp [renderStr, parseMember, parseStr_render, skipWs, isWs, skipWs_render, h]

mutual
  theorem parseVal_render : ∀ (v : JVal) (f : Nat) (rest : List Char),
      (renderV v ++ rest).length < f → Delim rest → parseVal f (renderV v ++ rest) = some (v, rest)
    | _, 0, _, hf, _ => absurd hf (Nat.not_lt_zero _)
    | .null, _ + 1, _, _, _ | .bool true, _ + 1, _, _, _ | .bool false, _ + 1, _, _, _
    | .inf, _ + 1, _, _, _ | .ninf, _ + 1, _, _, _ | .arr [], _ + 1, _, _, _
    | .obj [], _ + 1, _, _, _ => rfl
    | .int n, f + 1, rest, _, hd => by simp only [renderV]; exact parseVal_int n f rest hd
    | .str s, f + 1, rest, _, _ => by simp only [renderV]; exact parseVal_str s f rest
    | .arr (v :: l), f + 1, rest, hf, _ => by
      simp only [renderV, List.cons_append, List.nil_append, List.append_assoc] at hf ⊢
      have hf' := Nat.lt_of_succ_lt_succ hf
      have h1 := parseVal_render v f _ hf' (delim_tail l rest)
      have h2 := parseTail_render l f rest (length_lt_of_append hf')
      -- `head?_render` speaks of the head of the whole text: keep `head?` of `++` as it is
      simp [parseVal, skipWs_render, head?_render v _, h1, h2, -List.head?_append]
    | .obj ((k, v) :: m), f + 1, rest, hf, _ => by
      simp only [renderV, List.cons_append, List.nil_append, List.append_assoc] at hf ⊢
      have hf' := Nat.lt_of_succ_lt_succ hf
      have h1 := parseMember_render k v _ f hf' fun g hg =>
        parseVal_render v g _ hg (delim_mtail m rest)
      have h2 := parseMTail_render m f rest
        (by simp only [List.length_append, List.length_cons] at hf' ⊢; omega)
      simp [parseVal, skipWs_renderStr, head?_renderStr, h1, h2, -List.head?_append]
  theorem parseTail_render : ∀ (l : List JVal) (f : Nat) (rest : List Char),
      (renderTail l ++ ']' :: rest).length < f →
      parseTail f (renderTail l ++ ']' :: rest) = some (l, rest)
    | _, 0, _, hf => absurd hf (Nat.not_lt_zero _)
    | [], _ + 1, _, _ => rfl
    | v :: l, f + 1, rest, hf => by
      simp only [renderTail, List.cons_append, List.append_assoc] at hf ⊢
      have hf' := Nat.lt_of_succ_lt (Nat.lt_of_succ_lt_succ hf)
      have h1 := parseVal_render v f _ hf' (delim_tail l rest)
      have h2 := parseTail_render l f rest (length_lt_of_append hf')
      simp [parseTail, skipWs, isWs, skipWs_render, h1, h2]
  theorem parseMTail_render : ∀ (m : List (String × JVal)) (f : Nat) (rest : List Char),
      (renderMTail m ++ '}' :: rest).length < f →
      parseMTail f (renderMTail m ++ '}' :: rest) = some (m, rest)
    | _, 0, _, hf => absurd hf (Nat.not_lt_zero _)
    | [], _ + 1, _, _ => rfl
    | (k, v) :: m, f + 1, rest, hf => by
      simp only [renderMTail, List.cons_append, List.append_assoc] at hf ⊢
      have hf' := Nat.lt_of_succ_lt (Nat.lt_of_succ_lt_succ hf)
      have h1 := parseMember_render k v _ f hf' fun g hg =>
        parseVal_render v g _ hg (delim_mtail m rest)
      have h2 := parseMTail_render m f rest
        (by simp only [List.length_append, List.length_cons] at hf' ⊢; omega)
      simp [parseMTail, skipWs, isWs, skipWs_renderStr, h1, h2]
end

theorem parseC_renderV (v : JVal) : parseC (renderV v) = some v := by
  have h := parseVal_render v ((renderV v).length + 1) [] (by simp) rfl
  simp only [List.append_nil] at h
  have hs := skipWs_render v []
  simp only [List.append_nil] at hs
  simp [parseC, hs, h, skipWs]

/-- `json.loads(json.dumps(v), object_pairs_hook=…)` is `v`, for every value. -/
theorem parseRaw_render (v : JVal) : parseRaw (render v) = some v := by
  simp [parseRaw, render, String.toList_ofList, parseC_renderV]

theorem keysM_eq (m : List (String × JVal)) : keysM m = m.map (·.1) := by
  induction m with
  | nil => rfl
  | cons kv m ih => obtain ⟨k, v⟩ := kv; simp [keysM, ih]

mutual
  theorem norm_wf : ∀ (v : JVal), v.wf = true → v.norm = v
    | .null, _ | .bool _, _ | .int _, _ | .inf, _ | .ninf, _ | .str _, _ => rfl
    | .arr l, h => by
      simp only [JVal.wf] at h
      simp [JVal.norm, normL_wf l h]
    | .obj m, h => by
      simp only [JVal.wf, Bool.and_eq_true, decide_eq_true_eq] at h
      simp only [JVal.norm, normM_wf m h.2]
      rw [Dict.ofList_nodup m (by rw [← keysM_eq]; exact h.1)]
  theorem normL_wf : ∀ (l : List JVal), wfL l = true → normL l = l
    | [], _ => rfl
    | v :: l, h => by
      simp only [wfL, Bool.and_eq_true] at h
      simp [normL, norm_wf v h.1, normL_wf l h.2]
  theorem normM_wf : ∀ (m : List (String × JVal)), wfM m = true → normM m = m
    | [], _ => rfl
    | (k, v) :: m, h => by
      simp only [wfM, Bool.and_eq_true] at h
      simp [normM, norm_wf v h.1, normM_wf m h.2]
end

/-- `json.loads(json.dumps(v))` for EVERY value: `v` with each object turned into a `dict`. -/
theorem parse_render_norm (v : JVal) : parse (render v) = some v.norm := by
  rw [parse, parseRaw_render, Option.map_some]

/-- `json.loads(json.dumps(v)) = v` for every value without repeated keys. -/
theorem parse_render (v : JVal) (h : WFJ v) : parse (render v) = some v := by
  rw [parse_render_norm, norm_wf v h]

theorem natDigitsF_printable (f : Nat) : ∀ n, (natDigitsF f n).all printable = true := by
  have hd : ∀ d < 10, printable (digitChar d) = true := by decide
  induction f with
  | zero => intro n; rfl
  | succ f ih =>
    intro n
    unfold natDigitsF
    by_cases h : n < 10
    · simp only [h, if_true, List.all_cons, List.all_nil, hd n h, Bool.and_self]
    · simp only [h, if_false, List.all_append, ih, List.all_cons, List.all_nil,
        hd _ (Nat.mod_lt n (by omega)), Bool.and_self]

theorem renderStr_printable (s : List Char) : (renderStr s).all printable = true := by
  simp only [renderStr, List.all_cons, List.all_append, List.all_flatMap, List.all_nil,
    Bool.and_true, Bool.and_eq_true]
  exact ⟨by decide, List.all_eq_true.mpr fun c _ => escChar_printable c, by decide⟩

mutual
  theorem renderV_printable : ∀ v : JVal, (renderV v).all printable = true
    | .null | .bool true | .bool false | .inf | .ninf | .arr [] | .obj [] => by rw [renderV]; decide
    | .int (.ofNat n) => natDigitsF_printable _ n
    | .int (.negSucc n) => by
      rw [renderV, renderInt, List.all_cons, natDigits, natDigitsF_printable]; decide
    | .str s => renderStr_printable _
    | .arr (v :: l) => by
      rw [renderV, List.all_cons, List.all_append, List.all_append, renderV_printable v,
        renderTail_printable l]
      decide
    | .obj ((k, v) :: m) => by
      rw [renderV, List.all_cons, List.all_append, List.all_cons, List.all_cons, List.all_append,
        List.all_append, renderStr_printable, renderV_printable v, renderMTail_printable m]
      decide
  theorem renderTail_printable : ∀ l : List JVal, (renderTail l).all printable = true
    | [] => rfl
    | v :: l => by
      rw [renderTail, List.all_cons, List.all_cons, List.all_append, renderV_printable v,
        renderTail_printable l]
      decide
  theorem renderMTail_printable : ∀ m : List (String × JVal), (renderMTail m).all printable = true
    | [] => rfl
    | (k, v) :: m => by
      rw [renderMTail, List.all_cons, List.all_cons, List.all_append, List.all_cons, List.all_cons,
        List.all_append, renderStr_printable, renderV_printable v, renderMTail_printable m]
      decide
end

def NoBreak (l : List Char) : Prop := '\n' ∉ l ∧ '\r' ∉ l

theorem NoBreak.of_printable {l : List Char} (h : l.all printable = true) : NoBreak l :=
  ⟨fun m => absurd (List.all_eq_true.mp h _ m) (by decide),
   fun m => absurd (List.all_eq_true.mp h _ m) (by decide)⟩

theorem renderTail_noBreak : ∀ l : List JVal, NoBreak (renderTail l) :=
  fun l => .of_printable (renderTail_printable l)

theorem renderMTail_noBreak : ∀ m : List (String × JVal), NoBreak (renderMTail m) :=
  fun m => .of_printable (renderMTail_printable m)

theorem render_no_newline (v : JVal) : '\n' ∉ (render v).toList ∧ '\r' ∉ (render v).toList := by
  simp only [render, String.toList_ofList]
  exact NoBreak.of_printable (renderV_printable v)

end SR.Json
