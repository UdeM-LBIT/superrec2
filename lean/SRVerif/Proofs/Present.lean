/-
  Presentations of a reconciliation problem (C09).

  `Transfer o o' f`: the map `f` on solutions carries the input `o` to `o'` and keeps everything
  the specification looks at (cost, validity in the three modes, `plainLabels`, the LCA side
  condition, canonicity) and the guard on the input alone (non-empty leaf syntenies).
  `Present S S' o o' f` adds what the solvers over a species tree need: the mappings over `S`
  and `S'` correspond, and the guards that speak of the species tree (binary, leaf species are
  nodes) carry over.  The object swap, the mirror image, the species swap and the embedding
  below an outgroup are instances (`*_flip`, `*_mapSp`); every C09 statement "presentation ×
  solver" is then the solver's characterisation as a set of optima, transported along `f`
  (`Optima.lean`, `PresentLift.lean`).
-/
import SRVerif.Proofs.SolverTransport

namespace SR

open Spec

structure Transfer (o o' : OTree) (f : Sol → Sol) : Prop where
  cost : ∀ c mode s, totalCost c mode o' (f s) = totalCost c mode o s
  valid : ∀ mode s, validSol mode o' (f s) = validSol mode o s
  plain : ∀ s, plainLabels o' (f s) = plainLabels o s
  lca : ∀ s, sameMapping (f s) (lcaSol o') = sameMapping s (lcaSol o)
  canon : ∀ s, canonicalUn o' [] [] (f s) = canonicalUn o [] [] s
  ne : (∀ x ∈ leafSyntenies o, x ≠ []) → ∀ x ∈ leafSyntenies o', x ≠ []

structure Present (S S' : RTree) (o o' : OTree) (f : Sol → Sol) : Prop
    extends Transfer o o' f where
  maps : ∀ s, f s ∈ allMappings S' o' ↔ s ∈ allMappings S o
  bin : S'.isBinary = S.isBinary
  sp : (∀ p ∈ leafSpecies o, S.isNode p = true) → ∀ p ∈ leafSpecies o', S'.isNode p = true

namespace Transfer

variable {o o' : OTree} {f : Sol → Sol} (T : Transfer o o' f)
include T

theorem vrec (s : Sol) : validRec o' (f s) = validRec o s := by
  simpa [validSol] using T.valid .plain s

/-- The validity predicate of `exhaustive`. -/
theorem vExh (s : Sol) : (validRec o' (f s) = true ∧ plainLabels o' (f s) = true) ↔
    (validRec o s = true ∧ plainLabels o s = true) := by
  rw [T.vrec, T.plain]

/-! A right inverse `g` of `f` is a retraction of the valid solutions, whatever "valid" means. -/

theorem retrValid {g : Sol → Sol} (hfg : ∀ s, f (g s) = s) (c : Costs) (mode : LabelMode) :
    ∀ s, validSol mode o' s = true → validSol mode o (g s) = true ∧
      Cost.le (totalCost c mode o (g s)) (totalCost c mode o' s) = true :=
  retract_of_rightInv (V := fun s => validSol mode o s = true) (fun s => by rw [T.valid])
    (T.cost c mode) hfg

theorem retrExh {g : Sol → Sol} (hfg : ∀ s, f (g s) = s) (c : Costs) :
    ∀ s, (validRec o' s = true ∧ plainLabels o' s = true) →
      (validRec o (g s) = true ∧ plainLabels o (g s) = true) ∧
      Cost.le (totalCost c .plain o (g s)) (totalCost c .plain o' s) = true :=
  retract_of_rightInv (V := fun s => validRec o s = true ∧ plainLabels o s = true) T.vExh
    (T.cost c .plain) hfg

end Transfer

namespace Present

variable {S S' : RTree} {o o' : OTree} {f : Sol → Sol} (P : Present S S' o o' f)
include P

/-- The validity predicate of `thl`. -/
theorem vThl (s : Sol) : (validRec o' (f s) = true ∧ f s ∈ allMappings S' o') ↔
    (validRec o s = true ∧ s ∈ allMappings S o) := by
  rw [P.vrec, P.maps]

theorem retrThl {g : Sol → Sol} (hfg : ∀ s, f (g s) = s) (c : Costs) :
    ∀ s, (validRec o' s = true ∧ s ∈ allMappings S' o') →
      (validRec o (g s) = true ∧ g s ∈ allMappings S o) ∧
      Cost.le (totalCost c .plain o (g s)) (totalCost c .plain o' s) = true :=
  retract_of_rightInv (V := fun s => validRec o s = true ∧ s ∈ allMappings S o) P.vThl
    (P.cost c .plain) hfg

end Present

theorem transfer_flip (o : OTree) (F : Path → Bool) : Transfer o (o.flip F) (Sol.flip F) where
  cost c mode s := totalCost_flip c mode o s F
  valid mode s := validSol_flip mode o s F
  plain s := plainLabels_flip o s F
  lca s := by rw [lcaSol_flip, sameMapping_flip]
  canon s := by simpa only [List.nil_append, Path.flipPos] using canonicalUn_flip o F s [] []
  ne h x hx := h x ((leafSyntenies_flip_perm o F).mem_iff.mp hx)

theorem present_flip (S : RTree) (o : OTree) (F : Path → Bool) :
    Present S S o (o.flip F) (Sol.flip F) where
  toTransfer := transfer_flip o F
  maps s := mem_allMappings_flip S o F s
  bin := rfl
  sp h q hq := h q ((leafSpecies_flip_perm o F).mem_iff.mp hq)

theorem present_swapAt (S : RTree) (p : Path) (o : OTree) :
    Present S S o (o.swapAt p) (Sol.swapAt p) := by
  rw [OTree.swapAt_eq_flip, funext (Sol.swapAt_eq_flip p)]
  exact present_flip S o _

theorem present_mirror (S : RTree) (o : OTree) : Present S S o o.mirror Sol.mirror := by
  rw [OTree.mirror_eq_flip, funext Sol.mirror_eq_flip]
  exact present_flip S o _

theorem transfer_swapAt (p : Path) (o : OTree) : Transfer o (o.swapAt p) (Sol.swapAt p) := by
  rw [OTree.swapAt_eq_flip, funext (Sol.swapAt_eq_flip p)]
  exact transfer_flip o _

theorem transfer_mirror (o : OTree) : Transfer o o.mirror Sol.mirror := by
  rw [OTree.mirror_eq_flip, funext Sol.mirror_eq_flip]
  exact transfer_flip o _

theorem transfer_mapSp {φ : Path → Path} (h : PathEmb φ) (o : OTree) :
    Transfer o (o.mapSp φ) (Sol.mapSp φ) where
  cost c mode s := totalCost_mapSp h c mode o s
  valid mode s := validSol_mapSp h mode o s
  plain s := plainLabels_mapSp φ o s
  lca s := by rw [lcaSol_mapSp h, sameMapping_mapSp h]
  canon s := canonicalUn_mapSp φ o s [] []
  ne hne := by rw [leafSyntenies_mapSp]; exact hne

theorem present_mapSp {φ ψ : Path → Path} (h : PathEmb φ) (hψ : ∀ p, ψ (φ p) = p) {S S' : RTree}
    (hS : ∀ p, S.isNode p = true → S'.isNode (φ p) = true)
    (hS' : ∀ q, S'.isNode q = true → S.isNode (ψ q) = true) (hb : S'.isBinary = S.isBinary)
    (o : OTree) : Present S S' o (o.mapSp φ) (Sol.mapSp φ) where
  toTransfer := transfer_mapSp h o
  maps s := by
    refine ⟨fun hs => ?_, mem_allMappings_mapSp φ S S' hS o s⟩
    have := mem_allMappings_mapSp ψ S' S hS' _ _ hs
    rwa [OTree.mapSp_leftInv hψ, Sol.mapSp_leftInv hψ] at this
  bin := hb
  sp hsp := forall_leafSpecies_mapSp hsp fun q hq => hS q hq

theorem present_swapSp (S : RTree) (p : Path) (i j : Nat) (hi : i < S.arityAt p)
    (hj : j < S.arityAt p) (o : OTree) :
    Present S (S.swapAt p i j) o (o.mapSp (Path.swapAt p i j)) (Sol.mapSp (Path.swapAt p i j)) :=
  present_mapSp (Path.swapAt_emb p i j) (Path.swapAt_invol p i j)
    (fun q hq => by rw [RTree.isNode_swapAt p S i j hi hj]; exact hq)
    (fun q hq => by rw [← RTree.isNode_swapAt p S i j hi hj, Path.swapAt_invol]; exact hq)
    (RTree.isBinary_swapAt S p i j) o

theorem transfer_og (o : OTree) : Transfer o (o.mapSp Path.og) (Sol.mapSp Path.og) :=
  transfer_mapSp Path.og_emb o

theorem present_og (S : RTree) (o : OTree) :
    Present S S.withOutgroup o (o.mapSp Path.og) (Sol.mapSp Path.og) :=
  present_mapSp (ψ := Path.unog) Path.og_emb (fun _ => rfl)
    (fun q hq => by rw [RTree.isNode_withOutgroup_og]; exact hq) (fun _ => S.isNode_unog)
    (RTree.isBinary_withOutgroup S) o

end SR
