/-
  The result entry under ANY (`rankAny`) against the one under ALL (`rankByCost`), and the
  set of outputs reachable under ANY (`reachAny`).  `groups` lists, per finite root cell, the
  outputs that cell decodes to under ALL; `ca` the outputs decoded under ANY; `RepG ca groups`
  says that `ca` has one representative per group (from `dpTableAny_rep`).  The ANY result is
  always reachable; it is a member of the ALL result when the evaluated cost is constant on
  each group (`Uniform`), and then `reachAny` is exactly the ALL result.
-/
import SRVerif.Proofs.LabelDPAny

namespace SR

open Cost

def RepG (ca : List Sol) (groups : List (List Sol)) : Prop :=
  (∀ s ∈ ca, ∃ g ∈ groups, s ∈ g) ∧ (∀ g ∈ groups, ∃ s ∈ ca, s ∈ g)

def Uniform (cost : Sol → Cost) (groups : List (List Sol)) : Prop :=
  ∀ g ∈ groups, ∀ x ∈ g, ∀ y ∈ g, cost x = cost y

theorem RepG.flatMap {ι : Type} (idx : List ι) (fa : ι → List Sol) (fg : ι → List (List Sol))
    (h : ∀ i ∈ idx, RepG (fa i) (fg i)) : RepG (idx.flatMap fa) (idx.flatMap fg) := by
  constructor
  · intro s hs
    obtain ⟨i, hi, hs⟩ := List.mem_flatMap.mp hs
    obtain ⟨g, hg, hsg⟩ := (h i hi).1 s hs
    exact ⟨g, List.mem_flatMap.mpr ⟨i, hi, hg⟩, hsg⟩
  · intro g hg
    obtain ⟨i, hi, hg⟩ := List.mem_flatMap.mp hg
    obtain ⟨s, hs, hsg⟩ := (h i hi).2 g hg
    exact ⟨s, List.mem_flatMap.mpr ⟨i, hi, hs⟩, hsg⟩

theorem Uniform.flatMap {ι : Type} (cost : Sol → Cost) (idx : List ι) (fg : ι → List (List Sol))
    (h : ∀ i ∈ idx, Uniform cost (fg i)) : Uniform cost (idx.flatMap fg) := by
  intro g hg
  obtain ⟨i, hi, hg⟩ := List.mem_flatMap.mp hg
  exact h i hi g hg

section

variable {Lab : Type}

theorem Rep.repG {Tany Tall : List (DCell Lab)} (h : Rep Tany Tall) (dec : LSol Lab → Sol) :
    RepG (Tany.flatMap (fun d => d.sols.map dec)) (Tall.map (fun d => d.sols.map dec)) := by
  constructor
  · intro s hs
    obtain ⟨d, hd, hs⟩ := List.mem_flatMap.mp hs
    obtain ⟨d', hd', _, x, hx, hx'⟩ := h.1 d hd
    rw [hx] at hs
    simp only [List.map_cons, List.map_nil, List.mem_singleton] at hs
    subst hs
    exact ⟨_, List.mem_map.mpr ⟨d', hd', rfl⟩, List.mem_map.mpr ⟨x, hx', rfl⟩⟩
  · intro g hg
    obtain ⟨d', hd', rfl⟩ := List.mem_map.mp hg
    obtain ⟨d, hd, _, x, hx, hx'⟩ := h.2 d' hd'
    refine ⟨dec x, List.mem_flatMap.mpr ⟨d, hd, by rw [hx]; simp⟩, List.mem_map.mpr ⟨x, hx', rfl⟩⟩

theorem mem_flatMap_groups {cells : List (DCell Lab)} {dec : LSol Lab → Sol} {s : Sol} :
    s ∈ cells.flatMap (fun d => d.sols.map dec) ↔
      ∃ g ∈ cells.map (fun d => d.sols.map dec), s ∈ g := by
  rw [List.flatMap_def, List.mem_flatten]

end

theorem mem_reachAny {cost : Sol → Cost} {groups : List (List Sol)} {s : Sol} :
    s ∈ reachAny cost groups ↔
      ∃ g ∈ groups, s ∈ g ∧ ∀ g' ∈ groups, ∃ y ∈ g', cost s ≼ cost y := by
  simp only [reachAny, mem_dedup, List.mem_flatMap, List.mem_filter, List.all_eq_true,
    List.any_eq_true]

theorem nodup_reachAny (cost : Sol → Cost) (groups : List (List Sol)) :
    (reachAny cost groups).Nodup := nodup_dedup _

variable (pick : List Sol → Option Sol) (c : Costs) (mode : LabelMode) (o : OTree)

theorem rankAny_length_le (ca : List Sol) : (rankAny pick c mode o ca).length ≤ 1 :=
  Option.length_toList_le

variable (hp : PickOk pick)
include hp

theorem rankAny_sub {ca : List Sol} {s : Sol} (h : s ∈ rankAny pick c mode o ca) :
    s ∈ rankByCost c mode o ca :=
  hp.mem_of_mem_toList h

theorem rankAny_eq_nil_iff (ca : List Sol) : rankAny pick c mode o ca = [] ↔ ca = [] := by
  unfold rankAny
  rw [hp.toList_eq_nil_iff, rankByCost_eq_nil_iff]

theorem rankAny_length_eq {ca : List Sol} (hne : ca ≠ []) :
    (rankAny pick c mode o ca).length = 1 :=
  hp.length_toList (rankByCost_ne_nil c mode o hne)

variable {ca cl : List Sol} {groups : List (List Sol)}
  (hcl : ∀ s, s ∈ cl ↔ ∃ g ∈ groups, s ∈ g) (hrep : RepG ca groups)
include hcl hrep

omit hp in
theorem repG_nil_iff : ca = [] ↔ cl = [] := by
  constructor
  · intro h
    apply List.eq_nil_iff_forall_not_mem.mpr
    intro s hs
    obtain ⟨g, hg, _⟩ := (hcl s).mp hs
    obtain ⟨x, hx, _⟩ := hrep.2 g hg
    rw [h] at hx; cases hx
  · intro h
    apply List.eq_nil_iff_forall_not_mem.mpr
    intro s hs
    obtain ⟨g, hg, hsg⟩ := hrep.1 s hs
    have := (hcl s).mpr ⟨g, hg, hsg⟩
    rw [h] at this; cases this

theorem rankAny_nil_iff : rankAny pick c mode o ca = [] ↔ rankByCost c mode o cl = [] := by
  rw [rankAny_eq_nil_iff pick c mode o hp, repG_nil_iff hcl hrep, rankByCost_eq_nil_iff]

omit hcl in
theorem rankAny_reach {s : Sol} (h : s ∈ rankAny pick c mode o ca) :
    s ∈ reachAny (totalCost c mode o) groups := by
  obtain ⟨hs, hmin⟩ := (mem_rankByCost c mode o ca s).mp (rankAny_sub pick c mode o hp h)
  obtain ⟨g, hg, hsg⟩ := hrep.1 s hs
  refine mem_reachAny.mpr ⟨g, hg, hsg, ?_⟩
  intro g' hg'
  obtain ⟨y, hy, hyg⟩ := hrep.2 g' hg'
  exact ⟨y, hyg, hmin y hy⟩

omit hp hrep in
theorem reachAny_sub_all (hu : Uniform (totalCost c mode o) groups) {s : Sol}
    (h : s ∈ reachAny (totalCost c mode o) groups) : s ∈ rankByCost c mode o cl := by
  obtain ⟨g, hg, hsg, hall⟩ := mem_reachAny.mp h
  refine (mem_rankByCost c mode o cl s).mpr ⟨(hcl s).mpr ⟨g, hg, hsg⟩, ?_⟩
  intro s' hs'
  obtain ⟨g', hg', hs'g⟩ := (hcl s').mp hs'
  obtain ⟨y, hy, hle⟩ := hall g' hg'
  rw [hu g' hg' s' hs'g y hy]; exact hle

omit hp in
theorem all_sub_reachAny {s : Sol} (h : s ∈ rankByCost c mode o cl) :
    s ∈ reachAny (totalCost c mode o) groups := by
  obtain ⟨hs, hmin⟩ := (mem_rankByCost c mode o cl s).mp h
  obtain ⟨g, hg, hsg⟩ := (hcl s).mp hs
  refine mem_reachAny.mpr ⟨g, hg, hsg, ?_⟩
  intro g' hg'
  obtain ⟨y, _, hyg⟩ := hrep.2 g' hg'
  exact ⟨y, hyg, hmin y ((hcl y).mpr ⟨g', hg', hyg⟩)⟩

omit hp in
theorem reachAny_eq_all (hu : Uniform (totalCost c mode o) groups) (s : Sol) :
    s ∈ reachAny (totalCost c mode o) groups ↔ s ∈ rankByCost c mode o cl :=
  ⟨reachAny_sub_all c mode o hcl hu, all_sub_reachAny c mode o hcl hrep⟩

theorem rankAny_mem_all (hu : Uniform (totalCost c mode o) groups) {s : Sol}
    (h : s ∈ rankAny pick c mode o ca) : s ∈ rankByCost c mode o cl :=
  reachAny_sub_all c mode o hcl hu (rankAny_reach pick c mode o hp hrep h)

end SR
