/-
  `layout.compute` succeeds whenever `_compute_branches` does and the species tree is binary:
  `_layout_branches` finds the rect of every key it looks up (`Ordered`), `_layout_subtrees` finds
  a state for every species.  The resulting `SubtreeLayout`s carry, species by species, exactly
  the branches of the state (same order, kind, children) and as anchors exactly the branch keys
  still in `anchor_nodes` (`Skel`).  Both orientations (`compute_succeeds`).  At the end the same,
  read on the species states (`Struct`, stated with `LayOK` and `FBranch.toBranch`; `compute_struct`).
-/
import SRVerif.Proofs.BranchesOrder
import SRVerif.Proofs.LayoutGeom

namespace SR.Layout

open SR

theorem rectOf_of_mem {l : List (Key × Rect)} {k : Key} (h : k ∈ l.map (·.1)) :
    ∃ r, rectOf l (some k) = .ok r := by
  obtain ⟨r, hr⟩ := List.exists_lookup_iff_mem_keys.mpr h
  exact ⟨r, by simp [rectOf, lookupKey_eq_lookup, hr]⟩

theorem stepV_succeeds {P : Params} {sizes : Key → Size} {an : List Key} {bs : BState} {b : Branch}
    (h : BNeeds b (bs.rects.map (·.1))) :
    ∃ bs', stepV P sizes an bs b = .ok bs' ∧ bs'.rects.map (·.1) = bs.rects.map (·.1) ++ [b.key] ∧
      bs'.anchors.map (·.1) = bs.anchors.map (·.1) ++ (if b.key ∈ an then [b.key] else []) := by
  -- the only failures are the look-ups of `left` / `right`, which `BNeeds` excludes
  have ok : ∃ bs', stepV P sizes an bs b = .ok bs' := by
    obtain ⟨key, kind, left, right⟩ := b
    cases kind
    case dup =>
      obtain ⟨k1, k2, hl, hr, m1, m2⟩ := h
      simp only at hl hr
      subst hl hr
      obtain ⟨r1, e1⟩ := rectOf_of_mem m1
      obtain ⟨r2, e2⟩ := rectOf_of_mem m2
      simp only [stepV, e1, e2]
      exact ⟨_, rfl⟩
    case hgt =>
      obtain ⟨k1, hl, m1⟩ := h
      simp only at hl
      subst hl
      obtain ⟨r1, e1⟩ := rectOf_of_mem m1
      simp only [stepV, e1]
      exact ⟨_, rfl⟩
    all_goals exact ⟨_, rfl⟩
  obtain ⟨bs', e⟩ := ok
  obtain ⟨pos, hr, ha, _⟩ := stepV_shape e
  refine ⟨bs', e, by rw [hr]; simp, ?_⟩
  rw [ha]
  by_cases hk : b.key ∈ an <;> simp [hk]

theorem foldE_stepV_succeeds (P : Params) (sizes : Key → Size) (an : List Key) :
    ∀ (bl pre : List Branch) (bs : BState), bs.rects.map (·.1) = keysOf pre → Ordered (pre ++ bl) →
      ∃ bs', foldE (stepV P sizes an) bl bs = .ok bs' ∧ bs'.rects.map (·.1) = keysOf (pre ++ bl) ∧
        bs'.anchors.map (·.1) = bs.anchors.map (·.1) ++ (keysOf bl).filter (fun k => k ∈ an) := by
  intro bl
  induction bl with
  | nil => intro pre bs h _; exact ⟨bs, rfl, by simpa using h, by simp [keysOf]⟩
  | cons b bl ih =>
    intro pre bs h hord
    have hn : BNeeds b (bs.rects.map (·.1)) := by rw [h]; exact hord pre b bl rfl
    obtain ⟨bs1, e1, r1, a1⟩ := stepV_succeeds (P := P) (sizes := sizes) (an := an) hn
    obtain ⟨bs', e2, r2, a2⟩ := ih (pre ++ [b]) bs1 (by rw [r1, h]; simp [keysOf])
      (by simpa using hord)
    refine ⟨bs', by simp only [foldE, e1, e2], by simpa using r2, ?_⟩
    rw [a2, a1]
    by_cases hk : b.key ∈ an <;> simp [keysOf, hk]

/-- What `_layout_branches` keeps of a species' state. -/
structure LayOf (x : SpState) (lay : SpLayout) : Prop where
  branches : lay.branches = x.branches
  rects : lay.rects.map (·.1) = keysOf x.branches
  anchors : lay.anchors.map (·.1) = (keysOf x.branches).filter (fun k => k ∈ x.anchors)

theorem layoutBranchesV_succeeds (P : Params) (sizes : Key → Size) (x : SpState) (h : Ordered x.branches) :
    ∃ lay, layoutBranchesV P sizes x = .ok lay ∧ LayOf x lay := by
  obtain ⟨bs, e, r, a⟩ := foldE_stepV_succeeds P sizes x.anchors x.branches [] ⟨0, P.pad, [], []⟩ rfl
    (by simpa using h)
  simp only [List.nil_append, List.map_nil] at r a
  unfold layoutBranchesV
  rw [e]
  simp only
  split
  · exact ⟨_, rfl, rfl, r, a⟩
  · refine ⟨_, rfl, rfl, ?_, ?_⟩
    · simpa [shiftRects, List.map_map, Function.comp_def] using r
    · simpa [shiftAnchors, List.map_map, Function.comp_def] using a

theorem layoutAllV_succeeds (P : Params) (sizes : Key → Size) : ∀ st : LState,
    (∀ e ∈ st, Ordered e.2.branches) →
    ∃ lays, layoutAllV P sizes st = .ok lays ∧
      ∀ s x, getSp st s = some x → ∃ lay, lookupSp lays s = some lay ∧ LayOf x lay := by
  intro st
  induction st with
  | nil => intro _; exact ⟨[], rfl, by intro s x h; simp [getSp] at h⟩
  | cons e st ih =>
    intro h
    obtain ⟨k, v⟩ := e
    obtain ⟨lay, e1, l1⟩ := layoutBranchesV_succeeds P sizes v (h (k, v) (List.mem_cons_self ..))
    obtain ⟨lays, e2, l2⟩ := ih (fun e he => h e (List.mem_cons_of_mem _ he))
    refine ⟨(k, lay) :: lays, by simp only [layoutAllV, e1, e2], ?_⟩
    intro s x hx
    simp only [getSp] at hx
    by_cases hks : k = s
    · simp only [hks, if_true, Option.some.injEq] at hx
      subst hx
      exact ⟨lay, by simp [lookupSp, hks], l1⟩
    · simp only [hks, if_false] at hx
      obtain ⟨lay', hl', l'⟩ := l2 s x hx
      exact ⟨lay', by simp [lookupSp, hks, hl'], l'⟩

theorem toBTree_isSome : ∀ S : RTree, S.isBinary = true → ∃ B, toBTree S = some B
  | .node [], _ => ⟨.leaf, rfl⟩
  | .node [a, b], h => by
    simp only [RTree.isBinary, Bool.and_eq_true] at h
    obtain ⟨x, hx⟩ := toBTree_isSome a h.1
    obtain ⟨y, hy⟩ := toBTree_isSome b h.2
    exact ⟨.node x y, by simp [toBTree, hx, hy]⟩
  | .node [_], h => by simp [RTree.isBinary] at h
  | .node (_ :: _ :: _ :: _), h => by simp [RTree.isBinary] at h

theorem sizesV_succeeds (P : Params) (lays : Path → Option SpLayout) : ∀ (B : BTree) (p : Path),
    (∀ q ∈ B.paths p, (lays q).isSome) → ∃ t, sizesV P lays B p = .ok t := by
  intro B
  induction B with
  | leaf =>
    intro p h
    obtain ⟨lay, hl⟩ := Option.isSome_iff_exists.1 (h p (by simp [BTree.paths]))
    exact ⟨_, by simp only [sizesV, hl]; rfl⟩
  | node a b iha ihb =>
    intro p h
    obtain ⟨lt, e1⟩ := iha (p ++ [0]) (fun q hq => h q (by simp [BTree.paths, hq]))
    obtain ⟨rt, e2⟩ := ihb (p ++ [1]) (fun q hq => h q (by simp [BTree.paths, hq]))
    obtain ⟨lay, hl⟩ := Option.isSome_iff_exists.1 (h p (by simp [BTree.paths]))
    exact ⟨_, by simp only [sizesV, e1, e2, hl]; rfl⟩

theorem sizesV_placed {P : Params} {lays : Path → Option SpLayout} (B : BTree) (p : Path) (t : ITree)
    (h : sizesV P lays B p = .ok t) :
    ∀ r sl, sl ∈ placeV t r → ∃ i r', sl = finishV i r' ∧ lays i.sp = some i.lay := by
  refine sizesV_ind (motive := fun _ _ t => ∀ r sl, sl ∈ placeV t r →
    ∃ i r', sl = finishV i r' ∧ lays i.sp = some i.lay) ?_ ?_ B p t h
  · intro p lay hl r sl h
    simp only [placeV, List.mem_singleton] at h
    exact ⟨_, r, h, hl⟩
  · intro a b p lay lt rt hl _ _ i1 i2 r sl h
    simp only [placeV, List.mem_cons, List.mem_append] at h
    rcases h with h | h | h
    exacts [⟨_, r, h, hl⟩, i1 _ _ h, i2 _ _ h]

/-- The `Branch` of `_compute_branches` that a finished branch was made from. -/
def FBranch.asBranch (b : FBranch) : Branch := ⟨b.key, b.kind, b.left, b.right⟩

/-- A finished `SubtreeLayout` carries the branches of its species' state, in the same order, and
    as anchors the branch keys that are still in `anchor_nodes`. -/
structure Skel (st : LState) (sl : SubLayout) : Prop where
  branches : sl.branches.map FBranch.asBranch = brs st sl.sp
  anchors : sl.anchors.map (·.1) = (keysOf (brs st sl.sp)).filter (fun k => k ∈ ancs st sl.sp)

theorem finishBranchV_asBranch (off : Pos) (b : Branch) (r : Rect) :
    (finishBranchV off b r).asBranch = b := by
  obtain ⟨key, kind, left, right⟩ := b
  cases kind <;> rfl

theorem finishV_skel {st : LState} {i : Info} {x : SpState} (r : Rect)
    (hx : getSp st i.sp = some x) (hl : LayOf x i.lay) : Skel st (finishV i r) := by
  have hb : brs st i.sp = x.branches := brs_of_getSp hx
  have ha : ancs st i.sp = x.anchors := ancs_of_getSp hx
  refine ⟨?_, ?_⟩
  · simp only [finishV, List.map_map]
    rw [hb, ← hl.branches]
    have hlen : i.lay.branches.length ≤ i.lay.rects.length := by
      have := congrArg List.length hl.rects
      simp only [List.length_map, keysOf] at this
      rw [hl.branches]; omega
    conv => rhs; rw [← List.map_fst_zip hlen]
    apply List.map_congr_left
    intro e _
    exact finishBranchV_asBranch _ _ _
  · show (finishV i r).anchors.map (·.1) =
      (keysOf (brs st i.sp)).filter (fun k => k ∈ ancs st i.sp)
    simp only [hb, ha, finishV, shiftAnchors, List.map_map, Function.comp_def]
    exact hl.anchors

theorem SubLayout.tr_skel {st : LState} {sl : SubLayout} (h : Skel st sl) : Skel st sl.tr := by
  refine ⟨?_, ?_⟩
  · have : sl.tr.branches.map FBranch.asBranch = sl.branches.map FBranch.asBranch := by
      simp only [SubLayout.tr, List.map_map]
      apply List.map_congr_left
      intro b _; rfl
    rw [this]; exact h.branches
  · have : sl.tr.anchors.map (·.1) = sl.anchors.map (·.1) := by
      simp [SubLayout.tr, trAnchors, List.map_map, Function.comp_def]
    rw [this]; exact h.anchors

theorem getSp_of_mem {st : LState} (hnd : (skeys st).Nodup) {e : Path × SpState} (he : e ∈ st) :
    getSp st e.1 = some e.2 := by
  rw [getSp_eq_lookup]; exact (List.lookup_eq_some_iff_mem hnd).mpr he

theorem computeV_succeeds {S : RTree} {sol : Sol} {st : LState} (P : Params) (sizes : Key → Size)
    (hbin : S.isBinary = true) (h : computeBranches S sol = .ok st) :
    ∃ all, computeV P sizes S sol = .ok all ∧ all.map (·.sp) = S.preorder ∧
      ∀ sl ∈ all, Skel st sl := by
  obtain ⟨hk, _, _⟩ := computeBranches_plan h
  obtain ⟨_, hord⟩ := computeBranches_ord h
  have hnd : (skeys st).Nodup := by rw [hk]; exact RTree.nodup_postorder S
  obtain ⟨lays, e2, hl⟩ := layoutAllV_succeeds P sizes st (by
    intro e he
    have := hord e.1
    rwa [brs_of_getSp (getSp_of_mem hnd he)] at this)
  obtain ⟨B, e3⟩ := toBTree_isSome S hbin
  have hpre := toBTree_preorder B S e3
  obtain ⟨t, e4⟩ := sizesV_succeeds P (lookupSp lays) B [] (by
    intro q hq
    rw [← hpre, RTree.mem_preorder_iff] at hq
    have : q ∈ skeys st := by rw [hk]; exact RTree.mem_postorder_of_isNode q S hq
    obtain ⟨x, hx⟩ := getSp_some_of_mem this
    obtain ⟨lay, hlay, _⟩ := hl q x hx
    simp [hlay])
  have hc : computeV P sizes S sol = .ok (placeV t (Rect.makeFrom ⟨0, 0⟩ t.info.size)) := by
    simp only [computeV, h, e2, e3, e4]
  refine ⟨_, hc, computeV_species hc, ?_⟩
  intro sl hsl
  obtain ⟨i, r', rfl, hlay⟩ := sizesV_placed B [] t e4 _ sl hsl
  obtain ⟨x, hx, _⟩ := layoutAllV_lookup st e2 hlay
  obtain ⟨lay, hlay', lo⟩ := hl _ x hx
  rw [hlay] at hlay'
  cases hlay'
  exact finishV_skel r' hx lo

theorem compute_succeeds {S : RTree} {sol : Sol} {st : LState} (o : Orientation) (P : Params)
    (sizes : Key → Size) (hbin : S.isBinary = true) (h : computeBranches S sol = .ok st) :
    ∃ all, compute o P sizes S sol = .ok all ∧ all.map (·.sp) = S.preorder ∧
      ∀ sl ∈ all, Skel st sl := by
  cases o with
  | vertical => exact computeV_succeeds P sizes hbin h
  | horizontal =>
    obtain ⟨all, e, hsp, hsk⟩ := computeV_succeeds P (fun k => (sizes k).swap) hbin h
    have hc : computeH P sizes S sol = .ok (all.map SubLayout.tr) := computeH_ok.2 ⟨all, e, rfl⟩
    refine ⟨_, hc, computeH_species hc, ?_⟩
    intro sl hsl
    obtain ⟨sl0, h0, rfl⟩ := List.mem_map.1 hsl
    exact SubLayout.tr_skel (hsk sl0 h0)

/-- `LayOf` under a second name (`LayOf.layOK`). -/
structure LayOK (x : SpState) (lay : SpLayout) : Prop where
  branches : lay.branches = x.branches
  rects : lay.rects.map (·.1) = keysOf x.branches
  anchors : lay.anchors.map (·.1) = (keysOf x.branches).filter (· ∈ x.anchors)

theorem LayOf.layOK {x : SpState} {lay : SpLayout} (h : LayOf x lay) : LayOK x lay :=
  ⟨h.branches, h.rects, h.anchors⟩

/-- `FBranch.asBranch` under a second name (`FBranch.toBranch_eq`). -/
def FBranch.toBranch (b : FBranch) : Branch := ⟨b.key, b.kind, b.left, b.right⟩

theorem FBranch.toBranch_eq : FBranch.toBranch = FBranch.asBranch := rfl

/-- `Skel` for every entry, read on the species states instead of `brs` / `ancs`, together with
    the list of species (`Struct.of_skel`, `compute_struct`). -/
structure Struct (S : RTree) (st : LState) (all : List SubLayout) : Prop where
  species : all.map (·.sp) = S.preorder
  each : ∀ sl ∈ all, ∃ x, getSp st sl.sp = some x ∧
    sl.anchors.map (·.1) = (keysOf x.branches).filter (· ∈ x.anchors) ∧
    sl.branches.map FBranch.toBranch = x.branches

theorem Struct.of_skel {S : RTree} {st : LState} {all : List SubLayout}
    (hsp : all.map (·.sp) = S.preorder) (hkeys : skeys st = S.postorder)
    (hsk : ∀ sl ∈ all, Skel st sl) : Struct S st all := by
  refine ⟨hsp, fun sl hsl => ?_⟩
  have hnode : S.isNode sl.sp = true := by
    rw [← RTree.mem_preorder_iff, ← hsp]; exact List.mem_map_of_mem hsl
  obtain ⟨x, hx⟩ := getSp_some_of_mem (st := st) (s := sl.sp)
    (by rw [hkeys]; exact RTree.mem_postorder_of_isNode _ S hnode)
  have h := hsk sl hsl
  exact ⟨x, hx, by rw [h.anchors, brs_of_getSp hx, ancs_of_getSp hx],
    by rw [FBranch.toBranch_eq, h.branches, brs_of_getSp hx]⟩

theorem compute_struct (o : Orientation) (P : Params) (sizes : Key → Size) {S : RTree} {sol : Sol}
    {st : LState} (hbin : S.isBinary = true) (hst : computeBranches S sol = .ok st) :
    ∃ all, compute o P sizes S sol = .ok all ∧ Struct S st all := by
  obtain ⟨all, hc, hsp, hsk⟩ := compute_succeeds o P sizes hbin hst
  exact ⟨all, hc, Struct.of_skel hsp (computeBranches_plan hst).1 hsk⟩

end SR.Layout
