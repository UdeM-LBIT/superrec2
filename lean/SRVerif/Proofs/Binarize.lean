/-
  C08, one node: arrangements over opaque items (`graft`, `arrange` = `arrange_leaves`).
  `IsGraft x s t` is the relational form of `t ∈ graft x s` (`mem_graft`) that the proofs use.
  Removing the grafted item is well defined up to child order (`isGraft_inv`) and every tree
  containing an item is a graft of it (`exists_isGraft`); so `arrange xs` lists the binary
  trees over distinct items exactly once up to child order (`arrange_exactlyOnce`), `(2k−3)‼` of
  them.
-/
import SRVerif.Spec.Refine
import SRVerif.Proofs.ListAux

namespace SR.Bin

open BTree

variable {α : Type}

theorem BTree.size_eq_length (t : BTree α) : t.size = t.items.length := by
  induction t with
  | item a => rfl
  | node l r ihl ihr => simp [BTree.size, BTree.items, ihl, ihr]

theorem BTree.size_pos (t : BTree α) : 0 < t.size := by
  cases t with
  | item a => exact Nat.one_pos
  | node l r => exact Nat.add_pos_left (BTree.size_pos l) _

theorem BTree.items_ne_nil (t : BTree α) : t.items ≠ [] := by
  intro h
  have := BTree.size_pos t
  rw [BTree.size_eq_length, h] at this
  simp at this

theorem BTree.eq_item_of_length {t : BTree α} (h : t.items.length = 1) : ∃ a, t = .item a := by
  cases t with
  | item a => exact ⟨a, rfl⟩
  | node l r =>
    have := BTree.size_pos l
    have := BTree.size_pos r
    simp only [BTree.items, List.length_append, ← BTree.size_eq_length] at h
    omega

theorem BTree.exists_mem_items (t : BTree α) : ∃ a, a ∈ t.items := by
  cases h : t.items with
  | nil => exact absurd h (BTree.items_ne_nil t)
  | cons a _ => exact ⟨a, by simp⟩

namespace BTree.Equiv

theorem refl (t : BTree α) : BTree.Equiv t t := by
  induction t with
  | item a => exact .item a
  | node l r ihl ihr => exact .congr ihl ihr

theorem symm {s t : BTree α} (h : BTree.Equiv s t) : BTree.Equiv t s := by
  induction h with
  | item a => exact .item a
  | congr _ _ ih1 ih2 => exact .congr ih1 ih2
  | swap _ _ ih1 ih2 => exact .swap ih2 ih1

theorem trans {s t u : BTree α} (h1 : BTree.Equiv s t) (h2 : BTree.Equiv t u) : BTree.Equiv s u := by
  induction h1 generalizing u with
  | item a => exact h2
  | congr _ _ ih1 ih2 =>
    cases h2 with
    | congr g1 g2 => exact .congr (ih1 g1) (ih2 g2)
    | swap g1 g2 => exact .swap (ih1 g1) (ih2 g2)
  | swap _ _ ih1 ih2 =>
    cases h2 with
    | congr g1 g2 => exact .swap (ih1 g2) (ih2 g1)
    | swap g1 g2 => exact .congr (ih1 g2) (ih2 g1)

theorem items_perm {s t : BTree α} (h : BTree.Equiv s t) : s.items.Perm t.items := by
  induction h with
  | item a => exact .refl _
  | congr _ _ ih1 ih2 => exact ih1.append ih2
  | swap _ _ ih1 ih2 =>
    simp only [BTree.items]
    exact (ih1.append ih2).trans List.perm_append_comm

theorem mem_items_iff {s t : BTree α} (h : BTree.Equiv s t) (x : α) : x ∈ s.items ↔ x ∈ t.items :=
  h.items_perm.mem_iff

theorem item_left {a : α} {t : BTree α} (h : BTree.Equiv (.item a) t) : t = .item a := by
  cases h; rfl

end BTree.Equiv

/-- Relational form of `graft`: `g` is `t` with the item `x` attached as the
    (left) sibling of one of the nodes of `t`. -/
inductive IsGraft (x : α) : BTree α → BTree α → Prop where
  | root (t : BTree α) : IsGraft x t (.node (.item x) t)
  | left {l g : BTree α} (r : BTree α) : IsGraft x l g → IsGraft x (.node l r) (.node g r)
  | right (l : BTree α) {r g : BTree α} : IsGraft x r g → IsGraft x (.node l r) (.node l g)

theorem mem_graft {x : α} {t g : BTree α} : g ∈ graft x t ↔ IsGraft x t g := by
  induction t generalizing g with
  | item a =>
    simp only [graft, List.mem_singleton]
    constructor
    · rintro rfl; exact .root _
    · intro h; cases h; rfl
  | node l r ihl ihr =>
    simp only [graft, List.mem_cons, List.mem_append, List.mem_map]
    constructor
    · rintro (rfl | ⟨g', hg', rfl⟩ | ⟨g', hg', rfl⟩)
      · exact .root _
      · exact .left r (ihl.mp hg')
      · exact .right l (ihr.mp hg')
    · intro h
      cases h with
      | root => exact Or.inl rfl
      | left _ h' => exact Or.inr (Or.inl ⟨_, ihl.mpr h', rfl⟩)
      | right _ h' => exact Or.inr (Or.inr ⟨_, ihr.mpr h', rfl⟩)

theorem IsGraft.items_perm {x : α} {t g : BTree α} (h : IsGraft x t g) :
    g.items.Perm (x :: t.items) := by
  induction h with
  | root t => exact .refl _
  | left r _ ih =>
    simp only [BTree.items]
    exact (ih.append_right _)
  | right l _ ih =>
    simp only [BTree.items]
    exact ((List.Perm.refl l.items).append ih).trans List.perm_middle

theorem IsGraft.mem_items {x : α} {t g : BTree α} (h : IsGraft x t g) : x ∈ g.items :=
  h.items_perm.mem_iff.mpr (by simp)

theorem length_graft (x : α) (t : BTree α) : (graft x t).length = 2 * t.size - 1 := by
  have h : (graft x t).length + 1 = 2 * t.size := by
    induction t with
    | item a => rfl
    | node l r ihl ihr =>
      simp only [graft, List.length_cons, List.length_append, List.length_map, BTree.size]
      omega
  omega

theorem isGraft_equiv {x : α} {t t' g : BTree α} (he : BTree.Equiv t t') (h : IsGraft x t g) :
    ∃ g', IsGraft x t' g' ∧ BTree.Equiv g g' := by
  induction h generalizing t' with
  | root t => exact ⟨_, .root t', .congr (.refl _) he⟩
  | left r _ ih =>
    cases he with
    | congr h1 h2 =>
      obtain ⟨g', hg', he'⟩ := ih h1
      exact ⟨_, .left _ hg', .congr he' h2⟩
    | swap h1 h2 =>
      obtain ⟨g', hg', he'⟩ := ih h1
      exact ⟨_, .right _ hg', .swap he' h2⟩
  | right l _ ih =>
    cases he with
    | congr h1 h2 =>
      obtain ⟨g', hg', he'⟩ := ih h2
      exact ⟨_, .right _ hg', .congr h1 he'⟩
    | swap h1 h2 =>
      obtain ⟨g', hg', he'⟩ := ih h2
      exact ⟨_, .left _ hg', .swap h1 he'⟩

theorem BTree.mem_item (a : α) : a ∈ (BTree.item a).items := List.mem_singleton_self a

theorem BTree.mem_node_left {a : α} {l r : BTree α} (h : a ∈ l.items) : a ∈ (BTree.node l r).items :=
  List.mem_append_left _ h

theorem BTree.mem_node_right {a : α} {l r : BTree α} (h : a ∈ r.items) : a ∈ (BTree.node l r).items :=
  List.mem_append_right _ h

theorem BTree.not_mem_node {x : α} {l r : BTree α} (h : x ∉ (BTree.node l r).items) :
    x ∉ l.items ∧ x ∉ r.items :=
  ⟨fun hm => h (List.mem_append_left _ hm), fun hm => h (List.mem_append_right _ hm)⟩

theorem IsGraft.not_equiv_item {x a : α} {t g : BTree α} (h : IsGraft x t g) :
    ¬ BTree.Equiv (.item a) g := by
  intro he; rw [he.item_left] at h; cases h

/-- In every case the subtree holding `x` on one side has to be matched with the subtree
    holding `x` on the other. -/
theorem isGraft_inv {x : α} {t t' g g' : BTree α} (h : IsGraft x t g) (h' : IsGraft x t' g')
    (hx : x ∉ t.items) (hx' : x ∉ t'.items) (he : BTree.Equiv g g') : BTree.Equiv t t' := by
  have hself := BTree.mem_item x
  induction h generalizing t' g' with
  | root t =>
    cases h' with
    | root =>
      cases he with
      | congr _ h2 => exact h2
      | swap h1 _ => exact absurd ((h1.mem_items_iff x).mp hself) hx'
    | left r h'' =>
      cases he with
      | congr h1 _ => exact absurd h1 h''.not_equiv_item
      | swap h1 _ => exact absurd ((h1.mem_items_iff x).mp hself) (BTree.not_mem_node hx').2
    | right l h'' =>
      cases he with
      | congr h1 _ => exact absurd ((h1.mem_items_iff x).mp hself) (BTree.not_mem_node hx').1
      | swap h1 _ => exact absurd h1 h''.not_equiv_item
  | @left l g r hl ih =>
    obtain ⟨hxl, hxr⟩ := BTree.not_mem_node hx
    cases h' with
    | root =>
      cases he with
      | congr h1 _ => exact absurd h1.symm hl.not_equiv_item
      | swap _ h2 => exact absurd ((h2.mem_items_iff x).mpr hself) hxr
    | @left l' g'' r' h'' =>
      obtain ⟨hxl', hxr'⟩ := BTree.not_mem_node hx'
      cases he with
      | congr h1 h2 => exact .congr (ih h'' hxl hxl' h1) h2
      | swap h1 _ => exact absurd ((h1.mem_items_iff x).mp hl.mem_items) hxr'
    | @right l' r' g'' h'' =>
      obtain ⟨hxl', hxr'⟩ := BTree.not_mem_node hx'
      cases he with
      | congr h1 _ => exact absurd ((h1.mem_items_iff x).mp hl.mem_items) hxl'
      | swap h1 h2 => exact .swap (ih h'' hxl hxr' h1) h2
  | @right l r g hr ih =>
    obtain ⟨hxl, hxr⟩ := BTree.not_mem_node hx
    cases h' with
    | root =>
      cases he with
      | congr h1 _ => exact absurd ((h1.mem_items_iff x).mpr hself) hxl
      | swap _ h2 => exact absurd h2.symm hr.not_equiv_item
    | @left l' g'' r' h'' =>
      obtain ⟨hxl', hxr'⟩ := BTree.not_mem_node hx'
      cases he with
      | congr _ h2 => exact absurd ((h2.mem_items_iff x).mp hr.mem_items) hxr'
      | swap h1 h2 => exact .swap h1 (ih h'' hxr hxl' h2)
    | @right l' r' g'' h'' =>
      obtain ⟨hxl', hxr'⟩ := BTree.not_mem_node hx'
      cases he with
      | congr h1 h2 => exact .congr h1 (ih h'' hxr hxr' h2)
      | swap _ h2 => exact absurd ((h2.mem_items_iff x).mp hr.mem_items) hxl'

theorem exists_isGraft {x : α} (u : BTree α) (hx : x ∈ u.items) :
    u = .item x ∨
      ∃ t g, IsGraft x t g ∧ BTree.Equiv g u := by
  induction u with
  | item a =>
    simp only [BTree.items, List.mem_singleton] at hx
    exact Or.inl (by rw [hx])
  | node l r ihl ihr =>
    right
    simp only [BTree.items, List.mem_append] at hx
    rcases hx with hx | hx
    · rcases ihl hx with rfl | ⟨t, g, hg, he⟩
      · exact ⟨r, _, .root _, .refl _⟩
      · exact ⟨.node t r, _, .left r hg, .congr he (.refl _)⟩
    · rcases ihr hx with rfl | ⟨t, g, hg, he⟩
      · exact ⟨l, _, .root _, .swap (.refl _) (.refl _)⟩
      · exact ⟨.node l t, _, .right l hg, .congr (.refl _) he⟩

theorem pairwise_graft {x : α} (t : BTree α) (hx : x ∉ t.items) (hnd : t.items.Nodup) :
    (graft x t).Pairwise (fun g g' => ¬ BTree.Equiv g g') := by
  induction t with
  | item a => simp [graft]
  | node l r ihl ihr =>
    obtain ⟨hxl, hxr⟩ := BTree.not_mem_node hx
    have hself := BTree.mem_item x
    simp only [BTree.items, List.nodup_append] at hnd
    obtain ⟨hndl, hndr, hdis⟩ := hnd
    simp only [graft, List.pairwise_cons, List.pairwise_append, List.pairwise_map, List.mem_append,
      List.mem_map]
    refine ⟨?_, ?_, ?_, ?_⟩
    · rintro g' (⟨g, hg, rfl⟩ | ⟨g, hg, rfl⟩) he
      · cases he with
        | congr h1 _ => exact (mem_graft.mp hg).not_equiv_item h1
        | swap h1 _ => exact hxr ((h1.mem_items_iff x).mp hself)
      · cases he with
        | congr h1 _ => exact hxl ((h1.mem_items_iff x).mp hself)
        | swap h1 _ => exact (mem_graft.mp hg).not_equiv_item h1
    · refine (ihl hxl hndl).imp_of_mem ?_
      intro g g' hg _ hne he
      cases he with
      | congr h1 _ => exact hne h1
      | swap h1 _ => exact hxr ((h1.mem_items_iff x).mp (mem_graft.mp hg).mem_items)
    · refine (ihr hxr hndr).imp_of_mem ?_
      intro g g' hg _ hne he
      cases he with
      | congr _ h2 => exact hne h2
      | swap _ h2 => exact hxl ((h2.mem_items_iff x).mp (mem_graft.mp hg).mem_items)
    · rintro _ ⟨g, hg, rfl⟩ _ ⟨g', hg', rfl⟩ he
      cases he with
      | congr h1 _ => exact hxl ((h1.mem_items_iff x).mp (mem_graft.mp hg).mem_items)
      | swap _ h2 =>
        obtain ⟨a, ha⟩ := BTree.exists_mem_items r
        exact hdis a ((h2.mem_items_iff a).mp ha) a ha rfl

theorem arrange_cons_cons (a b : α) (rest : List α) :
    arrange (a :: b :: rest) = (arrange (b :: rest)).flatMap (graft a) := rfl

theorem items_arrange {xs : List α} {s : BTree α} (h : s ∈ arrange xs) : s.items.Perm xs := by
  induction xs generalizing s with
  | nil => simp [arrange] at h
  | cons a rest ih =>
    cases rest with
    | nil =>
      simp only [arrange, List.mem_singleton] at h
      subst h; exact .refl _
    | cons b rest =>
      rw [arrange_cons_cons, List.mem_flatMap] at h
      obtain ⟨t, ht, hs⟩ := h
      exact (mem_graft.mp hs).items_perm.trans ((ih ht).cons a)

theorem length_flatMap_const {β γ : Type} (l : List β) (f : β → List γ) (c : Nat)
    (h : ∀ b ∈ l, (f b).length = c) : (l.flatMap f).length = l.length * c := by
  induction l with
  | nil => simp
  | cons b bs ih =>
    simp only [List.flatMap_cons, List.length_append, List.length_cons]
    rw [h b (by simp), ih (fun b' hb' => h b' (by simp [hb'])), Nat.add_mul, Nat.one_mul, Nat.add_comm]

theorem dfact_step (k : Nat) (hk : 1 ≤ k) :
    Spec.dfact (2 * (k + 1) - 3) = (2 * k - 1) * Spec.dfact (2 * k - 3) := by
  match k, hk with
  | 1, _ => rfl
  | m + 2, _ =>
    -- `(2m+3)‼ = (2m+3) · (2m+1)‼` is the defining equation
    exact (rfl : Spec.dfact (2 * m + 1 + 2) = (2 * m + 1 + 2) * Spec.dfact (2 * m + 1))

theorem length_arrange (xs : List α) (hne : xs ≠ []) :
    (arrange xs).length = Spec.dfact (2 * xs.length - 3) := by
  induction xs with
  | nil => exact absurd rfl hne
  | cons a rest ih =>
    cases rest with
    | nil => simp [arrange, Spec.dfact]
    | cons b rest =>
      rw [arrange_cons_cons,
        length_flatMap_const _ _ (2 * (b :: rest).length - 1), ih (by simp)]
      · rw [show (a :: b :: rest).length = (b :: rest).length + 1 from rfl,
          dfact_step _ (by simp), Nat.mul_comm]
      · intro t ht
        rw [length_graft, BTree.size_eq_length, (items_arrange ht).length_eq]

theorem pairwise_arrange (xs : List α) (hnd : xs.Nodup) :
    (arrange xs).Pairwise (fun s s' => ¬ BTree.Equiv s s') := by
  induction xs with
  | nil => simp [arrange]
  | cons a rest ih =>
    cases rest with
    | nil => simp [arrange]
    | cons b rest =>
      have hnd' : (b :: rest).Nodup := (List.nodup_cons.mp hnd).2
      have ha : a ∉ b :: rest := (List.nodup_cons.mp hnd).1
      rw [arrange_cons_cons, List.pairwise_flatMap]
      refine ⟨?_, ?_⟩
      · intro t ht
        have hp := items_arrange ht
        exact pairwise_graft t (fun hm => ha (hp.mem_iff.mp hm)) (hp.nodup_iff.mpr hnd')
      · refine (ih hnd').imp_of_mem ?_
        intro t t' ht ht' hne g hg g' hg' he
        have hp := items_arrange ht
        have hp' := items_arrange ht'
        exact hne (isGraft_inv (mem_graft.mp hg) (mem_graft.mp hg')
          (fun hm => ha (hp.mem_iff.mp hm)) (fun hm => ha (hp'.mem_iff.mp hm)) he)

theorem arrange_complete (xs : List α) (u : BTree α) (hu : u.items.Perm xs) :
    ∃ s ∈ arrange xs, BTree.Equiv s u := by
  induction xs generalizing u with
  | nil => exact absurd hu.eq_nil (BTree.items_ne_nil u)
  | cons a rest ih =>
    cases rest with
    | nil =>
      obtain ⟨b, rfl⟩ := BTree.eq_item_of_length hu.length_eq
      have : b = a := by simpa [BTree.items] using hu.mem_iff (a := b)
      subst this
      exact ⟨_, by simp [arrange], .refl _⟩
    | cons b rest =>
      have hau : a ∈ u.items := hu.mem_iff.mpr (by simp)
      rcases exists_isGraft u hau with rfl | ⟨t, g, hg, he⟩
      · have := hu.length_eq
        simp [BTree.items] at this
      · have hpt : t.items.Perm (b :: rest) :=
          (hg.items_perm.symm.trans (he.items_perm.trans hu)).cons_inv
        obtain ⟨t', ht', het⟩ := ih t hpt
        obtain ⟨g', hg', heg⟩ := isGraft_equiv het.symm hg
        refine ⟨g', ?_, heg.symm.trans he⟩
        rw [arrange_cons_cons, List.mem_flatMap]
        exact ⟨t', ht', mem_graft.mpr hg'⟩

theorem arrange_exactlyOnce (xs : List α) (hnd : xs.Nodup) :
    ExactlyOnce BTree.Equiv (fun u => u.items.Perm xs) (arrange xs) :=
  ⟨fun _ => items_arrange, pairwise_arrange xs hnd, arrange_complete xs⟩

end SR.Bin
