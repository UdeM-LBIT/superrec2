/-
  C06: the labelling costs.  Ordered model: the evaluator's mask
  distances (relative to the root's synteny) are the runs counted on the
  sequences (`subseqSegmentDist_masks`).  Unordered model: set inclusion.
  Then `Valid`, the guard of the total-cost clause.
-/
import SRVerif.Proofs.EventLogCost
import SRVerif.Proofs.SubseqSeq
import SRVerif.Proofs.SolverLists

namespace SR.EventLog

open SR SR.Path SR.SubseqSpec

theorem addDist_natCast (x y : Nat) : addDist (x : Int) (y : Int) = some (x + y) := by
  unfold addDist
  have hx : ¬ ((x : Int) < 0) := by omega
  have hy : ¬ ((y : Int) < 0) := by omega
  simp [hx, hy]

theorem localOrdLosses_eq (root f fl fr : List Nat) (k : Kind) (hk : k ≠ .invalid)
    (kl kl' : Bool) (hkl : k = .hgt → kl = kl')
    (hnd : root.Nodup) (hf : f.Sublist root) (hl : fl.Sublist f) (hr : fr.Sublist f)
    (hln : fl ≠ []) (hrn : fr ≠ []) :
    localOrdLosses k.toEvent kl (maskFromSubseq f root) (maskFromSubseq fl root)
        (maskFromSubseq fr root)
      = some (nodeOrdLosses k kl' f fl fr) := by
  have BL := fun e => SubseqProofs.subseqSegmentDist_masks e hnd hl hf (.inl hln)
  have BR := fun e => SubseqProofs.subseqSegmentDist_masks e hnd hr hf (.inl hrn)
  cases k with
  | invalid => exact absurd rfl hk
  | spec => simp only [localOrdLosses, Kind.toEvent, BL, BR, addDist_natCast, nodeOrdLosses]
  | dup => simp only [localOrdLosses, Kind.toEvent, BL, BR, addDist_natCast, nodeOrdLosses]
  | hgt =>
    have := hkl rfl
    subst this
    cases kl <;>
      simp [localOrdLosses, Kind.toEvent, BL, BR, addDist_natCast, nodeOrdLosses]

/-- What the ordered clause needs from a labelled solution: valid events,
    every child synteny a non-empty subsequence of its parent's. -/
def OrdWF : Sol → Prop
  | .leaf _ _ => True
  | .node s f l r =>
    classify s l.sp r.sp ≠ .invalid ∧ l.fam.Sublist f ∧ r.fam.Sublist f ∧
      l.fam ≠ [] ∧ r.fam ≠ [] ∧ OrdWF l ∧ OrdWF r

theorem fam_node (s : Path) (f : List Nat) (l r : Sol) : (Sol.node s f l r).fam = f := rfl

theorem ordLosses_eq (root : List Nat) (hnd : root.Nodup) : ∀ sol : Sol, OrdWF sol →
    sol.fam.Sublist root →
    ordLosses root (maskFromSubseq sol.fam root) sol = some (segLosses .ordered sol)
  | .leaf _ _, _, _ => rfl
  | .node s f l r, h, hf => by
    obtain ⟨hk, hl, hr, hln, hrn, hwl, hwr⟩ := h
    rw [fam_node] at hf
    have ihl := ordLosses_eq root hnd l hwl (hl.trans hf)
    have ihr := ordLosses_eq root hnd r hwr (hr.trans hf)
    have hnode := localOrdLosses_eq root f l.fam r.fam (classify s l.sp r.sp) hk
      (comparable s l.sp) (leftConserved s l.sp) (fun h => (classify_hgt h).2) hnd hf hl hr hln hrn
    simp only [ordLosses, fam_node, internalEvent_eq_classify, hnode, ihl, ihr, segLosses,
      nodeLosses, Nat.add_assoc]

theorem ordWF_of_valid : ∀ (o : OTree) (sol : Sol), Spec.validRec o sol = true →
    Spec.validOrdLabels o sol = true → leafFamsNonempty o = true → OrdWF sol ∧ sol.fam ≠ [] :=
  Spec.validRec_induction
    (fun sp f g h hne => by
      simp only [Spec.validOrdLabels, beq_iff_eq] at h
      subst h
      exact ⟨trivial, fun hf => by simp [leafFamsNonempty, show f = [] from hf] at hne⟩)
    (fun ol or s f l r hev _ _ ihl ihr h hne => by
      simp only [Spec.validOrdLabels, Bool.and_eq_true] at h
      simp only [leafFamsNonempty, Bool.and_eq_true] at hne
      obtain ⟨⟨⟨hsl, hsr⟩, hl⟩, hr⟩ := h
      obtain ⟨ihl, hln⟩ := ihl hl hne.1
      obtain ⟨ihr, hrn⟩ := ihr hr hne.2
      have hsl' := isSublist_iff_sublist.mp hsl
      refine ⟨⟨classify_ne_invalid hev, hsl', isSublist_iff_sublist.mp hsr, hln, hrn, ihl, ihr⟩,
        fun hf => hln (List.eq_nil_of_sublist_nil ?_)⟩
      rw [← show f = [] from hf]; exact hsl')

theorem subsetB_eq_not_lacks (f g : List Nat) : subsetB f g = !lacks f g := by
  induction f with
  | nil => rfl
  | cons x xs ih =>
    simp only [subsetB, lacks, List.all_cons, List.any_cons] at ih ⊢
    rw [ih]
    by_cases hx : x ∈ g <;> simp [hx]

theorem localUnordLosses_eq (k : Kind) (hk : k ≠ .invalid) (kl kl' : Bool)
    (hkl : k = .hgt → kl = kl') (f fl fr : List Nat) :
    localUnordLosses k.toEvent kl f fl fr = some (nodeUnordLosses k kl' f fl fr) := by
  unfold localUnordLosses nodeUnordLosses
  simp only [subsetB_eq_not_lacks]
  cases k with
  | invalid => exact absurd rfl hk
  | spec => cases lacks f fl <;> cases lacks f fr <;> rfl
  | dup => cases lacks f fl <;> cases lacks f fr <;> rfl
  | hgt =>
    have := hkl rfl
    subst this
    cases lacks f fl <;> cases lacks f fr <;> cases kl <;> rfl

theorem unordLosses_eq : ∀ sol : Sol, AllEvents sol →
    unordLosses sol = some (segLosses .unordered sol)
  | .leaf _ _, _ => rfl
  | .node s f l r, h => by
    obtain ⟨hk, hl, hr⟩ := h
    have hnode := localUnordLosses_eq (classify s l.sp r.sp) hk (comparable s l.sp)
      (leftConserved s l.sp) (fun h => (classify_hgt h).2) f l.fam r.fam
    simp only [unordLosses, internalEvent_eq_classify, hnode, unordLosses_eq l hl,
      unordLosses_eq r hr, segLosses, nodeLosses, Nat.add_assoc]

/-- The guard of the total-cost clause: a valid solution of the given model;
    for the ordered model the input's leaf syntenies are non-empty. -/
def Valid (mode : LabelMode) (o : OTree) (sol : Sol) : Prop :=
  Spec.validSol mode o sol = true ∧ (mode = .ordered → leafFamsNonempty o = true)

theorem validRec_of_valid {mode : LabelMode} {o : OTree} {sol : Sol} (h : Valid mode o sol) :
    Spec.validRec o sol = true := by
  have := h.1
  simp only [Spec.validSol, Bool.and_eq_true] at this
  exact this.1

end SR.EventLog
